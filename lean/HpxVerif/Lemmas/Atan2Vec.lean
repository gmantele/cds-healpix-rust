import Mathlib.Analysis.SpecialFunctions.Complex.Arg

/-!
`lonlat_of` and `ProjSIN::new` recompute a position from its unit vector with two `atan2`: the new position has the same unit
vector.
-/

namespace Hpx.Sph
open Real

theorem cos_sin_arg_mk (x y : ℝ) :
    √(x * x + y * y) * cos (Complex.arg ⟨x, y⟩) = x ∧ √(x * x + y * y) * sin (Complex.arg ⟨x, y⟩) = y := by
  have hn : ‖(⟨x, y⟩ : ℂ)‖ = √(x * x + y * y) := by rw [Complex.norm_def, Complex.normSq_mk]
  rw [← hn]
  exact ⟨Complex.norm_mul_cos_arg (⟨x, y⟩ : ℂ), Complex.norm_mul_sin_arg (⟨x, y⟩ : ℂ)⟩

theorem vec_of_atan2 (lon lat : ℝ) :
    cos (Complex.arg ⟨√(cos lat * cos lon * (cos lat * cos lon) + cos lat * sin lon * (cos lat * sin lon)), sin lat⟩) *
        cos (Complex.arg ⟨cos lat * cos lon, cos lat * sin lon⟩) = cos lat * cos lon ∧
    cos (Complex.arg ⟨√(cos lat * cos lon * (cos lat * cos lon) + cos lat * sin lon * (cos lat * sin lon)), sin lat⟩) *
        sin (Complex.arg ⟨cos lat * cos lon, cos lat * sin lon⟩) = cos lat * sin lon ∧
    sin (Complex.arg ⟨√(cos lat * cos lon * (cos lat * cos lon) + cos lat * sin lon * (cos lat * sin lon)), sin lat⟩) =
      sin lat := by
  set x := cos lat * cos lon
  set y := cos lat * sin lon
  have hxy : x * x + y * y = cos lat * cos lat := by
    simp only [x, y]; linear_combination (cos lat * cos lat) * sin_sq_add_cos_sq lon
  -- the vector `(√(x² + y²), sin lat)` has norm 1
  have hone : √(√(x * x + y * y) * √(x * x + y * y) + sin lat * sin lat) = 1 := by
    rw [Real.mul_self_sqrt (by rw [hxy]; exact mul_self_nonneg _), hxy,
      show cos lat * cos lat + sin lat * sin lat = 1 by linear_combination sin_sq_add_cos_sq lat, Real.sqrt_one]
  obtain ⟨c1, s1⟩ := cos_sin_arg_mk x y
  obtain ⟨c2, s2⟩ := cos_sin_arg_mk (√(x * x + y * y)) (sin lat)
  rw [hone, one_mul] at c2 s2
  exact ⟨by rw [c2, c1], by rw [c2, s1], s2⟩

end Hpx.Sph
