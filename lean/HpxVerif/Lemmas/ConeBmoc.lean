import HpxVerif.Lemmas.CellExtentH1
import HpxVerif.Lemmas.EnvelopeRealRing
import HpxVerif.Lemmas.BmocLower

/-!
# Positions of a cell, of its ancestors and of its descendants (for C05 / C06 / C13 on the returned BMOC)

`CellExtent.InCellEq d h q` ("`q` is a position of the strictly equatorial cell `(d, h)`") is related between a cell and
its ancestors `h / 4^n`, which is what the compaction `to_bmoc_packing` and `to_lower_depth` need.  The centre of a cell of
depth `d + n` is within `1/2^d − 1/2^(d+n)` (1-norm, projection plane) of the centre of its ancestor of depth `d`, so the
diamond of a cell lies in the diamond of every ancestor; but an ancestor of a strictly equatorial cell only has its centre
in the CLOSED band (`|y| ≤ 1`).  `InCellPlane` is the position predicate for the closed band: it passes to every ancestor
(`inCellPlane_ancestor`), and `InCellEq` is `InCellPlane` of a cell centred strictly inside the band.
-/

namespace Hpx.ConeBmoc
open Hpx Hpx.Hash Hpx.C2V Hpx.C2VReal Hpx.Proj Hpx.Cover Hpx.CellReal Hpx.EnvelopeReal Hpx.TopoLift Hpx.CellExtent
open Hpx.Bmoc Real

/-- abscissa / ordinate of the centre of cell `h` of depth `d` in the projection plane -/
noncomputable def pcx (d h : ℕ) : ℝ := cellCx d (partsOf d h).d0h (partsOf d h).i (partsOf d h).j
noncomputable def pcy (d h : ℕ) : ℝ := cellCy d (partsOf d h).d0h (partsOf d h).i (partsOf d h).j

theorem inCellEq_def (d h : ℕ) (q : ℝ × ℝ) : InCellEq d h q ↔ (d ≤ 29 ∧ h < 12 * 4 ^ d ∧ |pcy d h| < 1 ∧
    ∃ (x' y' : ℝ) (m : ℤ), InDiamond (pcx d h) (pcy d h) (1 / 2 ^ d) x' y' ∧ q = (x' * (π / 4) + 2 * π * m, latOf y')) :=
  Iff.rfl

theorem child_offsets (d h k : ℕ) (hd : d ≤ 31) (hk : k < 4) :
    pcx (d + 1) (4 * h + k) = pcx d h + (((k % 2 : ℕ) : ℝ) - ((k / 2 : ℕ) : ℝ)) / 2 ^ (d + 1) ∧
    pcy (d + 1) (4 * h + k) = pcy d h + (((k % 2 : ℕ) : ℝ) + ((k / 2 : ℕ) : ℝ) - 1) / 2 ^ (d + 1) := by
  unfold pcx pcy
  rw [partsOf_child d h k hd hk]
  exact child_center d _ _ _ (k % 2) (k / 2)

theorem child_dist (d h k : ℕ) (hd : d ≤ 31) (hk : k < 4) :
    |pcx (d + 1) (4 * h + k) - pcx d h| + |pcy (d + 1) (4 * h + k) - pcy d h| ≤ 1 / 2 ^ (d + 1) := by
  obtain ⟨ex, ey⟩ := child_offsets d h k hd hk
  rw [ex, ey, add_sub_cancel_left, add_sub_cancel_left]
  have hp : (0 : ℝ) < 2 ^ (d + 1) := by positivity
  rw [abs_div, abs_div, abs_of_pos hp, ← add_div]
  apply div_le_div_of_nonneg_right _ hp.le
  interval_cases k <;> norm_num

theorem east_child_pcy (d h : ℕ) (hd : d ≤ 31) : pcy (d + 1) (4 * h + 1) = pcy d h := by
  obtain ⟨_, ey⟩ := child_offsets d h 1 hd (by omega)
  rw [ey]
  norm_num

theorem anc_dist (D d x : ℕ) (hd : d ≤ D) (hD : D ≤ 32) :
    |pcx D x - pcx d (x / 4 ^ (D - d))| + |pcy D x - pcy d (x / 4 ^ (D - d))| ≤ 1 / 2 ^ d - 1 / 2 ^ D := by
  obtain ⟨n, rfl⟩ : ∃ n, D = d + n := ⟨D - d, by omega⟩
  rw [Nat.add_sub_cancel_left]
  induction n generalizing x with
  | zero => simp
  | succ n ih =>
    have h1 := child_dist (d + n) (x / 4) (x % 4) (by omega) (Nat.mod_lt _ (by decide))
    rw [show 4 * (x / 4) + x % 4 = x by omega] at h1
    have h2 := ih (x / 4) (by omega) (by omega)
    rw [Nat.div_div_eq_div_mul, ← Nat.pow_succ'] at h2
    have hx := abs_sub_le (pcx (d + n + 1) x) (pcx (d + n) (x / 4)) (pcx d (x / 4 ^ (n + 1)))
    have hy := abs_sub_le (pcy (d + n + 1) x) (pcy (d + n) (x / 4)) (pcy d (x / 4 ^ (n + 1)))
    have e : (1 : ℝ) / 2 ^ (d + n) = 2 * (1 / 2 ^ (d + n + 1)) := by
      rw [pow_succ]; field_simp
    rw [show d + (n + 1) = d + n + 1 by omega]
    linarith

/-- the ordinate of a cell centre is a multiple of `1/2^d` -/
theorem pcy_le_one (d h : ℕ) (hlt : |pcy d h| < 1 + 1 / 2 ^ d) : |pcy d h| ≤ 1 := by
  unfold pcy at hlt ⊢
  obtain ⟨Z, hy⟩ := cellCy_int d (partsOf d h).d0h (partsOf d h).i (partsOf d h).j
  have hp : (0 : ℝ) < 2 ^ d := by positivity
  rw [hy, abs_div, abs_of_pos hp] at hlt ⊢
  rw [div_lt_iff₀ hp] at hlt
  have e : (1 + 1 / (2 : ℝ) ^ d) * 2 ^ d = 2 ^ d + 1 := by field_simp
  rw [e] at hlt
  have h2 : |Z| < 2 ^ d + 1 := by
    have : ((|Z| : ℤ) : ℝ) < ((2 ^ d + 1 : ℤ) : ℝ) := by push_cast; exact hlt
    exact_mod_cast this
  have h3 : |Z| ≤ 2 ^ d := by omega
  rw [div_le_one hp]
  have : ((|Z| : ℤ) : ℝ) ≤ ((2 ^ d : ℤ) : ℝ) := by exact_mod_cast h3
  push_cast at this
  exact this

theorem anc_band_le (D d x : ℕ) (hd : d ≤ D) (hD : D ≤ 32) (hx : |pcy D x| ≤ 1) : |pcy d (x / 4 ^ (D - d))| ≤ 1 := by
  apply pcy_le_one
  have h1 := anc_dist D d x hd hD
  have h2 := abs_nonneg (pcx D x - pcx d (x / 4 ^ (D - d)))
  have h3 : (0 : ℝ) < 1 / 2 ^ D := by positivity
  have h4 := abs_sub_abs_le_abs_sub (pcy d (x / 4 ^ (D - d))) (pcy D x)
  rw [abs_sub_comm] at h4
  linarith

/-- `q` is the image `(x'·π/4 + 2πm, arcsin(2y'/3))` of a point `(x', y')` of the closed equatorial band (`|y'| ≤ 1`) that
    lies in the closed diamond of the cell `(d, h)` of the NESTED scheme (`d ≤ 29`) -/
def InCellPlane (d h : ℕ) (q : ℝ × ℝ) : Prop :=
  d ≤ 29 ∧ h < 12 * 4 ^ d ∧ ∃ (x' y' : ℝ) (m : ℤ), |y'| ≤ 1 ∧ InDiamond (pcx d h) (pcy d h) (1 / 2 ^ d) x' y' ∧
    q = (x' * (π / 4) + 2 * π * m, latOf y')

theorem inCellEq_plane (d h : ℕ) (q : ℝ × ℝ) (hq : InCellEq d h q) : InCellPlane d h q := by
  obtain ⟨hd, hh, hband, x', y', m, hin, rfl⟩ := hq
  refine ⟨hd, hh, x', y', m, ?_, hin, rfl⟩
  have h1 := cellCy_band d _ _ _ hband
  unfold InDiamond at hin
  have h2 := abs_nonneg (x' - cellCx d (partsOf d h).d0h (partsOf d h).i (partsOf d h).j)
  have h3 := abs_sub_abs_le_abs_sub y' (cellCy d (partsOf d h).d0h (partsOf d h).i (partsOf d h).j)
  linarith

theorem inCellPlane_eq (d h : ℕ) (q : ℝ × ℝ) (hq : InCellPlane d h q) (hband : |pcy d h| < 1) : InCellEq d h q := by
  obtain ⟨hd, hh, x', y', m, _, hin, rfl⟩ := hq
  exact ⟨hd, hh, hband, x', y', m, hin, rfl⟩

theorem inCellPlane_ancestor (D d x h : ℕ) (hd : d ≤ D) (hcov : x / 4 ^ (D - d) = h) (q : ℝ × ℝ)
    (hq : InCellPlane D x q) : InCellPlane d h q := by
  subst hcov
  obtain ⟨hd29, hlt, x', y', m, hy, hin, rfl⟩ := hq
  refine ⟨by omega, Lower.anc_lt hd hlt, x', y', m, hy, ?_, rfl⟩
  have h1 := anc_dist D d x hd (by omega)
  unfold InDiamond at hin ⊢
  have hx := abs_sub_le x' (pcx D x) (pcx d (x / 4 ^ (D - d)))
  have hy := abs_sub_le y' (pcy D x) (pcy d (x / 4 ^ (D - d)))
  linarith

/-- `hne` cannot be dropped: the south child of a cell centred on the transition latitude is strictly equatorial, its parent
    is not -/
theorem inCellEq_ancestor (D d x h : ℕ) (hd : d ≤ D) (hcov : x / 4 ^ (D - d) = h) (q : ℝ × ℝ) (hq : InCellEq D x q)
    (hne : |pcy d h| ≠ 1) : InCellEq d h q :=
  inCellPlane_eq _ _ q (inCellPlane_ancestor D d x h hd hcov q (inCellEq_plane D x q hq))
    (lt_of_le_of_ne (hcov ▸ anc_band_le D d x hd (by have := hq.1; omega) hq.2.2.1.le) hne)

theorem inCellEq_descendant (D d h : ℕ) (q : ℝ × ℝ) (hd : d ≤ D) (hD : D ≤ 29) (hq : InCellEq d h q) :
    ∃ x, x / 4 ^ (D - d) = h ∧ InCellEq D x q := by
  obtain ⟨n, rfl⟩ : ∃ n, D = d + n := ⟨D - d, by omega⟩
  rw [Nat.add_sub_cancel_left]
  clear hd
  induction n generalizing d h with
  | zero => exact ⟨h, by simp, hq⟩
  | succ n ih =>
    obtain ⟨k, hk, hkq⟩ := inCellEq_child d h q (by omega) hq
    obtain ⟨x, hx, hxq⟩ := ih (d + 1) (4 * h + k) hkq (by omega)
    refine ⟨x, ?_, by rwa [show d + 1 + n = d + (n + 1) by omega] at hxq⟩
    rw [Nat.pow_succ, ← Nat.div_div_eq_div_mul, hx]; omega

theorem latOf_one : latOf 1 = tl := by
  unfold latOf
  rw [one_mul]
  rfl

theorem latOf_edge (y : ℝ) (h : |y| = 1) : |latOf y| = tl := by
  have htl : 0 ≤ tl := by have := tl_ge; linarith
  rcases (abs_eq (by norm_num : (0 : ℝ) ≤ 1)).mp h with e | e
  · rw [e, latOf_one, abs_of_nonneg htl]
  · rw [e, latOf_neg, latOf_one, abs_neg, abs_of_nonneg htl]

theorem tl_not_in_cone (lon lat r : ℝ) (hA : |lat| + r < tl) (p : ℝ × ℝ) (hp : |p.2| = tl) : r < adist (lon, lat) p := by
  by_contra hin
  have hpi := Real.pi_pos
  have htl := tl_le_pi3
  have h0 := (adist_nonneg (lon, lat) p).trans (not_lt.mp hin)
  have h1 := adist_ge_lat_diff lon p.1 lat p.2 (by linarith) (by linarith)
  have h2 := abs_sub_abs_le_abs_sub p.2 lat
  rw [abs_sub_comm] at h2
  linarith

theorem band_edge_not_in_cone (cfg : Cfg) (lon lat r : ℝ) (hA : |lat| + r < tl) (d h : ℕ) (hd : d ≤ 29)
    (hh : h < 12 * 4 ^ d) (hedge : |pcy d h| = 1) (ctr : ℝ × ℝ) (hctr : center (α := ℝ) cfg d h = some ctr) :
    r < adist (lon, lat) ctr := by
  obtain ⟨hb, hi, hj⟩ := partsOf_valid d h hh
  obtain ⟨m, hc⟩ := center_lonlat cfg d h (partsOf d h).d0h (partsOf d h).i (partsOf d h).j
    (by rw [nHash_eq]; exact hh) (decodeHash_spec cfg d hd h hh) hb hi hj (le_of_eq hedge)
  rw [hctr] at hc
  exact tl_not_in_cone lon lat r hA ctr (by rw [Option.some.inj hc]; exact latOf_edge _ hedge)

end Hpx.ConeBmoc

#print axioms Hpx.ConeBmoc.inCellEq_ancestor
#print axioms Hpx.ConeBmoc.inCellEq_descendant
#print axioms Hpx.ConeBmoc.band_edge_not_in_cone
