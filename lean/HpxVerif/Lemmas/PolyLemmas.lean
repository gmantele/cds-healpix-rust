/-
`sorted_split` and `isInList_complete`: on a sorted list, `is_in_list` (the binary search of the polygon and elliptical-cone
descents, C12, C13) finds every ancestor of a listed hash.
-/
import HpxVerif.Model.SphGeom
import HpxVerif.Lemmas.CoverLemmas

namespace Hpx.Sph
open Hpx Hpx.Cover Hpx.Bmoc

theorem sorted_split (m : Nat) : ∀ (s : List Nat), s.Pairwise (· ≤ ·) →
    s = s.filter (· < m) ++ s.filter (fun x => decide (m ≤ x))
  | [], _ => by simp
  | x :: xs, h => by
    have h' := List.pairwise_cons.mp h
    by_cases hx : x < m
    · have ih := sorted_split m xs h'.2
      have hnot : ¬ m ≤ x := by omega
      simp only [List.filter_cons, hx, decide_true, if_true, hnot, decide_false, Bool.false_eq_true, if_false,
        List.cons_append]
      exact congrArg _ ih
    · have hmx : m ≤ x := by omega
      have h1 : xs.filter (· < m) = [] := by
        apply List.filter_eq_nil_iff.mpr
        intro a ha
        have := h'.1 a ha
        simp; omega
      have h2 : xs.filter (fun x => decide (m ≤ x)) = xs := by
        apply List.filter_eq_self.mpr
        intro a ha
        have := h'.1 a ha
        simp; omega
      simp [hx, hmx, h1, h2]

theorem isInList_complete (depth hash depthHashs : Nat) (s : List Nat) (hs : s.Pairwise (· ≤ ·))
    (v : Nat) (hv : v ∈ s) (hanc : v >>> ((depthHashs - depth) <<< 1) = hash) :
    isInList depth hash depthHashs s = true := by
  unfold isInList
  generalize (depthHashs - depth) <<< 1 = tdd at *
  simp only
  split
  · rfl
  · have hsplit := sorted_split (hash <<< tdd) s hs
    have hpos : 0 < 2 ^ tdd := Nat.pow_pos (by omega)
    have hlo : hash <<< tdd ≤ v := by
      rw [Nat.shiftLeft_eq, ← hanc, Nat.shiftRight_eq_div_pow]
      exact Nat.div_mul_le_self v (2 ^ tdd)
    have hhi : v < (hash + 1) * 2 ^ tdd := by
      rw [← hanc, Nat.shiftRight_eq_div_pow]
      have := Nat.lt_div_mul_add (a := v) hpos
      rw [Nat.add_mul]; omega
    have hv2 : v ∈ s.filter (fun x => decide (hash <<< tdd ≤ x)) := by
      simp [List.mem_filter, hv, hlo]
    cases hsec : s.filter (fun x => decide (hash <<< tdd ≤ x)) with
    | nil => rw [hsec] at hv2; simp at hv2
    | cons w rest =>
      have hw : w ∈ s.filter (fun x => decide (hash <<< tdd ≤ x)) := by rw [hsec]; simp
      have hwlo : hash <<< tdd ≤ w := by simpa using (List.mem_filter.mp hw).2
      have hpw : (w :: rest).Pairwise (· ≤ ·) := by
        rw [← hsec]; exact List.Pairwise.sublist List.filter_sublist hs
      have hwv : w ≤ v := by
        rw [hsec] at hv2
        rcases List.mem_cons.mp hv2 with rfl | hr
        · exact Nat.le_refl _
        · exact (List.pairwise_cons.mp hpw).1 v hr
      have hidx : s[(s.filter (· < hash <<< tdd)).length]? = some w := by
        have : ∀ (a b : List Nat), (a ++ b)[a.length]? = b[0]? := by
          intro a b; rw [List.getElem?_append_right (Nat.le_refl _)]; simp
        have h3 := this (s.filter (· < hash <<< tdd)) (s.filter (fun x => decide (hash <<< tdd ≤ x)))
        rw [← hsplit, hsec] at h3
        simpa using h3
      have hwsh : w >>> tdd = hash := by
        rw [Nat.shiftRight_eq_div_pow]
        apply Nat.div_eq_of_lt_le
        · rw [Nat.shiftLeft_eq] at hwlo; exact hwlo
        · omega
      simp [hidx, hwsh]

end Hpx.Sph
