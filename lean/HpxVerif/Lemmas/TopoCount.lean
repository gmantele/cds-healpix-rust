/-
C04 — where a cell has no neighbour, and how many neighbours it has, read off the seam rules in closed form (`nbZ_tab`):
`neighbourParts_none_iff` (the shifted coordinates fall into a `Hole`), `neighbours_count` (8, or 7 exactly for the `Special`
cells, `n ≥ 2`), `neighbours_count_one` (6 at `n = 1`); the 24 `Special` cells as a list, `specialCells` (`special_iff_mem`).
-/
import HpxVerif.Lemmas.TopoNeigh

namespace Hpx.TopoNeigh
open Hpx Hpx.Topo Hpx.TopoSpec MW

/-- the shifted coordinates `(i', j')` in base cell `b` designate no cell: beyond the E or W corner of a polar-cap
    base cell, beyond the S or N corner of an equatorial base cell -/
def Hole (n : Nat) (b : Nat) (i' j' : Int) : Prop :=
  (b / 4 ≠ 1 ∧ ((i' < 0 ∧ (n : Int) ≤ j') ∨ ((n : Int) ≤ i' ∧ j' < 0))) ∨
  (b / 4 = 1 ∧ ((i' < 0 ∧ j' < 0) ∨ ((n : Int) ≤ i' ∧ (n : Int) ≤ j')))

theorem nbAt_none_iff (n : Nat) (b : Nat) (i' j' : Int) (hb : b < 12) :
    nbAt n b i' j' = none ↔ Hole n b i' j' := by
  obtain ⟨b, h0, k, hk, rfl⟩ := exists_col b hb
  rw [nbAt_rot n _ k i' j' (by omega) hk, Option.map_eq_none_iff, show Hole n (rotB k b) = Hole n b by
    unfold Hole; rw [rotB_row]]
  clear hb hk
  unfold nbAt
  rcases zone_cases n i' with ⟨h1, hz⟩ | ⟨h1, h2, hz⟩ | ⟨h1, h2, hz⟩ <;>
  rcases zone_cases n j' with ⟨h3, hz'⟩ | ⟨h3, h4, hz'⟩ | ⟨h3, h4, hz'⟩ <;>
  rw [hz, hz'] <;>
  obtain rfl | rfl | rfl := h0 <;>
  simp [nbZ_tab, Hole] <;>
  omega

/-- `p` has no neighbour in direction `dir`: E / W of the cells at the E / W corner of a polar-cap base cell,
    S / N of the cells at the S / N corner of an equatorial base cell -/
def Missing (n : Nat) (p : HashParts) (dir : MW) : Prop :=
  (p.d0h / 4 ≠ 1 ∧ ((dir = W ∧ p.i = 0 ∧ p.j + 1 = n) ∨ (dir = E ∧ p.i + 1 = n ∧ p.j = 0))) ∨
  (p.d0h / 4 = 1 ∧ ((dir = S ∧ p.i = 0 ∧ p.j = 0) ∨ (dir = N ∧ p.i + 1 = n ∧ p.j + 1 = n)))

instance (n : Nat) (p : HashParts) (dir : MW) : Decidable (Missing n p dir) := by unfold Missing; infer_instance

theorem neighbourParts_none_iff (n : Nat) (p : HashParts) (dir : MW) (hp : Valid n p) :
    neighbourParts n p dir = none ↔ Missing n p dir := by
  obtain ⟨hb, hi, hj⟩ := hp
  rw [neighbourParts_eq_nbAt, nbAt_none_iff _ _ _ _ hb]
  cases dir <;> simp [Hole, Missing, offsetSe, offsetSw] <;> omega

/-- the cells at one of the 8 points of the sphere where only three cells meet (24 cells for every `n ≥ 2`) -/
def Special (n : Nat) (p : HashParts) : Prop :=
  (p.d0h / 4 ≠ 1 ∧ ((p.i = 0 ∧ p.j + 1 = n) ∨ (p.i + 1 = n ∧ p.j = 0))) ∨
  (p.d0h / 4 = 1 ∧ ((p.i = 0 ∧ p.j = 0) ∨ (p.i + 1 = n ∧ p.j + 1 = n)))

instance (n : Nat) (p : HashParts) : Decidable (Special n p) := by unfold Special; infer_instance

def count (n : Nat) (p : HashParts) : Nat := (dirs8.filter fun d => (neighbourParts n p d).isSome).length

/-- for `n ≥ 2` a cell is at one of the two corners at most (`Special`), at `n = 1` at both: hence 7 and 6 below -/
theorem count_eq (n : Nat) (p : HashParts) (hp : Valid n p) :
    count n p + ((if Missing n p S then 1 else 0) + (if Missing n p E then 1 else 0) +
      (if Missing n p W then 1 else 0) + (if Missing n p N then 1 else 0)) = 8 := by
  have e : ∀ d, (neighbourParts n p d).isSome = !decide (Missing n p d) := fun d => by
    have := neighbourParts_none_iff n p d hp
    cases h : neighbourParts n p d <;> simp_all
  have hSE : ¬ Missing n p SE := by simp [Missing]
  have hSW : ¬ Missing n p SW := by simp [Missing]
  have hNE : ¬ Missing n p NE := by simp [Missing]
  have hNW : ¬ Missing n p NW := by simp [Missing]
  simp only [count, dirs8, List.filter, e]
  by_cases hS : Missing n p S <;> by_cases hE : Missing n p E <;> by_cases hW : Missing n p W <;>
  by_cases hN : Missing n p N <;>
  simp only [hS, hE, hW, hN, hSE, hSW, hNE, hNW, decide_true, decide_false, Bool.not_true, Bool.not_false,
    List.length_cons, List.length_nil, if_true, if_false]

theorem neighbours_count (n : Nat) (p : HashParts) (hn : 2 ≤ n) (hp : Valid n p) :
    count n p = if Special n p then 7 else 8 := by
  have h := count_eq n p hp
  simp only [Missing, reduceCtorEq, false_and, and_false, or_false, false_or, true_and] at h
  unfold Special
  by_cases hr : p.d0h / 4 = 1 <;>
  simp only [hr, ne_eq, not_true_eq_false, not_false_eq_true, false_and, true_and, if_false, Nat.add_zero, Nat.zero_add,
    false_or, or_false] at h ⊢ <;>
  split at h <;> split at h <;> split <;> omega

theorem neighbours_count_one (p : HashParts) (hp : Valid 1 p) : count 1 p = 6 := by
  have h := count_eq 1 p hp
  simp only [Missing, reduceCtorEq, false_and, and_false, or_false, false_or, true_and] at h
  obtain ⟨hb, hi, hj⟩ := hp
  by_cases hr : p.d0h / 4 = 1 <;>
  simp only [hr, show p.i = 0 by omega, show p.j = 0 by omega, ne_eq, not_true_eq_false, not_false_eq_true, and_self,
    false_and, if_true, if_false] at h <;>
  omega

def specialCells (n : Nat) : List HashParts :=
  (List.range 12).flatMap fun b =>
    if b / 4 = 1 then [⟨b, 0, 0⟩, ⟨b, n - 1, n - 1⟩] else [⟨b, 0, n - 1⟩, ⟨b, n - 1, 0⟩]

theorem range12 : List.range 12 = [0, 1, 2, 3, 4, 5, 6, 7, 8, 9, 10, 11] := by decide

theorem specialCells_length (n : Nat) : (specialCells n).length = 24 := by
  simp [specialCells, range12]

theorem special_iff_mem (n : Nat) (p : HashParts) (hn : 1 ≤ n) (hp : Valid n p) :
    Special n p ↔ p ∈ specialCells n := by
  obtain ⟨b, i, j⟩ := p
  obtain ⟨hb, hi, hj⟩ := hp
  simp only at hb hi hj
  simp only [Special, specialCells, List.mem_flatMap, List.mem_range]
  constructor
  · intro h
    refine ⟨b, hb, ?_⟩
    split <;> simp <;> omega
  · rintro ⟨b', hb', h⟩
    split at h <;> simp at h <;> omega

theorem specialCells_nodup (n : Nat) (hn : 2 ≤ n) : (specialCells n).Nodup := by
  simp [specialCells, range12]
  omega

end Hpx.TopoNeigh
