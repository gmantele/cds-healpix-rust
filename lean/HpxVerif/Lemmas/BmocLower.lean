/-
`to_lower_depth` (C15): the degraded BMOC is well formed, a coarse cell is kept iff it contained something, and it is
flagged full only if it lies inside one full input cell of depth `≤ new_depth`.  The loop on raw values is the encoding of
a loop on the decoded cells (`toLowerLoop_eq`); there the output is the list of coarsened cells (`coarsen`) with the
repetitions of an ancestor removed (`mem_lowerCells`), and it is well formed (`lowerCells_from`); the states of the coarse
cells are read off these two facts.
-/
import HpxVerif.Lemmas.BmocPack
import Mathlib.Tactic.Ring
import Mathlib.Tactic.Linarith

namespace Hpx.Bmoc.Lower

def coarsen (nd : Nat) (c : Cell) : Cell :=
  if c.depth ≤ nd then c else ⟨nd, c.hash / 4 ^ (c.depth - nd), false⟩

/-- `toLowerLoop` on decoded cells -/
def lowerCells (nd : Nat) : List Cell → Option Nat → List Cell
  | [], some p => [⟨nd, p, false⟩]
  | [], none => []
  | c :: rest, prev =>
    if c.depth ≤ nd then
      (match prev with | some p => [⟨nd, p, false⟩] | none => []) ++ (c :: lowerCells nd rest none)
    else
      match prev with
      | some p =>
        if p != c.hash / 4 ^ (c.depth - nd) then
          ⟨nd, p, false⟩ :: lowerCells nd rest (some (c.hash / 4 ^ (c.depth - nd)))
        else lowerCells nd rest (some p)
      | none => lowerCells nd rest (some (c.hash / 4 ^ (c.depth - nd)))

theorem lo_self (nd a : Nat) (f : Bool) : lo nd ⟨nd, a, f⟩ = a := by simp [lo]
theorem hi_self (nd a : Nat) (f : Bool) : hi nd ⟨nd, a, f⟩ = a + 1 := by simp [hi]

theorem deep_scale {dm nd : Nat} {c : Cell} (h1 : nd < c.depth) (h2 : c.depth ≤ dm) :
    (c.hash / 4 ^ (c.depth - nd)) * 4 ^ (dm - nd) ≤ lo dm c ∧
    hi dm c ≤ (c.hash / 4 ^ (c.depth - nd) + 1) * 4 ^ (dm - nd) := by
  have := anc_bounds dm c.depth (c.depth - nd) c.hash (by omega) h2
  rwa [show c.depth - (c.depth - nd) = nd by omega] at this

theorem mem_lowerCells (nd : Nat) (c' : Cell) : ∀ (cells : List Cell) (prev : Option Nat),
    c' ∈ lowerCells nd cells prev ↔ (∃ p ∈ prev, c' = ⟨nd, p, false⟩) ∨ c' ∈ cells.map (coarsen nd) := by
  intro cells
  induction cells with
  | nil => intro prev; cases prev <;> simp [lowerCells]
  | cons c rest ih =>
    intro prev
    by_cases hsh : c.depth ≤ nd
    · cases prev <;> simp [lowerCells, coarsen, hsh, ih]
    · cases prev with
      | none => simp [lowerCells, coarsen, hsh, ih]
      | some p => by_cases hp : p = c.hash / 4 ^ (c.depth - nd) <;> simp [lowerCells, coarsen, hsh, ih, hp]

theorem lowerCells_from (dm nd : Nat) (hnd : nd ≤ dm) : ∀ (cells : List Cell),
    (∀ B, From dm (B * 4 ^ (dm - nd)) cells → From nd B (lowerCells nd cells none)) ∧
    (∀ p, From dm (p * 4 ^ (dm - nd) + 1) cells → From nd p (lowerCells nd cells (some p))) := by
  have hW : 0 < 4 ^ (dm - nd) := Nat.pow_pos (by decide)
  have unit : ∀ {p : Nat} {l : List Cell}, From nd (p + 1) l → From nd p (⟨nd, p, false⟩ :: l) := fun h =>
    From.cons (Nat.le_refl _) (by rw [lo_self]) (by rw [hi_self]; exact h)
  intro cells
  induction cells with
  | nil => exact ⟨fun B _ => From.nil _ _, fun p _ => unit (From.nil _ _)⟩
  | cons c rest ih =>
    obtain ⟨ihN, ihS⟩ := ih
    have hlohi := lo_lt_hi dm c
    by_cases hsh : c.depth ≤ nd
    · -- shallow cell: copied
      have e1 := lo_rebase hnd hsh
      have e2 := hi_rebase hnd hsh
      have copy : ∀ {b : Nat}, From dm b (c :: rest) → From nd (lo nd c) (c :: lowerCells nd rest none) := fun hb =>
        From.cons hsh (Nat.le_refl _) (ihN (hi nd c) (by rw [← e2]; exact hb.uncons.2.2))
      refine ⟨fun B hB => ?_, fun p hp => ?_⟩
      · simp only [lowerCells, if_pos hsh, List.nil_append]
        have hb := hB.uncons.2.1
        rw [e1] at hb
        exact (copy hB).mono (Nat.le_of_mul_le_mul_right hb hW)
      · simp only [lowerCells, if_pos hsh, List.singleton_append]
        have hb := hp.uncons.2.1
        rw [e1] at hb
        exact unit ((copy hp).mono (Nat.lt_of_mul_lt_mul_right hb))
    · -- deep cell: replaced by its ancestor `a`, which is at or after any bound of `c`
      have hdeep : nd < c.depth := by omega
      set a := c.hash / 4 ^ (c.depth - nd) with ha
      have anc : ∀ {b : Nat}, From dm b (c :: rest) → b < (a + 1) * 4 ^ (dm - nd) ∧ From nd a (lowerCells nd rest (some a)) := by
        intro b hb
        obtain ⟨hcd, h1, ht⟩ := hb.uncons
        obtain ⟨e1, e2⟩ := deep_scale hdeep hcd
        rw [← ha] at e1 e2
        exact ⟨by omega, ihS a (ht.mono (by omega))⟩
      refine ⟨fun B hB => ?_, fun p hp => ?_⟩
      · simp only [lowerCells, if_neg hsh, ← ha]
        obtain ⟨hlt, t1⟩ := anc hB
        have := Nat.lt_of_mul_lt_mul_right hlt
        exact t1.mono (by omega)
      · obtain ⟨hlt, t1⟩ := anc hp
        have hpa := Nat.lt_of_mul_lt_mul_right (Nat.lt_of_succ_lt hlt)
        simp only [lowerCells, if_neg hsh, ← ha]
        split
        · rename_i hpe
          exact unit (t1.mono (by simp at hpe; omega))
        · rename_i hpe
          rw [show p = a by simpa using hpe]
          exact t1

theorem flush_raw (nd p : Nat) : (p <<< 2) ||| 2 = buildRaw nd p false nd := by
  rw [buildRaw_eq, ← Nat.shiftLeft_add_eq_or_of_lt (by omega), Nat.shiftLeft_eq]
  simp
  omega

theorem lowRaw_encode {dm nd : Nat} {c : Cell} (h1 : c.depth ≤ nd) (h2 : nd < dm) :
    lowDepthRawAtLowerDepth (encode dm c) dm nd = encode nd c := by
  unfold lowDepthRawAtLowerDepth encode
  rw [buildRaw_and_one, buildRaw_eq _ _ _ nd, ← mul_or_flag, buildRaw_eq, shl1]
  congr 1
  -- the shift removes the flag and `2(dm - nd)` of the zeros below the cell number
  have e1 : 2 ^ (1 + 2 * (dm - c.depth)) = 2 ^ (1 + 2 * (nd - c.depth)) * 2 ^ (2 * (dm - nd)) := by
    rw [← Nat.pow_add]; congr 1; omega
  have hlt := flag_lt c.full (2 * (dm - nd) - 1)
  rw [show 1 + (2 * (dm - nd) - 1) = 2 * (dm - nd) by omega] at hlt
  rw [Nat.shiftRight_eq_div_pow, e1, ← Nat.mul_assoc, Nat.mul_comm _ (2 ^ (2 * (dm - nd))),
    Nat.mul_add_div (Nat.two_pow_pos _), Nat.div_eq_of_lt hlt]
  rfl

theorem curHash_encode {dm nd : Nat} {c : Cell} (h1 : nd < c.depth) (h2 : c.depth ≤ dm) :
    hashFromDeltaDepth (encode dm c) (dm - nd) = c.hash / 4 ^ (c.depth - nd) := by
  unfold hashFromDeltaDepth encode
  have e : 2 + ((dm - nd) <<< 1) = (2 + ((dm - c.depth) <<< 1)) + ((c.depth - nd) <<< 1) := by
    simp only [Nat.shiftLeft_eq]; omega
  rw [e, Nat.shiftRight_add, buildRaw_shr_hash, shr_eq_div]

theorem anc_lt {d nd h : Nat} (h1 : nd ≤ d) (hh : h < 12 * 4 ^ d) : h / 4 ^ (d - nd) < 12 * 4 ^ nd := by
  have := anc_inR (Nat.sub_le d nd) hh
  rwa [show d - (d - nd) = nd by omega] at this

theorem toLowerLoop_eq (dm nd : Nat) (hdm : dm ≤ 29) (hnd : nd < dm) : ∀ (l : List Nat) (prev : Option Nat),
    (∀ r ∈ l, ValidRaw dm r) → toLowerLoop dm nd l prev = (lowerCells nd (cellsOf dm l) prev).map (encode nd) := by
  have flush : ∀ p, (p <<< 2) ||| 2 = encode nd ⟨nd, p, false⟩ := flush_raw nd
  intro l
  induction l with
  | nil => intro prev _; cases prev <;> simp [toLowerLoop, cellsOf, lowerCells, flush]
  | cons raw rest ih =>
    intro prev hv
    obtain ⟨c, hcd, hch, rfl⟩ := hv raw (by simp)
    obtain ⟨p1, _, _, p4⟩ := raw_parts hdm hcd hch
    have hvr : ∀ r ∈ rest, ValidRaw dm r := fun r hr => hv r (by simp [hr])
    rw [cellsOf_cons, p4]
    by_cases hsh : c.depth ≤ nd
    · cases prev <;>
        simp [toLowerLoop, p1, if_pos hsh, lowerCells, lowRaw_encode hsh hnd, ih none hvr, flush]
    · have hcur := curHash_encode (show nd < c.depth by omega) hcd
      cases prev with
      | none => simp only [toLowerLoop, p1, if_neg hsh, lowerCells, hcur]; exact ih _ hvr
      | some p =>
        simp only [toLowerLoop, p1, if_neg hsh, lowerCells, hcur]
        split
        · rw [ih _ hvr, List.map_cons, flush]
        · exact ih _ hvr

theorem lowerCells_inRange {dm nd : Nat} (hdm : dm ≤ 29) {l : List Nat} (hv : ∀ r ∈ l, ValidRaw dm r) :
    ∀ c ∈ lowerCells nd (cellsOf dm l) none, c.depth ≤ nd ∧ c.hash < 12 * 4 ^ c.depth := by
  intro c' hc'
  obtain ⟨c, hc, rfl⟩ := List.mem_map.1 (((mem_lowerCells nd c' _ none).1 hc').resolve_left (by simp))
  have hr := (inRange_of_validRaw hdm hv c hc).2
  unfold coarsen
  split
  · exact ⟨‹_›, hr⟩
  · exact ⟨Nat.le_refl _, anc_lt (by omega) hr⟩

theorem toLowerLoop_cells (dm nd : Nat) (hdm : dm ≤ 29) (hnd : nd < dm) (l : List Nat) (hv : ∀ r ∈ l, ValidRaw dm r) :
    cellsOf nd (toLowerLoop dm nd l none) = lowerCells nd (cellsOf dm l) none ∧
    ∀ r ∈ toLowerLoop dm nd l none, ValidRaw nd r := by
  have h := lowerCells_inRange (nd := nd) hdm hv
  rw [toLowerLoop_eq dm nd hdm hnd l none hv]
  exact ⟨cellsOf_map_encode nd (by omega) _ (fun c hc => (h c hc).1) (fun c hc => (h c hc).2),
    validRaw_map_encode (fun c hc => (h c hc).1) (fun c hc => (h c hc).2)⟩

/-- the blocks of width `W` that meet `[L, H)` are those from the block `A` of `L` to the block `B - 1` of `H - 1` -/
theorem block_meets_iff {W A B L H y : Nat} (hLH : L < H) (hA1 : A * W ≤ L) (hA2 : L < (A + 1) * W)
    (hB1 : B * W < H + W) (hB2 : H ≤ B * W) :
    (A ≤ y ∧ y < B) ↔ ∃ x, y * W ≤ x ∧ x < (y + 1) * W ∧ L ≤ x ∧ x < H := by
  rw [Nat.add_mul, Nat.one_mul] at hA2
  constructor
  · rintro ⟨h1, h2⟩
    have m1 := Nat.mul_le_mul_right W h1
    have m2 := Nat.mul_le_mul_right W (Nat.succ_le_of_lt h2)
    rw [Nat.succ_mul] at m2
    rw [Nat.add_mul, Nat.one_mul]
    by_cases h : L ≤ y * W
    · exact ⟨y * W, by omega, by omega, h, by omega⟩
    · exact ⟨L, by omega, by omega, Nat.le_refl _, hLH⟩
  · rintro ⟨x, x1, x2, x3, x4⟩
    have a : A * W < (y + 1) * W := by omega
    have b : y * W < B * W := by omega
    exact ⟨Nat.le_of_lt_succ (Nat.lt_of_mul_lt_mul_right a), Nat.lt_of_mul_lt_mul_right b⟩

theorem coarsen_covers_iff (dm nd : Nat) (hnd : nd ≤ dm) (c : Cell) (hcd : c.depth ≤ dm) (y : Nat) :
    (lo nd (coarsen nd c) ≤ y ∧ y < hi nd (coarsen nd c)) ↔
      ∃ x, y * 4 ^ (dm - nd) ≤ x ∧ x < (y + 1) * 4 ^ (dm - nd) ∧ lo dm c ≤ x ∧ x < hi dm c := by
  have hW : 0 < 4 ^ (dm - nd) := Nat.pow_pos (by decide)
  have hlohi := lo_lt_hi dm c
  unfold coarsen
  by_cases hsh : c.depth ≤ nd
  · -- a shallow cell is made of whole blocks
    have e1 := lo_rebase hnd hsh
    have e2 := hi_rebase hnd hsh
    rw [if_pos hsh]
    exact block_meets_iff hlohi (Nat.le_of_eq e1.symm) (by rw [e1, Nat.add_mul]; omega) (by omega) (Nat.le_of_eq e2)
  · -- a deep cell lies in the block of its ancestor
    obtain ⟨e1, e2⟩ := deep_scale (show nd < c.depth by omega) hcd
    rw [if_neg hsh, lo_self, hi_self]
    exact block_meets_iff hlohi e1 (by omega) (by rw [Nat.add_mul] at e2 ⊢; omega) e2

theorem toLower_guard (dm nd : Nat) (l : List Nat) :
    (nd ≥ dm → toLowerDepth dm nd l = none) ∧ (nd < dm → toLowerDepth dm nd l = some (toLowerLoop dm nd l none)) := by
  unfold toLowerDepth
  constructor
  · intro h; simp [h]
  · intro h; have : ¬ (nd ≥ dm) := by omega
    simp [this]

theorem toLower_cells (dm nd : Nat) (hdm : dm ≤ 29) (hnd : nd < dm) (l : List Nat) (hv : ∀ r ∈ l, ValidRaw dm r)
    (hw : WF dm (cellsOf dm l)) :
    WF nd (cellsOf nd (toLowerLoop dm nd l none)) ∧
    ∀ c, c ∈ cellsOf nd (toLowerLoop dm nd l none) ↔ c ∈ (cellsOf dm l).map (coarsen nd) := by
  rw [(toLowerLoop_cells dm nd hdm hnd l hv).1]
  exact ⟨((lowerCells_from dm nd (Nat.le_of_lt hnd) _).1 0 (by rw [Nat.zero_mul]; exact hw.from_zero)).1,
    fun c => by simp [mem_lowerCells]⟩

theorem toLower_wf (dm nd : Nat) (hdm : dm ≤ 29) (hnd : nd < dm) (l : List Nat) (hv : ∀ r ∈ l, ValidRaw dm r)
    (hw : WF dm (cellsOf dm l)) :
    WF nd (cellsOf nd (toLowerLoop dm nd l none)) ∧ ∀ r ∈ toLowerLoop dm nd l none, ValidRaw nd r :=
  ⟨(toLower_cells dm nd hdm hnd l hv hw).1, (toLowerLoop_cells dm nd hdm hnd l hv).2⟩

theorem toLower_sem (dm nd : Nat) (hdm : dm ≤ 29) (hnd : nd < dm) (l : List Nat) (hv : ∀ r ∈ l, ValidRaw dm r)
    (hw : WF dm (cellsOf dm l)) (y : Nat) :
    stOf nd (cellsOf nd (toLowerLoop dm nd l none)) y ≠ .abs ↔
      ∃ x, y * 4 ^ (dm - nd) ≤ x ∧ x < (y + 1) * 4 ^ (dm - nd) ∧ stOf dm (cellsOf dm l) x ≠ .abs := by
  obtain ⟨_, hm⟩ := toLower_cells dm nd hdm hnd l hv hw
  rw [stOf_ne_abs_iff]
  constructor
  · rintro ⟨c', hc', h⟩
    obtain ⟨c, hc, rfl⟩ := List.mem_map.1 ((hm c').1 hc')
    obtain ⟨x, x1, x2, x3, x4⟩ := (coarsen_covers_iff dm nd (Nat.le_of_lt hnd) c (hw.depth_le c hc) y).1 h
    exact ⟨x, x1, x2, (stOf_ne_abs_iff dm _ x).2 ⟨c, hc, x3, x4⟩⟩
  · rintro ⟨x, x1, x2, hne⟩
    obtain ⟨c, hc, x3, x4⟩ := (stOf_ne_abs_iff dm _ x).1 hne
    exact ⟨coarsen nd c, (hm _).2 (List.mem_map.2 ⟨c, hc, rfl⟩),
      (coarsen_covers_iff dm nd (Nat.le_of_lt hnd) c (hw.depth_le c hc) y).2 ⟨x, x1, x2, x3, x4⟩⟩

theorem toLower_full_iff (dm nd : Nat) (hdm : dm ≤ 29) (hnd : nd < dm) (l : List Nat) (hv : ∀ r ∈ l, ValidRaw dm r)
    (hw : WF dm (cellsOf dm l)) (y : Nat) :
    stOf nd (cellsOf nd (toLowerLoop dm nd l none)) y = .full ↔
      ∃ c ∈ cellsOf dm l, c.depth ≤ nd ∧ c.full = true ∧
        lo dm c ≤ y * 4 ^ (dm - nd) ∧ (y + 1) * 4 ^ (dm - nd) ≤ hi dm c := by
  have hW : 0 < 4 ^ (dm - nd) := Nat.pow_pos (by decide)
  obtain ⟨w, hm⟩ := toLower_cells dm nd hdm hnd l hv hw
  refine (stOf_eq_ofFlag_iff w y true).trans ?_
  constructor
  · rintro ⟨c', hc', hf, h1, h2⟩
    -- a full cell of the output is an input cell of depth `≤ nd`: the ancestors of deeper cells are partial
    obtain ⟨c, hc, rfl⟩ := List.mem_map.1 ((hm c').1 hc')
    by_cases hsc : c.depth ≤ nd
    · rw [coarsen, if_pos hsc] at hf h1 h2
      refine ⟨c, hc, hsc, hf, ?_, ?_⟩
      · rw [lo_rebase (Nat.le_of_lt hnd) hsc]; exact Nat.mul_le_mul_right _ h1
      · rw [hi_rebase (Nat.le_of_lt hnd) hsc]; exact Nat.mul_le_mul_right _ h2
    · rw [coarsen, if_neg hsc] at hf
      cases hf
  · rintro ⟨c, hc, hsc, hf, h1, h2⟩
    rw [lo_rebase (Nat.le_of_lt hnd) hsc] at h1
    rw [hi_rebase (Nat.le_of_lt hnd) hsc] at h2
    refine ⟨c, (hm c).2 (List.mem_map.2 ⟨c, hc, by rw [coarsen, if_pos hsc]⟩), hf,
      Nat.le_of_mul_le_mul_right h1 hW, ?_⟩
    have := Nat.le_of_mul_le_mul_right h2 hW
    omega

/-- full only if entirely covered by full cells: the form in which C15 states it -/
theorem toLower_full_only_if (dm nd : Nat) (hdm : dm ≤ 29) (hnd : nd < dm) (l : List Nat) (hv : ∀ r ∈ l, ValidRaw dm r)
    (hw : WF dm (cellsOf dm l)) (y : Nat)
    (hfull : stOf nd (cellsOf nd (toLowerLoop dm nd l none)) y = .full) :
    ∀ x, y * 4 ^ (dm - nd) ≤ x → x < (y + 1) * 4 ^ (dm - nd) → stOf dm (cellsOf dm l) x = .full := by
  obtain ⟨c, hc, _, hf, h1, h2⟩ := (toLower_full_iff dm nd hdm hnd l hv hw y).1 hfull
  intro x hx1 hx2
  rw [stOf_of_mem hw hc (by omega) (by omega), hf]; rfl

/-- a depth-2 BMOC: a full depth-1 cell, two depth-2 cells with the same parent (one full, one partial), a full depth-2
    cell with another parent, a full depth-0 cell -/
def exLower : List Nat :=
  [buildRaw 1 3 true 2, buildRaw 2 16 true 2, buildRaw 2 17 false 2, buildRaw 2 21 true 2, buildRaw 0 3 true 2]

/-- deeper cells become partial cells `(p <<< 2) ||| 2`, consecutive ones with the same ancestor are merged, cells of
    depth `≤ nd` keep their flag -/
example : toLowerDepth 2 1 exLower = some [buildRaw 1 3 true 1, (4 <<< 2) ||| 2, (5 <<< 2) ||| 2, buildRaw 0 3 true 1] := by
  decide
example : cellsOf 1 (toLowerLoop 2 1 exLower none) = [⟨1, 3, true⟩, ⟨1, 4, false⟩, ⟨1, 5, false⟩, ⟨0, 3, true⟩] := by
  decide
example : toLowerDepth 2 2 exLower = none := by decide

/-- the hypotheses of the theorems are satisfiable by this non-trivial list -/
example : (2 ≤ 29) ∧ (1 < 2) ∧ (∀ r ∈ exLower, ValidRaw 2 r) ∧ WF 2 (cellsOf 2 exLower) := by
  refine ⟨by decide, by decide, ?_, ?_⟩
  · intro r hr
    simp only [exLower, List.mem_cons, List.not_mem_nil, or_false] at hr
    rcases hr with rfl | rfl | rfl | rfl | rfl <;> exact validRaw_buildRaw _ (by decide) (by decide)
  · have : cellsOf 2 exLower = [⟨1, 3, true⟩, ⟨2, 16, true⟩, ⟨2, 17, false⟩, ⟨2, 21, true⟩, ⟨0, 3, true⟩] := by decide
    rw [this]
    simp [WF, lo, hi]

end Hpx.Bmoc.Lower

#print axioms Hpx.Bmoc.Lower.toLower_wf
#print axioms Hpx.Bmoc.Lower.toLower_sem
#print axioms Hpx.Bmoc.Lower.toLower_full_iff
#print axioms Hpx.Bmoc.Lower.toLower_full_only_if
