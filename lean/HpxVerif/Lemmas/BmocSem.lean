import HpxVerif.Model.Bmoc

/-!
Semantics of BMOCs: a cell `(d, h)` denotes the interval
`[h·4^(D−d), (h+1)·4^(D−d))` of cells of a reference depth `D`; a cell list denotes a map from the cells of depth `D`
to `{absent, partial, full}`.
-/

namespace Hpx.Bmoc

inductive Tri | abs | part | full
  deriving DecidableEq, Repr

def Tri.ofFlag (f : Bool) : Tri := if f then .full else .part

/-- pointwise minimum / maximum for the order absent < partial < full -/
def Tri.min : Tri → Tri → Tri
  | .abs, _ => .abs | _, .abs => .abs
  | .part, _ => .part | _, .part => .part
  | .full, .full => .full
def Tri.max : Tri → Tri → Tri
  | .full, _ => .full | _, .full => .full
  | .part, _ => .part | _, .part => .part
  | .abs, .abs => .abs
def Tri.not : Tri → Tri | .abs => .full | .full => .abs | .part => .part
/-- `xor` as in the crate's documentation of `BMOC::xor` -/
def Tri.xor : Tri → Tri → Tri
  | .abs, x => x | x, .abs => x
  | .full, .full => .abs
  | _, _ => .part

def lo (D : Nat) (c : Cell) : Nat := c.hash * 4 ^ (D - c.depth)
def hi (D : Nat) (c : Cell) : Nat := (c.hash + 1) * 4 ^ (D - c.depth)

def covers (D : Nat) (c : Cell) (x : Nat) : Bool := decide (lo D c ≤ x) && decide (x < hi D c)

/-- state of the depth-`D` cell `x` in a cell list (first covering cell) -/
def stOf (D : Nat) : List Cell → Nat → Tri
  | [], _ => .abs
  | c :: l, x => if covers D c x then Tri.ofFlag c.full else stOf D l x

def WF (D : Nat) : List Cell → Prop
  | [] => True
  | c :: l => c.depth ≤ D ∧ (∀ c' ∈ l, hi D c ≤ lo D c') ∧ WF D l

theorem lo_mk (D d h : Nat) (f : Bool) : lo D { depth := d, hash := h, full := f } = h * 4 ^ (D - d) := rfl
theorem hi_mk (D d h : Nat) (f : Bool) : hi D { depth := d, hash := h, full := f } = (h + 1) * 4 ^ (D - d) := rfl

theorem lo_lt_hi (D : Nat) (c : Cell) : lo D c < hi D c := by
  unfold lo hi
  have : 0 < 4 ^ (D - c.depth) := Nat.pow_pos (by decide)
  rw [Nat.add_mul]; omega

theorem WF.tail {D c l} (h : WF D (c :: l)) : WF D l := h.2.2

theorem WF.depth_le {D : Nat} {l : List Cell} (h : WF D l) : ∀ c ∈ l, c.depth ≤ D := by
  induction l with
  | nil => intro c hc; simp at hc
  | cons a l ih =>
    intro c hc
    rcases List.mem_cons.1 hc with rfl | hm
    · exact h.1
    · exact ih h.tail c hm

theorem WF.hi_le_last {D : Nat} : ∀ {l : List Cell} {c0 : Cell}, WF D (c0 :: l) → ∀ c ∈ c0 :: l, hi D c ≤ hi D (l.getLastD c0)
  | [], c0, _, c, hc => by rw [List.mem_singleton.1 hc]; exact Nat.le_refl _
  | c1 :: l, c0, h, c, hc => by
    rw [List.getLastD_cons]
    rcases List.mem_cons.1 hc with rfl | hc
    · exact Nat.le_trans (Nat.le_trans (h.2.1 c1 (List.mem_cons_self ..)) (Nat.le_of_lt (lo_lt_hi D c1)))
        (h.tail.hi_le_last c1 (List.mem_cons_self ..))
    · exact h.tail.hi_le_last c hc

theorem stOf_cons (D : Nat) (c : Cell) (l : List Cell) (x : Nat) :
    stOf D (c :: l) x = if lo D c ≤ x ∧ x < hi D c then Tri.ofFlag c.full else stOf D l x := by
  simp [stOf, covers]

theorem ofFlag_ne_abs (f : Bool) : Tri.ofFlag f ≠ .abs := by cases f <;> simp [Tri.ofFlag]

theorem stOf_ne_abs_iff (D : Nat) (cs : List Cell) (x : Nat) :
    stOf D cs x ≠ .abs ↔ ∃ c ∈ cs, lo D c ≤ x ∧ x < hi D c := by
  induction cs with
  | nil => simp [stOf]
  | cons c cs ih =>
    rw [stOf_cons]
    by_cases h : lo D c ≤ x ∧ x < hi D c
    · simp only [h, and_self, if_true]
      exact ⟨fun _ => ⟨c, by simp, h⟩, fun _ => ofFlag_ne_abs _⟩
    · simp only [h, if_false, ih, List.mem_cons]
      constructor
      · rintro ⟨c', hc', hx⟩; exact ⟨c', Or.inr hc', hx⟩
      · rintro ⟨c', rfl | hc', hx⟩
        · exact absurd hx h
        · exact ⟨c', hc', hx⟩

theorem stOf_absent {D : Nat} {l : List Cell} {x : Nat} (h : ∀ c ∈ l, ¬ (lo D c ≤ x ∧ x < hi D c)) :
    stOf D l x = .abs :=
  Decidable.of_not_not fun hne => let ⟨c, hc, hx⟩ := (stOf_ne_abs_iff D l x).1 hne; h c hc hx

theorem stOf_absent_of_lt {D : Nat} {l : List Cell} {x : Nat} (h : ∀ c ∈ l, x < lo D c) : stOf D l x = .abs :=
  stOf_absent fun c hc h' => Nat.lt_irrefl _ (Nat.lt_of_lt_of_le (h c hc) h'.1)

theorem stOf_absent_of_ge {D : Nat} {l : List Cell} {x : Nat} (h : ∀ c ∈ l, hi D c ≤ x) : stOf D l x = .abs :=
  stOf_absent fun c hc h' => Nat.lt_irrefl _ (Nat.lt_of_lt_of_le h'.2 (h c hc))

theorem WF.lo_ge {D c l} (h : WF D (c :: l)) : ∀ c' ∈ l, hi D c ≤ lo D c' := h.2.1

theorem four_pow_split {D a b : Nat} (hab : a ≤ b) (hb : b ≤ D) : 4 ^ (D - a) = 4 ^ (b - a) * 4 ^ (D - b) := by
  rw [← Nat.pow_add]; congr 1; omega

theorem shr_eq_div (h k : Nat) : h >>> (k <<< 1) = h / 4 ^ k := by
  rw [Nat.shiftRight_eq_div_pow, Nat.shiftLeft_eq, Nat.pow_one, Nat.pow_mul']

end Hpx.Bmoc
