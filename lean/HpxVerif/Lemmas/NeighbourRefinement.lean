/-
C14 — external edges (parts level): the neighbour relation commutes with the refinement of the grid (`nbAt_div`: the
neighbour of the block is the block of the neighbour, holes included).  From it `facing_iff`, the geometric fact behind the
external edge: if `p` is the neighbour of `q` in direction `f`, the descendants of `q` that touch a descendant of `p` are
exactly those lying on the side (ordinal `f`) / at the corner (cardinal `f`) `f` of `q` (`OnSide`).
-/
import HpxVerif.Lemmas.TopoComplete
import HpxVerif.Lemmas.TopoLift

namespace Hpx.EdgeExternal
open Hpx Hpx.Topo Hpx.TopoSpec Hpx.TopoNeigh Hpx.TopoLift MW

def blk (N : Nat) (P : HashParts) : HashParts := ⟨P.d0h, P.i / N, P.j / N⟩

def anc (k : Nat) (P : HashParts) : HashParts := ⟨P.d0h, P.i / 2 ^ k, P.j / 2 ^ k⟩

theorem zone_div (n N : Nat) (hN : 0 < N) (X : Int) : zone n (X / N) = zone (n * N) X := by
  have hN' : (0 : Int) < N := by omega
  simp only [zone, Int.ediv_lt_iff_lt_mul hN', ge_iff_le, Int.le_ediv_iff_mul_le hN', Int.zero_mul, Int.natCast_mul]

theorem toNat_div (N : Nat) (X : Int) (h : 0 ≤ X) : (X / N).toNat = X.toNat / N := by
  obtain ⟨x, rfl⟩ := Int.eq_ofNat_of_zero_le h
  rw [← Int.natCast_ediv, Int.toNat_natCast, Int.toNat_natCast]

theorem u32_div (N : Nat) (X : Int) (h : 0 ≤ X) (h' : X < 4294967296) : u32 (X / N) = u32 X / N := by
  obtain ⟨x, rfl⟩ := Int.eq_ofNat_of_zero_le h
  have e : ∀ d ≤ x, ((d : Int) % 4294967296).toNat = d := fun d _ => by omega
  unfold u32
  rw [← Int.natCast_ediv, e x (Nat.le_refl x), e _ (Nat.div_le_self x N)]

theorem last_div (n N : Nat) (hN : 0 < N) : (n * N - 1) / N = n - 1 := by
  cases n with
  | zero => simp
  | succ n => rw [Nat.add_sub_cancel, Nat.succ_mul]; exact Nat.div_eq_of_lt_le (by omega) (by rw [Nat.succ_mul]; omega)

theorem eval_div (s : Src) (n N : Nat) (hN : 0 < N) (X Y : Int) (hx : s = .i → 0 ≤ X ∧ X < 4294967296)
    (hy : s = .j → 0 ≤ Y ∧ Y < 4294967296) :
    s.eval (u32 (X / N)) (u32 (Y / N)) (n - 1) = s.eval (u32 X) (u32 Y) (n * N - 1) / N := by
  cases s
  · exact u32_div N X (hx rfl).1 (hx rfl).2
  · exact u32_div N Y (hy rfl).1 (hy rfl).2
  · exact (Nat.zero_div N).symm
  · exact (last_div n N hN).symm

theorem nbAt_div (n N b : Nat) (X Y : Int) (hb : b < 12) (hN : 0 < N) (hM : n * N ≤ 4294967296) :
    nbAt n b (X / N) (Y / N) = (nbAt (n * N) b X Y).map (blk N) := by
  have hx := zone_cases (n * N) X
  have hy := zone_cases (n * N) Y
  obtain ⟨D, hD, e1, e2, e⟩ := nbAt_eq (n * N) X Y
  obtain ⟨D', hD', -, -, e'⟩ := nbAt_eq n (X / N) (Y / N)
  -- the same zones, hence the same branch on both sides: inside the base cell, or across the seam `D`
  rw [zone_div n N hN, zone_div n N hN, hD] at hD'
  obtain rfl := Option.some.inj hD'
  rw [e, e', zone_div n N hN, zone_div n N hN]
  split
  · rw [Option.map_some, blk, toNat_div N X (by omega), toNat_div N Y (by omega)]
  · cases hs : seamRule b D with
    | none => rfl
    | some t =>
      -- a selected coordinate stayed in range
      have sel : ∀ s ∈ [t.2.1, t.2.2], s.eval (u32 (X / N)) (u32 (Y / N)) (n - 1) = s.eval (u32 X) (u32 Y) (n * N - 1) / N :=
        fun s h => eval_div s n N hN X Y (fun e => by have := (seam_src b hb D (mem_all D) t hs s h).1 e; omega)
          (fun e => by have := (seam_src b hb D (mem_all D) t hs s h).2 e; omega)
      exact congrArg some (congrArg₂ (HashParts.mk t.1) (sel _ (by simp)) (sel _ (by simp)))

theorem pow_cast (k : Nat) : ((2 ^ k : Nat) : Int) = 2 ^ k := by rw [Int.natCast_pow]; rfl

theorem nbAt_anc (n k b : Nat) (X Y : Int) (hb : b < 12) (hn2 : n * 2 ^ k ≤ 4294967296) :
    nbAt n b (X / 2 ^ k) (Y / 2 ^ k) = (nbAt (n * 2 ^ k) b X Y).map (anc k) := by
  rw [← pow_cast k]
  exact nbAt_div n (2 ^ k) b X Y hb (Nat.two_pow_pos k) hn2

/-- a step `o ∈ {−1, 0, 1}` from position `a` changes the index of the block of side `N` by some `δ ∈ {−1, 0, 1}`; `δ = −1`
    only from the first position of a block, `δ = 1` only from the last (one half of `OnSide`, for `δ`), and `δ = o` if
    `o` itself is such a step (the same half of `OnSide`, for `o`) -/
theorem step_div (a N : Nat) (hN : 0 < N) (o : Int) (o1 : -1 ≤ o) (o2 : o ≤ 1) :
    ∃ δ : Int, ((a : Int) + o) / N = ((a / N : Nat) : Int) + δ ∧ -1 ≤ δ ∧ δ ≤ 1 ∧
      (δ = -1 → a % N = 0) ∧ (δ = 1 → a % N + 1 = N) ∧
      ((o = -1 → a % N = 0) → (o = 1 → a % N + 1 = N) → δ = o) := by
  have hr := Nat.mod_lt a hN
  have ha : ((a % N : Nat) : Int) + N * (a / N : Nat) = a := by
    rw [← Int.natCast_mul, ← Int.natCast_add, Nat.mod_add_div]
  -- the quotient is `a / N + δ` as soon as `a + o = r + N * (a / N + δ)` with a remainder `0 ≤ r < N`
  have key : ∀ δ r : Int, 0 ≤ r → r < N → ((a % N : Nat) : Int) + o = r + N * δ →
      ((a : Int) + o) / N = ((a / N : Nat) : Int) + δ := fun δ r h0 h1 h =>
    ((Int.ediv_emod_unique (by omega)).2 ⟨by rw [Int.mul_add]; omega, h0, h1⟩).1
  rcases (by omega : ((a % N : Nat) : Int) + o = -1 ∨ ((a % N : Nat) : Int) + o = N ∨
      (0 ≤ ((a % N : Nat) : Int) + o ∧ ((a % N : Nat) : Int) + o < N)) with h | h | h
  · exact ⟨-1, key _ (N - 1) (by omega) (by omega) (by omega), by omega⟩
  · exact ⟨1, key _ 0 (by omega) (by omega) (by omega), by omega⟩
  · exact ⟨0, key _ _ h.1 h.2 (by omega), by omega⟩

/-- the sub-cell `(x, y)` of a block of side `N` lies on the side (ordinal `f`) / at the corner (cardinal `f`) `f` of
    the block: `SE`: `y = 0`, `SW`: `x = 0`, `NE`: `x = N − 1`, `NW`: `y = N − 1`; `S`: `(0, 0)`, `E`: `(N−1, 0)`,
    `W`: `(0, N−1)`, `N`: `(N−1, N−1)` -/
def OnSide (N : Nat) (f : MW) (x y : Nat) : Prop :=
  (f.offsetSe = -1 → x = 0) ∧ (f.offsetSe = 1 → x + 1 = N) ∧ (f.offsetSw = -1 → y = 0) ∧ (f.offsetSw = 1 → y + 1 = N)

instance (N : Nat) (f : MW) (x y : Nat) : Decidable (OnSide N f x y) := by unfold OnSide; infer_instance

theorem anc_valid (n k : Nat) (P : HashParts) (hP : Valid (n * 2 ^ k) P) : Valid n (anc k P) := by
  obtain ⟨hb, hi, hj⟩ := hP
  have hpos := Nat.two_pow_pos k
  exact ⟨hb, (Nat.div_lt_iff_lt_mul hpos).2 hi, (Nat.div_lt_iff_lt_mul hpos).2 hj⟩

/-- a step `g` in the fine grid is, on blocks, the step `G` across the block border crossed (`G = C` when none is crossed) -/
theorem coarsen_dir (n k : Nat) (P : HashParts) (g G : MW) (hb : P.d0h < 12) (hn2 : n * 2 ^ k ≤ 4294967296)
    (hi : ((P.i : Int) + g.offsetSe) / (2 ^ k : Nat) = ((P.i / 2 ^ k : Nat) : Int) + G.offsetSe)
    (hj : ((P.j : Int) + g.offsetSw) / (2 ^ k : Nat) = ((P.j / 2 ^ k : Nat) : Int) + G.offsetSw) :
    neighbourParts n (anc k P) G = (neighbourParts (n * 2 ^ k) P g).map (anc k) := by
  rw [pow_cast k] at hi hj
  rw [neighbourParts_eq_nbAt, neighbourParts_eq_nbAt, ← nbAt_anc n k _ _ _ hb hn2, hi, hj]
  rfl

theorem facing_sound (n k : Nat) (p q Q : HashParts) (f : MW) (hn : 1 ≤ n) (hn2 : n * 2 ^ k ≤ 4294967296)
    (hQ : Valid (n * 2 ^ k) Q) (hq : anc k Q = q) (hf : neighbourParts n q f = some p)
    (hs : OnSide (2 ^ k) f (Q.i % 2 ^ k) (Q.j % 2 ^ k)) :
    ∃ P, Valid (n * 2 ^ k) P ∧ anc k P = p ∧ Touch (n * 2 ^ k) Q P := by
  have hM : 1 ≤ n * 2 ^ k := Nat.mul_pos hn (Nat.two_pow_pos k)
  obtain ⟨o1, o2, o3, o4⟩ := offsets_range f
  obtain ⟨s1, s2, s3, s4⟩ := hs
  -- the step `f` from `Q` crosses the border `f` of the block
  obtain ⟨δi, ei, _, _, _, _, hi⟩ := step_div Q.i (2 ^ k) (Nat.two_pow_pos k) f.offsetSe o1 o2
  obtain ⟨δj, ej, _, _, _, _, hj⟩ := step_div Q.j (2 ^ k) (Nat.two_pow_pos k) f.offsetSw o3 o4
  obtain rfl := hi s1 s2
  obtain rfl := hj s3 s4
  have hc := coarsen_dir n k Q f f hQ.1 hn2 ei ej
  rw [hq, hf] at hc
  cases hP : neighbourParts (n * 2 ^ k) Q f with
  | none => rw [hP] at hc; exact absurd hc (by simp)
  | some P =>
    rw [hP, Option.map_some] at hc
    exact ⟨P, neighbourParts_valid _ Q P f hM hn2 hQ hP, (Option.some.inj hc).symm, neighbour_touch _ Q P f hM hn2 hQ hP⟩

/-- the step from `Q` to `P` leaves the block of `Q` across the side `f` on which `Q` lies: `step_div` -/
theorem facing_complete (n k : Nat) (p P Q : HashParts) (hn : 1 ≤ n) (hn2 : n * 2 ^ k ≤ 4294967296)
    (hP : Valid (n * 2 ^ k) P) (hQ : Valid (n * 2 ^ k) Q) (hp : anc k P = p) (hne : anc k Q ≠ p)
    (ht : Touch (n * 2 ^ k) Q P) :
    (∃ G, G ≠ C ∧ neighbourParts n p G = some (anc k Q)) ∧
    ∀ f, neighbourParts n (anc k Q) f = some p → OnSide (2 ^ k) f (Q.i % 2 ^ k) (Q.j % 2 ^ k) := by
  have hM : 1 ≤ n * 2 ^ k := Nat.mul_pos hn (Nat.two_pow_pos k)
  have hn3 : n ≤ 4294967296 := Nat.le_trans (Nat.le_mul_of_pos_right n (Nat.two_pow_pos k)) hn2
  have hqv : Valid n (anc k Q) := anc_valid n k Q hQ
  obtain ⟨g, _, hg⟩ := neighbours_complete _ Q P hM hn2 hQ hP (fun e => hne (by rw [← hp, e])) ht
  obtain ⟨o1, o2, o3, o4⟩ := offsets_range g
  obtain ⟨δi, ei, r1, r2, a1, a2, _⟩ := step_div Q.i (2 ^ k) (Nat.two_pow_pos k) g.offsetSe o1 o2
  obtain ⟨δj, ej, r3, r4, a3, a4, _⟩ := step_div Q.j (2 ^ k) (Nat.two_pow_pos k) g.offsetSw o3 o4
  obtain ⟨G, -, rfl, rfl⟩ := ofOffsets_spec δi δj r1 r2 r3 r4
  have hG := coarsen_dir n k Q g G hQ.1 hn2 ei ej
  rw [hg, Option.map_some, hp] at hG
  have hGC : G ≠ C := by
    rintro rfl
    rw [neighbourParts_C n _ hqv] at hG
    exact hne (Option.some.inj hG)
  obtain ⟨G', hG', hb⟩ := neighbourParts_symmetric n _ p G hn hn3 hqv hGC hG
  refine ⟨⟨G', (mem_dirs8_iff G').1 hG', hb⟩, ?_⟩
  intro f hf
  obtain rfl : G = f := neighbours_distinct n _ p G f hn hn3 hqv hG hf
  exact ⟨a1, a2, a3, a4⟩

/-- **the facing side / corner** (parts level, every `1 ≤ n`, `n·2^k ≤ 2^32`): let `p` be the neighbour of `q` in
    direction `f` (equivalently — `from_dir_spec`, `from_dir_unique` — `q` is a neighbour of `p` and `f` is the direction
    `from_` computed by the code).  A descendant `Q` of `q`, `k` levels down, shares a vertex (as points of the sphere)
    with some descendant of `p` iff it lies on the side `f` of `q` (`f` ordinal: the `2^k` sub-cells along the shared
    edge), at the corner `f` of `q` (`f` cardinal: one sub-cell at the shared vertex) -/
theorem facing_iff (n k : Nat) (p q Q : HashParts) (f : MW) (hn : 1 ≤ n) (hn2 : n * 2 ^ k ≤ 4294967296)
    (hQ : Valid (n * 2 ^ k) Q) (hq : anc k Q = q) (hf : neighbourParts n q f = some p) (hne : q ≠ p) :
    (∃ P, Valid (n * 2 ^ k) P ∧ anc k P = p ∧ Touch (n * 2 ^ k) Q P) ↔ OnSide (2 ^ k) f (Q.i % 2 ^ k) (Q.j % 2 ^ k) :=
  ⟨fun ⟨P, hP, hPa, ht⟩ => (facing_complete n k p P Q hn hn2 hP hQ hPa (hq ▸ hne) ht).2 f (hq ▸ hf),
    facing_sound n k p q Q f hn hn2 hQ hq hf⟩

/-- concrete instance (`n = 2`, `k = 1`): the sub-cells of `q = (1, 1, 1)` facing `p = (2, 0, 1)` (seen in direction `E`)
    are the single corner sub-cell `(3, 2)`, whose `E` neighbour `(2, 1, 3)` is a descendant of `p` -/
example : neighbourParts 2 ⟨1, 1, 1⟩ E = some ⟨2, 0, 1⟩ ∧ OnSide 2 E (3 % 2) (2 % 2) ∧
    neighbourParts 4 ⟨1, 3, 2⟩ E = some ⟨2, 1, 3⟩ ∧ anc 1 ⟨2, 1, 3⟩ = ⟨2, 0, 1⟩ := by decide

end Hpx.EdgeExternal

#print axioms Hpx.EdgeExternal.nbAt_anc
#print axioms Hpx.EdgeExternal.coarsen_dir
#print axioms Hpx.EdgeExternal.facing_sound
#print axioms Hpx.EdgeExternal.facing_complete
#print axioms Hpx.EdgeExternal.facing_iff
