/-
C04 — neighbours of the NESTED scheme, arithmetic layer: the model's `neighbourParts` with the zone of the shifted coordinates
made explicit (`nbAt_eq`: the cell moved inside its base cell, or the seam rule in the direction of the two zones), and the
rotation by a quarter turn, by which a rotation-invariant statement needs a proof for the base cells 0, 4, 8 of column 0 only.
The statements hold for every grid side `1 ≤ n ≤ 2^32`: the model passes the shifted coordinates as `u32`
(`% 4294967296`), so for larger `n` (which no `u32` nside can reach) it would not compute the neighbour
(example at the end of `TopoComplete.lean`).
-/
import HpxVerif.Lemmas.TopoSpec

namespace Hpx.TopoNeigh
open Hpx Hpx.Topo Hpx.TopoSpec MW

/-! ## the model, with the zone made explicit -/

/-- `-1`, `0`, `1`: the shifted coordinate is below, inside, above `[0, n)` (the local `off` of `neighbourParts`, written the
    same way so that `neighbourParts_eq_nbAt` is `rfl`) -/
def zone (n : Nat) (c : Int) : Int := if c < 0 then -1 else if c ≥ n then 1 else 0

def nbZ (n : Nat) (b : Nat) (zi zj : Int) (i' j' : Int) : Option HashParts :=
  match MW.ofOffsets zi zj with
  | none => none
  | some C => some { d0h := b, i := i'.toNat, j := j'.toNat }
  | some bdir =>
    match seamRule b bdir with
    | none => none
    | some (b, si, sj) =>
      let iu := (i' % 4294967296).toNat
      let ju := (j' % 4294967296).toNat
      some { d0h := b, i := si.eval iu ju (n - 1), j := sj.eval iu ju (n - 1) }

def nbAt (n : Nat) (b : Nat) (i' j' : Int) : Option HashParts := nbZ n b (zone n i') (zone n j') i' j'

theorem neighbourParts_eq_nbAt (n : Nat) (p : HashParts) (dir : MW) :
    neighbourParts n p dir = nbAt n p.d0h (p.i + dir.offsetSe) (p.j + dir.offsetSw) := by
  -- the model unfolded first: a bare `rfl` is sixty times slower to check
  unfold neighbourParts; rfl

theorem zone_cases (n : Nat) (c : Int) :
    (c < 0 ∧ zone n c = -1) ∨ (0 ≤ c ∧ c < n ∧ zone n c = 0) ∨ (0 ≤ c ∧ (n : Int) ≤ c ∧ zone n c = 1) := by
  unfold zone; split
  · omega
  · split <;> omega

theorem zone_in (n : Nat) (i : Nat) (h : i < n) : zone n i = 0 := by unfold zone; omega
theorem zone_neg (n : Nat) : zone n (-1) = -1 := by unfold zone; omega
theorem zone_top (n : Nat) : zone n n = 1 := by unfold zone; omega

theorem b12 (b : Nat) (hb : b < 12) :
    b = 0 ∨ b = 1 ∨ b = 2 ∨ b = 3 ∨ b = 4 ∨ b = 5 ∨ b = 6 ∨ b = 7 ∨ b = 8 ∨ b = 9 ∨ b = 10 ∨ b = 11 := by
  omega

/-! ## rotation by a quarter turn

The twelve base cells are three rows (`b / 4`) of four columns (`b % 4`), and a rotation of the sphere by `π/2` about the
polar axis moves every base cell one column to the east.  The seam rules of the code, and the gluing of the
specification, only depend on rows and on differences of columns: both commute with the rotation.  A statement about
the neighbours of a cell that is invariant under the rotation therefore needs a proof for the base cells `0`, `4`, `8`
of column 0 only: write `b` as `rotB k b₀`, `b₀ ∈ {0, 4, 8}` (`exists_col`; a second base cell as `rotB k b₀'`, `exists_rot`), take
the rotation off each term (`nbAt_rot`, `Glue_rot`, `rotB_row`) and split over `b₀`. -/

def rotB (k b : Nat) : Nat := 4 * (b / 4) + (b % 4 + k) % 4

def rot (k : Nat) (p : HashParts) : HashParts := ⟨rotB k p.d0h, p.i, p.j⟩

theorem exists_col (b : Nat) (hb : b < 12) : ∃ b₀, (b₀ = 0 ∨ b₀ = 4 ∨ b₀ = 8) ∧ ∃ k < 4, b = rotB k b₀ :=
  ⟨4 * (b / 4), by omega, b % 4, by omega, by unfold rotB; omega⟩

theorem exists_rot (k b : Nat) (hk : k < 4) (hb : b < 12) : ∃ b₀ < 12, b = rotB k b₀ :=
  ⟨rotB (4 - k) b, by unfold rotB; omega, by unfold rotB; omega⟩

theorem rotB_row (k b : Nat) : rotB k b / 4 = b / 4 := by unfold rotB; omega

theorem rotB_lt (k b : Nat) : rotB k b < 12 ↔ b < 12 := by unfold rotB; omega

theorem mem_all (D : MW) : D ∈ MW.all := by cases D <;> decide

theorem mem_dirs8_iff (w : MW) : w ∈ dirs8 ↔ w ≠ C := by cases w <;> simp [dirs8]

theorem offsets_range (dir : MW) :
    -1 ≤ dir.offsetSe ∧ dir.offsetSe ≤ 1 ∧ -1 ≤ dir.offsetSw ∧ dir.offsetSw ≤ 1 := by
  cases dir <;> decide

theorem ofOffsets_spec (x y : Int) (hx : -1 ≤ x) (hx' : x ≤ 1) (hy : -1 ≤ y) (hy' : y ≤ 1) :
    ∃ D, MW.ofOffsets x y = some D ∧ D.offsetSe = x ∧ D.offsetSw = y := by
  obtain rfl | rfl | rfl : x = -1 ∨ x = 0 ∨ x = 1 := by omega
  all_goals obtain rfl | rfl | rfl : y = -1 ∨ y = 0 ∨ y = 1 := by omega
  all_goals exact ⟨_, rfl, rfl, rfl⟩

theorem seamRule_rot : ∀ b, b < 12 → ∀ k, k < 4 → ∀ D ∈ MW.all,
    seamRule (rotB k b) D = (seamRule b D).map fun t => (rotB k t.1, t.2) := by decide +kernel

def u32 (x : Int) : Nat := (x % 4294967296).toNat

theorem nbAt_eq (n : Nat) (x y : Int) :
    ∃ D, MW.ofOffsets (zone n x) (zone n y) = some D ∧ D.offsetSe = zone n x ∧ D.offsetSw = zone n y ∧
      ∀ b, nbAt n b x y = if zone n x = 0 ∧ zone n y = 0 then some ⟨b, x.toNat, y.toNat⟩ else (seamRule b D).map fun t =>
        ⟨t.1, t.2.1.eval (u32 x) (u32 y) (n - 1), t.2.2.eval (u32 x) (u32 y) (n - 1)⟩ := by
  have hx := zone_cases n x
  have hy := zone_cases n y
  obtain ⟨D, hD, e⟩ := ofOffsets_spec (zone n x) (zone n y) (by omega) (by omega) (by omega) (by omega)
  refine ⟨D, hD, e.1, e.2, fun b => ?_⟩
  unfold nbAt nbZ
  rw [hD, ← e.1, ← e.2]
  cases D <;> first | rfl | (dsimp only; cases seamRule b _ <;> rfl)

theorem nbAt_rot (n b k : Nat) (i' j' : Int) (hb : b < 12) (hk : k < 4) :
    nbAt n (rotB k b) i' j' = (nbAt n b i' j').map (rot k) := by
  obtain ⟨D, -, -, -, e⟩ := nbAt_eq n i' j'
  rw [e, e]
  split
  · rfl
  · rw [seamRule_rot b hb k hk D (mem_all D)]
    cases seamRule b D <;> rfl

/-- the seam rules of column 0 in closed form, zone by zone: the cases that the rotation leaves -/
theorem nbZ_tab (n : Nat) (x y : Int) :
    (nbZ n 0 0 0 x y = some ⟨0, x.toNat, y.toNat⟩ ∧ nbZ n 4 0 0 x y = some ⟨4, x.toNat, y.toNat⟩ ∧
      nbZ n 8 0 0 x y = some ⟨8, x.toNat, y.toNat⟩) ∧
    (nbZ n 0 (-1) (-1) x y = some ⟨8, n - 1, n - 1⟩ ∧ nbZ n 0 0 (-1) x y = some ⟨5, u32 x, n - 1⟩ ∧
      nbZ n 0 1 (-1) x y = none ∧ nbZ n 0 (-1) 0 x y = some ⟨4, n - 1, u32 y⟩ ∧
      nbZ n 0 1 0 x y = some ⟨1, u32 y, n - 1⟩ ∧ nbZ n 0 (-1) 1 x y = none ∧
      nbZ n 0 0 1 x y = some ⟨3, n - 1, u32 x⟩ ∧ nbZ n 0 1 1 x y = some ⟨2, n - 1, n - 1⟩) ∧
    (nbZ n 4 (-1) (-1) x y = none ∧ nbZ n 4 0 (-1) x y = some ⟨8, u32 x, n - 1⟩ ∧
      nbZ n 4 1 (-1) x y = some ⟨5, 0, n - 1⟩ ∧ nbZ n 4 (-1) 0 x y = some ⟨11, n - 1, u32 y⟩ ∧
      nbZ n 4 1 0 x y = some ⟨0, 0, u32 y⟩ ∧ nbZ n 4 (-1) 1 x y = some ⟨7, n - 1, 0⟩ ∧
      nbZ n 4 0 1 x y = some ⟨3, u32 x, 0⟩ ∧ nbZ n 4 1 1 x y = none) ∧
    (nbZ n 8 (-1) (-1) x y = some ⟨10, 0, 0⟩ ∧ nbZ n 8 0 (-1) x y = some ⟨9, 0, u32 x⟩ ∧
      nbZ n 8 1 (-1) x y = none ∧ nbZ n 8 (-1) 0 x y = some ⟨11, u32 y, 0⟩ ∧
      nbZ n 8 1 0 x y = some ⟨5, 0, u32 y⟩ ∧ nbZ n 8 (-1) 1 x y = none ∧
      nbZ n 8 0 1 x y = some ⟨4, u32 x, 0⟩ ∧ nbZ n 8 1 1 x y = some ⟨0, 0, 0⟩) := by
  simp [nbZ, ofOffsets, ofIndex, seamRule, ncpRule, eqrRule, spcRule, baseCell, next, prev, oppo, Src.eval, u32]

theorem seam_tgt : ∀ b < 12, ∀ D ∈ MW.all, ∀ t ∈ seamRule b D, t.1 < 12 ∧ t.1 ≠ b := by decide

/-- a seam rule never selects the coordinate that left the base cell (`neighbourParts` passes it as a `u32`): it copies a
    coordinate that stayed in range, `0` or `n − 1` -/
theorem seam_src : ∀ b < 12, ∀ D ∈ MW.all, ∀ t ∈ seamRule b D, ∀ s ∈ [t.2.1, t.2.2],
    (s = .i → D.offsetSe = 0) ∧ (s = .j → D.offsetSw = 0) := by
  decide

theorem nbAt_valid (n : Nat) (b : Nat) (i' j' : Int) (q : HashParts) (hn : 1 ≤ n) (hb : b < 12)
    (h : nbAt n b i' j' = some q) : Valid n q := by
  have hx := zone_cases n i'
  have hy := zone_cases n j'
  obtain ⟨D, -, e1, e2, e⟩ := nbAt_eq n i' j'
  rw [e] at h
  split at h
  · obtain rfl := Option.some.inj h
    exact ⟨hb, by show i'.toNat < n; omega, by show j'.toNat < n; omega⟩
  · obtain ⟨t, ht, rfl⟩ := Option.map_eq_some_iff.1 h
    have sel : ∀ s ∈ [t.2.1, t.2.2], s.eval (u32 i') (u32 j') (n - 1) < n := fun s hs => by
      have src := seam_src b hb D (mem_all D) t ht s hs
      -- a selected coordinate stayed in range, and its `u32` view is not larger
      cases s
      · have := src.1 rfl; show u32 i' < n; unfold u32; omega
      · have := src.2 rfl; show u32 j' < n; unfold u32; omega
      · exact hn
      · exact Nat.sub_lt hn Nat.one_pos
    exact ⟨(seam_tgt b hb D (mem_all D) t ht).1, sel _ (by simp), sel _ (by simp)⟩

/-- **C04, `neighbourParts_valid`**: a returned neighbour is a cell of the grid -/
theorem neighbourParts_valid (n : Nat) (p q : HashParts) (dir : MW) (hn : 1 ≤ n) (hn2 : n ≤ 4294967296)
    (hp : Valid n p) (h : neighbourParts n p dir = some q) : Valid n q :=
  nbAt_valid n p.d0h _ _ q hn hp.1 (by rw [← neighbourParts_eq_nbAt]; exact h)

theorem neighbourParts_C (n : Nat) (p : HashParts) (hp : Valid n p) : neighbourParts n p C = some p := by
  show nbZ n p.d0h (zone n ((p.i : Int) + 0)) (zone n ((p.j : Int) + 0)) ((p.i : Int) + 0) ((p.j : Int) + 0) = some p
  rw [Int.add_zero, Int.add_zero, zone_in n p.i hp.2.1, zone_in n p.j hp.2.2]
  simp [nbZ, ofOffsets, ofIndex]

end Hpx.TopoNeigh
