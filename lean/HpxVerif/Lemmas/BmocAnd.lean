import HpxVerif.Lemmas.BmocNot
import HpxVerif.Lemmas.BmocRel

/-! `and`: three-valued semantics and well-formedness, for all pairs of well-formed operands. -/

namespace Hpx.Bmoc

@[simp] theorem tri_min_abs_left (t : Tri) : Tri.min .abs t = .abs := by cases t <;> rfl
@[simp] theorem tri_min_abs_right (t : Tri) : Tri.min t .abs = .abs := by cases t <;> rfl
theorem tri_min_flags (a b : Bool) : Tri.min (Tri.ofFlag a) (Tri.ofFlag b) = Tri.ofFlag (b && a) := by
  cases a <;> cases b <;> rfl

theorem andCells_step (l r : Cell) (ls rs : List Cell) :
    andCells (l :: ls) (r :: rs) =
      match cellRel l r with
      | .before => andCells ls (r :: rs)
      | .after => andCells (l :: ls) rs
      | .over => ⟨r.depth, r.hash, r.full && l.full⟩ :: andCells (l :: ls) rs
      | .under => ⟨l.depth, l.hash, r.full && l.full⟩ :: andCells ls (r :: rs)
      | .same => ⟨l.depth, l.hash, r.full && l.full⟩ :: andCells ls rs := by
  rw [andCells]
  -- the `match` goes through the tests of `cellRel`, which are those of `andCells`
  simp only [cellRel, apply_ite (fun rel : Rel => (match rel with
    | .before => andCells ls (r :: rs)
    | .after => andCells (l :: ls) rs
    | .over => ⟨r.depth, r.hash, r.full && l.full⟩ :: andCells (l :: ls) rs
    | .under => ⟨l.depth, l.hash, r.full && l.full⟩ :: andCells ls (r :: rs)
    | .same => ⟨l.depth, l.hash, r.full && l.full⟩ :: andCells ls rs : List Cell))]

theorem andCells_induct {motive : List Cell → List Cell → Prop} (nilL : ∀ b, motive [] b) (nilR : ∀ a, motive a [])
    (step : ∀ l ls r rs, motive ls (r :: rs) → motive (l :: ls) rs → motive ls rs → motive (l :: ls) (r :: rs)) :
    ∀ a b, motive a b := by
  intro a
  induction a with
  | nil => exact nilL
  | cons l ls iha =>
    intro b
    induction b with
    | nil => exact nilR _
    | cons r rs ihb => exact step l ls r rs (iha _) ihb (iha _)

theorem andCells_nil_right (a : List Cell) : andCells a [] = [] := by cases a <;> simp [andCells]

def AndSrc (a b : List Cell) (c : Cell) : Prop :=
  ∃ l ∈ a, ∃ r ∈ b, c.full = (r.full && l.full) ∧
    ((c.depth = r.depth ∧ c.hash = r.hash ∧ isIn l r = true) ∨ (c.depth = l.depth ∧ c.hash = l.hash ∧ isIn r l = true))

theorem AndSrc.mono {a a' b b' : List Cell} {c : Cell} (h : AndSrc a b c) (ha : ∀ x ∈ a, x ∈ a') (hb : ∀ x ∈ b, x ∈ b') :
    AndSrc a' b' c := by
  obtain ⟨l, hl, r, hr, h'⟩ := h
  exact ⟨l, ha l hl, r, hb r hr, h'⟩

theorem andCells_src (a b : List Cell) : ∀ c ∈ andCells a b, AndSrc a b c := by
  have tl : ∀ (x : Cell) (l : List Cell), ∀ y ∈ l, y ∈ x :: l := fun _ _ _ h => List.mem_cons_of_mem _ h
  have id' : ∀ (l : List Cell), ∀ y ∈ l, y ∈ l := fun _ _ h => h
  induction a, b using andCells_induct with
  | nilL b => intro c hc; simp [andCells] at hc
  | nilR a => intro c hc; simp [andCells_nil_right] at hc
  | step l ls r rs ihL ihR ihB =>
    have hrel := cellRel_spec (Nat.le_max_left l.depth r.depth) (Nat.le_max_right l.depth r.depth)
    rw [andCells_step]
    cases hc : cellRel l r <;> simp only [hc, Rel.Spec] at hrel ⊢
    · exact fun c hc => (ihL c hc).mono (tl l ls) (id' _)
    · exact fun c hc => (ihR c hc).mono (id' _) (tl r rs)
    · intro c hc
      rcases List.mem_cons.1 hc with rfl | hc
      · exact ⟨l, by simp, r, by simp, rfl, Or.inl ⟨rfl, rfl, hrel.2.1⟩⟩
      · exact (ihR c hc).mono (id' _) (tl r rs)
    · intro c hc
      rcases List.mem_cons.1 hc with rfl | hc
      · exact ⟨l, by simp, r, by simp, rfl, Or.inr ⟨rfl, rfl, hrel.2.1⟩⟩
      · exact (ihL c hc).mono (tl l ls) (id' _)
    · intro c hc
      rcases List.mem_cons.1 hc with rfl | hc
      · refine ⟨l, by simp, r, by simp, rfl, Or.inr ⟨rfl, rfl, isIn_of (by omega) ?_⟩⟩
        rw [show l.depth - r.depth = 0 by omega]; simp; omega
      · exact (ihB c hc).mono (tl l ls) (tl r rs)

def InsideSome (D : Nat) (c : Cell) (l : List Cell) : Prop := ∃ c' ∈ l, lo D c' ≤ lo D c ∧ hi D c ≤ hi D c'

theorem InsideSome.cons {D c l} (c0 : Cell) (h : InsideSome D c l) : InsideSome D c (c0 :: l) := by
  obtain ⟨c', hm, h1⟩ := h
  exact ⟨c', List.mem_cons_of_mem _ hm, h1⟩

theorem InsideSome.head {D : Nat} {c c0 : Cell} {l : List Cell} (h1 : lo D c0 ≤ lo D c) (h2 : hi D c ≤ hi D c0) :
    InsideSome D c (c0 :: l) := ⟨c0, by simp, h1, h2⟩

theorem InsideSome.ge_hi {D c c0 l} (hw : WF D (c0 :: l)) (h : InsideSome D c l) : hi D c0 ≤ lo D c := by
  obtain ⟨c', hm, h1, _⟩ := h
  have := hw.lo_ge c' hm
  omega

theorem AndSrc.inside {D : Nat} {a b : List Cell} {c : Cell} (h : AndSrc a b c) (ha : ∀ x ∈ a, x.depth ≤ D)
    (hb : ∀ x ∈ b, x.depth ≤ D) : c.depth ≤ D ∧ InsideSome D c a ∧ InsideSome D c b := by
  obtain ⟨l, hl, r, hr, _, ⟨e1, e2, hin⟩ | ⟨e1, e2, hin⟩⟩ := h
  · have el : lo D c = lo D r := by unfold lo; rw [e1, e2]
    have eh : hi D c = hi D r := by unfold hi; rw [e1, e2]
    obtain ⟨_, _, i1, i2⟩ := isIn_true (D := D) (hb r hr) hin
    exact ⟨e1 ▸ hb r hr, ⟨l, hl, by omega, by omega⟩, ⟨r, hr, by omega, by omega⟩⟩
  · have el : lo D c = lo D l := by unfold lo; rw [e1, e2]
    have eh : hi D c = hi D l := by unfold hi; rw [e1, e2]
    obtain ⟨_, _, i1, i2⟩ := isIn_true (D := D) (ha l hl) hin
    exact ⟨e1 ▸ ha l hl, ⟨l, hl, by omega, by omega⟩, ⟨r, hr, by omega, by omega⟩⟩

theorem min_skip {D : Nat} {l : Cell} {ls B : List Cell} (hB : ∀ c ∈ B, hi D l ≤ lo D c) (x : Nat) :
    Tri.min (stOf D ls x) (stOf D B x) = Tri.min (stOf D (l :: ls) x) (stOf D B x) := by
  by_cases hx : x < hi D l
  · rw [stOf_absent_of_lt (fun c hc => Nat.lt_of_lt_of_le hx (hB c hc)), tri_min_abs_right, tri_min_abs_right]
  · rw [stOf_tail_of_ge (by omega)]

theorem min_emit {D : Nat} {c l r : Cell} {ls rs A' B' rec : List Cell} {x : Nat}
    (hl : lo D l ≤ lo D c ∧ hi D c ≤ hi D l) (hr : lo D r ≤ lo D c ∧ hi D c ≤ hi D r) (hf : c.full = (r.full && l.full))
    (hA : ¬ (lo D c ≤ x ∧ x < hi D c) → stOf D A' x = stOf D (l :: ls) x)
    (hB : ¬ (lo D c ≤ x ∧ x < hi D c) → stOf D B' x = stOf D (r :: rs) x)
    (hrec : stOf D rec x = Tri.min (stOf D A' x) (stOf D B' x)) :
    stOf D (c :: rec) x = Tri.min (stOf D (l :: ls) x) (stOf D (r :: rs) x) := by
  rw [stOf_cons]
  by_cases h : lo D c ≤ x ∧ x < hi D c
  · rw [if_pos h, stOf_in_cons (by omega) (by omega), stOf_in_cons (by omega) (by omega), hf, tri_min_flags]
  · rw [if_neg h, hrec, hA h, hB h]

theorem stOf_cons_outside {D : Nat} {c : Cell} {l : List Cell} {x : Nat} (h : ¬ (lo D c ≤ x ∧ x < hi D c)) :
    stOf D l x = stOf D (c :: l) x := by
  rw [stOf_cons, if_neg h]

theorem and_spec (D : Nat) (a b : List Cell) (ha : WF D a) (hb : WF D b) :
    WF D (andCells a b) ∧ ∀ x, stOf D (andCells a b) x = Tri.min (stOf D a x) (stOf D b x) := by
  have after : ∀ {A B' : List Cell} {c0 : Cell}, WF D A → WF D (c0 :: B') →
      ∀ c' ∈ andCells A B', hi D c0 ≤ lo D c' := fun hA hB c' hc' =>
    ((andCells_src _ _ c' hc').inside hA.depth_le hB.tail.depth_le).2.2.ge_hi hB
  have after' : ∀ {A' B : List Cell} {c0 : Cell}, WF D (c0 :: A') → WF D B →
      ∀ c' ∈ andCells A' B, hi D c0 ≤ lo D c' := fun hA hB c' hc' =>
    ((andCells_src _ _ c' hc').inside hA.tail.depth_le hB.depth_le).2.1.ge_hi hA
  have comm : ∀ s t, Tri.min s t = Tri.min t s := fun s t => by cases s <;> cases t <;> rfl
  induction a, b using andCells_induct with
  | nilL b => exact ⟨by simp [andCells, WF], fun x => by simp [andCells, stOf]⟩
  | nilR a => exact ⟨by simp [andCells_nil_right, WF], fun x => by simp [andCells_nil_right, stOf]⟩
  | step l ls r rs ihL ihR ihB =>
    have hrel := cellRel_spec ha.1 hb.1
    rw [andCells_step]
    cases hc : cellRel l r <;> simp only [hc, Rel.Spec] at hrel ⊢
    · obtain ⟨w, s⟩ := ihL ha.tail hb
      exact ⟨w, fun x => by rw [s x, min_skip (hb.all_ge hrel) x]⟩
    · obtain ⟨w, s⟩ := ihR ha hb.tail
      exact ⟨w, fun x => by rw [s x, comm, min_skip (ha.all_ge hrel) x, comm]⟩
    · obtain ⟨w, s⟩ := ihR ha hb.tail
      exact ⟨⟨hb.1, after ha hb, w⟩, fun x => min_emit (c := ⟨r.depth, r.hash, r.full && l.full⟩) hrel.2.2.2
        ⟨Nat.le_refl _, Nat.le_refl _⟩ rfl (fun _ => rfl) (fun h => stOf_cons_outside h) (s x)⟩
    · obtain ⟨w, s⟩ := ihL ha.tail hb
      exact ⟨⟨ha.1, after' ha hb, w⟩, fun x => min_emit (c := ⟨l.depth, l.hash, r.full && l.full⟩)
        ⟨Nat.le_refl _, Nat.le_refl _⟩ hrel.2.2.2 rfl (fun h => stOf_cons_outside h) (fun _ => rfl) (s x)⟩
    · obtain ⟨w, s⟩ := ihB ha.tail hb.tail
      obtain ⟨_, _, e4, e3⟩ := hrel
      exact ⟨⟨ha.1, after' ha hb.tail, w⟩, fun x => min_emit (c := ⟨l.depth, l.hash, r.full && l.full⟩)
        ⟨Nat.le_refl _, Nat.le_refl _⟩ ⟨Nat.le_of_eq e4.symm, Nat.le_of_eq e3⟩ rfl (fun h => stOf_cons_outside h)
        (fun h => stOf_cons_outside (by rw [← e3, ← e4]; exact h)) (s x)⟩

theorem and_sem (D : Nat) (a b : List Cell) (ha : WF D a) (hb : WF D b) (x : Nat) :
    stOf D (andCells a b) x = Tri.min (stOf D a x) (stOf D b x) :=
  (and_spec D a b ha hb).2 x

theorem and_wf_inside (D : Nat) (a b : List Cell) (ha : WF D a) (hb : WF D b) :
    WF D (andCells a b) ∧ ∀ c ∈ andCells a b, InsideSome D c a ∧ InsideSome D c b :=
  ⟨(and_spec D a b ha hb).1, fun c hc => ((andCells_src a b c hc).inside ha.depth_le hb.depth_le).2⟩

theorem and_inR (D : Nat) (a b : List Cell) (ha : WF D a) (hb : WF D b) (hra : ∀ c ∈ a, InR c) :
    ∀ c ∈ andCells a b, InR c := by
  intro c hc
  obtain ⟨hcd, ⟨c', hm, _, h2⟩, _⟩ := (andCells_src a b c hc).inside ha.depth_le hb.depth_le
  exact inR_of_hi D c hcd (Nat.le_trans h2 (hi_le_of_inR (ha.depth_le c' hm) (hra c' hm)))

end Hpx.Bmoc
