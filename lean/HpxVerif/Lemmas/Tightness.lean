import HpxVerif.Lemmas.EnvelopePolarConsts
import HpxVerif.Lemmas.CellExtentH1

/-!
# C06 (tightness clause) and C16 — the cell-size helper never exceeds twice a TRUE centre-to-vertex distance of the depth

`Mtrue d = dE (1/2^d) 0 = π/4 · 1/2^d` is the angular distance from the centre to the east (and west) vertex of the cells of
depth `d` centred on the equator (`Mtrue_is_true_c2v`: the explicit cell `eqCell d` = base cell 4, `(i, j) = (nside − 1, 0)`,
every depth `0 … 29`; it is the largest of its four centre-to-vertex distances).

The three envelopes of `ConstantsC2V::new(d)` (`δ = 1/2^d`):
* lower equatorial parabola: `botEnv x ≤ botEnv 0 = 4/π·δ` everywhere, and `4/π·δ ≤ 2·(π/4·δ)` (`8 ≤ π²`);
* upper equatorial line: decreasing, `topEnv x ≤ topEnv lsc = 4/π·δ·cos(lsc) < 4/π·δ` for `x ≥ lsc`;
* polar-cap line: increasing in the folded longitude `|π/4 − lon % (π/2)|`, which is at most `3π/4` for every real longitude
  (`fold_le_all`; in `[0, π/4]` for `lon ≥ 0`, beyond it for `lon < 0` since `%` is the remainder of the truncated division: finding F7):
  `npcEnv l ≤ npcEnv (3π/4) = dMinP + 3·(dMaxP − dMinP)/(1 − δ) ≤ π/2·δ` (`npcEnv_three_le`; ratio `0.941` at depth 1, `0.920` at
  depth 2, `→ 0.9028`).  Depths 1 and 2 need the numeric values of `dMinP`, `dMaxP` at `δ = 1/2`, `1/4`; depths `≥ 3` the linear bounds
  `dMaxP δ ≤ 1.073·δ`, `dMinP δ ≥ 0.873·δ`.

Depth 0: `π/2 − tl ≤ π/2`.  The statements on the model functions, both profiles, are in `TightnessAllLon`.
-/

namespace Hpx.Tightness
open Hpx Hpx.Hash Hpx.Proj Hpx.Cover Hpx.C2V Hpx.C2VReal Hpx.EnvelopeReal Hpx.EnvelopePolar Hpx.CellReal Hpx.TopoLift
  Hpx.CellExtent Real

/-- the true centre → east vertex distance of a cell of depth `d` centred on the equator -/
noncomputable def Mtrue (d : ℕ) : ℝ := dE (1 / 2 ^ d) 0

theorem Mtrue_eq (d : ℕ) : Mtrue d = π / 4 * (1 / 2 ^ d) := by
  obtain ⟨h0, h1⟩ := distCw_range d
  unfold Mtrue
  rw [dE_equator _ h0.le h1]; ring

theorem Mtrue_pos (d : ℕ) : 0 < Mtrue d := by
  rw [Mtrue_eq]; have := Real.pi_pos; positivity

theorem fold_le_all (lon : ℝ) : fold lon ≤ 3 * π / 4 := by
  have hpi := Real.pi_pos
  rcases le_or_gt 0 lon with h | h
  · exact (fold_le lon h).trans (by linarith)
  · have hy : 0 < π / 2 := by positivity
    have hq : lon / (π / 2) < 0 := div_neg_of_neg_of_pos h hy
    unfold fold
    rw [r_rem, if_neg (not_le.mpr hq)]
    have hc1 := Int.le_ceil (lon / (π / 2))
    have hc2 := Int.ceil_lt_add_one (lon / (π / 2))
    rw [div_le_iff₀ hy] at hc1
    have hc3 : ((⌈lon / (π / 2)⌉ : ℝ) - 1) < lon / (π / 2) := by linarith
    rw [lt_div_iff₀ hy] at hc3
    rw [abs_le]
    constructor <;> nlinarith

theorem cos_dMaxP_exact (δ : ℝ) (h0 : 0 ≤ δ) (h1 : δ ≤ 1) :
    cos (dMaxP δ) = 2 / 3 * (1 - (1 - δ) ^ 2 / 3) + cos tl * cos (capLat (1 + δ)) * cos (π / 4 * δ) := by
  unfold dMaxP
  rw [cos_gcDist, sin_tl, sin_capLat' (1 + δ) (by linarith) (by linarith)]
  ring

/-- a numeric upper bound `T` of `dMaxP δ` from a lower bound `c` of `C0 = cos(tl)·cos(capLat(1 + δ))` and an upper bound `x` of
    `π/4·δ`: `cos T ≤ 1 − T²/2 + 5T⁴/96`, and `cos(dMaxP δ) ≥ 2/3·(1 − (1 − δ)²/3) + c·(1 − x²/2)` -/
theorem dMaxP_le_of_bounds (δ T c x : ℝ) (h0 : 0 ≤ δ) (h1 : δ ≤ 1) (hT0 : 0 ≤ T) (hT1 : T ≤ 1)
    (hc : c ^ 2 ≤ 5 / 81 * ((1 - δ) ^ 2 * (6 - (1 - δ) ^ 2))) (hx : π / 4 * δ ≤ x) (hx1 : x ≤ 1)
    (h : 1 - T ^ 2 / 2 + T ^ 4 * (5 / 96) ≤ 2 / 3 * (1 - (1 - δ) ^ 2 / 3) + c * (1 - x ^ 2 / 2)) : dMaxP δ ≤ T := by
  have hpi := Real.pi_pos
  apply dMaxP_le_of_cos _ _ hT0
  have hq := cos_le_quartic T hT0 hT1
  rw [cos_dMaxP_exact δ h0 h1]
  have hC0 := C0_nonneg δ h0 h1
  have hC : c ≤ cos tl * cos (capLat (1 + δ)) := le_of_sq_le_sq (hc.trans_eq (C0_sq δ h0 h1).symm) hC0
  have hx0 : 0 ≤ π / 4 * δ := by positivity
  have hx2 := pow_le_pow_left₀ hx0 hx 2
  have hx3 := pow_le_pow_left₀ (hx0.trans hx) hx1 2
  have hcx : 1 - x ^ 2 / 2 ≤ cos (π / 4 * δ) := by linarith [Real.one_sub_sq_div_two_le_cos (x := π / 4 * δ)]
  have hprod := mul_le_mul hC hcx (by linarith) hC0
  linarith

/-- `dMaxP(1/2) ≈ 0.48146` -/
theorem dMaxP_half_le : dMaxP (1 / 2) ≤ 486 / 1000 := by
  obtain ⟨hp1, hp2⟩ := pi_bounds
  exact dMaxP_le_of_bounds (1 / 2) _ (29788 / 100000) (3927 / 10000) (by norm_num) (by norm_num) (by norm_num) (by norm_num)
    (by norm_num) (by linarith) (by norm_num) (by norm_num)

/-- `dMinP(1/2) ≈ 0.42993` -/
theorem dMinP_half_ge : 427 / 1000 ≤ dMinP (1 / 2) := by
  obtain ⟨hp1, hp2⟩ := pi_bounds
  have hn := dMinP_nonneg (1 / 2) (by norm_num)
  have hle := dMinP_le_lin (1 / 2) (by norm_num) (by norm_num)
  -- `sin(dMinP) = sin(capLat)·cos(tl) − cos(capLat)·sin(tl)`
  have hs : sin (dMinP (1 / 2)) = 11 / 12 * cos tl - cos (capLat (1 + 1 / 2)) * (2 / 3) := by
    unfold dMinP
    rw [sin_sub, sin_tl, sin_capLat' _ (by norm_num) (by norm_num)]
    norm_num
  have hc1 := cos_tl_ge
  have hc2 : cos (capLat (1 + 1 / 2)) ≤ 39966 / 100000 := by
    apply le_of_sq_le_sq _ (by norm_num)
    rw [cos_sq_capLat _ (by norm_num) (by norm_num)]; norm_num
  have hsin : 41647 / 100000 ≤ sin (dMinP (1 / 2)) := by rw [hs]; linarith
  have hb := Real.sin_bound (x := 427 / 1000) (by rw [abs_of_pos] <;> norm_num)
  rw [abs_of_pos (by norm_num : (0 : ℝ) < 427 / 1000)] at hb
  have hb2 := (abs_le.mp hb).2
  by_contra hcon
  rw [not_le] at hcon
  have := Real.sin_lt_sin_of_lt_of_le_pi_div_two (by linarith) (by linarith) hcon
  norm_num at hb2
  linarith

/-- `dMaxP(1/4) ≈ 0.25433` -/
theorem dMaxP_quarter_le : dMaxP (1 / 4) ≤ 2585 / 10000 := by
  obtain ⟨hp1, hp2⟩ := pi_bounds
  exact dMaxP_le_of_bounds (1 / 4) _ (434513 / 1000000) (19635 / 100000) (by norm_num) (by norm_num) (by norm_num)
    (by norm_num) (by norm_num) (by linarith) (by norm_num) (by norm_num)

/-- `dMinP(1/4) ≈ 0.21870` -/
theorem dMinP_quarter_ge : 2144 / 10000 ≤ dMinP (1 / 4) := by
  have := dMinP_ge_mul (1 / 4) (8576 / 10000) (by norm_num) (by norm_num) (by norm_num)
  linarith

theorem npcEnv_three (d : ℕ) :
    npcEnv (Csts.new d) (3 * π / 4) =
      dMinP (1 / 2 ^ d) + 3 * (dMaxP (1 / 2 ^ d) - dMinP (1 / 2 ^ d)) / (1 - 1 / 2 ^ d) := by
  unfold npcEnv
  rw [show (Csts.new d : Csts ℝ).slopeNpc * (3 * π / 4) = 3 * ((Csts.new d : Csts ℝ).slopeNpc * (π / 4)) by ring,
    new_slopeNpc_quarter, new_interceptNpc_eq]
  ring

/-- `A + 3·(M − A)/(1 − δ) = (3M − (2 + δ)·A)/(1 − δ)` -/
theorem three_le_of_bounds (δ M A Mu Al : ℝ) (h0 : 0 ≤ δ) (h1 : δ < 1) (hM : M ≤ Mu) (hA : Al ≤ A)
    (h : 3 * Mu - (2 + δ) * Al ≤ π / 2 * δ * (1 - δ)) : A + 3 * (M - A) / (1 - δ) ≤ 2 * (π / 4 * δ) := by
  have h1δ : 0 < 1 - δ := by linarith
  rw [← sub_nonneg, show 2 * (π / 4 * δ) - (A + 3 * (M - A) / (1 - δ)) =
      (π / 2 * δ * (1 - δ) - (3 * M - (2 + δ) * A)) / (1 - δ) by field_simp; ring]
  apply div_nonneg _ h1δ.le
  have := mul_le_mul_of_nonneg_left hA (by linarith : 0 ≤ 2 + δ)
  linarith

theorem npcEnv_three_le (d : ℕ) (hd : 1 ≤ d) : npcEnv (Csts.new d) (3 * π / 4) ≤ 2 * Mtrue d := by
  obtain ⟨hp1, hp2⟩ := pi_bounds
  rw [npcEnv_three d, Mtrue_eq]
  obtain rfl | rfl | h3 : d = 1 ∨ d = 2 ∨ 3 ≤ d := by omega
  · rw [show (1 : ℝ) / 2 ^ 1 = 1 / 2 by norm_num]
    exact three_le_of_bounds _ _ _ _ _ (by norm_num) (by norm_num) dMaxP_half_le dMinP_half_ge (by norm_num; linarith)
  · rw [show (1 : ℝ) / 2 ^ 2 = 1 / 4 by norm_num]
    exact three_le_of_bounds _ _ _ _ _ (by norm_num) (by norm_num) dMaxP_quarter_le dMinP_quarter_ge
      (by norm_num; linarith)
  · have hδ0 : 0 < (1 : ℝ) / 2 ^ d := by positivity
    have hδ8 := (eighth_pow_range d h3).2
    generalize (1 : ℝ) / 2 ^ d = δ at *
    refine three_le_of_bounds δ _ _ _ _ hδ0.le (by linarith) (dMaxP_le_small δ hδ0 hδ8) (dMinP_ge_small δ hδ0.le hδ8) ?_
    have h6 : 31415 / 10000 * δ ≤ π * δ := mul_le_mul_of_nonneg_right hp1.le hδ0.le
    have h7 : π * (δ * δ) ≤ 31416 / 10000 * (δ * δ) := mul_le_mul_of_nonneg_right hp2.le (by positivity)
    have h8 : δ * δ ≤ δ * (1 / 8) := mul_le_mul_of_nonneg_left hδ8 hδ0.le
    linarith

/-! ## the three envelopes are below `2·Mtrue` on their ranges -/

theorem dMax3_le_twice (d : ℕ) : dMax3 (1 / 2 ^ d) ≤ 2 * Mtrue d := by
  obtain ⟨h0, _⟩ := distCw_range d
  have hpi := Real.pi_gt_three
  rw [Mtrue_eq]
  unfold dMax3
  have : 4 / π ≤ 2 * (π / 4) := by
    rw [div_le_iff₀ (by linarith)]; nlinarith
  nlinarith

theorem npcEnv_le_all (d : ℕ) (hd : 1 ≤ d) (l : ℝ) (hl : l ≤ 3 * π / 4) : npcEnv (Csts.new d : Csts ℝ) l ≤ 2 * Mtrue d := by
  have hs := new_slopeNpc_nonneg d
  have h1 : npcEnv (Csts.new d : Csts ℝ) l ≤ npcEnv (Csts.new d : Csts ℝ) (3 * π / 4) := by
    unfold npcEnv; nlinarith
  exact h1.trans (npcEnv_three_le d hd)

theorem c2v_le_twice_all (d : ℕ) (hd : 1 ≤ d) (lon lat : ℝ) : c2v (Csts.new d) lon lat ≤ 2 * Mtrue d := by
  unfold c2v
  split_ifs with h1 h2
  · exact npcEnv_le_all d hd _ (fold_le_all lon)
  · exact ((new_topEnv_le d _ h2).trans (dMin2_lt_dMax3 _ (distCw_range d).1).le).trans (dMax3_le_twice d)
  · exact (new_botEnv_le d _ (abs_nonneg lat)).trans (dMax3_le_twice d)

/-- every longitude: with a radius the folded longitude is capped at `π/4` -/
theorem c2vR_le_twice (d : ℕ) (hd : 1 ≤ d) (lon lat r : ℝ) (hr : 0 ≤ r) :
    c2vR (Csts.new d) lon lat r ≤ 2 * Mtrue d := by
  rcases le_or_gt tl (|lat| + r) with h | h
  · unfold c2vR
    rw [if_pos h]
    exact npcEnv_le_all d hd _ ((min_le_right _ _).trans (by linarith [Real.pi_pos]))
  · exact (c2vR_le_dMax3 d lon lat r hr h).trans (dMax3_le_twice d)

/-- depth 0: the helper returns `π/2 − tl ≈ 0.841`, the true value is `Mtrue 0 = π/4 ≈ 0.785` -/
theorem depth0_le_twice : π / 2 - tl ≤ 2 * Mtrue 0 := by
  rw [Mtrue_eq]; have := tl_pos; norm_num; linarith

theorem envelope_with_radius_le_twice_true (d : ℕ) (lon lat r v : ℝ) (hr : 0 ≤ r)
    (h : largestC2VWithRadius false d lon lat r = some v) : v ≤ 2 * Mtrue d := by
  rw [c2v_with_radius_region_choice] at h
  split_ifs at h with h0 h29
  · cases h; rw [h0]; exact depth0_le_twice
  · cases h; exact c2vR_le_twice d (by omega) lon lat r hr

/-! ## `Mtrue d` is a TRUE centre-to-vertex distance: an explicit cell at every depth -/

/-- the cell `(b, i, j) = (4, nside − 1, 0)` of depth `d` (east corner of the equatorial base cell 4; `i + j = nside − 1`:
    centred on the equator): `eqCell 0 = 4`, `eqCell (d+1) = 4·eqCell d + 1` (`= 4·4^d + (4^d − 1)/3`) -/
def eqCell : ℕ → ℕ
  | 0 => 4
  | d + 1 => 4 * eqCell d + 1

theorem eqCell_lt (d : ℕ) : eqCell d < 5 * 4 ^ d := by
  induction d with
  | zero => decide
  | succ d ih => rw [Nat.pow_succ]; show 4 * eqCell d + 1 < _; omega

theorem partsOf_eqCell (d : ℕ) (hd : d ≤ 32) : partsOf d (eqCell d) = ⟨4, 2 ^ d - 1, 0⟩ := by
  induction d with
  | zero => decide +kernel
  | succ d ih =>
    show partsOf (d + 1) (4 * eqCell d + 1) = _
    rw [partsOf_child d (eqCell d) 1 (by omega) (by omega), ih (by omega)]
    have : 1 ≤ 2 ^ d := Nat.one_le_two_pow
    simp only [HashParts.mk.injEq, true_and]
    rw [Nat.pow_succ]
    refine ⟨?_, trivial⟩
    omega

theorem cellCy_eqCell (d : ℕ) : cellCy d 4 (2 ^ d - 1) 0 = 0 := by
  have h1 : 1 ≤ 2 ^ d := Nat.one_le_two_pow
  have hp : (0 : ℝ) < 2 ^ d := by positivity
  unfold cellCy baseY
  rw [Nat.cast_sub h1]
  push_cast
  norm_num

/-- `dN δ 0 = dS δ 0 = arcsin(2δ/3) ≤ δ·tl ≤ δ·π/4 = dE δ 0`: on the equator the east/west vertices are the farthest -/
theorem dN_equator_le (δ : ℝ) (h0 : 0 ≤ δ) (h1 : δ ≤ 1) : dN δ 0 ≤ dE δ 0 ∧ dS δ 0 ≤ dE δ 0 := by
  have hpi := Real.pi_gt_three
  have htl := EnvelopeReal.tl_le
  have h := arcsin_mul_le δ (2 / 3) h0 h1 (by norm_num) (by norm_num)
  have h2 : δ * Real.arcsin (2 / 3) ≤ δ * (π / 4) :=
    mul_le_mul_of_nonneg_left (by show tl ≤ π / 4; linarith) h0
  rw [dE_equator δ h0 h1, dN_equator, dS_equator]
  exact ⟨by linarith, by linarith⟩

theorem Mtrue_is_true_c2v (cfg : Cfg) (d : ℕ) (hd : d ≤ 29) :
    eqCell d < Layer.nHash d ∧
    ∃ c s e n w : ℝ × ℝ, center (α := ℝ) cfg d (eqCell d) = some c ∧
      vertices (α := ℝ) cfg d (eqCell d) = some [s, e, n, w] ∧ c.2 = 0 ∧
      adist c e = Mtrue d ∧ adist c w = Mtrue d ∧ adist c s ≤ Mtrue d ∧ adist c n ≤ Mtrue d := by
  have hlt : eqCell d < 12 * 4 ^ d := by have := eqCell_lt d; omega
  have hh : eqCell d < Layer.nHash d := by rw [nHash_eq]; exact hlt
  have hdec := decodeHash_spec cfg d hd (eqCell d) hlt
  rw [partsOf_eqCell d (by omega)] at hdec
  have h1 : 1 ≤ 2 ^ d := Nat.one_le_two_pow
  obtain ⟨h0, hδ1⟩ := distCw_range d
  obtain ⟨c, s, e, n, w, hc, hv, hlat, aS, aE, aN, aW⟩ :=
    cell_true_c2v cfg d (eqCell d) 4 (2 ^ d - 1) 0 hh hdec (by decide) (by omega) (by omega)
      (by rw [cellCy_eqCell]; norm_num)
  rw [cellCy_eqCell] at hlat aS aE aN aW
  obtain ⟨bN, bS⟩ := dN_equator_le (1 / 2 ^ d) h0.le hδ1
  refine ⟨hh, c, s, e, n, w, hc, hv, ?_, aE, aW, ?_, ?_⟩
  · rw [hlat]; unfold latOf; simp
  · rw [aS]; exact bS
  · rw [aN]; exact bN

/-- the hypotheses are satisfiable: depth 3, position `(1, 1/2)` (upper equatorial region) -/
example : ∃ v, largestC2V false 3 (1 : ℝ) (1 / 2) = some v ∧ v ≤ 2 * Mtrue 3 := by
  refine ⟨c2v (Csts.new 3) 1 (1 / 2), ?_, c2v_le_twice_all 3 (by decide) 1 (1 / 2)⟩
  rw [c2v_region_choice, if_neg (by decide), if_neg (by decide)]

/-- depth 2: `eqCell 2 = 69` (base cell 4, `(i, j) = (3, 0)`) -/
example : eqCell 2 = 69 ∧ partsOf 2 69 = ⟨4, 3, 0⟩ := by decide +kernel

end Hpx.Tightness

#print axioms Hpx.Tightness.fold_le_all
#print axioms Hpx.Tightness.npcEnv_three_le
#print axioms Hpx.Tightness.envelope_with_radius_le_twice_true
#print axioms Hpx.Tightness.Mtrue_is_true_c2v
