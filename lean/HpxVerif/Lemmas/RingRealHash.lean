/-
RING scheme over the reals, for every `nside` (C11): the hash function.  `hash_with_dldh = hashPlane ∘ proj`; the integer
tail of `hashPlane` inverts the ring decomposition (`hashTail_ring`) and is entered with the diamond that `Owns` the point
(`hashPlane_general`).  Off the north-cap seams that diamond is a cell (`hashPlane_point`), whence
`ring_hash_contains_partial` and `ring_sph_coo_inverts`; on a north-cap seam it is a *phantom* diamond in the gap between
two triangles (finding F3).  Then which points of the sphere project onto `GoodPoint`s, and the statements on the sphere.
-/
import HpxVerif.Lemmas.RingReal
import HpxVerif.Lemmas.ProjRealSpec
import Mathlib.Algebra.Order.Floor.Semiring

namespace Hpx.RingReal
open Hpx Hpx.Ring Hpx.Proj

/-- the integer tail of `hash_with_dldh`, after `deal_with_1x1_box`: verbatim copy of the model, to which
    `hashWithDlDh_eq` below ties it through `hashPlane` -/
def hashTail {α : Type} [Num α] (debug : Bool) (nside : Nat) (dl dh : α) (iRing1 iInRing1 : Nat) : Option (Nat × α × α) :=
    if iRing1 ≥ 5 * nside then
      if nside = 0 then none else some (iInRing1 / nside, Num.one, Num.one)
    else
      match sub64 debug (5 * nside) 1 with
      | none => none
      | some a =>
      match sub64 debug a iRing1 with
      | none => none
      | some iRing =>
        if nside = 0 then none else
        if iRing < nside then
          match sub64 debug nside 1 with
          | none => none
          | some b =>
          match sub64 debug b iRing with
          | none => none
          | some off =>
            match sub64 debug iInRing1 ((off >>> 1) + (off &&& 1) + off * (iInRing1 / nside)) with
            | none => none
            | some iin => some ((tri4 iRing + iin) % 2 ^ 64, dl, dh)
        else if iRing ≥ 3 * nside then
          match sub64 debug (iRing + 1) (3 * nside) with
          | none => none
          | some off =>
            match sub64 debug iInRing1 ((off >>> 1) + (off &&& 1) + off * (iInRing1 / nside)) with
            | none => none
            | some iin =>
              match sub64 debug (nIsolatitudeRings nside) iRing with
              | none => none
              | some k =>
                match sub64 debug (nHash nside) (tri4 k) with
                | none => none
                | some base => some ((base + iin) % 2 ^ 64, dl, dh)
        else
          some (tri4 nside + (iRing - nside) * (nside <<< 2) + (if iInRing1 == nside <<< 2 then 0 else iInRing1), dl, dh)

/-- the PLANE part of `hash_with_dldh`: everything after `proj`, as a function of the projected point -/
def hashPlane {α : Type} [Num α] (debug : Bool) (nside : Nat) (X Y : α) : Option (Nat × α × α) :=
    let halfNside : α := Num.half * Num.ofNat nside
    let x := ensuresXIsPositive X
    let dl0 := halfNside * x
    if debug && !(Num.le (Num.zero : α) dl0 && Num.lt dl0 (Num.ofNat 4 * Num.ofNat nside)) then none else
    let dh0 := halfNside * (Y + Num.ofNat 3)
    if debug && !(Num.le (Num.zero : α) dh0 && Num.le dh0 (Num.lit 0x4004000000000000 * Num.ofNat nside)) then none else
    let iRing0 := ((Num.truncU64 dh0) <<< 1) % 2 ^ 64
    let iInRing0 := Num.truncU64 dl0
    let dl := dl0 - Num.ofNat iInRing0
    if debug && !(Num.le (Num.zero : α) dl && Num.lt dl (Num.one : α)) then none else
    let dh := dh0 - Num.ofNat (iRing0 >>> 1)
    if debug && !(Num.le (Num.zero : α) dh && Num.lt dh (Num.one : α)) then none else
    let b := dealWith1x1Box dl dh iRing0 iInRing0
    hashTail debug nside dl dh b.1 b.2

theorem hashWithDlDh_eq {α : Type} [Num α] (debug : Bool) (nside : Nat) (lon lat : α) :
    hashWithDlDh debug nside lon lat = (proj lon lat).bind (fun xy => hashPlane debug nside xy.1 xy.2) := by
  unfold hashWithDlDh
  cases proj lon lat with
  | none => rfl
  | some xy => rfl

/-- the plane function only sees `x` modulo 8 (through `ensures_x_is_positive`) -/
theorem hashPlane_neg (debug : Bool) (n : Nat) (X Y : ℝ) (hX : X < 0) (hX8 : -8 ≤ X) :
    hashPlane debug n X Y = hashPlane debug n (X + 8) Y := by
  unfold hashPlane
  rw [ensuresXIsPositive_of_neg hX, ensuresXIsPositive_of_nonneg (by linarith)]

/-! ## the integer tail inverts the ring decomposition -/

theorem shr_and_one (off : Nat) : (off >>> 1) + (off &&& 1) = (off + 1) / 2 := by
  rw [Nat.shiftRight_eq_div_pow, Nat.and_one_is_mod]; omega

/-- the index correction of the polar caps, in facet coordinates: on a row `off` rings away from the transition ring
    (`n − off` cells per facet) the diamond of index `n·q + s` (`s < n`: its place in the `q`-th stretch of `n` diamonds) gets
    the index `q·(n − off) + s − ⌈off/2⌉`, whether or not it is a cell, as long as the subtraction does not underflow -/
theorem cap_correction (debug : Bool) {n off q s : Nat} (ho : off < n) (hs : s < n)
    (hle : (off + 1) / 2 ≤ q * (n - off) + s) :
    sub64 debug (n * q + s) ((off + 1) / 2 + off * ((n * q + s) / n)) = some (q * (n - off) + s - (off + 1) / 2) := by
  have e : n * q = off * q + q * (n - off) := by
    have : n = off + (n - off) := by omega
    calc n * q = (off + (n - off)) * q := by rw [← this]
      _ = off * q + q * (n - off) := by ring
  have hdiv : (n * q + s) / n = q := by
    rw [Nat.mul_add_div (by omega), Nat.div_eq_of_lt hs]; rfl
  rw [hdiv, sub64_of_le (by omega)]
  congr 1; omega

theorem tri4_lt_u64 {n t : Nat} (hn30 : n < 2 ^ 30) (ht : t ≤ n) : tri4 t + 5 * n < 2 ^ 63 := by
  have h1 : tri4 t ≤ tri4 n := tri4_mono ht
  have h2 := tri4_eq n
  have h3 : n * (n + 1) ≤ 2 ^ 30 * (2 ^ 30 + 1) := Nat.mul_le_mul (by omega) (by omega)
  omega

/-! ### the branches of the integer tail

`K` is the ring counted from the south (`K = 5n − 1 − r`): the north pole exit `5n ≤ K`, the north cap `4n ≤ K < 5n`
(`off = K − 4n` rings away from the transition ring), the equatorial band, the south cap `n ≤ K < 2n` (`off = 2n − K`). -/

theorem hashTail_pole {α : Type} [Num α] (debug : Bool) {n K I' : Nat} (dl dh : α) (hn : 1 ≤ n) (hK : 5 * n ≤ K) :
    hashTail debug n dl dh K I' = some (I' / n, Num.one, Num.one) := by
  unfold hashTail
  rw [if_pos hK, if_neg (by omega)]

/-- both polar caps at once, in the vocabulary of the ring layout: on the ring `r` (`off = n − perFacet n r` rings away from
    the transition ring) the tail corrects the index and adds the start of the ring -/
theorem hashTail_cap {α : Type} [Num α] (debug : Bool) {n r : Nat} (dl dh : α) (I : Nat) (hr : r < 4 * n - 1)
    (hcap : r < n ∨ 3 * n ≤ r) :
    hashTail debug n dl dh (5 * n - 1 - r) I
      = (sub64 debug I ((n - perFacet n r + 1) / 2 + (n - perFacet n r) * (I / n))).bind fun iin =>
          some ((ringStart n r + iin) % 2 ^ 64, dl, dh) := by
  unfold hashTail
  rw [if_neg (by omega), sub64_of_le (by omega : 1 ≤ 5 * n)]
  simp only []
  rw [sub64_of_le (by omega : 5 * n - 1 - r ≤ 5 * n - 1), show 5 * n - 1 - (5 * n - 1 - r) = r by omega]
  simp only []
  rw [if_neg (by omega)]
  rcases hcap with h | h
  · rw [if_pos h, sub64_of_le (by omega : 1 ≤ n)]
    simp only []
    rw [sub64_of_le (by omega : r ≤ n - 1)]
    simp only []
    rw [shr_and_one, perFacet_north h, ringStart_north h, show n - 1 - r = n - (r + 1) by omega]
    cases sub64 debug I ((n - (r + 1) + 1) / 2 + (n - (r + 1)) * (I / n)) <;> rfl
  · have hb := tri4_le_sq (t := 4 * n - 1 - r) (n := n) (by omega)
    have e12 : 12 * n * n = 12 * (n * n) := by ring
    have hs : ringStart n r = 12 * n * n - tri4 (4 * n - 1 - r) := by
      unfold ringStart; rw [if_neg (by omega), if_neg (by omega)]
    rw [if_neg (by omega), if_pos h, sub64_of_le (by omega : 3 * n ≤ r + 1)]
    simp only []
    rw [shr_and_one, perFacet_south (by omega) (by omega), hs, show r + 1 - 3 * n = n - (4 * n - 1 - r) by omega]
    cases sub64 debug I ((n - (4 * n - 1 - r) + 1) / 2 + (n - (4 * n - 1 - r)) * (I / n)) with
    | none => rfl
    | some iin =>
      have e4 : nIsolatitudeRings n = 4 * n - 1 := by unfold nIsolatitudeRings; rw [Nat.shiftLeft_eq]; omega
      simp only [Option.bind_some]
      rw [e4, sub64_of_le (by omega : r ≤ 4 * n - 1)]
      simp only []
      rw [show nHash n = 12 * n * n from rfl, sub64_of_le (by omega)]

theorem hashTail_equatorial {α : Type} [Num α] (debug : Bool) {n K : Nat} (dl dh : α) (I : Nat)
    (hK1 : 2 * n ≤ K) (hK2 : K < 4 * n) :
    hashTail debug n dl dh K I
      = some (tri4 n + (4 * n - 1 - K) * (4 * n) + (if I == 4 * n then 0 else I), dl, dh) := by
  unfold hashTail
  rw [if_neg (by omega), sub64_of_le (by omega : 1 ≤ 5 * n)]
  simp only []
  rw [sub64_of_le (by omega : K ≤ 5 * n - 1)]
  simp only []
  rw [if_neg (by omega), if_neg (by omega), if_neg (by omega), Nat.shiftLeft_eq,
    show 5 * n - 1 - K - n = 4 * n - 1 - K by omega, show n * 2 ^ 2 = 4 * n by omega]

/-- `cap_correction` in the tail, on the north-cap row `K = 4n + off`; cell or not: the phantom diamonds next to the
    cells, which the points of the seams fall into, are instances -/
theorem hashTail_north_facet {α : Type} [Num α] (debug : Bool) {n off q s : Nat} (dl dh : α) (hn30 : n < 2 ^ 30)
    (ho : off < n) (hq : q ≤ 4) (hs : s < n) (hle : (off + 1) / 2 ≤ q * (n - off) + s) :
    hashTail debug n dl dh (4 * n + off) (n * q + s)
      = some (tri4 (n - 1 - off) + (q * (n - off) + s - (off + 1) / 2), dl, dh) := by
  have hlt := tri4_lt_u64 (t := n - 1 - off) hn30 (by omega)
  have hle' : q * (n - off) ≤ 4 * (n - off) := Nat.mul_le_mul_right _ hq
  rw [show 4 * n + off = 5 * n - 1 - (n - 1 - off) by omega, hashTail_cap debug dl dh _ (by omega) (Or.inl (by omega)),
    perFacet_north (by omega), ringStart_north (by omega), show n - (n - 1 - off + 1) = off by omega,
    cap_correction debug ho hs hle, Option.bind_some, Nat.mod_eq_of_lt (by omega)]

/-- … and when the index correction underflows (a diamond west of the first cell of facet 0): panic in the dev profile,
    a wrapped index in release builds -/
theorem hashTail_north_underflow {α : Type} [Num α] (debug : Bool) {n off s : Nat} (dl dh : α) (ho : off < n)
    (hs : s < (off + 1) / 2) :
    hashTail debug n dl dh (4 * n + off) s
      = if debug then none else some ((tri4 (n - 1 - off) + (s + 2 ^ 64 - (off + 1) / 2)) % 2 ^ 64, dl, dh) := by
  have hu : sub64 debug s ((off + 1) / 2 + off * (s / n)) =
      if debug then none else some (s + 2 ^ 64 - (off + 1) / 2) := by
    rw [Nat.div_eq_of_lt (by omega : s < n), Nat.mul_zero, Nat.add_zero]
    unfold sub64
    rw [if_neg (by omega), Nat.mod_eq_of_lt (by omega)]
  rw [show 4 * n + off = 5 * n - 1 - (n - 1 - off) by omega, hashTail_cap debug dl dh _ (by omega) (Or.inl (by omega)),
    perFacet_north (by omega), ringStart_north (by omega), show n - (n - 1 - off + 1) = off by omega, hu]
  cases debug <;> rfl

/-- in every ring, `off = n − perFacet` rings away from the nearest transition ring (0 outside the polar caps), the first
    centre of a facet sits `off + 1` half-steps east of its corner (0 or 1 when `off = 0`), and the index correction of
    the code recovers the index in the ring from the abscissa of the centre -/
theorem cap_sub {n r : Nat} (debug : Bool) (hn : 1 ≤ n) (hr : r < 4 * n - 1) (i : Nat) :
    sub64 debug (cxI n r i / 2) ((n - perFacet n r + 1) / 2 + (n - perFacet n r) * (cxI n r i / 2 / n)) = some i := by
  have hp := perFacet_pos hn hr
  have hle := perFacet_le (r := r) hn
  obtain ⟨hc1, hc2⟩ := cxOff_add_perFacet hn hr
  have hdm := Nat.div_add_mod i (perFacet n r)
  have hj : i % perFacet n r < perFacet n r := Nat.mod_lt _ hp
  have ecx : cxI n r i / 2 = n * (i / perFacet n r) + i % perFacet n r + (n - perFacet n r + 1) / 2 := by
    unfold cxI; rw [Nat.mul_assoc]; omega
  rw [ecx, Nat.add_assoc, cap_correction debug (by omega) (by omega) (by omega), ← Nat.add_assoc, Nat.add_sub_cancel,
    show n - (n - perFacet n r) = perFacet n r by omega, Nat.mul_comm, hdm]

theorem hashTail_ring {α : Type} [Num α] (debug : Bool) {n r i : Nat} (dl dh : α) (hn : 1 ≤ n) (hn30 : n < 2 ^ 30)
    (hr : r < 4 * n - 1) (hi : i < 4 * perFacet n r) :
    hashTail debug n dl dh (5 * n - 1 - r) (cxI n r i / 2) = some (ringStart n r + i, dl, dh) := by
  have hlt64 : ringStart n r + i < 2 ^ 64 := by
    have := ringStart_add_lt hn hr hi
    have h2 : n * n ≤ 2 ^ 30 * 2 ^ 30 := Nat.mul_le_mul (by omega) (by omega)
    have : 12 * n * n = 12 * (n * n) := by ring
    omega
  by_cases h : r < n ∨ 3 * n ≤ r
  · rw [hashTail_cap debug dl dh _ hr h, cap_sub debug hn hr i, Option.bind_some, Nat.mod_eq_of_lt hlt64]
  · have ecx : cxI n r i / 2 = i := by rw [cxI_band (by omega) (by omega)]; omega
    have hne : (i == 4 * n) = false := by
      rw [perFacet_eq (by omega) (by omega)] at hi; simp; omega
    rw [hashTail_equatorial debug dl dh _ (by omega) (by omega), ecx, hne, ringStart_band (by omega) (by omega),
      tri4_pred hn, show 4 * n - 1 - (5 * n - 1 - r) = r - n by omega, show r + 1 - n = (r - n) + 1 by omega,
      Nat.add_mul]
    simp only [Bool.false_eq_true, if_false]
    congr 2; omega

theorem hashTail_cell {α : Type} [Num α] (debug : Bool) {n r i K I' : Nat} (dl dh : α) (hn : 1 ≤ n) (hn30 : n < 2 ^ 30)
    (hr : r < 4 * n - 1) (hi : i < 4 * perFacet n r) (hK : K + r + 1 = 5 * n)
    (hA : cxI n r i = 2 * I' + (K + 1) % 2) : hashTail debug n dl dh K I' = some (ringStart n r + i, dl, dh) := by
  have := hashTail_ring debug dl dh hn hn30 hr hi
  rwa [show 5 * n - 1 - r = K by omega, show cxI n r i / 2 = I' by omega] at this

theorem lit_250 : (Num.lit (α := ℝ) 0x4004000000000000) = 5 / 2 := by
  show ((F64.toRat 0x4004000000000000 : ℚ) : ℝ) = 5 / 2
  rw [toRat_of_fields _ 1024 0x4000000000000 (by decide) (by decide) (by decide) (by decide)]
  norm_num

theorem truncU64_of_floor {x : ℝ} {a : ℕ} (h1 : (a : ℝ) ≤ x) (h2 : x < a + 1) (ha : a < 2 ^ 64) :
    Num.truncU64 x = a := by
  have h0 : 0 ≤ x := le_trans (Nat.cast_nonneg a) h1
  rw [r_truncU64, max_eq_left h0, (Nat.floor_eq_iff h0).mpr ⟨h1, h2⟩]
  omega

/-- the real-number prelude of `hash_with_dldh`, at the half-scaled coordinates `u = n·x/2`, `v = n·(y+3)/2`: no debug
    assertion fails, and the integer tail is entered with the box `(a, b) = (⌊u⌋, ⌊v⌋)` corrected by `deal_with_1x1_box` -/
theorem hashPlane_box (debug : Bool) {n : Nat} (hn : 1 ≤ n) (hn30 : n < 2 ^ 30) {X Y u v : ℝ}
    (hu : 1 / 2 * n * X = u) (hv : 1 / 2 * n * (Y + 3) = v) (hX0 : 0 ≤ X) (hX8 : X < 8) (hY2 : Y ≤ 2) (a b : ℕ)
    (ha1 : (a : ℝ) ≤ u) (ha2 : u < a + 1)
    (hb1 : (b : ℝ) ≤ v) (hb2 : v < b + 1) :
    hashPlane debug n X Y =
      hashTail debug n (u - a) (v - b) (dealWith1x1Box (u - a) (v - b) (2 * b) a).1
        (dealWith1x1Box (u - a) (v - b) (2 * b) a).2 := by
  have hn0 : (0 : ℝ) < n := by exact_mod_cast hn
  have hnr : (n : ℝ) < 2 ^ 30 := by exact_mod_cast hn30
  have hu2 : 2 * u = n * X := by rw [← hu]; ring
  have hv2 : 2 * v = n * Y + 3 * n := by rw [← hv]; ring
  have d2 : u < 4 * n := by linarith only [mul_lt_mul_of_pos_left hX8 hn0, hu2]
  have d4 : v ≤ 5 / 2 * n := by linarith only [mul_le_mul_of_nonneg_left hY2 hn0.le, hv2]
  have ha : a < 2 ^ 32 := by exact_mod_cast (by linarith only [ha1, d2, hnr] : (a : ℝ) < 2 ^ 32)
  have hb : b < 2 ^ 32 := by exact_mod_cast (by linarith only [hb1, d4, hnr] : (b : ℝ) < 2 ^ 32)
  have d1 : (0 : ℝ) ≤ u := le_trans (Nat.cast_nonneg a) ha1
  have d3 : (0 : ℝ) ≤ v := le_trans (Nat.cast_nonneg b) hb1
  have d5 : 0 ≤ u - a := sub_nonneg.2 ha1
  have d6 : u - a < 1 := by linarith only [ha2]
  have d7 : 0 ≤ v - b := sub_nonneg.2 hb1
  have d8 : v - b < 1 := by linarith only [hb2]
  have e1 : b <<< 1 % 2 ^ 64 = 2 * b := by rw [Nat.shiftLeft_eq]; omega
  have e2 : (2 * b) >>> 1 = b := by rw [Nat.shiftRight_eq_div_pow]; omega
  unfold hashPlane
  simp only [ensuresXIsPositive_of_nonneg hX0, r_half, r_ofNat, r_zero, r_one, r_le, r_lt, lit_250, Nat.cast_ofNat]
  rw [hu, hv, truncU64_of_floor ha1 ha2 (by omega), truncU64_of_floor hb1 hb2 (by omega)]
  simp only [e1, e2, decide_eq_true d1, decide_eq_true d2, decide_eq_true d3, decide_eq_true d4, decide_eq_true d5,
    decide_eq_true d6, decide_eq_true d7, decide_eq_true d8, Bool.and_self, Bool.not_true, Bool.and_false,
    Bool.false_eq_true, if_false]

theorem cxI_parity {n r i : Nat} (hr : r < 4 * n - 1) : cxI n r i % 2 = (5 * n - r) % 2 := by
  unfold cxI cxOff
  rw [Nat.mul_assoc]
  split
  · omega
  · split <;> omega

theorem r_ge (x y : ℝ) : Num.ge x y = decide (y ≤ x) := rfl

theorem half_frac (c : ℕ) : (c : ℝ) / 2 - ((c / 2 : ℕ) : ℝ) = ((c % 2 : ℕ) : ℝ) / 2 := by
  have h2 : ((2 * (c / 2) + c % 2 : ℕ) : ℝ) = c := by rw [Nat.div_add_mod]
  push_cast at h2; linarith

theorem half_floor (c : ℕ) : ((c / 2 : ℕ) : ℝ) ≤ (c : ℝ) / 2 ∧ (c : ℝ) / 2 < ((c / 2 : ℕ) : ℝ) + 1 := by
  have h : ((c % 2 : ℕ) : ℝ) < 2 := by exact_mod_cast Nat.mod_lt c (by decide)
  have := half_frac c
  constructor <;> linarith [Nat.cast_nonneg (α := ℝ) (c % 2)]

/-- `deal_with_1x1_box` at a point `(a/2, b/2)` of the half-integer lattice, which sits at `((a mod 2)/2, (b mod 2)/2)` in the
    box `(⌊a/2⌋, ⌊b/2⌋)`: the centre of a diamond of row `b` when `a + b` is odd, the south vertex of a diamond of row
    `b + 1` (a diamond owns its south vertex) when `a + b` is even -/
theorem box_lattice (a b : ℕ) :
    dealWith1x1Box (((a % 2 : ℕ) : ℝ) / 2) (((b % 2 : ℕ) : ℝ) / 2) (2 * (b / 2)) (a / 2)
      = (b + (a + b + 1) % 2, a / 2) := by
  unfold dealWith1x1Box
  simp only [r_le, r_ge, r_one]
  rcases Nat.mod_two_eq_zero_or_one a with h | h <;> rcases Nat.mod_two_eq_zero_or_one b with h' | h' <;>
    rw [h, h'] <;> norm_num <;> omega

/-- the plane function at a point of the lattice of the centres and vertices of the diamonds (`n·x = a` and
    `n·(y + 3) = b` integers): the centres of the cells, the points of the axes of the triangles, both poles -/
theorem hashPlane_lattice (debug : Bool) {n a b : ℕ} (hn : 1 ≤ n) (hn30 : n < 2 ^ 30) {X Y : ℝ}
    (hX : (n : ℝ) * X = a) (hY : (n : ℝ) * (Y + 3) = b) (ha : a < 8 * n) (hb : b ≤ 5 * n) :
    hashPlane debug n X Y
      = hashTail debug n (((a % 2 : ℕ) : ℝ) / 2) (((b % 2 : ℕ) : ℝ) / 2) (b + (a + b + 1) % 2) (a / 2) := by
  have hn0 : (0 : ℝ) < n := by exact_mod_cast hn
  have hX0 : 0 ≤ X := nonneg_of_mul_nonneg_right (by rw [hX]; exact Nat.cast_nonneg a) hn0
  have hX8 : X < 8 := lt_of_mul_lt_mul_left (by rw [hX]; exact_mod_cast (by omega : a < n * 8)) hn0.le
  have hY5 : Y + 3 ≤ 5 := le_of_mul_le_mul_left (by rw [hY]; exact_mod_cast (by omega : b ≤ n * 5)) hn0
  rw [hashPlane_box debug hn hn30 (u := (a : ℝ) / 2) (v := (b : ℝ) / 2) (by rw [← hX]; ring) (by rw [← hY]; ring) hX0 hX8
    (by linarith only [hY5]) (a / 2) (b / 2) (half_floor _).1 (half_floor _).2 (half_floor _).1 (half_floor _).2,
    half_frac, half_frac, box_lattice]

/-- the box offsets: `(dl, dh) = (1/2, 0)` when the centre sits in the middle of the bottom edge of its 1×1 box
    (`5n − 1 − r` even), `(0, 1/2)` when it sits in the middle of the left edge -/
theorem hashPlane_center (debug : Bool) {n r i : Nat} (hn : 1 ≤ n) (hn30 : n < 2 ^ 30) (hr : r < 4 * n - 1)
    (hi : i < 4 * perFacet n r) :
    hashPlane debug n ((cxI n r i : ℝ) / n) ((cyI n r : ℝ) / n) =
      some (ringStart n r + i, if (5 * n - 1 - r) % 2 = 0 then ((1 / 2 : ℝ), (0 : ℝ)) else (0, 1 / 2)) := by
  have hn0 : (n : ℝ) ≠ 0 := by positivity
  have hpar := cxI_parity (n := n) (r := r) (i := i) hr
  have hY : (n : ℝ) * ((cyI n r : ℝ) / n + 3) = (5 * n - 1 - r : ℕ) := by
    have : cyI n r = ((5 * n - 1 - r : ℕ) : ℤ) - 3 * (n : ℤ) := by unfold cyI; omega
    rw [this]; push_cast; field_simp; ring
  rw [hashPlane_lattice debug hn hn30 (mul_div_cancel₀ _ hn0) hY (cxI_lt hn hr hi) (by omega),
    show (cxI n r i + (5 * n - 1 - r) + 1) % 2 = 0 by omega, Nat.add_zero, hashTail_ring debug _ _ hn hn30 hr hi]
  rcases Nat.mod_two_eq_zero_or_one (5 * n - 1 - r) with hk | hk
  · rw [hk, show cxI n r i % 2 = 1 by omega, if_pos rfl, Nat.cast_one, Nat.cast_zero, zero_div]
  · rw [hk, show cxI n r i % 2 = 0 by omega, if_neg (by decide), Nat.cast_one, Nat.cast_zero, zero_div]

theorem dldhToDxDy_center : dldhToDxDy ((1 : ℝ) / 2) 0 = (1 / 2, 1 / 2) ∧ dldhToDxDy (0 : ℝ) (1 / 2) = (1 / 2, 1 / 2) := by
  unfold dldhToDxDy
  simp only [r_lt, r_one, r_zero]
  constructor <;> norm_num

/-- `ring_hash_center` (C11, item 3): hashing the centre of a cell `h` (in the plane) returns `h` in both profiles, at
    the offsets `(dx, dy) = (1/2, 1/2)` -/
theorem ring_hash_center (debug : Bool) {n : Nat} (hn : 1 ≤ n) (hn30 : n < 2 ^ 30) (hRI : RingIndexExact n)
    (h : Nat) (hh : h < 12 * n * n) :
    ∃ cx cy dl dh : ℝ, centerOfProjectedCell (α := ℝ) debug n h = some (cx, cy) ∧
      hashPlane debug n cx cy = some (h, dl, dh) ∧ ((dl, dh) = (1 / 2, 0) ∨ (dl, dh) = (0, 1 / 2)) ∧
      dldhToDxDy dl dh = (1 / 2, 1 / 2) := by
  obtain ⟨r, i, hr, hi, e⟩ := ring_decompose hn h hh
  have hc := center_eq debug hn hn30 hRI hr hi
  have hp := hashPlane_center debug hn hn30 hr hi
  rw [← e] at hc hp
  by_cases hk : (5 * n - 1 - r) % 2 = 0
  · rw [if_pos hk] at hp
    exact ⟨_, _, _, _, hc, hp, Or.inl rfl, dldhToDxDy_center.1⟩
  · rw [if_neg hk] at hp
    exact ⟨_, _, _, _, hc, hp, Or.inr rfl, dldhToDxDy_center.2⟩

/-- the diamond of the grid centred at `(A, K)` (units of `1/n`; `A + K` odd) owns the point `(U, V)`, which sits at the
    offsets `(dx, dy) ∈ [0,1)²` in it: a diamond owns its two southern edges.  Over `ℤ`, for the mirror image. -/
structure Owns (A K : ℤ) (U V dx dy : ℝ) : Prop where
  eu : U - (A : ℝ) = dx - dy
  ev : V - (K : ℝ) = dx + dy - 1
  x0 : 0 ≤ dx
  x1 : dx < 1
  y0 : 0 ≤ dy
  y1 : dy < 1

theorem Owns.mirror {A K : ℤ} {U V dx dy : ℝ} (h : Owns A K U V dx dy) : Owns (-A) K (-U) V dy dx :=
  ⟨by push_cast; linarith only [h.eu], by linarith only [h.ev], h.y0, h.y1, h.x0, h.x1⟩

/-- in each of `U + V`, `V − U` (through `Owns.mirror`) and `V` a diamond is a half-open interval between integers, so a
    comparison of the point with an integer passes to the centre of the diamond that owns it -/
theorem Owns.sum_lt {A K : ℤ} {U V dx dy : ℝ} (h : Owns A K U V dx dy) {m : ℤ} (hm : U + V < m) : A + K ≤ m := by
  have : ((A + K - 1 : ℤ) : ℝ) < m := by push_cast; linarith only [h.eu, h.ev, h.x0, hm]
  have := Int.cast_lt.mp this
  omega

theorem Owns.le_sum {A K : ℤ} {U V dx dy : ℝ} (h : Owns A K U V dx dy) {m : ℤ} (hm : (m : ℝ) ≤ U + V) : m ≤ A + K := by
  have : (m : ℝ) < ((A + K + 1 : ℤ) : ℝ) := by push_cast; linarith only [h.eu, h.ev, h.x1, hm]
  have := Int.cast_lt.mp this
  omega

theorem Owns.row_lt {A K : ℤ} {U V dx dy : ℝ} (h : Owns A K U V dx dy) {m : ℤ} (hm : V < m) : K ≤ m := by
  have : ((K - 1 : ℤ) : ℝ) < m := by push_cast; linarith only [h.ev, h.x0, h.y0, hm]
  have := Int.cast_lt.mp this
  omega

theorem Owns.le_row {A K : ℤ} {U V dx dy : ℝ} (h : Owns A K U V dx dy) {m : ℤ} (hm : (m : ℝ) ≤ V) : m ≤ K := by
  have : (m : ℝ) < ((K + 1 : ℤ) : ℝ) := by push_cast; linarith only [h.ev, h.x1, h.y1, hm]
  have := Int.cast_lt.mp this
  omega

theorem Owns.col_lt {A K : ℤ} {U V dx dy : ℝ} (h : Owns A K U V dx dy) {m : ℤ} (hm : U < m) : A ≤ m := by
  have : ((A - 1 : ℤ) : ℝ) < m := by push_cast; linarith only [h.eu, h.x0, h.y1, hm]
  have := Int.cast_lt.mp this
  omega

/-- `deal_with_1x1_box` and `dldh_to_dxdy` together: the box `(a, b)` with fractional parts `(dl, dh)` is sent to the
    ring `k` and index `i'` of the diamond that owns the point, centred at `A = 2i' + (k+1) mod 2` (in half-boxes), and
    `(dx, dy)` are the coordinates of the point in that diamond -/
theorem box_exact (a b : ℕ) (dl dh : ℝ) (hl0 : 0 ≤ dl) (hl1 : dl < 1) (hh0 : 0 ≤ dh) (hh1 : dh < 1) :
    Owns ((2 * (dealWith1x1Box dl dh (2 * b) a).2 + ((dealWith1x1Box dl dh (2 * b) a).1 + 1) % 2 : ℕ) : ℤ)
      ((dealWith1x1Box dl dh (2 * b) a).1 : ℕ) (2 * ((a : ℝ) + dl)) (2 * ((b : ℝ) + dh))
      (dldhToDxDy dl dh).1 (dldhToDxDy dl dh).2 := by
  -- the two tests of `dldh_to_dxdy` are the negations of the two tests of `deal_with_1x1_box`
  have e3 : dh + dl - 1 < 0 ↔ ¬ 1 - dh ≤ dl := by rw [not_le]; constructor <;> intro h <;> linarith
  have e4 : dh - dl < 0 ↔ ¬ dl ≤ dh := by rw [not_le]; constructor <;> intro h <;> linarith
  unfold dealWith1x1Box dldhToDxDy
  simp only [r_le, r_ge, r_lt, r_one, r_zero, decide_eq_true_eq, e3, e4]
  by_cases c1 : dl ≤ dh <;> by_cases c2 : 1 - dh ≤ dl <;>
    simp only [c1, c2, if_true, if_false, not_true_eq_false, not_false_eq_true, Nat.add_assoc, Nat.reduceAdd,
      Nat.add_zero, Nat.mul_add_mod, Nat.reduceMod, Nat.reduceShiftRight] <;>
    exact ⟨by push_cast; ring, by push_cast; ring, by linarith, by linarith, by linarith, by linarith⟩

/-- a general point of the projection plane enters the integer tail with the ring `K` and the index `I'` of the diamond
    that owns it (centre `((2I' + (K+1) mod 2)/n, K/n − 3)`), at offsets `(dx, dy) = dldh_to_dxdy dl dh` -/
theorem hashPlane_general (debug : Bool) {n : Nat} (hn : 1 ≤ n) (hn30 : n < 2 ^ 30) {X Y : ℝ} (hX0 : 0 ≤ X) (hX8 : X < 8)
    (hY0 : -2 ≤ Y) (hY2 : Y ≤ 2) :
    ∃ (K I' : ℕ) (dl dh : ℝ), hashPlane debug n X Y = hashTail debug n dl dh K I' ∧
      0 ≤ dl ∧ dl < 1 ∧ 0 ≤ dh ∧ dh < 1 ∧
      Owns ((2 * I' + (K + 1) % 2 : ℕ) : ℤ) (K : ℕ) (n * X) (n * (Y + 3)) (dldhToDxDy dl dh).1 (dldhToDxDy dl dh).2 := by
  have hn0 : (0 : ℝ) < n := by exact_mod_cast hn
  -- half-scaled coordinates, named so that the arithmetic below is free of denominators
  obtain ⟨u, hu⟩ : ∃ u : ℝ, 1 / 2 * n * X = u := ⟨_, rfl⟩
  obtain ⟨v, hv⟩ : ∃ v : ℝ, 1 / 2 * n * (Y + 3) = v := ⟨_, rfl⟩
  have hu2 : n * X = 2 * u := by rw [← hu]; ring
  have hv2 : n * (Y + 3) = 2 * v := by rw [← hv]; ring
  have hu0 : 0 ≤ u := by linarith only [mul_nonneg hn0.le hX0, hu2]
  have hv0 : 0 ≤ v := by linarith only [mul_nonneg hn0.le (by linarith only [hY0] : 0 ≤ Y + 3), hv2]
  have ha1 := Nat.floor_le hu0
  have ha2 := Nat.lt_floor_add_one u
  have hb1 := Nat.floor_le hv0
  have hb2 := Nat.lt_floor_add_one v
  generalize ⌊u⌋₊ = a at ha1 ha2
  generalize ⌊v⌋₊ = b at hb1 hb2
  have hbox := hashPlane_box debug hn hn30 hu hv hX0 hX8 hY2 a b ha1 ha2 hb1 hb2
  have hown :=
    box_exact a b (u - a) (v - b) (by linarith only [ha1]) (by linarith only [ha2]) (by linarith only [hb1])
      (by linarith only [hb2])
  rw [add_sub_cancel, add_sub_cancel, ← hu2, ← hv2] at hown
  exact ⟨_, _, _, _, hbox, by linarith only [ha1], by linarith only [ha2], by linarith only [hb1], by linarith only [hb2],
    hown⟩

theorem hashTail_wrap {α : Type} [Num α] (debug : Bool) {n K : Nat} (dl dh : α) (h1 : 2 * n ≤ K)
    (h2 : K < 4 * n) : hashTail debug n dl dh K (4 * n) = hashTail debug n dl dh K 0 := by
  rw [hashTail_equatorial debug dl dh _ h1 h2, hashTail_equatorial debug dl dh _ h1 h2]
  simp

/-- equatorial-type rings `2n ≤ K ≤ 4n` (the transition rings included): every diamond is a cell, the one centred on the east
    border `x = 8` of the plane being the one centred on `x = 0` -/
theorem cell_of_eq {α : Type} [Num α] (debug : Bool) {n K I' : Nat} (dl dh : α) (hn : 1 ≤ n) (hn30 : n < 2 ^ 30)
    (hK1 : 2 * n ≤ K) (hK2 : K ≤ 4 * n) (hA : 2 * I' + (K + 1) % 2 ≤ 8 * n) :
    ∃ r i, r < 4 * n - 1 ∧ i < 4 * perFacet n r ∧ K + r + 1 = 5 * n ∧
      hashTail debug n dl dh K I' = some (ringStart n r + i, dl, dh) ∧
      (cxI n r i = 2 * I' + (K + 1) % 2 ∨ cxI n r i + 8 * n = 2 * I' + (K + 1) % 2) := by
  obtain ⟨r, hKr⟩ : ∃ r, K + r + 1 = 5 * n := ⟨5 * n - 1 - K, by omega⟩
  have hr : r < 4 * n - 1 := by omega
  have hm : perFacet n r = n := perFacet_eq (by omega) (by omega)
  have hcx : ∀ i, cxI n r i = 2 * i + (K + 1) % 2 := fun i => by rw [cxI_band (by omega) (by omega)]; omega
  by_cases h4 : I' < 4 * perFacet n r
  · exact ⟨r, I', hr, h4, hKr, hashTail_cell debug dl dh hn hn30 hr h4 hKr (hcx I'), Or.inl (hcx I')⟩
  · have e : I' = 4 * n := by omega
    refine ⟨r, 0, hr, by omega, hKr, ?_, Or.inr (by rw [hcx]; omega)⟩
    rw [e, hashTail_wrap debug dl dh hK1 (by omega), hashTail_cell debug dl dh hn hn30 hr (by omega) hKr (hcx 0)]

/-- polar-cap rings, the transition rings included: `off ≥ 0` rings away from the transition ring (north `K = 4n + off`,
    south `K = 2n − off`), `n − off` cells per facet; a diamond whose centre abscissa `A = 2I' + (K+1) mod 2` lies within
    the triangle of facet `q` (`|A − (2q+1)n| ≤ n − off`) is a cell.  On a transition ring `A` is odd, so the east border
    `A = 8n` of `cell_of_eq` does not arise. -/
theorem cell_of_cap {α : Type} [Num α] (debug : Bool) {n K off q I' : Nat} (dl dh : α) (hn : 1 ≤ n) (hn30 : n < 2 ^ 30)
    (hq : q < 4) (hK : K = 4 * n + off ∨ K + off = 2 * n)
    (hA1 : 2 * I' + (K + 1) % 2 + off < (2 * q + 1) * n + n + 1)
    (hA2 : (2 * q + 1) * n + off < 2 * I' + (K + 1) % 2 + n + 1) :
    ∃ r i, r < 4 * n - 1 ∧ i < 4 * perFacet n r ∧ K + r + 1 = 5 * n ∧
      hashTail debug n dl dh K I' = some (ringStart n r + i, dl, dh) ∧
      (cxI n r i = 2 * I' + (K + 1) % 2 ∨ cxI n r i + 8 * n = 2 * I' + (K + 1) % 2) := by
  rw [show (2 * q + 1) * n = 2 * (n * q) + n by ring] at hA1 hA2
  obtain ⟨r, hKr⟩ : ∃ r, K + r + 1 = 5 * n := ⟨5 * n - 1 - K, by omega⟩
  have hr : r < 4 * n - 1 := by omega
  obtain ⟨hm, hc⟩ : perFacet n r = n - off ∧ cxOff n r = off + 1 := by
    rcases hK with hK | hK
    · rw [perFacet_north (by omega), cxOff_north (by omega)]; omega
    · rw [perFacet_south (by omega) (by omega), cxOff_south (by omega)]; omega
  have hj : (2 * I' + (K + 1) % 2 - 2 * (n * q) - off - 1) / 2 < perFacet n r := by omega
  have hcx : cxI n r (q * perFacet n r + (2 * I' + (K + 1) % 2 - 2 * (n * q) - off - 1) / 2) = 2 * I' + (K + 1) % 2 := by
    rw [cxI_facet hj, hc, Nat.mul_assoc]; omega
  have hi := facet_index_lt hq hj
  exact ⟨r, _, hr, hi, hKr, hashTail_cell debug dl dh hn hn30 hr hi hKr hcx, Or.inl hcx⟩

/-- the part of the projection plane on which the RING hash is proved correct: the equatorial band `−1 ≤ y < 1`, the
    interior of the four north Collignon triangles together with their open base (`y = 1`, `x ≠ 0, 2, 4, 6`), the four
    CLOSED south triangles (edges and south pole included: a diamond owns its two southern edges, so the southern
    seams are harmless in exact arithmetic).  What is left out of the projected domain is exactly the two slanted edges
    of the north triangles (`|x − (2q+1)| = 2 − y`, `1 ≤ y ≤ 2`: the seams `lon = q·π/2` of the north cap, the base-cell
    corners `(2q, 1)` and the north pole included). -/
def GoodPoint (X Y : ℝ) : Prop :=
  0 ≤ X ∧ X < 8 ∧
  ((-1 ≤ Y ∧ Y < 1) ∨
   (1 ≤ Y ∧ Y < 2 ∧ ∃ q : ℕ, q < 4 ∧ |X - (2 * q + 1)| < 2 - Y) ∨
   (-2 ≤ Y ∧ Y < -1 ∧ ∃ q : ℕ, q < 4 ∧ |X - (2 * q + 1)| ≤ 2 + Y))

/-- the hypotheses are satisfiable: an equatorial point, a north-cap point, a south-cap point -/
example : GoodPoint 7.5 0.25 ∧ GoodPoint 3.25 1.5 ∧ GoodPoint 0.5 (-1.5) := by
  refine ⟨⟨by norm_num, by norm_num, Or.inl ⟨by norm_num, by norm_num⟩⟩,
    ⟨by norm_num, by norm_num, Or.inr (Or.inl ⟨by norm_num, by norm_num, 1, by norm_num, ?_⟩)⟩,
    ⟨by norm_num, by norm_num, Or.inr (Or.inr ⟨by norm_num, by norm_num, 0, by norm_num, ?_⟩)⟩⟩
  · rw [abs_lt]; constructor <;> norm_num
  · rw [abs_le]; constructor <;> norm_num

/-- integer heart of `hashPlane_point`: the diamond `(K, I')` that owns a good point is a cell, of the same row and abscissa
    (modulo `8n`).  Each border of the point's region, scaled by `n`, is a comparison of `n·(y+3)` or of `n·x ± n·(y+3)`
    with an integer, which passes to the centre of the diamond. -/
theorem point_core (debug : Bool) {n : Nat} (hn : 1 ≤ n) (hn30 : n < 2 ^ 30) {X Y : ℝ} (hg : GoodPoint X Y)
    {K I' : ℕ} (dl dh : ℝ) {dx dy : ℝ}
    (hown : Owns ((2 * I' + (K + 1) % 2 : ℕ) : ℤ) (K : ℕ) (n * X) (n * (Y + 3)) dx dy) :
    ∃ r i, r < 4 * n - 1 ∧ i < 4 * perFacet n r ∧ K + r + 1 = 5 * n ∧
      hashTail debug n dl dh K I' = some (ringStart n r + i, dl, dh) ∧
      (cxI n r i = 2 * I' + (K + 1) % 2 ∨ cxI n r i + 8 * n = 2 * I' + (K + 1) % 2) := by
  have hn0 : (0 : ℝ) < n := by exact_mod_cast hn
  rcases hg.2.2 with ⟨h1, h2⟩ | ⟨h1, -, q, hq, hab⟩ | ⟨-, h2, q, hq, hab⟩
  · have hA := hown.col_lt (m := 8 * n) (by push_cast; linarith only [mul_lt_mul_of_pos_left hg.2.1 hn0])
    have hK1 := hown.le_row (m := 2 * n) (by push_cast; linarith only [mul_le_mul_of_nonneg_left h1 hn0.le])
    have hK2 := hown.row_lt (m := 4 * n) (by push_cast; linarith only [mul_lt_mul_of_pos_left h2 hn0])
    exact cell_of_eq debug dl dh hn hn30 (by omega) (by omega) (by omega)
  · have hK1 := hown.le_row (m := 4 * n) (by push_cast; linarith only [mul_le_mul_of_nonneg_left h1 hn0.le])
    rw [abs_lt] at hab
    have c1 := hown.sum_lt (m := ((2 * q + 1) * n + 5 * n : ℕ))
      (by push_cast; linarith only [mul_lt_mul_of_pos_left hab.2 hn0])
    have c2 := hown.mirror.sum_lt (m := (5 * n : ℕ) - ((2 * q + 1) * n : ℕ))
      (by push_cast; linarith only [mul_lt_mul_of_pos_left hab.1 hn0])
    exact cell_of_cap debug (off := K - 4 * n) dl dh hn hn30 hq (Or.inl (by omega)) (by omega) (by omega)
  · have hK2 := hown.row_lt (m := 2 * n) (by push_cast; linarith only [mul_lt_mul_of_pos_left h2 hn0])
    rw [abs_le] at hab
    have c1 := hown.le_sum (m := ((2 * q + 1) * n + n : ℕ))
      (by push_cast; linarith only [mul_le_mul_of_nonneg_left hab.1 hn0.le])
    have c2 := hown.mirror.le_sum (m := (n : ℕ) - ((2 * q + 1) * n : ℕ))
      (by push_cast; linarith only [mul_le_mul_of_nonneg_left hab.2 hn0.le])
    exact cell_of_cap debug (off := 2 * n - K) dl dh hn hn30 hq (Or.inr (by omega)) (by omega) (by omega)

/-- core of C11 items 4 and 5: on a good point the plane hash returns, in both profiles, a cell `(r, i)` that owns the
    point at the offsets `(dx, dy) = dldh_to_dxdy dl dh`; modulo `8n` (whence `c`): a cell centred on `x = 0` also owns
    the points just west of `x = 8`. -/
theorem hashPlane_point (debug : Bool) {n : Nat} (hn : 1 ≤ n) (hn30 : n < 2 ^ 30) {X Y : ℝ} (hg : GoodPoint X Y) :
    ∃ (r i : ℕ) (dl dh : ℝ) (c : ℤ), r < 4 * n - 1 ∧ i < 4 * perFacet n r ∧
      hashPlane debug n X Y = some (ringStart n r + i, dl, dh) ∧ 0 ≤ dl ∧ dl < 1 ∧ 0 ≤ dh ∧ dh < 1 ∧
      (c = cxI n r i ∨ c = cxI n r i + 8 * n) ∧
      Owns c (cyI n r + 3 * n) (n * X) (n * (Y + 3)) (dldhToDxDy dl dh).1 (dldhToDxDy dl dh).2 := by
  have hY0 : -2 ≤ Y := by rcases hg.2.2 with h | h | h <;> linarith [h.1]
  have hY2 : Y ≤ 2 := by
    rcases hg.2.2 with h | h | h
    · linarith [h.2]
    · linarith [h.2.1]
    · linarith [h.2.1]
  obtain ⟨K, I', dl, dh, hP, l0, l1, g0, g1, hown⟩ := hashPlane_general debug hn hn30 hg.1 hg.2.1 hY0 hY2
  obtain ⟨r, i, hr, hi, hKr, ht, hcx⟩ := point_core debug hn hn30 hg dl dh hown
  have hK : ((K : ℕ) : ℤ) = cyI n r + 3 * n := by unfold cyI; omega
  exact ⟨r, i, dl, dh, _, hr, hi, by rw [hP, ht], l0, l1, g0, g1, by omega, hK ▸ hown⟩

theorem abs_sub_div {n : ℝ} (hn0 : 0 < n) (X c : ℝ) : |X - c / n| = |n * X - c| / n := by
  rw [show X - c / n = (n * X - c) / n by field_simp, abs_div, abs_of_pos hn0]

theorem Owns.dist_le {A K : ℤ} {U V dx dy : ℝ} (h : Owns A K U V dx dy) : |U - A| + |V - K| ≤ 1 := by
  rw [h.eu, h.ev]
  rcases abs_cases (dx - dy) with a | a <;> rcases abs_cases (dx + dy - 1) with b | b <;>
    linarith [a.1, b.1, h.x0, h.x1, h.y0, h.y1]

/-- `ring_hash_plane_range` + `ring_hash_contains`, **partial** (C11, item 4): on every `GoodPoint` of the projection
    plane `hashPlane` returns, in both profiles, a cell whose closed diamond (half-diagonal `1/n` around its centre)
    contains the point, modulo 8 in `x`: the cells centred on `x = 0` straddle the cut `x = 0 ≡ 8`.
    Missing: the points of the projected domain that are not `GoodPoint`s, i.e. the north-cap seams and the north pole.
    On the seams below the last ring the statement is FALSE (finding F3: `hashPlane_seam_north_west`,
    `seam_witness_q1` below). -/
theorem ring_hash_contains_partial (debug : Bool) {n : Nat} (hn : 1 ≤ n) (hn30 : n < 2 ^ 30) (hRI : RingIndexExact n)
    {X Y : ℝ} (hg : GoodPoint X Y) :
    ∃ (h : ℕ) (dl dh cx cy : ℝ), hashPlane debug n X Y = some (h, dl, dh) ∧ h < 12 * n * n ∧
      0 ≤ dl ∧ dl < 1 ∧ 0 ≤ dh ∧ dh < 1 ∧ centerOfProjectedCell (α := ℝ) debug n h = some (cx, cy) ∧
      (|X - cx| + |Y - cy| ≤ 1 / n ∨ |X - 8 - cx| + |Y - cy| ≤ 1 / n) := by
  obtain ⟨r, i, dl, dh, c, hr, hi, hP, l0, l1, g0, g1, hc, hown⟩ := hashPlane_point debug hn hn30 hg
  have hn0 : (0 : ℝ) < n := by exact_mod_cast hn
  refine ⟨_, dl, dh, _, _, hP, ringStart_add_lt hn hr hi, l0, l1, g0, g1, center_eq debug hn hn30 hRI hr hi, ?_⟩
  have hd := hown.dist_le
  rcases hc with rfl | rfl <;> push_cast at hd <;>
    rw [show (n : ℝ) * (Y + 3) - (cyI n r + 3 * n) = n * Y - cyI n r by ring] at hd
  · left
    rw [abs_sub_div hn0, abs_sub_div hn0, ← add_div]
    exact div_le_div_of_nonneg_right hd hn0.le
  · right
    rw [abs_sub_div hn0, abs_sub_div hn0, ← add_div,
      show (n : ℝ) * (X - 8) - cxI n r i = n * X - (cxI n r i + 8 * n) by ring]
    exact div_le_div_of_nonneg_right hd hn0.le

/-- `ring_hash_plane_range`, **partial**: the cell number is in range on every `GoodPoint` (missing: the north-cap seams,
    where it is false in the release profile, cf. `seam_witness_release`) -/
theorem ring_hash_plane_range_partial (debug : Bool) {n : Nat} (hn : 1 ≤ n) (hn30 : n < 2 ^ 30) {X Y : ℝ}
    (hg : GoodPoint X Y) : ∃ (h : ℕ) (dl dh : ℝ), hashPlane debug n X Y = some (h, dl, dh) ∧ h < 12 * n * n := by
  obtain ⟨r, i, dl, dh, -, hr, hi, hP, -⟩ := hashPlane_point debug hn hn30 hg
  exact ⟨_, dl, dh, hP, ringStart_add_lt hn hr hi⟩

/-- the plane part of `hash_with_dxdy` -/
def hashPlaneDxDy {α : Type} [Num α] (debug : Bool) (nside : Nat) (X Y : α) : Option (Nat × α × α) :=
  (hashPlane debug nside X Y).map fun r => let d := dldhToDxDy r.2.1 r.2.2; (r.1, d.1, d.2)

theorem hashWithDxDy_eq {α : Type} [Num α] (debug : Bool) (nside : Nat) (lon lat : α) :
    hashWithDxDy debug nside lon lat = (proj lon lat).bind (fun xy => hashPlaneDxDy debug nside xy.1 xy.2) := by
  unfold hashWithDxDy hashPlaneDxDy
  rw [hashWithDlDh_eq]
  cases proj lon lat with
  | none => rfl
  | some xy => rfl

/-- `ring_sph_coo_inverts` (C11, item 5), in the plane: on a `GoodPoint`, `sph_coo` applied to the result of
    `hash_with_dxdy` is `unproj` of the plane point.  (At the north pole `hash_with_dldh` returns `(dl, dh) = (1, 1)`,
    i.e. `dx = 1`, which `sph_coo` rejects.) -/
theorem ring_sph_coo_inverts (debug : Bool) {n : Nat} (hn : 1 ≤ n) (hn30 : n < 2 ^ 30) (hRI : RingIndexExact n)
    {X Y : ℝ} (hg : GoodPoint X Y) (h : ℕ) (dx dy : ℝ) (hh : hashPlaneDxDy debug n X Y = some (h, dx, dy)) :
    sphCoo debug n h dx dy = unproj X Y ∧ 0 ≤ dx ∧ dx < 1 ∧ 0 ≤ dy ∧ dy < 1 := by
  obtain ⟨r, i, dl, dh, c, hr, hi, hP, -, -, -, -, hc, eu, ev, x0, x1, y0, y1⟩ := hashPlane_point debug hn hn30 hg
  have hn0 : (0 : ℝ) < n := by exact_mod_cast hn
  unfold hashPlaneDxDy at hh
  rw [hP] at hh
  simp only [Option.map_some, Option.some.injEq, Prod.mk.injEq] at hh
  obtain ⟨rfl, rfl, rfl⟩ := hh
  refine ⟨?_, x0, x1, y0, y1⟩
  generalize (dldhToDxDy dl dh).1 = dx at *
  generalize (dldhToDxDy dl dh).2 = dy at *
  unfold sphCoo
  have c1 : (Num.le (Num.zero : ℝ) dx && Num.lt dx (Num.one : ℝ)) = true := by
    rw [r_le, r_lt, r_zero, r_one]; simp [x0, x1]
  have c2 : (Num.le (Num.zero : ℝ) dy && Num.lt dy (Num.one : ℝ)) = true := by
    rw [r_le, r_lt, r_zero, r_one]; simp [y0, y1]
  rw [c1, c2, center_eq debug hn hn30 hRI hr hi]
  simp only [Bool.not_true, Bool.false_eq_true, if_false, Option.bind_some, r_ofNat, r_one]
  push_cast at ev
  have ey : (cyI n r : ℝ) / n + (dx + dy - 1) / n = Y := by field_simp; linarith only [ev]
  rw [ey]
  rcases hc with rfl | rfl <;> push_cast at eu
  · have ex : (cxI n r i : ℝ) / n + (dx - dy) / n = X := by field_simp; linarith only [eu]
    rw [ex, ensuresXIsPositive_of_nonneg hg.1]
  · have ex : (cxI n r i : ℝ) / n + (dx - dy) / n = X - 8 := by field_simp; linarith only [eu]
    rw [ex, ensuresXIsPositive_of_neg (by linarith only [hg.2.1]), sub_add_cancel]

theorem hashPlane_ensures (debug : Bool) (n : Nat) {X : ℝ} (Y : ℝ) (h : 0 ≤ ensuresXIsPositive X) :
    hashPlane debug n X Y = hashPlane debug n (ensuresXIsPositive X) Y := by
  unfold hashPlane
  rw [ensuresXIsPositive_of_nonneg h]

/-- `ring_sph_coo_inverts` on the sphere: `sph_coo` applied to the result of `hash_with_dxdy(lon, lat)` calls `unproj` on
    the projected point, with `x` brought back to `[0, 8)` as the code does.  (With `Proj.unproj_proj_real`,
    `unproj ∘ proj = id`, this gives back `(lon, lat)` on the domain of that theorem.) -/
theorem ring_sph_coo_inverts_sphere (debug : Bool) {n : Nat} (hn : 1 ≤ n) (hn30 : n < 2 ^ 30) (hRI : RingIndexExact n)
    (lon lat X Y : ℝ) (hp : proj lon lat = some (X, Y)) (hg : GoodPoint (ensuresXIsPositive X) Y)
    (h : ℕ) (dx dy : ℝ) (hh : hashWithDxDy debug n lon lat = some (h, dx, dy)) :
    sphCoo debug n h dx dy = unproj (ensuresXIsPositive X) Y := by
  rw [hashWithDxDy_eq, hp] at hh
  simp only [Option.bind_some] at hh
  unfold hashPlaneDxDy at hh
  rw [hashPlane_ensures debug n Y hg.1] at hh
  exact (ring_sph_coo_inverts debug hn hn30 hRI hg h dx dy hh).1

/-- C11 item 4 on the sphere, for a `(lon, lat)` whose projection (with `x` brought back to `[0, 8)` as the code does) is
    a `GoodPoint`; `goodPoint_of_sphere` shows which these are. -/
theorem ring_hash_contains_sphere_partial (debug : Bool) {n : Nat} (hn : 1 ≤ n) (hn30 : n < 2 ^ 30) (hRI : RingIndexExact n)
    (lon lat X Y : ℝ) (hp : proj lon lat = some (X, Y)) (hg : GoodPoint (ensuresXIsPositive X) Y) :
    ∃ (h : ℕ) (cx cy : ℝ), Ring.hash debug n lon lat = some h ∧ h < 12 * n * n ∧
      centerOfProjectedCell (α := ℝ) debug n h = some (cx, cy) ∧
      (|ensuresXIsPositive X - cx| + |Y - cy| ≤ 1 / n ∨ |ensuresXIsPositive X - 8 - cx| + |Y - cy| ≤ 1 / n) := by
  obtain ⟨h, dl, dh, cx, cy, hP, hh, -, -, -, -, hc, hcont⟩ := ring_hash_contains_partial debug hn hn30 hRI hg
  refine ⟨h, cx, cy, ?_, hh, hc, hcont⟩
  unfold Ring.hash
  rw [hashWithDlDh_eq, hp]
  simp only [Option.bind_some]
  rw [hashPlane_ensures debug n Y hg.1, hP]; rfl

/-! ## finding F3: the north-cap seams

In exact arithmetic the statement of `ring_hash_contains` fails exactly on the slanted edges of the north Collignon
triangles, below the last ring (`y < 2 − 1/n`): a point of such an edge lies on the NW (west seam) or NE (east seam)
edge of the outermost cell of its ring, and `deal_with_1x1_box` gives the northern edges of a diamond to the northern
neighbour — here the *phantom* diamond in the gap between two triangles.  The index correction
`i_in_ring −= (off+1)/2 + off·q` then underflows for facet 0 (`hashPlane_seam_north_west`: `none` in the dev profile for
every `n ≥ 2`; the release profile wraps to `2^64 − 1` or to the last cell of the previous ring) and returns the last
cell of facet `q − 1` of the same ring for `q ≥ 1` (a cell that does not contain the point, `seam_witness_q1`).
On the south cap nothing of the kind happens over the reals (a diamond owns its southern edges): the closed south
triangles are part of `GoodPoint`.  (With doubles the rounding of `x` moves seam points to either side, which is
why the finding is observed on both caps.) -/

/-! ### the diamond that owns a point of a north-cap seam

In units of `1/n` the plane point is `(U, V) = (n·x, n·(y+3))`.  `hashPlane_general` sends it to the diamond
`(K, I')` (ring `K`, centre abscissa `A = 2I' + (K+1) mod 2`) such that `U − A = dx − dy`, `V − K = dx + dy − 1` with
`(dx, dy) ∈ [0,1)²`: a diamond owns its two southern edges.  On the north cap (`V = 4n + w`, `0 ≤ w < n`):
* a point of the WEST edge of triangle `q`, `U = 2nq + w`, lies on the NW edge of the first cell of its ring, which is the
  SE edge (`dy = 0`) of the phantom diamond `K = 4n + ⌊w⌋ + 1`, `A = 2nq + ⌊w⌋`, one cell WEST of the first cell of ring `K`;
* a point of the EAST edge, `U = 2n(q+1) − w`, lies on the NE edge of the last cell of its ring, which is the SW edge
  (`dx = 0`) of the phantom diamond `K = 4n + ⌊w⌋ + 1`, `A = 2n(q+1) − ⌊w⌋`, one cell EAST of the last cell of ring `K`. -/

/-- the diamond `(K, A)` that owns the point `(c + w, 4n + w)` of the line of slope 1 through the lattice point `(c, 4n)`:
    the point is on its south-east edge (`dy = 0`).  With `Owns.mirror` this also locates the points of the lines of
    slope −1. -/
theorem locate_edge {n m : ℕ} {c A K : ℤ} {U V w dx dy : ℝ} (hown : Owns A K U V dx dy) (hpar : (A - K - c) % 2 = 1)
    (hU : U = c + w) (hV : V = w + 4 * n) (hm1 : (m : ℝ) ≤ w) (hm2 : w < m + 1) : K = 4 * n + m + 1 ∧ A = c + m := by
  -- `V − U = 4n − c` is an integer, of the parity of `K − A − 1`: the point is on the edge `V − U = K − A − 1`
  have d1 := hown.mirror.le_sum (m := 4 * n - c) (by push_cast; linarith only [hU, hV])
  have d2 := hown.mirror.sum_lt (m := 4 * n - c + 1) (by push_cast; linarith only [hU, hV])
  have s1 := hown.le_sum (m := c + 4 * n + 2 * m) (by push_cast; linarith only [hU, hV, hm1])
  have s2 := hown.sum_lt (m := c + 4 * n + 2 * m + 2) (by push_cast; linarith only [hU, hV, hm2])
  omega

theorem hashPlane_west_tail (debug : Bool) {n q m : ℕ} (hn : 1 ≤ n) (hn30 : n < 2 ^ 30) (hq : q < 4) {X Y : ℝ}
    (hX : X = 2 * q + (Y - 1)) (h1 : 1 ≤ Y) (h2 : Y < 2) (hm1 : (m : ℝ) ≤ n * (Y - 1))
    (hm2 : (n : ℝ) * (Y - 1) < m + 1) :
    ∃ dl dh : ℝ, hashPlane debug n X Y = hashTail debug n dl dh (4 * n + m + 1) (n * q + m / 2) := by
  subst hX
  have hqr : (q : ℝ) ≤ 3 := by
    have : q ≤ 3 := by omega
    exact_mod_cast this
  have hq0 : (0 : ℝ) ≤ q := Nat.cast_nonneg q
  obtain ⟨K, I', dl, dh, hP, -, -, -, -, hown⟩ :=
    hashPlane_general debug hn hn30 (X := 2 * q + (Y - 1)) (Y := Y) (by linarith) (by linarith) (by linarith) (by linarith)
  obtain ⟨hK, hA⟩ := locate_edge (m := m) (c := 2 * ((n * q : ℕ) : ℤ)) (w := n * (Y - 1)) hown (by omega)
    (by push_cast; ring) (by ring) hm1 hm2
  exact ⟨dl, dh, by rw [hP, show K = 4 * n + m + 1 by omega, show I' = n * q + m / 2 by omega]⟩

/-- the mirror image of `hashPlane_west_tail`, on the east edge; `hX8` says `1 < y` when `q = 3` -/
theorem hashPlane_east_tail (debug : Bool) {n q m : ℕ} (hn : 1 ≤ n) (hn30 : n < 2 ^ 30) {Y : ℝ}
    (h1 : 1 ≤ Y) (h2 : Y < 2) (hX8 : 2 * (q : ℝ) + 2 - (Y - 1) < 8)
    (hm1 : (m : ℝ) ≤ n * (Y - 1)) (hm2 : (n : ℝ) * (Y - 1) < m + 1) :
    ∃ dl dh : ℝ,
      hashPlane debug n (2 * q + 2 - (Y - 1)) Y = hashTail debug n dl dh (4 * n + m + 1) (n * (q + 1) - (m + 1) / 2) := by
  have hq0 : (0 : ℝ) ≤ q := Nat.cast_nonneg q
  obtain ⟨K, I', dl, dh, hP, -, -, -, -, hown⟩ :=
    hashPlane_general debug hn hn30 (X := 2 * q + 2 - (Y - 1)) (Y := Y) (by linarith) hX8 (by linarith) (by linarith)
  obtain ⟨hK, hA⟩ := locate_edge (m := m) (c := -(2 * ((n * (q + 1) : ℕ) : ℤ))) (w := n * (Y - 1)) hown.mirror (by omega)
    (by push_cast; ring) (by ring) hm1 hm2
  exact ⟨dl, dh, by rw [hP, show K = 4 * n + m + 1 by omega, show I' = n * (q + 1) - (m + 1) / 2 by omega]⟩

theorem floor_m {n : ℕ} {Y : ℝ} (h1 : 1 ≤ Y) :
    ∃ m : ℕ, (m : ℝ) ≤ n * (Y - 1) ∧ (n : ℝ) * (Y - 1) < m + 1 :=
  ⟨⌊(n : ℝ) * (Y - 1)⌋₊, Nat.floor_le (mul_nonneg (Nat.cast_nonneg n) (by linarith)), Nat.lt_floor_add_one _⟩

theorem m_le_of_low {n m : ℕ} {Y : ℝ} (hm1 : (m : ℝ) ≤ n * (Y - 1)) (h3 : (n : ℝ) * Y < 2 * n - 1) : m + 2 ≤ n := by
  have : m + 1 < n := by exact_mod_cast (by linarith : (m : ℝ) + 1 < n)
  omega

/-- **west seam of facet 0 below the last ring** (`n ≥ 2`, `1 ≤ y < 2 − 1/n`, `m = ⌊n(y−1)⌋ ≤ n − 2`): the phantom diamond
    lies west of the first cell of facet 0, so the index correction `i_in_ring − (off+1)/2` underflows: the dev profile
    panics; in the release profile it wraps to `2^64 − 1`, and the cell number is `(tri4 r + 2^64 − 1) mod 2^64` with
    `r = n − 2 − m`: `2^64 − 1` in the ring next to the last one (`r = 0`), the LAST cell `tri4 r − 1` of the ring `r − 1`
    (one ring further north, facet 3) otherwise -/
theorem hashPlane_seam_west0 (debug : Bool) {n m : ℕ} (hn30 : n < 2 ^ 30) {Y : ℝ} (h1 : 1 ≤ Y)
    (hm1 : (m : ℝ) ≤ n * (Y - 1)) (hm2 : (n : ℝ) * (Y - 1) < m + 1) (hm : m + 2 ≤ n) :
    ∃ dl dh : ℝ, hashPlane debug n (Y - 1) Y =
      if debug then none else some ((tri4 (n - 2 - m) + (2 ^ 64 - 1)) % 2 ^ 64, dl, dh) := by
  have hmr : (m : ℝ) + 2 ≤ n := by exact_mod_cast hm
  have h2 : Y < 2 := lt_of_mul_lt_mul_left (by linarith : (n : ℝ) * Y < n * 2) (Nat.cast_nonneg n)
  obtain ⟨dl, dh, hP⟩ := hashPlane_west_tail debug (q := 0) (m := m) (X := Y - 1) (by omega) hn30 (by omega)
    (by push_cast; ring) h1 h2 hm1 hm2
  refine ⟨dl, dh, ?_⟩
  rw [hP, Nat.add_assoc, Nat.mul_zero, Nat.zero_add, hashTail_north_underflow debug dl dh (by omega) (by omega),
    show n - 1 - (m + 1) = n - 2 - m by omega, show m / 2 + 2 ^ 64 - (m + 1 + 1) / 2 = 2 ^ 64 - 1 by omega]

/-- **F3, exact failure set on the west seam of facet 0**: for every `n ≥ 2`, every point of the edge `x = y − 1` of the
    first north triangle below the last ring (`1 ≤ y < 2 − 1/n`; on the sphere: `lon = 0`, `asin(2/3) ≤ lat`) makes the
    dev profile panic -/
theorem hashPlane_seam_north_west {n : Nat} (hn30 : n < 2 ^ 30) {Y : ℝ} (h1 : 1 ≤ Y)
    (h2 : (n : ℝ) * Y < 2 * n - 1) : hashPlane true n (Y - 1) Y = none := by
  obtain ⟨m, hm1, hm2⟩ := floor_m (n := n) h1
  obtain ⟨_, _, hP⟩ := hashPlane_seam_west0 true hn30 h1 hm1 hm2 (m_le_of_low hm1 h2)
  exact hP

/-- exact witness at `n = 2`: the plane point `(1/4, 5/4)` (west seam of facet 0: `lon = 0`) panics in the dev profile -/
theorem seam_witness_debug : hashPlane true 2 ((1 : ℝ) / 4) (5 / 4) = none := by
  have := hashPlane_seam_north_west (n := 2) (Y := 5 / 4) (by norm_num) (by norm_num) (by norm_num)
  rwa [show (5 : ℝ) / 4 - 1 = 1 / 4 by norm_num] at this

/-- … and in the release profile the same point gets the cell number `2^64 − 1` (not `< 12·n² = 48`) -/
theorem seam_witness_release : hashPlane false 2 ((1 : ℝ) / 4) (5 / 4) = some (2 ^ 64 - 1, 1 / 4, 1 / 4) := by
  rw [hashPlane_box false (n := 2) (by norm_num) (by norm_num) rfl rfl (by norm_num) (by norm_num) (by norm_num) 0 4
    (by norm_num) (by norm_num) (by norm_num) (by norm_num)]
  norm_num [dealWith1x1Box, r_le, r_ge, r_one, hashTail, sub64, tri4, Nat.shiftRight_eq_div_pow]

/-- exact witness at `n = 2`, facet 1: the plane point `(9/4, 5/4)` (west seam of facet 1: `lon = π/2`) is given to
    cell 0 in both profiles, whose centre is `(1, 3/2)`: the point is not in the (closed) cell -/
theorem seam_witness_q1 (debug : Bool) :
    hashPlane debug 2 ((9 : ℝ) / 4) (5 / 4) = some (0, 1 / 4, 1 / 4) ∧
    centerOfProjectedCell (α := ℝ) debug 2 0 = some (1, 3 / 2) ∧
    ¬ (|(9 : ℝ) / 4 - 1| + |(5 : ℝ) / 4 - 3 / 2| ≤ 1 / 2) ∧ ¬ (|(9 : ℝ) / 4 - 8 - 1| + |(5 : ℝ) / 4 - 3 / 2| ≤ 1 / 2) := by
  refine ⟨?_, ?_, ?_, ?_⟩
  · rw [hashPlane_box debug (n := 2) (by norm_num) (by norm_num) rfl rfl (by norm_num) (by norm_num) (by norm_num) 2 4
      (by norm_num) (by norm_num) (by norm_num) (by norm_num)]
    norm_num [dealWith1x1Box, r_le, r_ge, r_one, hashTail, sub64, tri4, Nat.shiftRight_eq_div_pow]
  · have hRI : RingIndexExact 2 := by unfold RingIndexExact; decide +kernel
    have := center_eq debug (n := 2) (r := 0) (i := 0) (by norm_num) (by norm_num) hRI (by norm_num) (by decide)
    have e1 : ringStart 2 0 + 0 = 0 := by decide
    have e2 : cxI 2 0 0 = 2 := by decide
    have e3 : cyI 2 0 = 3 := by decide
    rw [e1, e2, e3] at this
    rw [this]; norm_num
  · rw [abs_of_pos (by norm_num), abs_of_neg (by norm_num)]; norm_num
  · rw [abs_of_neg (by norm_num), abs_of_neg (by norm_num)]; norm_num

/-- exact witness at `n = 2`, east seam of facet 0 (reached from negative longitudes): the plane point `(7/4, 5/4)` is
    given to cell 0 (centre `(1, 3/2)`), which does not contain it -/
theorem seam_witness_east (debug : Bool) :
    hashPlane debug 2 ((7 : ℝ) / 4) (5 / 4) = some (0, 3 / 4, 1 / 4) ∧
    ¬ (|(7 : ℝ) / 4 - 1| + |(5 : ℝ) / 4 - 3 / 2| ≤ 1 / 2) := by
  constructor
  · rw [hashPlane_box debug (n := 2) (by norm_num) (by norm_num) rfl rfl (by norm_num) (by norm_num) (by norm_num) 1 4
      (by norm_num) (by norm_num) (by norm_num) (by norm_num)]
    norm_num [dealWith1x1Box, r_le, r_ge, r_one, hashTail, sub64, tri4, Nat.shiftRight_eq_div_pow]
  · rw [abs_of_pos (by norm_num), abs_of_neg (by norm_num)]; norm_num

open Real

/-- `Proj.proj_closed_turn` for `0 ≤ lon < 2π`: facet `k < 4`, offset `pm1 = lon·4/π − (2k+1) ∈ [−1, 1)` from its axis -/
theorem proj_value (lon lat : ℝ) (hlon0 : 0 ≤ lon) (hlon1 : lon < 2 * π) (hlat0 : -(π / 2) ≤ lat) (hlat1 : lat ≤ π / 2) :
    ∃ k : ℕ, k < 4 ∧ -1 ≤ lon * (4 / π) - (2 * k + 1) ∧ lon * (4 / π) - (2 * k + 1) < 1 ∧
      proj (α := ℝ) lon lat = some ((lon * (4 / π) - (2 * k + 1)) * sigma lat + (2 * k + 1), planeY lat) := by
  obtain ⟨k, hk, h1, h2, hP⟩ := proj_closed_turn lon lat (by rwa [abs_of_nonneg hlon0]) hlat0 hlat1
  rw [abs_of_nonneg hlon0] at h1 h2 hP
  rw [sgn_of_nonneg hlon0] at hP
  exact ⟨k, hk, by linarith only [h1], by linarith only [h2], hP⟩

theorem goodPoint_of_sphere (lon lat : ℝ) (hlon0 : 0 ≤ lon) (hlon1 : lon < 2 * π) (hlat0 : -(π / 2) ≤ lat)
    (hlat1 : lat ≤ π / 2)
    (hseam : lat < Real.arcsin (2 / 3) ∨ (lat < π / 2 ∧ ∀ k : ℕ, lon ≠ k * (π / 2))) :
    ∃ X Y, proj (α := ℝ) lon lat = some (X, Y) ∧ GoodPoint X Y := by
  obtain ⟨k, hk, hm1, hp1, hproj⟩ := proj_value lon lat hlon0 hlon1 hlat0 hlat1
  have hk3 : (k : ℝ) ≤ 3 := by exact_mod_cast (by omega : k ≤ 3)
  have hk0 : (0 : ℝ) ≤ k := Nat.cast_nonneg k
  obtain ⟨hs0, hs1⟩ := sigma_bounds lat hlat0 hlat1
  -- the point lies `pm1·σ` east of the axis `x = 2k + 1` of the facet, and `|pm1| ≤ 1`, `0 ≤ σ ≤ 1`
  have hb : |lon * (4 / π) - (2 * k + 1)| ≤ 1 := abs_le.mpr ⟨hm1, hp1.le⟩
  have habs : |(lon * (4 / π) - (2 * k + 1)) * sigma lat + (2 * k + 1) - (2 * k + 1)|
      = |lon * (4 / π) - (2 * k + 1)| * sigma lat := by rw [add_sub_cancel_right, abs_mul, abs_of_nonneg hs0]
  obtain ⟨hX0, hX8⟩ := contract_between (lon * (4 / π) - (2 * k + 1)) (2 * k + 1) hs0 hs1
  -- off the seams the offset is strictly inside `(−1, 1)`
  have hpm : (∀ k : ℕ, lon ≠ k * (π / 2)) → |lon * (4 / π) - (2 * k + 1)| < 1 := by
    intro hne
    refine abs_lt.mpr ⟨lt_of_le_of_ne hm1 fun h => hne k ?_, hp1⟩
    have : lon * (4 / π) = 2 * k := by linarith only [h]
    field_simp at this; linarith only [this]
  refine ⟨_, _, hproj, le_trans (le_min (by linarith only [hk0]) (by linarith only [hm1, hk0])) hX0,
    lt_of_le_of_lt hX8 (max_lt (by linarith only [hk3]) (by linarith only [hp1, hk3])), ?_⟩
  -- in every region `|x − (2k+1)| ≤ σ ≤ 2 − |y|`: the closed Collignon triangles, and `|y| ≤ 2`
  have hY := planeY_abs_le lat hlat0 hlat1
  have hXc := mul_le_of_le_one_left hs0 hb
  rcases lt_or_ge (planeY lat) 1 with hY1 | hY1
  · rcases lt_or_ge (planeY lat) (-1) with hY2 | hY2
    · exact Or.inr (Or.inr ⟨by linarith only [hY, hs0, neg_abs_le (planeY lat)], hY2, k, hk,
        by rw [habs]; linarith only [hY, hXc, neg_abs_le (planeY lat)]⟩)
    · exact Or.inl ⟨hY2, hY1⟩
  · -- on and above the base `y = 1` of the north triangle the latitude is at least the transition latitude, so that the
    -- point is off the seams and below the pole: `σ > 0` and the inequality is strict
    have hN : Real.arcsin (2 / 3) ≤ lat := not_lt.mp fun hlt => not_lt.mpr hY1 (planeY_lt_one hlat0 hlt)
    obtain ⟨hlt, hne⟩ := hseam.resolve_left (not_lt.mpr hN)
    have hσ := sigma_pos_north hN hlt
    have hYa := le_abs_self (planeY lat)
    exact Or.inr (Or.inl ⟨hY1, by linarith only [hY, hσ, hYa], k, hk,
      by rw [habs]; linarith only [mul_lt_of_lt_one_left hσ (hpm hne), hY, hYa]⟩)

/-- **`ring_hash_contains` on the sphere, partial** (C11 item 4 composed with `proj`): for every `0 ≤ lon < 2π` and every
    latitude, EXCEPT on the north-cap seams (`lat ≥ asin(2/3)` and `lon ∈ {0, π/2, π, 3π/2}`) and at the north pole,
    `ring::hash(n, lon, lat)` returns — in both profiles — a cell `h < 12 n²` whose closed diamond (half-diagonal `1/n`
    around `center_of_projected_cell(n, h)`, modulo 8 in `x`) contains `proj(lon, lat)`.  The excepted set is settled in
    `Lemmas/RingSeams.lean` (`ring_hash_sphere_total`). -/
theorem ring_hash_sphere_partial (debug : Bool) {n : Nat} (hn : 1 ≤ n) (hn30 : n < 2 ^ 30) (hRI : RingIndexExact n)
    (lon lat : ℝ) (hlon0 : 0 ≤ lon) (hlon1 : lon < 2 * π) (hlat0 : -(π / 2) ≤ lat) (hlat1 : lat ≤ π / 2)
    (hseam : lat < Real.arcsin (2 / 3) ∨ (lat < π / 2 ∧ ∀ k : ℕ, lon ≠ k * (π / 2))) :
    ∃ (X Y : ℝ) (h : ℕ) (cx cy : ℝ), proj (α := ℝ) lon lat = some (X, Y) ∧ Ring.hash debug n lon lat = some h ∧
      h < 12 * n * n ∧ centerOfProjectedCell (α := ℝ) debug n h = some (cx, cy) ∧
      (|X - cx| + |Y - cy| ≤ 1 / n ∨ |X - 8 - cx| + |Y - cy| ≤ 1 / n) := by
  obtain ⟨X, Y, hp, hg⟩ := goodPoint_of_sphere lon lat hlon0 hlon1 hlat0 hlat1 hseam
  have hx : ensuresXIsPositive X = X := ensuresXIsPositive_of_nonneg hg.1
  obtain ⟨h, cx, cy, h1, h2, h3, h4⟩ :=
    ring_hash_contains_sphere_partial debug hn hn30 hRI lon lat X Y hp (by rw [hx]; exact hg)
  rw [hx] at h4
  exact ⟨X, Y, h, cx, cy, hp, h1, h2, h3, h4⟩

/-- the hypotheses are satisfiable: `n = 3`, `lon = 1`, `lat = 0` -/
example : ∃ (X Y : ℝ) (h : ℕ) (cx cy : ℝ), proj (α := ℝ) 1 0 = some (X, Y) ∧ Ring.hash true 3 (1 : ℝ) 0 = some h ∧
      h < 12 * 3 * 3 ∧ centerOfProjectedCell (α := ℝ) true 3 h = some (cx, cy) ∧
      (|X - cx| + |Y - cy| ≤ 1 / (3 : ℕ) ∨ |X - 8 - cx| + |Y - cy| ≤ 1 / (3 : ℕ)) :=
  ring_hash_sphere_partial true (n := 3) (by norm_num) (by norm_num) (by unfold RingIndexExact; decide +kernel) 1 0
    (by norm_num) (by linarith [Real.two_le_pi]) (by linarith [Real.pi_pos]) (by linarith [Real.pi_pos])
    (Or.inl (Real.arcsin_pos.mpr (by norm_num)))

/-- **`ring_sph_coo_inverts` on the sphere** (C11 item 5 composed with `proj`): off the north-cap seams, `hash_with_dxdy` is
    defined, its offsets are in `[0,1)²`, and `sph_coo` applied to its result calls `unproj` on `proj(lon, lat)` -/
theorem ring_sph_coo_sphere_partial (debug : Bool) {n : Nat} (hn : 1 ≤ n) (hn30 : n < 2 ^ 30) (hRI : RingIndexExact n)
    (lon lat : ℝ) (hlon0 : 0 ≤ lon) (hlon1 : lon < 2 * π) (hlat0 : -(π / 2) ≤ lat) (hlat1 : lat ≤ π / 2)
    (hseam : lat < Real.arcsin (2 / 3) ∨ (lat < π / 2 ∧ ∀ k : ℕ, lon ≠ k * (π / 2))) :
    ∃ (X Y : ℝ) (h : ℕ) (dx dy : ℝ), proj (α := ℝ) lon lat = some (X, Y) ∧
      hashWithDxDy debug n lon lat = some (h, dx, dy) ∧ h < 12 * n * n ∧ 0 ≤ dx ∧ dx < 1 ∧ 0 ≤ dy ∧ dy < 1 ∧
      sphCoo debug n h dx dy = unproj X Y := by
  obtain ⟨X, Y, hp, hg⟩ := goodPoint_of_sphere lon lat hlon0 hlon1 hlat0 hlat1 hseam
  obtain ⟨r, i, dl, dh, -, hr, hi, hP, -⟩ := hashPlane_point debug hn hn30 hg
  have hh : hashPlaneDxDy debug n X Y = some (ringStart n r + i, (dldhToDxDy dl dh).1, (dldhToDxDy dl dh).2) := by
    unfold hashPlaneDxDy; rw [hP]; rfl
  obtain ⟨h1, h2, h3, h4, h5⟩ := ring_sph_coo_inverts debug hn hn30 hRI hg _ _ _ hh
  refine ⟨X, Y, _, _, _, hp, ?_, ringStart_add_lt hn hr hi, h2, h3, h4, h5, h1⟩
  rw [hashWithDxDy_eq, hp]; exact hh

/-- **round trip on the northern hemisphere**: `sph_coo ∘ hash_with_dxdy = id` for `0 ≤ lon < 2π`, `0 ≤ lat` on the near
    side of the pole threshold of `unproj` (`√6·cos(lat/2 + π/4) > EPS_POLE`), off the north-cap seams -/
theorem ring_sph_coo_roundtrip_north (debug : Bool) {n : Nat} (hn : 1 ≤ n) (hn30 : n < 2 ^ 30) (hRI : RingIndexExact n)
    (lon lat : ℝ) (hlon0 : 0 ≤ lon) (hlon1 : lon < 2 * π) (hlat0 : 0 ≤ lat) (hlat1 : lat ≤ π / 2)
    (hpole : (Num.epsPole : ℝ) < Real.sqrt 6 * Real.cos (1 / 2 * lat + π / 4))
    (hseam : lat < Real.arcsin (2 / 3) ∨ (lat < π / 2 ∧ ∀ k : ℕ, lon ≠ k * (π / 2))) :
    ∃ (h : ℕ) (dx dy : ℝ), hashWithDxDy debug n lon lat = some (h, dx, dy) ∧ sphCoo debug n h dx dy = some (lon, lat) := by
  obtain ⟨X, Y, h, dx, dy, hp, hh, -, -, -, -, -, hs⟩ :=
    ring_sph_coo_sphere_partial debug hn hn30 hRI lon lat hlon0 hlon1 (by linarith [Real.pi_pos]) hlat1 hseam
  obtain ⟨X', Y', hp', hu⟩ := unproj_proj_real lon lat hlon0 hlon1 hlat0 hlat1 hpole
  rw [hp] at hp'
  simp only [Option.some.injEq, Prod.mk.injEq] at hp'
  obtain ⟨rfl, rfl⟩ := hp'
  exact ⟨h, dx, dy, hh, by rw [hs, hu]⟩

/-- **the plane function on the axis of the triangle `q`, at an ordinate on the grid** (`x = 2q + 1`, `n·(y + 3) = c` an integer
    of the parity of `n`: both poles are such points, `c = 5n` and `c = n`): the point is the south vertex of a diamond (a
    corner or the middle of its box, `dl = dh`), and the integer tail is entered one row further north, in the middle of
    stretch `q` -/
theorem hashPlane_axis (debug : Bool) {n q c : ℕ} (hn : 1 ≤ n) (hn30 : n < 2 ^ 30) (hq : q < 4) (hc : c % 2 = n % 2)
    (hc5 : c ≤ 5 * n) {Y : ℝ} (hY : (n : ℝ) * (Y + 3) = c) :
    hashPlane debug n ((2 * q + 1 : ℕ) : ℝ) Y
      = hashTail debug n (((c % 2 : ℕ) : ℝ) / 2) (((c % 2 : ℕ) : ℝ) / 2) (c + 1) (n * q + n / 2) := by
  have e : n * (2 * q + 1) = 2 * (n * q) + n := by ring
  have ha : n * (2 * q + 1) ≤ n * 7 := Nat.mul_le_mul_left n (by omega)
  -- `a = n(2q + 1)` and `b = c` have the same parity: a vertex, owned by the row `c + 1`
  rw [hashPlane_lattice debug hn hn30 (a := n * (2 * q + 1)) (by push_cast; ring) hY (by omega) hc5, e,
    show (2 * (n * q) + n) % 2 = c % 2 by omega, show (2 * (n * q) + n + c + 1) % 2 = 1 by omega,
    show (2 * (n * q) + n) / 2 = n * q + n / 2 by omega]

/-- at the north pole of facet `q` (plane point `(2q+1, 2)`) the code takes its "north pole" exit: cell `q` (the first
    ring), with the conventional offsets `(dl, dh) = (1, 1)`, i.e. `(dx, dy) = (1, 0)` — which `sph_coo` rejects.  The
    cell is the right one (the pole is the north vertex of the four cells of the first ring). -/
theorem ring_hash_pole (debug : Bool) {n q : Nat} (hn : 1 ≤ n) (hn30 : n < 2 ^ 30) (hq : q < 4) :
    hashPlane debug n ((2 * q + 1 : ℕ) : ℝ) 2 = some (q, 1, 1) := by
  rw [hashPlane_axis debug (c := 5 * n) hn hn30 hq (by omega) (le_refl _) (by push_cast; ring),
    hashTail_pole debug _ _ hn (by omega), r_one, Nat.mul_add_div (by omega), Nat.div_eq_of_lt (by omega)]
  rfl

/-- **west seam of facet `q ≥ 1` below the last ring**, both profiles, no panic: the LAST cell of facet `q − 1` of the
    ring `n − 2 − m`, on the other side of the gap between the two triangles -/
theorem hashPlane_seam_west_low (debug : Bool) {n q m : ℕ} (hn30 : n < 2 ^ 30) (hq1 : 1 ≤ q) (hq : q < 4)
    {Y : ℝ} (h1 : 1 ≤ Y) (hm1 : (m : ℝ) ≤ n * (Y - 1)) (hm2 : (n : ℝ) * (Y - 1) < m + 1) (hm : m + 2 ≤ n) :
    ∃ (i : ℕ) (dl dh : ℝ), i < 4 * perFacet n (n - 2 - m) ∧
      hashPlane debug n (2 * q + (Y - 1)) Y = some (ringStart n (n - 2 - m) + i, dl, dh) ∧
      cxI n (n - 2 - m) i + m + 2 = 2 * n * q := by
  have hmr : (m : ℝ) + 2 ≤ n := by exact_mod_cast hm
  have h2 : Y < 2 := lt_of_mul_lt_mul_left (by linarith : (n : ℝ) * Y < n * 2) (Nat.cast_nonneg n)
  obtain ⟨dl, dh, hP⟩ := hashPlane_west_tail debug (q := q) (m := m) (by omega) hn30 hq rfl h1 h2 hm1 hm2
  have hs := ringStart_north (n := n) (t := n - 2 - m) (by omega)
  obtain ⟨q', rfl⟩ : ∃ q', q = q' + 1 := ⟨q - 1, by omega⟩
  have hp' : perFacet n (n - 2 - m) = n - 1 - m := by rw [perFacet_north (by omega)]; omega
  have hi : q' * perFacet n (n - 2 - m) + (n - 2 - m) < 4 * perFacet n (n - 2 - m) := by
    have : q' * perFacet n (n - 2 - m) ≤ 2 * perFacet n (n - 2 - m) := Nat.mul_le_mul_right _ (by omega)
    omega
  refine ⟨_, dl, dh, hi, ?_, ?_⟩
  · -- the phantom diamond `(off, q, s) = (m + 1, q' + 1, ⌊m/2⌋)`, one place west of the first cell of facet `q' + 1`
    have hpos : 1 ≤ (q' + 1) * (n - (m + 1)) := Nat.mul_pos (by omega) (by omega)
    rw [hP, Nat.add_assoc, hashTail_north_facet debug dl dh hn30 (by omega) (by omega) (by omega) (by omega), hs, hp',
      show n - 1 - (m + 1) = n - 2 - m by omega, show n - (m + 1) = n - 1 - m by omega, Nat.add_mul]
    congr 2; omega
  · rw [cxI_facet (by omega), cxOff_north (by omega), Nat.mul_add]; omega

/-- **F3 on the west seams of facets 1–3**, every `n ≥ 2`: a point of the edge `x = 2q + (y − 1)` of the north triangle
    `q ≥ 1` below the last ring (`1 ≤ y < 2 − 1/n`; on the sphere `lon = q·π/2`, `lat ≥ asin(2/3)`) is given — silently,
    in both profiles — to a cell of its ring whose centre lies at least `2/n` further west (`cxI + 2 ≤ n·x`): the closed
    diamond of half-diagonal `1/n` of that cell does not contain the point. -/
theorem hashPlane_seam_west (debug : Bool) {n q : Nat} (hn2 : 2 ≤ n) (hn30 : n < 2 ^ 30) (hq1 : 1 ≤ q) (hq : q < 4)
    {Y : ℝ} (h1 : 1 ≤ Y) (h2 : (n : ℝ) * Y < 2 * n - 1) :
    ∃ (r i : ℕ) (dl dh : ℝ), r < 4 * n - 1 ∧ i < 4 * perFacet n r ∧
      hashPlane debug n (2 * q + (Y - 1)) Y = some (ringStart n r + i, dl, dh) ∧
      (cxI n r i : ℝ) + 2 ≤ n * (2 * q + (Y - 1)) ∧ (n : ℝ) * (2 * q + (Y - 1)) ≤ 7 * n := by
  obtain ⟨m, hm1, hm2⟩ := floor_m (n := n) h1
  obtain ⟨i, dl, dh, hi, hP, hcx⟩ := hashPlane_seam_west_low debug hn30 hq1 hq h1 hm1 hm2 (m_le_of_low hm1 h2)
  have hcx' : (cxI n (n - 2 - m) i : ℝ) + m + 2 = 2 * n * q := by exact_mod_cast hcx
  have hq3 : (n : ℝ) * q ≤ n * 3 :=
    mul_le_mul_of_nonneg_left (by exact_mod_cast (by omega : q ≤ 3)) (Nat.cast_nonneg n)
  exact ⟨_, i, dl, dh, by omega, hi, hP, by linarith [Nat.cast_nonneg (α := ℝ) m], by linarith⟩

end Hpx.RingReal
