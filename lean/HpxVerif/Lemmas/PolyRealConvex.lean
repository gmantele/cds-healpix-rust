/-
Point-in-polygon over the reals (C12), convex polygons and generic points: `contains_convex`, **`Polygon::contains` = inside
all the half-spaces**, both windings, every number of vertices `≥ 3`.

The counting argument, abstractly (`convex_count`).  Along the meridian of the point, parametrised by `τ = tan(latitude)`, the
half-space of the edge `e` is `A e + τ · Z e > 0` (`Z e` = `z` component of the inward normal, `A e` = its component along the
direction of the meridian).  The edge meets the meridian (`R e`) at `τ e = −A e / Z e`.  From the four facts
  F1 (a meeting point is in the closed polygon), F2 (two edges do not meet the meridian at the same point),
  F3 (a point of an edge's great circle that is in the closed polygon is on the edge) and F4 (no pole inside)
the number of meeting points strictly south of a point that is not on the boundary is odd iff the point is in all the
open half-spaces.  `Basic::contains_south_pole` answers `false` for a convex polygon that lies in an open hemisphere and
contains no pole (`ConvexNoPole.csp_false`: the sum of the wrapped longitude steps telescopes to 0).
-/
import HpxVerif.Lemmas.PolyRealCrossing
import Mathlib.Analysis.SpecialFunctions.Complex.Arg

namespace Hpx.Sph
open Real

section abstractCount
variable {ε : Type}

theorem countP_le_one_of_pairwise (P : ε → Bool) (l : List ε) (h : l.Pairwise (fun a b => ¬ (P a = true ∧ P b = true))) :
    l.countP P ≤ 1 := by
  induction l with
  | nil => simp
  | cons a l ih =>
    have h' := List.pairwise_cons.mp h
    rw [List.countP_cons]
    by_cases ha : P a = true
    · have : l.countP P = 0 := by
        rw [List.countP_eq_zero]
        intro b hb hPb
        exact h'.1 b hb ⟨ha, hPb⟩
      simp [this, ha]
    · have := ih h'.2
      simp [ha]; exact this

open Classical in
theorem exists_max_on (l : List ε) (f : ε → ℝ) (P : ε → Prop) (h : ∃ x ∈ l, P x) :
    ∃ x ∈ l, P x ∧ ∀ y ∈ l, P y → f y ≤ f x := by
  obtain ⟨x0, hx0, hP0⟩ := h
  obtain ⟨x, hx, hmax⟩ := Finset.exists_max_image (l.toFinset.filter P) f ⟨x0, by simp [hx0, hP0]⟩
  simp only [Finset.mem_filter, List.mem_toFinset] at hx hmax
  exact ⟨x, hx.1, hx.2, fun y hy hPy => hmax y ⟨hy, hPy⟩⟩

theorem exists_min_on (l : List ε) (f : ε → ℝ) (P : ε → Prop) (h : ∃ x ∈ l, P x) :
    ∃ x ∈ l, P x ∧ ∀ y ∈ l, P y → f x ≤ f y := by
  obtain ⟨x, hx, hP, hm⟩ := exists_max_on l (fun e => -f e) P h
  exact ⟨x, hx, hP, fun y hy hPy => by have := hm y hy hPy; linarith⟩

theorem lin_pos_iff_of_pos {A Z x : ℝ} (hZ : 0 < Z) : 0 < A + x * Z ↔ -A / Z < x := by
  rw [div_lt_iff₀ hZ]; constructor <;> intro h <;> linarith
theorem lin_nonneg_iff_of_pos {A Z x : ℝ} (hZ : 0 < Z) : 0 ≤ A + x * Z ↔ -A / Z ≤ x := by
  rw [div_le_iff₀ hZ]; constructor <;> intro h <;> linarith
theorem lin_pos_iff_of_neg {A Z x : ℝ} (hZ : Z < 0) : 0 < A + x * Z ↔ x < -A / Z := by
  rw [lt_div_iff_of_neg hZ]; constructor <;> intro h <;> linarith
theorem lin_nonneg_iff_of_neg {A Z x : ℝ} (hZ : Z < 0) : 0 ≤ A + x * Z ↔ x ≤ -A / Z := by
  rw [le_div_iff_of_neg hZ]; constructor <;> intro h <;> linarith
theorem lin_eq_zero_iff {A Z x : ℝ} (hZ : Z ≠ 0) : A + x * Z = 0 ↔ x = -A / Z := by
  rw [eq_div_iff hZ]; constructor <;> intro h <;> linarith

open Classical in
theorem convex_count (A Z : ε → ℝ) (R : ε → Prop) (E : List ε)
    (F0 : ∀ e ∈ E, R e → Z e ≠ 0)
    (F1 : ∀ e ∈ E, R e → ∀ e' ∈ E, 0 ≤ A e' + (-A e / Z e) * Z e')
    (F2 : E.Pairwise (fun e e' => R e → R e' → 0 < A e' + (-A e / Z e) * Z e' ∧ 0 < A e + (-A e' / Z e') * Z e))
    (F3 : ∀ e ∈ E, Z e ≠ 0 → (∀ e' ∈ E, 0 ≤ A e' + (-A e / Z e) * Z e') → R e)
    (F4 : (∃ e ∈ E, 0 < Z e) ∧ (∃ e ∈ E, Z e < 0))
    (τ : ℝ) (hnb : (∀ e ∈ E, 0 ≤ A e + τ * Z e) → ∀ e ∈ E, 0 < A e + τ * Z e) :
    Odd (E.countP (fun e => decide (R e ∧ -A e / Z e < τ))) ↔ ∀ e ∈ E, 0 < A e + τ * Z e := by
  set t : ε → ℝ := fun e => -A e / Z e
  -- split according to the sign of `Z`
  set Pp : ε → Bool := fun e => decide (R e ∧ t e < τ) && decide (0 < Z e) with hPp
  set Pm : ε → Bool := fun e => decide (R e ∧ t e < τ) && !decide (0 < Z e) with hPm
  have hsplit : E.countP (fun e => decide (R e ∧ t e < τ)) = E.countP Pp + E.countP Pm := by
    rw [List.countP_eq_countP_filter_add E _ (fun e => decide (0 < Z e)), List.countP_filter, List.countP_filter]
  have hPp_iff : ∀ e, Pp e = true ↔ R e ∧ t e < τ ∧ 0 < Z e := by
    intro e; simp [hPp, and_assoc]
  have hPm_iff : ∀ e ∈ E, Pm e = true ↔ R e ∧ t e < τ ∧ Z e < 0 := by
    intro e he; simp only [hPm, Bool.and_eq_true, decide_eq_true_iff, Bool.not_eq_true', decide_eq_false_iff_not]
    constructor
    · rintro ⟨⟨h1, h2⟩, h3⟩
      exact ⟨h1, h2, lt_of_le_of_ne (not_lt.mp h3) (F0 e he h1)⟩
    · rintro ⟨h1, h2, h3⟩
      exact ⟨⟨h1, h2⟩, not_lt.mpr h3.le⟩
  -- equations between functions, which every `linarith` below would try to read as an order fact
  clear hPp hPm
  have hp1 : E.countP Pp ≤ 1 := by
    apply countP_le_one_of_pairwise
    refine F2.imp_of_mem ?_
    intro a b ha hb hab ⟨h1, h2⟩
    rw [hPp_iff] at h1 h2
    obtain ⟨g1, g2⟩ := hab h1.1 h2.1
    rw [lin_pos_iff_of_pos h2.2.2] at g1
    rw [lin_pos_iff_of_pos h1.2.2] at g2
    linarith
  have hm1 : E.countP Pm ≤ 1 := by
    apply countP_le_one_of_pairwise
    refine F2.imp_of_mem ?_
    intro a b ha hb hab ⟨h1, h2⟩
    rw [hPm_iff a ha] at h1
    rw [hPm_iff b hb] at h2
    obtain ⟨g1, g2⟩ := hab h1.1 h2.1
    rw [lin_pos_iff_of_neg h2.2.2] at g1
    rw [lin_pos_iff_of_neg h1.2.2] at g2
    linarith
  -- as soon as the closed set `{x | ∀ e, 0 ≤ A e + x · Z e}` has a point `x`, its two ends are meeting points:
  -- the largest of the lower bounds `t e` (`0 < Z e`) and the smallest of the upper bounds `t e` (`Z e < 0`)
  have lower : ∀ x, (∀ e ∈ E, 0 ≤ A e + x * Z e) → ∃ e ∈ E, R e ∧ 0 < Z e ∧ t e ≤ x := by
    intro x hx
    obtain ⟨e0, he0, hZ0, hmax⟩ := exists_max_on E t (fun e => 0 < Z e) F4.1
    have h0x : t e0 ≤ x := (lin_nonneg_iff_of_pos hZ0).mp (hx e0 he0)
    refine ⟨e0, he0, F3 e0 he0 hZ0.ne' fun e' he' => ?_, hZ0, h0x⟩
    rcases lt_trichotomy (Z e') 0 with hz | hz | hz
    · exact (lin_nonneg_iff_of_neg hz).mpr (h0x.trans ((lin_nonneg_iff_of_neg hz).mp (hx e' he')))
    · have := hx e' he'; rw [hz] at this ⊢; simpa using this
    · exact (lin_nonneg_iff_of_pos hz).mpr (hmax e' he' hz)
  have upper : ∀ x, (∀ e ∈ E, 0 ≤ A e + x * Z e) → ∃ e ∈ E, R e ∧ Z e < 0 ∧ x ≤ t e := by
    intro x hx
    obtain ⟨e0, he0, hZ0, hmin⟩ := exists_min_on E t (fun e => Z e < 0) F4.2
    have h0x : x ≤ t e0 := (lin_nonneg_iff_of_neg hZ0).mp (hx e0 he0)
    refine ⟨e0, he0, F3 e0 he0 hZ0.ne fun e' he' => ?_, hZ0, h0x⟩
    rcases lt_trichotomy (Z e') 0 with hz | hz | hz
    · exact (lin_nonneg_iff_of_neg hz).mpr (hmin e' he' hz)
    · have := hx e' he'; rw [hz] at this ⊢; simpa using this
    · exact (lin_nonneg_iff_of_pos hz).mpr (((lin_nonneg_iff_of_pos hz).mp (hx e' he')).trans h0x)
  rw [hsplit]
  constructor
  ·
    intro hodd
    by_contra hout
    have hout2 : ¬ ∀ e ∈ E, 0 ≤ A e + τ * Z e := fun h => hout (hnb h)
    push Not at hout2
    obtain ⟨j, hj, hjlt⟩ := hout2
    have hiff : (0 < E.countP Pp) ↔ (0 < E.countP Pm) := by
      rw [List.countP_pos_iff, List.countP_pos_iff]
      constructor
      · rintro ⟨e, he, hPe⟩
        rw [hPp_iff] at hPe
        obtain ⟨hR, hlt, hZ⟩ := hPe
        have hZj : Z j < 0 := by
          have h1 := F1 e he hR j hj
          by_contra hc
          have hc' : 0 ≤ Z j := not_lt.mp hc
          have : 0 ≤ τ * Z j - t e * Z j := by rw [← sub_mul]; exact mul_nonneg (by linarith) hc'
          linarith
        have hjτ : t j < τ := by
          have : ¬ 0 ≤ A j + τ * Z j := not_le.mpr hjlt
          rw [lin_nonneg_iff_of_neg hZj] at this
          exact not_le.mp this
        -- the upper end is a meeting point, in the closed set, hence below the bound of `j`
        obtain ⟨e1, he1, hR1, hZ1, -⟩ := upper (t e) (F1 e he hR)
        have h1j : t e1 ≤ t j := (lin_nonneg_iff_of_neg hZj).mp (F1 e1 he1 hR1 j hj)
        exact ⟨e1, he1, (hPm_iff e1 he1).mpr ⟨hR1, h1j.trans_lt hjτ, hZ1⟩⟩
      · rintro ⟨e, he, hPe⟩
        rw [hPm_iff e he] at hPe
        obtain ⟨hR, hlt, hZ⟩ := hPe
        obtain ⟨e0, he0, hR0, hZ0, h0⟩ := lower (t e) (F1 e he hR)
        exact ⟨e0, he0, (hPp_iff e0).mpr ⟨hR0, h0.trans_lt hlt, hZ0⟩⟩
    rw [Nat.odd_iff] at hodd
    omega
  · intro hin
    obtain ⟨e0, he0, hR0, hZ0, _⟩ := lower τ fun e he => (hin e he).le
    have hp : 0 < E.countP Pp := by
      rw [List.countP_pos_iff]
      exact ⟨e0, he0, (hPp_iff e0).mpr ⟨hR0, (lin_pos_iff_of_pos hZ0).mp (hin e0 he0), hZ0⟩⟩
    have hm : E.countP Pm = 0 := by
      rw [List.countP_eq_zero]
      intro e he hPe
      rw [hPm_iff e he] at hPe
      have g2 := hin e he; rw [lin_pos_iff_of_neg hPe.2.2] at g2
      linarith [hPe.2.1]
    rw [Nat.odd_iff]
    omega

end abstractCount

theorem crossesSouth_iff_meetsV (u w p : Coo ℝ) (hp : p.NonPole) :
    CrossesSouth u w p ↔ ∃ τ : ℝ, MeetsV u w p.lon τ ∧ τ < tan p.lat := by
  constructor
  · rintro ⟨β, hβ1, hβ2, hm, hlt⟩
    exact ⟨tan β, (arcMeets_iff_meetsV u w _ β hβ1 hβ2).mp hm, tan_lt_tan_of_lt_of_lt_pi_div_two hβ1 hp.2 hlt⟩
  · rintro ⟨τ, hm, hlt⟩
    refine ⟨arctan τ, neg_pi_div_two_lt_arctan τ, arctan_lt_pi_div_two τ, (meetsV_iff_arcMeets u w _ τ).mp hm, ?_⟩
    have := arctan_strictMono hlt
    rwa [arctan_tan hp.1 hp.2] at this

/-- components of the inward normal `o · (u × w)` seen from the meridian `l` -/
noncomputable def edgeA (o l : ℝ) (e : Coo ℝ × Coo ℝ) : ℝ :=
  o * ((cross e.1 e.2).1 * cos l + (cross e.1 e.2).2.1 * sin l)
noncomputable def edgeZ (o : ℝ) (e : Coo ℝ × Coo ℝ) : ℝ := o * (cross e.1 e.2).2.2

theorem lin_of_meetsV {u w : Coo ℝ} {l τ : ℝ} (s t : ℝ) (ex : s * u.x + t * w.x = cos l) (ey : s * u.y + t * w.y = sin l)
    (ez : s * u.z + t * w.z = τ) (o : ℝ) (e' : Coo ℝ × Coo ℝ) :
    edgeA o l e' + τ * edgeZ o e' = s * (o * dot u (cross e'.1 e'.2)) + t * (o * dot w (cross e'.1 e'.2)) := by
  unfold edgeA edgeZ
  linear_combination (-o) * dot_combo ex ey ez (cross e'.1 e'.2)

theorem lin_self_of_meetsV {u w : Coo ℝ} {l τ : ℝ} (s t : ℝ) (ex : s * u.x + t * w.x = cos l)
    (ey : s * u.y + t * w.y = sin l) (ez : s * u.z + t * w.z = τ) (o : ℝ) : edgeA o l (u, w) + τ * edgeZ o (u, w) = 0 := by
  rw [lin_of_meetsV s t ex ey ez, dot_cross_left, dot_cross_right]; ring

theorem dot_eq_lin {p : Coo ℝ} (hp : p.Valid) (hpn : p.NonPole) (o : ℝ) (e : Coo ℝ × Coo ℝ) :
    o * dot p (cross e.1 e.2) = cos p.lat * (edgeA o p.lon e + tan p.lat * edgeZ o e) := by
  have hc := hpn.cos_pos
  unfold edgeA edgeZ dot
  rw [hp.hx, hp.hy, hp.hz, tan_eq_sin_div_cos]; field_simp

theorem dot_pos_iff_lin {p : Coo ℝ} (hp : p.Valid) (hpn : p.NonPole) (o : ℝ) (e : Coo ℝ × Coo ℝ) :
    0 < o * dot p (cross e.1 e.2) ↔ 0 < edgeA o p.lon e + tan p.lat * edgeZ o e := by
  rw [dot_eq_lin hp hpn, mul_pos_iff_of_pos_left hpn.cos_pos]

theorem dot_nonneg_iff_lin {p : Coo ℝ} (hp : p.Valid) (hpn : p.NonPole) (o : ℝ) (e : Coo ℝ × Coo ℝ) :
    0 ≤ o * dot p (cross e.1 e.2) ↔ 0 ≤ edgeA o p.lon e + tan p.lat * edgeZ o e := by
  rw [dot_eq_lin hp hpn, mul_nonneg_iff_of_pos_left hpn.cos_pos]

theorem horiz_solve (u w : Coo ℝ) (l : ℝ) (hZ : (cross u w).2.2 ≠ 0) :
    ∃ s t : ℝ, s * u.x + t * w.x = cos l ∧ s * u.y + t * w.y = sin l := by
  have hZ' : u.x * w.y - u.y * w.x ≠ 0 := hZ
  exact ⟨(w.y * cos l - w.x * sin l) / (u.x * w.y - u.y * w.x), (u.x * sin l - u.y * cos l) / (u.x * w.y - u.y * w.x),
    by rw [div_mul_eq_mul_div, div_mul_eq_mul_div, ← add_div, div_eq_iff hZ']; ring,
    by rw [div_mul_eq_mul_div, div_mul_eq_mul_div, ← add_div, div_eq_iff hZ']; ring⟩

theorem lon_eq_of_dir {w : Coo ℝ} (hw : w.Valid) (hwn : w.NonPole) (l : ℝ) (hl0 : 0 ≤ l) (hl1 : l < 2 * π) (t : ℝ)
    (ht : 0 ≤ t) (ex : t * w.x = cos l) (ey : t * w.y = sin l) : l = w.lon := by
  by_contra hne
  have hc := hwn.cos_pos
  rw [hw.hx] at ex
  rw [hw.hy] at ey
  have hs : sin (l - w.lon) = 0 := by rw [sin_sub, ← ex, ← ey]; ring
  have hcos : cos (l - w.lon) = t * cos w.lat := by
    rw [cos_sub, ← ex, ← ey]
    have := sin_sq_add_cos_sq w.lon
    linear_combination (t * cos w.lat) * this
  have := sin_eq_zero_cos (x := l - w.lon) (by linarith [hw.lon1]) (by linarith [hw.lon0]) hs (sub_ne_zero.mpr hne)
  rw [hcos] at this
  have : 0 ≤ t * cos w.lat := by positivity
  linarith

open Classical in
/-- **the crossing count of a convex edge list.**  `o · (u × w)` is the inward normal.  `C1`: every vertex is in every
    closed half-space; `C2` (strict convexity): two different edges have no common great circle through both end points of
    one of them; `C3`: each end point of an edge is strictly inside the half-space of a neighbouring edge that contains
    the other end point; `F4`: neither pole is in the closed polygon; `hnb`: `p` is not on the boundary of the polygon. -/
theorem count_convex (E : List (Coo ℝ × Coo ℝ)) (o : ℝ) (ho0 : o ≠ 0)
    (hv : ∀ e ∈ E, (e.1.Valid ∧ e.1.NonPole) ∧ (e.2.Valid ∧ e.2.NonPole))
    (C1 : ∀ e ∈ E, ∀ e' ∈ E, 0 ≤ o * dot e.1 (cross e'.1 e'.2) ∧ 0 ≤ o * dot e.2 (cross e'.1 e'.2))
    (C2 : E.Pairwise (fun e e' =>
      (0 < o * dot e.1 (cross e'.1 e'.2) ∨ 0 < o * dot e.2 (cross e'.1 e'.2)) ∧
      (0 < o * dot e'.1 (cross e.1 e.2) ∨ 0 < o * dot e'.2 (cross e.1 e.2))))
    (C3 : ∀ e ∈ E, (∃ e' ∈ E, 0 < o * dot e.1 (cross e'.1 e'.2) ∧ dot e.2 (cross e'.1 e'.2) = 0) ∧
      (∃ e' ∈ E, 0 < o * dot e.2 (cross e'.1 e'.2) ∧ dot e.1 (cross e'.1 e'.2) = 0))
    (F4 : (∃ e ∈ E, 0 < o * (cross e.1 e.2).2.2) ∧ (∃ e ∈ E, o * (cross e.1 e.2).2.2 < 0))
    (p : Coo ℝ) (hp : p.Valid) (hpn : p.NonPole) (hgen : ∀ e ∈ E, p.lon ≠ e.1.lon ∧ p.lon ≠ e.2.lon)
    (hnb : (∀ e ∈ E, 0 ≤ o * dot p (cross e.1 e.2)) → ∀ e ∈ E, 0 < o * dot p (cross e.1 e.2)) :
    Odd (E.countP (fun e => decide (CrossesSouth e.1 e.2 p))) ↔ ∀ e ∈ E, 0 < o * dot p (cross e.1 e.2) := by
  set l := p.lon with hl
  have F0 : ∀ e ∈ E, ∀ τ, MeetsV e.1 e.2 l τ → edgeZ o e ≠ 0 := by
    intro e he τ hm
    obtain ⟨⟨h1, h1n⟩, ⟨h2, h2n⟩⟩ := hv e he
    have := ((lonRange_iff_meetsV h1 h2 h1n h2n l hp.lon0 hp.lon1 (hgen e he).1 (hgen e he).2).mpr ⟨τ, hm⟩).2
    exact mul_ne_zero ho0 (cross_z_ne_zero h1 h2 h1n h2n this)
  -- the meeting parameter is `-A/Z`, so "the edge meets the meridian" is "it meets it at `-A/Z`"
  have tau_eq : ∀ e ∈ E, ∀ τ, MeetsV e.1 e.2 l τ → τ = -edgeA o l e / edgeZ o e := by
    intro e he τ hm
    have hz := F0 e he τ hm
    obtain ⟨s, t, _, _, ex, ey, ez⟩ := hm
    exact (lin_eq_zero_iff hz).mp (lin_self_of_meetsV s t ex ey ez o)
  have key := convex_count (edgeA o l) (edgeZ o) (fun e => MeetsV e.1 e.2 l (-edgeA o l e / edgeZ o e)) E
    (fun e he => F0 e he _) ?_ ?_ ?_ F4 (tan p.lat) ?_
  ·
    have e1 : E.countP (fun e => decide (CrossesSouth e.1 e.2 p)) = E.countP (fun e =>
        decide (MeetsV e.1 e.2 l (-edgeA o l e / edgeZ o e) ∧ -edgeA o l e / edgeZ o e < tan p.lat)) := by
      apply List.countP_congr
      intro e he
      simp only [decide_eq_true_iff]
      rw [crossesSouth_iff_meetsV _ _ _ hpn]
      constructor
      · rintro ⟨τ, hm, hlt⟩
        obtain rfl := tau_eq e he τ hm
        exact ⟨hm, hlt⟩
      · exact fun ⟨hm, hlt⟩ => ⟨_, hm, hlt⟩
    rw [e1, key]
    exact forall₂_congr fun e _ => (dot_pos_iff_lin hp hpn o e).symm
  ·
    rintro e he ⟨s, t, hs, ht, ex, ey, ez⟩ e' he'
    rw [lin_of_meetsV s t ex ey ez]
    have := C1 e he e' he'
    have h1 := mul_nonneg hs.le this.1
    have h2 := mul_nonneg ht.le this.2
    linarith
  ·
    refine C2.imp_of_mem ?_
    rintro e e' he he' ⟨c1, c2⟩ ⟨s, t, hs, ht, ex, ey, ez⟩ ⟨s', t', hs', ht', ex', ey', ez'⟩
    rw [lin_of_meetsV s t ex ey ez, lin_of_meetsV s' t' ex' ey' ez']
    have a1 := C1 e he e' he'
    have a2 := C1 e' he' e he
    constructor
    · rcases c1 with c | c
      · have := mul_pos hs c; have := mul_nonneg ht.le a1.2; linarith
      · have := mul_pos ht c; have := mul_nonneg hs.le a1.1; linarith
    · rcases c2 with c | c
      · have := mul_pos hs' c; have := mul_nonneg ht'.le a2.2; linarith
      · have := mul_pos ht' c; have := mul_nonneg hs'.le a2.1; linarith
  ·
    intro e he hz hall
    obtain ⟨⟨h1, h1n⟩, ⟨h2, h2n⟩⟩ := hv e he
    obtain ⟨s, t, ex, ey⟩ := horiz_solve e.1 e.2 l (right_ne_zero_of_mul hz)
    have ez := (lin_eq_zero_iff hz).mp (lin_self_of_meetsV s t ex ey rfl o)
    obtain ⟨⟨ep, hep, hep1, hep2⟩, ⟨em, hem, hem1, hem2⟩⟩ := C3 e he
    have hs0 : 0 ≤ s := by
      have := hall ep hep
      rw [lin_of_meetsV s t ex ey ez, hep2, mul_zero, mul_zero, add_zero] at this
      exact nonneg_of_mul_nonneg_left this hep1
    have ht0 : 0 ≤ t := by
      have := hall em hem
      rw [lin_of_meetsV s t ex ey ez, hem2, mul_zero, mul_zero, zero_add] at this
      exact nonneg_of_mul_nonneg_left this hem1
    have hs1 : s ≠ 0 := by
      intro h0
      rw [h0] at ex ey
      exact (hgen e he).2 (lon_eq_of_dir h2 h2n l hp.lon0 hp.lon1 t ht0 (by linarith) (by linarith))
    have ht1 : t ≠ 0 := by
      intro h0
      rw [h0] at ex ey
      exact (hgen e he).1 (lon_eq_of_dir h1 h1n l hp.lon0 hp.lon1 s hs0 (by linarith) (by linarith))
    exact ⟨s, t, lt_of_le_of_ne hs0 (Ne.symm hs1), lt_of_le_of_ne ht0 (Ne.symm ht1), ex, ey, ez⟩
  ·
    intro hall e he
    exact (dot_pos_iff_lin hp hpn o e).mp (hnb (fun e he => (dot_nonneg_iff_lin hp hpn o e).mpr (hall e he)) e he)

open Hpx.Proj

theorem prevIdx_ne {n : Nat} (i : Nat) (hn : 2 ≤ n) : prevIdx n i ≠ i := by unfold prevIdx; split <;> omega

theorem prevIdx_prevIdx {n a b : Nat} (hn : 3 ≤ n) (h : a = prevIdx n b) :
    prevIdx n a ≠ b ∧ prevIdx n a ≠ prevIdx n b := by
  unfold prevIdx at h ⊢; split at h <;> split <;> omega

theorem prevIdx_surj {n a : Nat} (ha : a < n) : ∃ b, b < n ∧ prevIdx n b = a := by
  unfold prevIdx
  by_cases h : a + 1 = n
  · exact ⟨0, by omega, by rw [if_pos rfl]; omega⟩
  · exact ⟨a + 1, by omega, by rw [if_neg (by omega)]; omega⟩

/-- every vertex is strictly inside the half-space of every edge that does not contain it; `o = 1`: the vertices turn
    counter-clockwise (seen from outside the sphere), `o = -1`: clockwise -/
def StrictlyConvex (o : ℝ) (vs : List (Coo ℝ)) : Prop :=
  ∀ i k (hi : i < vs.length) (hk : k < vs.length), k ≠ i → k ≠ prevIdx vs.length i →
    0 < o * dot (vs[k]) (cross (vs[prevIdx vs.length i]'(prevIdx_lt hi)) vs[i])

theorem StrictlyConvex.vertex_edge {o : ℝ} {vs : List (Coo ℝ)} (hc : StrictlyConvex o vs) {v : Coo ℝ} (hv : v ∈ vs)
    {e : Coo ℝ × Coo ℝ} (he : e ∈ edges vs) : 0 ≤ o * dot v (cross e.1 e.2) := by
  obtain ⟨k, hk, rfl⟩ := List.mem_iff_getElem.mp hv
  obtain ⟨i, hi, rfl⟩ := (mem_edges_iff vs e).mp he
  by_cases h1 : k = i
  · subst h1; rw [dot_cross_right]; simp
  · by_cases h2 : k = prevIdx vs.length i
    · subst h2; rw [dot_cross_left]; simp
    · exact (hc i k hi hk h1 h2).le

/-- the three convexity facts of `count_convex` -/
theorem convex_edges {o : ℝ} {vs : List (Coo ℝ)} (hn : 3 ≤ vs.length) (hc : StrictlyConvex o vs) :
    (∀ e ∈ edges vs, ∀ e' ∈ edges vs, 0 ≤ o * dot e.1 (cross e'.1 e'.2) ∧ 0 ≤ o * dot e.2 (cross e'.1 e'.2)) ∧
    (edges vs).Pairwise (fun e e' =>
      (0 < o * dot e.1 (cross e'.1 e'.2) ∨ 0 < o * dot e.2 (cross e'.1 e'.2)) ∧
      (0 < o * dot e'.1 (cross e.1 e.2) ∨ 0 < o * dot e'.2 (cross e.1 e.2))) ∧
    (∀ e ∈ edges vs, (∃ e' ∈ edges vs, 0 < o * dot e.1 (cross e'.1 e'.2) ∧ dot e.2 (cross e'.1 e'.2) = 0) ∧
      (∃ e' ∈ edges vs, 0 < o * dot e.2 (cross e'.1 e'.2) ∧ dot e.1 (cross e'.1 e'.2) = 0)) := by
  have hn2 : 2 ≤ vs.length := by omega
  -- an edge other than the edge `b` has an end point that is not on `b`, hence strictly inside its half-space
  have key : ∀ a b (ha : a < vs.length) (hb : b < vs.length), a ≠ b →
      0 < o * dot (vs[prevIdx vs.length a]'(prevIdx_lt ha)) (cross (vs[prevIdx vs.length b]'(prevIdx_lt hb)) vs[b]) ∨
      0 < o * dot vs[a] (cross (vs[prevIdx vs.length b]'(prevIdx_lt hb)) vs[b]) := by
    intro a b ha hb hab
    by_cases h1 : a = prevIdx vs.length b
    · obtain ⟨g1, g2⟩ := prevIdx_prevIdx hn h1
      exact Or.inl (hc b _ hb (prevIdx_lt ha) g1 g2)
    · exact Or.inr (hc b a hb ha hab h1)
  refine ⟨?_, ?_, ?_⟩
  · exact fun e he e' he' => ⟨hc.vertex_edge (mem_edges he).1 he', hc.vertex_edge (mem_edges he).2 he'⟩
  · rw [List.pairwise_iff_getElem]
    intro a b ha hb hab
    have ha' : a < vs.length := by rwa [edges_length] at ha
    have hb' : b < vs.length := by rwa [edges_length] at hb
    rw [(List.getElem_eq_iff ha).mpr (edges_getElem? vs a ha'), (List.getElem_eq_iff hb).mpr (edges_getElem? vs b hb')]
    exact ⟨key a b ha' hb' hab.ne, key b a hb' ha' hab.ne'⟩
  · intro e he
    obtain ⟨a, ha, rfl⟩ := (mem_edges_iff vs e).mp he
    constructor
    · -- the next edge, which starts where `e` ends
      obtain ⟨b, hb, rfl⟩ := prevIdx_surj ha
      obtain ⟨g1, g2⟩ := prevIdx_prevIdx hn (rfl : prevIdx vs.length b = _)
      exact ⟨_, (mem_edges_iff vs _).mpr ⟨b, hb, rfl⟩, hc b _ hb (prevIdx_lt ha) g1 g2, dot_cross_left _ _⟩
    · -- the previous edge
      obtain ⟨g1, _⟩ := prevIdx_prevIdx hn (rfl : prevIdx vs.length a = _)
      exact ⟨_, (mem_edges_iff vs _).mpr ⟨_, prevIdx_lt ha, rfl⟩,
        hc _ a (prevIdx_lt ha) ha (prevIdx_ne a hn2).symm g1.symm, dot_cross_right _ _⟩

/-- one longitude step of `Basic::contains_south_pole`: the difference `b − a` brought back to `[-π, π]` -/
noncomputable def wrapDiff (a b : ℝ) : ℝ :=
  if |b - a| ≤ π then b - a else if 0 < b - a then -(2 * π - |b - a|) else 2 * π - |b - a|

noncomputable def cspStep (st : ℝ × Nat × Coo ℝ) (vi : Coo ℝ) : ℝ × Nat × Coo ℝ :=
  (st.1 + wrapDiff st.2.2.lon vi.lon, (if vi.lat < 0 then st.2.1 + 1 else st.2.1), vi)

theorem csp_eq (vs : List (Coo ℝ)) : containsSouthPoleBasic vs =
    match vs.getLast? with
    | none => false
    | some last => decide (π < |(vs.foldl cspStep (0, 0, last)).1|) &&
        decide (2 * (vs.foldl cspStep (0, 0, last)).2.1 > vs.length) := by
  unfold containsSouthPoleBasic
  cases vs.getLast? with
  | none => rfl
  | some last =>
    simp only [r_zero, r_gt, r_le, r_lt, r_pi, r_twicePi, r_abs]
    have : (fun (st : ℝ × Nat × Coo ℝ) (vi : Coo ℝ) =>
      match st with
      | (sum, nS, vj) => ((if decide (|vi.lon - vj.lon| ≤ π) = true then sum + (vi.lon - vj.lon)
            else if decide (0 < vi.lon - vj.lon) = true then sum - (2 * π - |vi.lon - vj.lon|)
            else sum + (2 * π - |vi.lon - vj.lon|)), (if decide (vi.lat < 0) = true then nS + 1 else nS), vi)) = cspStep := by
      funext st vi
      obtain ⟨sum, nS, vj⟩ := st
      unfold cspStep wrapDiff
      simp only [decide_eq_true_eq]
      congr 1
      split
      · rfl
      · split <;> ring
    rw [this]

noncomputable def sumWrap (vj : Coo ℝ) : List (Coo ℝ) → ℝ
  | [] => 0
  | v :: r => wrapDiff vj.lon v.lon + sumWrap v r

def lastOf (vj : Coo ℝ) : List (Coo ℝ) → Coo ℝ
  | [] => vj
  | v :: r => lastOf v r

theorem foldl_cspStep_fst (vs : List (Coo ℝ)) (st : ℝ × Nat × Coo ℝ) :
    (vs.foldl cspStep st).1 = st.1 + sumWrap st.2.2 vs := by
  induction vs generalizing st with
  | nil => simp [sumWrap]
  | cons v r ih =>
    rw [List.foldl_cons, ih]
    simp only [cspStep, sumWrap]; ring

theorem lastOf_mem (vj : Coo ℝ) (vs : List (Coo ℝ)) : lastOf vj vs = vj ∨ lastOf vj vs ∈ vs := by
  induction vs generalizing vj with
  | nil => left; rfl
  | cons v r ih =>
    right
    rcases ih v with h | h
    · simp [lastOf, h]
    · simp [lastOf, h]

theorem lastOf_eq_getLast (vj last : Coo ℝ) (vs : List (Coo ℝ)) (h : vs.getLast? = some last) : lastOf vj vs = last := by
  induction vs generalizing vj with
  | nil => simp at h
  | cons v r ih =>
    cases r with
    | nil => simp at h; simp [lastOf, h]
    | cons v' r' =>
      rw [List.getLast?_cons_cons] at h
      simp only [lastOf] at ih ⊢
      exact ih v h

theorem sumWrap_telescope (θ : Coo ℝ → ℝ) (S : Coo ℝ → Prop) (hS : ∀ a b, S a → S b → wrapDiff a.lon b.lon = θ b - θ a)
    (vj : Coo ℝ) (vs : List (Coo ℝ)) (hj : S vj) (hvs : ∀ v ∈ vs, S v) :
    sumWrap vj vs = θ (lastOf vj vs) - θ vj := by
  induction vs generalizing vj with
  | nil => simp [sumWrap, lastOf]
  | cons v r ih =>
    simp only [sumWrap, lastOf]
    rw [ih v (hvs v (by simp)) (fun x hx => hvs x (by simp [hx])), hS vj v hj (hvs v (by simp))]
    ring

theorem wrapDiff_of_lift (a b l0 θa θb : ℝ) (ha : a - l0 = θa ∨ a - l0 = θa + 2 * π)
    (hb : b - l0 = θb ∨ b - l0 = θb + 2 * π) (ha1 : -(π / 2) < θa) (ha2 : θa < π / 2)
    (hb1 : -(π / 2) < θb) (hb2 : θb < π / 2) : wrapDiff a b = θb - θa := by
  have hpi := pi_pos
  unfold wrapDiff
  rcases ha with ha | ha <;> rcases hb with hb | hb
  · have e : b - a = θb - θa := by linarith
    rw [if_pos (by rw [e, abs_le]; constructor <;> linarith), e]
  · have hp : 0 < b - a := by linarith
    rw [if_neg (by rw [abs_of_pos hp]; linarith), if_pos hp, abs_of_pos hp]; linarith
  · have hp : b - a < 0 := by linarith
    rw [if_neg (by rw [abs_of_neg hp]; linarith), if_neg (by linarith), abs_of_neg hp]; linarith
  · have e : b - a = θb - θa := by linarith
    rw [if_pos (by rw [e, abs_le]; constructor <;> linarith), e]

theorem cos_pos_cases (x : ℝ) (h1 : -π ≤ x) (h2 : x < 3 * π) (hc : 0 < cos x) :
    (-(π / 2) < x ∧ x < π / 2) ∨ (3 * π / 2 < x ∧ x < 5 * π / 2) := by
  have hpi := pi_pos
  by_contra hcon
  push Not at hcon
  rcases le_or_gt x (-(π / 2)) with g | g
  · have : cos (-x) ≤ 0 := cos_nonpos_of_pi_div_two_le_of_le (by linarith) (by linarith)
    rw [cos_neg] at this; linarith
  · rcases lt_or_ge x (π / 2) with g2 | g2
    · exact absurd g2 (not_lt.mpr (hcon.1 g))
    · rcases le_or_gt x (3 * π / 2) with g3 | g3
      · have : cos x ≤ 0 := cos_nonpos_of_pi_div_two_le_of_le g2 (by linarith)
        linarith
      · have g4 := hcon.2 g3
        have : cos (x - 2 * π) ≤ 0 := cos_nonpos_of_pi_div_two_le_of_le (by linarith) (by linarith)
        rw [cos_sub_two_pi] at this; linarith

theorem sumWrap_zero_of_halfplane (vs : List (Coo ℝ)) (last : Coo ℝ) (hl : vs.getLast? = some last)
    (hv : ∀ v ∈ vs, v.Valid ∧ v.NonPole) (dx dy : ℝ) (hd : ∀ v ∈ vs, 0 < dx * v.x + dy * v.y) :
    sumWrap last vs = 0 := by
  have hpi := pi_pos
  have hlm : last ∈ vs := List.mem_of_getLast? hl
  set z : ℂ := ⟨dx, dy⟩
  set l0 := Complex.arg z with hl0
  have hre : ‖z‖ * cos l0 = dx := Complex.norm_mul_cos_arg z
  have him : ‖z‖ * sin l0 = dy := Complex.norm_mul_sin_arg z
  have hnorm : 0 ≤ ‖z‖ := norm_nonneg z
  have hl01 : -π < l0 := Complex.neg_pi_lt_arg z
  have hl02 : l0 ≤ π := Complex.arg_le_pi z
  obtain ⟨θ, hθ⟩ : ∃ θ : Coo ℝ → ℝ, ∀ v, θ v = if v.lon - l0 < π / 2 then v.lon - l0 else v.lon - l0 - 2 * π :=
    ⟨_, fun _ => rfl⟩
  have lift : ∀ v ∈ vs, (v.lon - l0 = θ v ∨ v.lon - l0 = θ v + 2 * π) ∧ -(π / 2) < θ v ∧ θ v < π / 2 := by
    intro v hvm
    obtain ⟨hval, hnp⟩ := hv v hvm
    have h := hd v hvm
    rw [← hre, ← him, hval.hx, hval.hy] at h
    have hcos : 0 < cos (v.lon - l0) := by
      have e : ‖z‖ * cos l0 * (cos v.lat * cos v.lon) + ‖z‖ * sin l0 * (cos v.lat * sin v.lon) =
          (‖z‖ * cos v.lat) * cos (v.lon - l0) := by rw [cos_sub]; ring
      rw [e] at h
      have h2 : 0 ≤ ‖z‖ * cos v.lat := mul_nonneg hnorm hnp.cos_pos.le
      by_contra hc
      have : (‖z‖ * cos v.lat) * cos (v.lon - l0) ≤ 0 := mul_nonpos_of_nonneg_of_nonpos h2 (not_lt.mp hc)
      linarith
    rcases cos_pos_cases (v.lon - l0) (by linarith [hval.lon0]) (by linarith [hval.lon1]) hcos with ⟨c1, c2⟩ | ⟨c1, c2⟩
    · rw [hθ, if_pos c2]; exact ⟨Or.inl rfl, c1, c2⟩
    · rw [hθ, if_neg (by linarith)]; exact ⟨Or.inr (by ring), by linarith, by linarith⟩
  have hS : ∀ a b, a ∈ vs → b ∈ vs → wrapDiff a.lon b.lon = θ b - θ a := fun a b ha hb =>
    wrapDiff_of_lift a.lon b.lon l0 (θ a) (θ b) (lift a ha).1 (lift b hb).1 (lift a ha).2.1 (lift a ha).2.2
      (lift b hb).2.1 (lift b hb).2.2
  rw [sumWrap_telescope θ (· ∈ vs) hS last vs hlm (fun v hv => hv), lastOf_eq_getLast last last vs hl]
  ring

theorem csp_false_of_halfplane (vs : List (Coo ℝ)) (hv : ∀ v ∈ vs, v.Valid ∧ v.NonPole) (dx dy : ℝ)
    (hd : ∀ v ∈ vs, 0 < dx * v.x + dy * v.y) : containsSouthPoleBasic vs = false := by
  rw [csp_eq]
  cases hl : vs.getLast? with
  | none => rfl
  | some last =>
    simp only
    rw [foldl_cspStep_fst, sumWrap_zero_of_halfplane vs last hl hv dx dy hd]
    simp [pi_pos.le]

/-- the hypotheses of `contains_convex` on the vertex list.  `o = ±1`: the winding (`1`: counter-clockwise seen from
    outside); `hsouth`, `hnorth`: neither pole is in the closed polygon (the south pole `(0,0,-1)` is outside the half-space
    of some edge: `o · (u × w).z > 0`; north pole: `< 0`). -/
structure ConvexNoPole (o : ℝ) (vs : List (Coo ℝ)) : Prop where
  ho : o = 1 ∨ o = -1
  hn : 3 ≤ vs.length
  hv : ∀ v ∈ vs, v.Valid ∧ v.NonPole
  hconv : StrictlyConvex o vs
  hhemi : ∃ c : ℝ × ℝ × ℝ, ∀ v ∈ vs, 0 < dot v c
  hsouth : ∃ e ∈ edges vs, 0 < o * (cross e.1 e.2).2.2
  hnorth : ∃ e ∈ edges vs, o * (cross e.1 e.2).2.2 < 0

theorem ConvexNoPole.o_ne_zero {o : ℝ} {vs : List (Coo ℝ)} (h : ConvexNoPole o vs) : o ≠ 0 := by
  rcases h.ho with h | h <;> rw [h] <;> norm_num

theorem ConvexNoPole.edge_valid {o : ℝ} {vs : List (Coo ℝ)} (h : ConvexNoPole o vs) {e : Coo ℝ × Coo ℝ} (he : e ∈ edges vs) :
    (e.1.Valid ∧ e.1.NonPole) ∧ (e.2.Valid ∧ e.2.NonPole) :=
  ⟨h.hv _ (mem_edges he).1, h.hv _ (mem_edges he).2⟩

theorem ConvexNoPole.halfplane {o : ℝ} {vs : List (Coo ℝ)} (h : ConvexNoPole o vs) :
    ∃ dx dy : ℝ, ∀ v ∈ vs, 0 < dx * v.x + dy * v.y := by
  obtain ⟨c, hc⟩ := h.hhemi
  -- a combination `α·(inward normal of an edge) + γ·c` with no vertical component, `α ≥ 0`, `γ > 0`
  have key : ∀ e ∈ edges vs, ∀ α γ : ℝ, 0 ≤ α → 0 < γ → α * (o * (cross e.1 e.2).2.2) + γ * c.2.2 = 0 →
      ∀ v ∈ vs, 0 < (α * (o * (cross e.1 e.2).1) + γ * c.1) * v.x + (α * (o * (cross e.1 e.2).2.1) + γ * c.2.1) * v.y := by
    intro e he α γ hα hγ h0 v hv
    have e1 : (α * (o * (cross e.1 e.2).1) + γ * c.1) * v.x + (α * (o * (cross e.1 e.2).2.1) + γ * c.2.1) * v.y =
        α * (o * dot v (cross e.1 e.2)) + γ * dot v c := by
      unfold dot; linear_combination (-v.z) * h0
    rw [e1]
    exact add_pos_of_nonneg_of_pos (mul_nonneg hα (h.hconv.vertex_edge hv he)) (mul_pos hγ (hc v hv))
  rcases lt_trichotomy c.2.2 0 with hz | hz | hz
  · obtain ⟨e, he, hpos⟩ := h.hsouth
    exact ⟨_, _, key e he (-c.2.2) (o * (cross e.1 e.2).2.2) (neg_nonneg.mpr hz.le) hpos (by ring)⟩
  · refine ⟨c.1, c.2.1, fun v hv => ?_⟩
    have h2 := hc v hv
    unfold dot at h2
    rw [hz] at h2
    linarith
  · obtain ⟨e, he, hneg⟩ := h.hnorth
    exact ⟨_, _, key e he c.2.2 (-(o * (cross e.1 e.2).2.2)) hz.le (neg_pos.mpr hneg) (by ring)⟩

theorem ConvexNoPole.csp_false {o : ℝ} {vs : List (Coo ℝ)} (h : ConvexNoPole o vs) : containsSouthPoleBasic vs = false := by
  obtain ⟨dx, dy, hd⟩ := h.halfplane
  exact csp_false_of_halfplane vs h.hv dx dy hd

/-- the horizontal parts of the end points would be opposite, and both are in one open half-plane -/
theorem ConvexNoPole.no_opposite {o : ℝ} {vs : List (Coo ℝ)} (h : ConvexNoPole o vs) (e : Coo ℝ × Coo ℝ) (he : e ∈ edges vs) :
    |e.2.lon - e.1.lon| ≠ π := by
  intro habs
  obtain ⟨dx, dy, hd⟩ := h.halfplane
  obtain ⟨⟨hu, hun⟩, ⟨hw, hwn⟩⟩ := h.edge_valid he
  have h1 := mul_pos hwn.cos_pos (hd _ (mem_edges he).1)
  have h2 := mul_pos hun.cos_pos (hd _ (mem_edges he).2)
  rw [hu.hx, hu.hy] at h1
  rw [hw.hx, hw.hy] at h2
  rcases (abs_eq pi_pos.le).mp habs with g | g
  · rw [show e.2.lon = e.1.lon + π by linarith, cos_add_pi, sin_add_pi] at h2
    linarith
  · rw [show e.2.lon = e.1.lon - π by linarith, cos_sub_pi, sin_sub_pi] at h2
    linarith

/-- **`Polygon::contains` on convex polygons, over the reals.**  For a polygon as built by `Polygon::new` from a strictly
    convex list of at least 3 vertices, in either winding order (`o = 1` counter-clockwise, `o = -1` clockwise), contained
    in an open hemisphere, with no vertex at a pole and neither pole in the closed polygon, and every point `p` of the
    sphere other than the poles, whose meridian passes through no vertex and which is not on the boundary of the polygon
    (`hnb`: in all the closed half-spaces ⇒ in all the open ones; in particular every `p` on no edge's great circle):
    `contains p` is `true` iff `p` is strictly inside the half-space of every edge. -/
theorem contains_convex (poly : Polygon ℝ) (hb : poly.Built) (o : ℝ) (h : ConvexNoPole o poly.vertices)
    (p : Coo ℝ) (hp : p.Valid) (hpn : p.NonPole) (hgen : ∀ v ∈ poly.vertices, p.lon ≠ v.lon)
    (hnb : (∀ e ∈ edges poly.vertices, 0 ≤ o * dot p (cross e.1 e.2)) →
      ∀ e ∈ edges poly.vertices, 0 < o * dot p (cross e.1 e.2)) :
    poly.contains p = true ↔ ∀ e ∈ edges poly.vertices, 0 < o * dot p (cross e.1 e.2) := by
  rw [contains_parity poly hb h.hv h.no_opposite p hp hgen, hb.csp, h.csp_false, Bool.false_xor, oddB_iff]
  obtain ⟨c1, c2, c3⟩ := convex_edges h.hn h.hconv
  refine count_convex (edges poly.vertices) o h.o_ne_zero (fun e he => h.edge_valid he) c1 c2 c3 ⟨h.hsouth, h.hnorth⟩ p hp hpn ?_ hnb
  · intro e he
    have := mem_edges he
    exact ⟨hgen _ this.1, hgen _ this.2⟩

end Hpx.Sph
