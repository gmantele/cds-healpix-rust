/-
The fixed-depth BMOC builder (C15): `sort; dedup`, `largest_lower_cell_sequence_len`, `buff_to_bmoc`, and the whole
`push … to_bmoc` state machine: the result covers exactly the pushed hashes, with the builder's flag.
-/
import HpxVerif.Lemmas.BmocPack
import Mathlib.Tactic.Ring
import Mathlib.Tactic.Linarith

namespace Hpx.Bmoc.Builder

/-! `sort_unstable(); dedup()`: strictness after `dedup` (membership and `≤`-sortedness are in `Lemmas/BmocLists.lean`). -/

theorem dedupAdj_strict : ∀ l : List Nat, l.Pairwise (· ≤ ·) → (dedupAdj l).Pairwise (· < ·)
  | [], _ => by simp [dedupAdj]
  | [x], _ => by simp [dedupAdj]
  | x :: z :: rest, h => by
    have h' := List.pairwise_cons.mp h
    have ih := dedupAdj_strict (z :: rest) h'.2
    unfold dedupAdj
    split
    · exact ih
    · rename_i hne
      refine List.pairwise_cons.mpr ⟨?_, ih⟩
      intro b hb
      have hb' := (Hpx.Bmoc.mem_dedupAdj b (z :: rest)).mp hb
      have hxz : x ≤ z := h'.1 z (by simp)
      have hzb : z ≤ b := by
        rcases List.mem_cons.mp hb' with rfl | hb''
        · exact Nat.le_refl _
        · exact (List.pairwise_cons.mp h'.2).1 b hb''
      have : x ≠ z := by simpa using hne
      omega

/-- `sort_unstable(); dedup()` as modelled (C15) -/
theorem sort_dedup_spec (l : List Nat) :
    (dedupAdj (sortNat l)).Pairwise (· < ·) ∧ ∀ y, y ∈ dedupAdj (sortNat l) ↔ y ∈ l :=
  ⟨dedupAdj_strict _ (Hpx.Bmoc.pairwise_sortNat l), fun y => mem_dedup_sort y l⟩

theorem seqLenAux_spec : ∀ (n i h : Nat) (es : List Nat),
    i ≤ seqLenAux n i h es ∧ seqLenAux n i h es ≤ i + n ∧ seqLenAux n i h es - i ≤ es.length ∧
    es.take (seqLenAux n i h es - i) = List.range' (h + 1) (seqLenAux n i h es - i) := by
  intro n
  induction n with
  | zero => intro i h es; simp [seqLenAux]
  | succ n ih =>
    intro i h es
    cases es with
    | nil => simp [seqLenAux]
    | cons e es =>
      simp only [seqLenAux]
      split
      · simp
      · rename_i he
        have he' : e = h + 1 := by simpa using he
        obtain ⟨i1, i2, i3, i4⟩ := ih (i + 1) (h + 1) es
        generalize seqLenAux n (i + 1) (h + 1) es = r at *
        have hr : r - i = (r - (i + 1)) + 1 := by omega
        refine ⟨by omega, by omega, by simp only [List.length_cons]; omega, ?_⟩
        rw [hr, List.take_succ_cons, i4, he', List.range'_succ]

/-- `4^min(tz h / 2, depth)` is the size of the largest cell that may start at `h` -/
theorem seqLen_spec (depth h : Nat) (rest : List Nat) :
    1 ≤ largestLowerCellSequenceLen depth h (h :: rest) ∧
    largestLowerCellSequenceLen depth h (h :: rest) ≤ 4 ^ (min (tz64 h / 2) depth) ∧
    largestLowerCellSequenceLen depth h (h :: rest) ≤ (h :: rest).length ∧
    (h :: rest).take (largestLowerCellSequenceLen depth h (h :: rest)) =
      List.range' h (largestLowerCellSequenceLen depth h (h :: rest)) := by
  unfold largestLowerCellSequenceLen
  simp only [shl_eq_mul, Nat.one_mul, List.length_cons, List.tail_cons]
  rw [show tz64 h >>> 1 = tz64 h / 2 by rw [Nat.shiftRight_eq_div_pow]]
  have hp : 1 ≤ 4 ^ (min (tz64 h / 2) depth) := Nat.pow_pos (by decide)
  generalize 4 ^ (min (tz64 h / 2) depth) = M at *
  split
  · rename_i hn
    have hn1 : min M (rest.length + 1) = 1 := by omega
    rw [hn1]
    refine ⟨by omega, by omega, by omega, by simp⟩
  · rename_i hn
    obtain ⟨s1, s2, s3, s4⟩ := seqLenAux_spec (min M (rest.length + 1) - 1) 1 h rest
    generalize seqLenAux (min M (rest.length + 1) - 1) 1 h rest = r at *
    refine ⟨s1, by omega, by omega, ?_⟩
    have hr : r = (r - 1) + 1 := by omega
    rw [hr, List.take_succ_cons, s4, List.range'_succ]

theorem tzAux_dvd : ∀ (f x : Nat), 2 ^ tzAux f x ∣ x := by
  intro f
  induction f with
  | zero => intro x; simp [tzAux]
  | succ f ih =>
    intro x
    simp only [tzAux]
    split
    · simp
    · rename_i hx
      obtain ⟨k, hk⟩ := ih (x / 2)
      refine ⟨k, ?_⟩
      rw [Nat.pow_add, Nat.pow_one, Nat.mul_assoc, ← hk]; omega

/-- `2^trailing_zeros(h)` divides `h` (trivially for `h = 0`, where `trailing_zeros = 64`) -/
theorem two_pow_tz64_dvd (h : Nat) (hlt : h < 2 ^ 64) : 2 ^ tz64 h ∣ h := by
  unfold tz64
  rw [Nat.mod_eq_of_lt hlt]
  split
  · rename_i h0; rw [h0]; exact Nat.dvd_zero _
  · exact tzAux_dvd 64 h

theorem four_pow_dvd_of_le_tz {h dd : Nat} (hlt : h < 2 ^ 64) (hdd : dd ≤ tz64 h / 2) : 4 ^ dd ∣ h := by
  have h1 : (4 : Nat) ^ dd = 2 ^ (2 * dd) := by rw [Nat.pow_mul]
  rw [h1]
  exact Nat.dvd_trans (Nat.pow_dvd_pow 2 (by omega)) (two_pow_tz64_dvd h hlt)

theorem nextPow2_spec (n : Nat) (hn : 1 ≤ n) :
    ∃ e, nextPow2 n = 2 ^ e ∧ n ≤ 2 ^ e ∧ (n < 2 ^ e → 1 ≤ e ∧ 2 ^ (e - 1) < n) := by
  unfold nextPow2
  split
  · exact ⟨0, rfl, by omega, by intro h; omega⟩
  · rename_i h1
    refine ⟨(n - 1).log2 + 1, rfl, ?_, ?_⟩
    · have := Nat.lt_log2_self (n := n - 1); omega
    · intro _
      have := Nat.log2_self_le (n := n - 1) (by omega)
      refine ⟨by omega, ?_⟩
      rw [Nat.add_sub_cancel]; omega

theorem tz64_two_pow (e : Nat) (he : e < 64) : tz64 (2 ^ e) = e := by
  have := tz64_odd_mul e 1 (by decide) (by rw [Nat.one_mul]; exact Nat.pow_lt_pow_right (by decide) he)
  rwa [Nat.one_mul] at this

theorem two_pow_le_four_pow29 {e : Nat} (h : 2 ^ e ≤ 4 ^ 29) : e ≤ 58 := by
  have : (4 : Nat) ^ 29 = 2 ^ 58 := by decide
  rw [this] at h
  exact (Nat.pow_le_pow_iff_right (by decide)).1 h

/-- the `delta_depth` chosen by `buff_to_bmoc` for a run of length `sl`: its cell is not longer than the run
    (both arms of the `next_power_of_two` trick) -/
theorem dd_choice (sl : Nat) (h1 : 1 ≤ sl) (h2 : sl ≤ 4 ^ 29) :
    4 ^ (if nextPow2 sl > sl then tz64 (nextPow2 sl) >>> 2 else tz64 (nextPow2 sl) >>> 1) ≤ sl := by
  obtain ⟨e, he, hle, hlt⟩ := nextPow2_spec sl h1
  rw [he]
  have h4 : ∀ k : Nat, (4 : Nat) ^ k = 2 ^ (2 * k) := fun k => by rw [Nat.pow_mul]
  split
  · rename_i hgt
    obtain ⟨e1, e2⟩ := hlt hgt
    have he58 : e - 1 ≤ 58 := two_pow_le_four_pow29 (by omega)
    rw [tz64_two_pow e (by omega), Nat.shiftRight_eq_div_pow, h4]
    have : 2 ^ (2 * (e / 2 ^ 2)) ≤ 2 ^ (e - 1) := Nat.pow_le_pow_right (by decide) (by omega)
    omega
  · rename_i hng
    have heq : sl = 2 ^ e := by omega
    have he58 : e ≤ 58 := two_pow_le_four_pow29 (by omega)
    rw [tz64_two_pow e (by omega), Nat.shiftRight_eq_div_pow, h4, heq]
    exact Nat.pow_le_pow_right (by decide) (by omega)

theorem step_facts (depth h : Nat) (rest : List Nat) (hd : depth ≤ 29) (hh : h < 12 * 4 ^ depth)
    (sl : Nat) (hsl : sl = largestLowerCellSequenceLen depth h (h :: rest))
    (dd : Nat) (hdd : dd = if nextPow2 sl > sl then tz64 (nextPow2 sl) >>> 2 else tz64 (nextPow2 sl) >>> 1) :
    dd ≤ depth ∧ 4 ^ dd ∣ h ∧ 4 ^ dd ≤ sl ∧ (h :: rest).take sl = List.range' h sl ∧
    h / 4 ^ dd < 12 * 4 ^ (depth - dd) := by
  obtain ⟨s1, s2, s3, s4⟩ := seqLen_spec depth h rest
  rw [← hsl] at s1 s2 s3 s4
  have hm : 4 ^ (min (tz64 h / 2) depth) ≤ 4 ^ 29 := Nat.pow_le_pow_right (by decide) (by omega)
  have hc := dd_choice sl s1 (by omega)
  rw [← hdd] at hc
  have hle : dd ≤ min (tz64 h / 2) depth := (Nat.pow_le_pow_iff_right (by decide)).1 (Nat.le_trans hc s2)
  have hdvd : 4 ^ dd ∣ h := four_pow_dvd_of_le_tz (Nat.lt_trans hh (Nat.lt_trans (twelve_pow_lt depth hd) (by decide))) (by omega)
  refine ⟨by omega, hdvd, hc, s4, ?_⟩
  apply Nat.div_lt_of_lt_mul
  have e : 4 ^ depth = 4 ^ dd * 4 ^ (depth - dd) := by rw [← Nat.pow_add]; congr 1; omega
  rw [e] at hh
  calc h < 12 * (4 ^ dd * 4 ^ (depth - dd)) := hh
    _ = 4 ^ dd * (12 * 4 ^ (depth - dd)) := by ring

theorem buffLoop_spec (depth : Nat) (flag : Bool) (hd : depth ≤ 29) : ∀ (fuel : Nat) (buf : List Nat),
    buf.length < fuel → buf.Pairwise (· < ·) → (∀ x ∈ buf, x < 12 * 4 ^ depth) →
    (∀ r ∈ buffToBmocLoop depth flag fuel buf, ValidRaw depth r) ∧
    (∀ B, (∀ x ∈ buf, B ≤ x) → From depth B (cellsOf depth (buffToBmocLoop depth flag fuel buf))) ∧
    ∀ x, stOf depth (cellsOf depth (buffToBmocLoop depth flag fuel buf)) x =
      if x ∈ buf then Tri.ofFlag flag else .abs := by
  intro fuel
  induction fuel with
  | zero => intro buf h; omega
  | succ fuel ih =>
    intro buf hlen hpw hlt
    cases buf with
    | nil => simp [buffToBmocLoop, cellsOf, From.nil, stOf]
    | cons h rest =>
      simp only [buffToBmocLoop]
      generalize hsl : largestLowerCellSequenceLen depth h (h :: rest) = sl
      generalize hdd : (if nextPow2 sl > sl then tz64 (nextPow2 sl) >>> 2 else tz64 (nextPow2 sl) >>> 1) = dd
      obtain ⟨f1, f2, f3, f5, f6⟩ := step_facts depth h rest hd (hlt h (by simp)) sl hsl.symm dd hdd.symm
      rw [shl_eq_mul, Nat.one_mul, shr_eq_div]
      have hpos : 1 ≤ 4 ^ dd := Nat.pow_pos (by decide)
      -- the buffer is `h, h+1, …, h+4^dd-1` followed by the rest
      have htake : (h :: rest).take (4 ^ dd) = List.range' h (4 ^ dd) := by
        have : (h :: rest).take (4 ^ dd) = ((h :: rest).take sl).take (4 ^ dd) := by
          rw [List.take_take, Nat.min_eq_left f3]
        rw [this, f5, List.take_range'_of_length_ge f3]
      have hsplit : h :: rest = List.range' h (4 ^ dd) ++ (h :: rest).drop (4 ^ dd) := by
        rw [← htake, List.take_append_drop]
      generalize hR : (h :: rest).drop (4 ^ dd) = R at hsplit ⊢
      have hRlen : R.length < fuel := by
        rw [← hR, List.length_drop]; simp only [List.length_cons] at hlen ⊢; omega
      rw [hsplit] at hpw hlt
      obtain ⟨_, hpwR, hcross⟩ := List.pairwise_append.1 hpw
      have hRge : ∀ x ∈ R, h + 4 ^ dd ≤ x := by
        intro x hx
        have := hcross (h + 4 ^ dd - 1) (by rw [List.mem_range'_1]; omega) x hx
        omega
      obtain ⟨i1, i3, i5⟩ := ih R hRlen hpwR (fun x hx => hlt x (by simp [hx]))
      have hdec : decode (buildRaw (depth - dd) (h / 4 ^ dd) flag depth) depth = ⟨depth - dd, h / 4 ^ dd, flag⟩ :=
        decode_buildRaw _ _ _ _ (by omega) (raw_fits (by omega) hd f6)
      have hlo : lo depth ⟨depth - dd, h / 4 ^ dd, flag⟩ = h := by
        show h / 4 ^ dd * 4 ^ (depth - (depth - dd)) = h
        rw [show depth - (depth - dd) = dd by omega]; exact Nat.div_mul_cancel f2
      have hhi : hi depth ⟨depth - dd, h / 4 ^ dd, flag⟩ = h + 4 ^ dd := by
        show (h / 4 ^ dd + 1) * 4 ^ (depth - (depth - dd)) = h + 4 ^ dd
        rw [show depth - (depth - dd) = dd by omega, Nat.add_mul, Nat.div_mul_cancel f2, Nat.one_mul]
      rw [cellsOf_cons, hdec]
      refine ⟨?_, ?_, ?_⟩
      · intro r hr
        rcases List.mem_cons.1 hr with rfl | hr
        · exact validRaw_buildRaw flag (by omega) f6
        · exact i1 r hr
      · intro B hB
        refine From.cons (by show depth - dd ≤ depth; omega) ?_ (by rw [hhi]; exact i3 _ hRge)
        rw [hlo]; exact hB h (by rw [hsplit, List.mem_append, List.mem_range'_1]; left; omega)
      · intro x
        rw [stOf_cons, hlo, hhi, i5 x, hsplit]
        by_cases hx : h ≤ x ∧ x < h + 4 ^ dd
        · have : x ∈ List.range' h (4 ^ dd) ++ R := by rw [List.mem_append, List.mem_range'_1]; left; exact hx
          rw [if_pos hx, if_pos this]
        · rw [if_neg hx]
          have : x ∈ List.range' h (4 ^ dd) ++ R ↔ x ∈ R := by
            rw [List.mem_append, List.mem_range'_1]
            exact ⟨fun h' => h'.resolve_left hx, Or.inr⟩
          simp only [this]

def GoodBmoc (D : Nat) (A : BMOC) : Prop := (∀ r ∈ A.entries, ValidRaw D r) ∧ WF D A.cells

theorem buffToBmoc_sem (depth : Nat) (flag : Bool) (hd : depth ≤ 29) (buf : List Nat) (hpw : buf.Pairwise (· < ·))
    (hlt : ∀ x ∈ buf, x < 12 * 4 ^ depth) :
    (buffToBmoc depth flag buf).dmax = depth ∧
    (∀ r ∈ (buffToBmoc depth flag buf).entries, ValidRaw depth r) ∧
    WF depth (buffToBmoc depth flag buf).cells ∧
    (∀ c ∈ (buffToBmoc depth flag buf).cells, c.full = flag) ∧
    ∀ x, stOf depth (buffToBmoc depth flag buf).cells x = if x ∈ buf then Tri.ofFlag flag else .abs := by
  obtain ⟨h1, h2, h5⟩ := buffLoop_spec depth flag hd (buf.length + 1) buf (Nat.lt_succ_self _) hpw hlt
  have hw := (h2 0 (fun _ _ => Nat.zero_le _)).1
  exact ⟨rfl, h1, hw, flags_of_sem hw (fun x => (h5 x).symm ▸ by split <;> simp), h5⟩

theorem buffToBmoc_good (depth : Nat) (flag : Bool) (hd : depth ≤ 29) (buf : List Nat) (hpw : buf.Pairwise (· < ·))
    (hlt : ∀ x ∈ buf, x < 12 * 4 ^ depth) : GoodBmoc depth (buffToBmoc depth flag buf) :=
  ⟨(buffToBmoc_sem depth flag hd buf hpw hlt).2.1, (buffToBmoc_sem depth flag hd buf hpw hlt).2.2.1⟩

/-- the specification of `or` assumed by `fixed_builder_sem` (the builder merges its intermediate BMOCs with `or`); it follows
    from `packedOp_spec` of `BmocOrXor.lean`, and the assumption is discharged in `Props/C15.lean` (`or_spec_holds`) -/
def OrSpec : Prop :=
  ∀ (A B : BMOC) (D : Nat), D ≤ 29 → A.dmax = D → B.dmax = D → GoodBmoc D A → GoodBmoc D B →
    ∃ R, BMOC.or A B = some R ∧ R.dmax = D ∧ GoodBmoc D R ∧
      ∀ x, x < 12 * 4 ^ D → stOf D R.cells x = Tri.max (stOf D A.cells x) (stOf D B.cells x)

/-- run a sequence of `push(hash)` calls; the Boolean says whether `len == capacity` held after that push -/
def runPushes : FixedBuilder → List (Nat × Bool) → Option FixedBuilder
  | s, [] => some s
  | s, (h, d) :: ps => (s.push h d).bind (fun s' => runPushes s' ps)

/-- `BMOCBuilderFixedDepth::with_capacity(depth, flag, _)`, the pushes, then `to_bmoc()`;
    `none` = panic, `some none` = `None` returned -/
def runBuilder (depth : Nat) (flag : Bool) (ps : List (Nat × Bool)) : Option (Option BMOC) :=
  (runPushes (FixedBuilder.init depth flag) ps).bind FixedBuilder.toBmoc

def stB (depth : Nat) (s : FixedBuilder) (x : Nat) : Tri :=
  match s.bmoc with | none => .abs | some m => stOf depth m.cells x

theorem stOf_abs_of_ge {D : Nat} (hD : D ≤ 29) {l : List Nat} (hv : ∀ r ∈ l, ValidRaw D r) {x : Nat}
    (hx : 12 * 4 ^ D ≤ x) : stOf D (cellsOf D l) x = .abs := by
  apply stOf_absent_of_ge
  intro c hc
  obtain ⟨h1, h2⟩ := inRange_of_validRaw hD hv c hc
  exact Nat.le_trans ((hi_le_iff_inRange h1).2 h2) hx

/-- the invariant of the builder after pushing the hashes `S` -/
structure Inv (depth : Nat) (flag : Bool) (s : FixedBuilder) (S : List Nat) : Prop where
  hdepth : s.depth = depth
  hfull : s.full = flag
  hbuf : ∀ x ∈ s.buffer, x < 12 * 4 ^ depth
  /-- while `sorted` is set the buffer is strictly increasing (so it may be used without `sort; dedup`) -/
  hsorted : s.sorted = true → s.buffer.Pairwise (· < ·)
  hbmoc : ∀ m, s.bmoc = some m → m.dmax = depth ∧ GoodBmoc depth m
  hsem : ∀ x, x ∈ S ↔ (x ∈ s.buffer ∨ stB depth s x ≠ .abs)
  hflag : ∀ x, stB depth s x = .abs ∨ stB depth s x = Tri.ofFlag flag
  hne : S ≠ [] → (s.buffer ≠ [] ∨ s.bmoc ≠ none)

theorem Inv.init (depth : Nat) (flag : Bool) : Inv depth flag (FixedBuilder.init depth flag) [] where
  hdepth := rfl
  hfull := rfl
  hbuf := by intro x hx; simp [FixedBuilder.init] at hx
  hsorted := by intro _; simp [FixedBuilder.init]
  hbmoc := by intro m hm; simp [FixedBuilder.init] at hm
  hsem := by intro x; simp [FixedBuilder.init, stB]
  hflag := by intro x; left; rfl
  hne := by intro h; exact absurd rfl h

theorem Inv.merged {depth : Nat} {flag : Bool} {s : FixedBuilder} {S buf : List Nat} (inv : Inv depth flag s S)
    (hmem : ∀ y, y ∈ buf ↔ y ∈ s.buffer) (m : BMOC) (hm : m.dmax = depth ∧ GoodBmoc depth m)
    (hst : ∀ x, stOf depth m.cells x = Tri.max (stB depth s x) (if x ∈ buf then Tri.ofFlag flag else .abs)) :
    Inv depth flag ⟨depth, flag, [], true, some m⟩ S where
  hdepth := rfl
  hfull := rfl
  hbuf := by intro x hx; simp at hx
  hsorted := by intro _; simp
  hbmoc := by
    intro m' hm'
    simp only [Option.some.injEq] at hm'
    subst hm'; exact hm
  hsem := by
    intro x
    rw [inv.hsem x]
    show _ ↔ (x ∈ [] ∨ stOf depth m.cells x ≠ .abs)
    rw [hst x]
    simp only [ne_eq, tri_max_eq_abs, not_and_or]
    by_cases hx : x ∈ buf
    · have := (hmem x).1 hx; simp [hx, this, ofFlag_ne_abs]
    · have : x ∉ s.buffer := fun h => hx ((hmem x).2 h)
      simp [hx, this]
  hflag := by
    intro x
    show stOf depth m.cells x = .abs ∨ stOf depth m.cells x = _
    rw [hst x]
    apply tri_max_of_flag (inv.hflag x)
    split
    · right; rfl
    · left; rfl
  hne := by intro _; right; simp

theorem Inv.drain (hor : OrSpec) {depth : Nat} {flag : Bool} (hd : depth ≤ 29) {s : FixedBuilder} {S : List Nat}
    (inv : Inv depth flag s S) :
    ∃ s', s.drain = some s' ∧ Inv depth flag s' S ∧ s'.buffer = [] ∧ s'.bmoc ≠ none := by
  -- the buffer handed to `buff_to_bmoc`
  generalize hB : (if s.sorted = true then s.buffer else dedupAdj (sortNat s.buffer)) = buf
  have hbufP : buf.Pairwise (· < ·) ∧ ∀ y, y ∈ buf ↔ y ∈ s.buffer := by
    by_cases hs : s.sorted = true
    · rw [if_pos hs] at hB; subst hB; exact ⟨inv.hsorted hs, fun _ => Iff.rfl⟩
    · rw [if_neg hs] at hB; subst hB; exact sort_dedup_spec s.buffer
  obtain ⟨hpw, hmem⟩ := hbufP
  have hlt : ∀ x ∈ buf, x < 12 * 4 ^ depth := fun x hx => inv.hbuf x ((hmem x).1 hx)
  obtain ⟨n1, n2, n3, n4, n5⟩ := buffToBmoc_sem depth flag hd buf hpw hlt
  have ngood := buffToBmoc_good depth flag hd buf hpw hlt
  unfold FixedBuilder.drain
  simp only [hB, inv.hdepth, inv.hfull]
  cases hb : s.bmoc with
  | none =>
    refine ⟨_, rfl, inv.merged hmem _ ⟨n1, ngood⟩ (fun x => ?_), rfl, by simp⟩
    have hst : stB depth s x = .abs := by simp [stB, hb]
    rw [hst, n5 x]
    split <;> cases flag <;> rfl
  | some prev =>
    obtain ⟨pd, pgood⟩ := inv.hbmoc prev hb
    obtain ⟨R, hR, Rd, Rgood, Rsem⟩ := hor prev (buffToBmoc depth flag buf) depth hd pd n1 pgood ngood
    simp only [hR, Option.map_some]
    refine ⟨_, rfl, inv.merged hmem R ⟨Rd, Rgood⟩ (fun x => ?_), rfl, by simp⟩
    have hst : stB depth s x = stOf depth prev.cells x := by simp [stB, hb]
    rw [hst]
    -- the state function of the union, also outside the sphere
    by_cases hx : x < 12 * 4 ^ depth
    · rw [Rsem x hx, n5 x]
    · have hxb : x ∉ buf := fun h => hx (hlt x h)
      have e1 : stOf depth R.cells x = .abs := by
        have := stOf_abs_of_ge hd Rgood.1 (x := x) (by omega)
        unfold BMOC.cells; rw [Rd]; exact this
      have e2 : stOf depth prev.cells x = .abs := by
        have := stOf_abs_of_ge hd pgood.1 (x := x) (by omega)
        unfold BMOC.cells; rw [pd]; exact this
      rw [e1, e2, if_neg hxb]; rfl

theorem le_last_of_pairwise {l : List Nat} {h : Nat} (hp : l.Pairwise (· < ·)) (hl : l.getLast? = some h) :
    ∀ a ∈ l, a ≤ h := by
  obtain ⟨ys, rfl⟩ := List.getLast?_eq_some_iff.1 hl
  obtain ⟨_, _, hc⟩ := List.pairwise_append.1 hp
  intro a ha
  rcases List.mem_append.1 ha with h1 | h1
  · exact Nat.le_of_lt (hc a h1 h (by simp))
  · simp only [List.mem_singleton] at h1; omega

theorem Inv.finish (hor : OrSpec) {depth : Nat} {flag : Bool} (hd : depth ≤ 29) {s : FixedBuilder} {S : List Nat}
    (inv : Inv depth flag s S) (d : Bool) :
    ∃ s', (if d = true then s.drain else some s) = some s' ∧ Inv depth flag s' S := by
  cases d
  · exact ⟨s, by simp, inv⟩
  · obtain ⟨s', h1, h2, _, _⟩ := inv.drain hor hd
    exact ⟨s', by simp [h1], h2⟩

theorem Inv.appended {depth : Nat} {flag : Bool} {s : FixedBuilder} {S : List Nat} (inv : Inv depth flag s S)
    (hash : Nat) (hh : hash < 12 * 4 ^ depth) (b : Bool) (hb : b = true → (s.buffer ++ [hash]).Pairwise (· < ·)) :
    Inv depth flag { s with sorted := b, buffer := s.buffer ++ [hash] } (S ++ [hash]) := by
  refine ⟨inv.hdepth, inv.hfull, ?_, hb, inv.hbmoc, ?_, inv.hflag, ?_⟩
  · intro x hx
    rcases List.mem_append.1 hx with h1 | h1
    · exact inv.hbuf x h1
    · simp only [List.mem_singleton] at h1; rw [h1]; exact hh
  · intro x
    show _ ↔ (x ∈ s.buffer ++ [hash] ∨ stB depth s x ≠ .abs)
    rw [List.mem_append, List.mem_append, inv.hsem x, or_right_comm]
  · intro _; left; simp

/-- a hash equal to the last buffered one is dropped, and `sorted` is cleared as soon as a smaller one arrives: a buffer with
    `sorted` set is strictly increasing -/
theorem Inv.push (hor : OrSpec) {depth : Nat} {flag : Bool} (hd : depth ≤ 29) {s : FixedBuilder} {S : List Nat}
    (inv : Inv depth flag s S) (hash : Nat) (hh : hash < 12 * 4 ^ depth) (d : Bool) :
    ∃ s', s.push hash d = some s' ∧ Inv depth flag s' (S ++ [hash]) := by
  unfold FixedBuilder.push
  cases hl : s.buffer.getLast? with
  | some h =>
    simp only
    obtain ⟨ys, hys⟩ := List.getLast?_eq_some_iff.1 hl
    by_cases he : h = hash
    · have : (h == hash) = true := by simp [he]
      rw [if_pos this]
      refine ⟨s, rfl, ?_⟩
      have hin : hash ∈ s.buffer := by rw [hys, ← he]; simp
      refine ⟨inv.hdepth, inv.hfull, inv.hbuf, inv.hsorted, inv.hbmoc, ?_, inv.hflag, ?_⟩
      · intro x
        rw [List.mem_append, inv.hsem x, List.mem_singleton]
        constructor
        · rintro (h1 | rfl)
          · exact h1
          · exact Or.inl hin
        · intro h1; exact Or.inl h1
      · intro _; left; intro h0; rw [h0] at hin; simp at hin
    · have : ¬ ((h == hash) = true) := by simp [he]
      rw [if_neg this]
      apply Inv.finish hor hd
      apply inv.appended hash hh
      intro hs
      simp only [Bool.and_eq_true, Bool.not_eq_true', decide_eq_false_iff_not] at hs
      have hp := inv.hsorted hs.1
      refine List.pairwise_append.2 ⟨hp, by simp, ?_⟩
      intro a ha b hb
      simp only [List.mem_singleton] at hb
      have := le_last_of_pairwise hp hl a ha
      omega
  | none =>
    simp only
    have hnil : s.buffer = [] := List.getLast?_eq_none_iff.1 hl
    apply Inv.finish hor hd
    apply inv.appended hash hh s.sorted
    intro _
    rw [hnil]; simp

theorem Inv.run (hor : OrSpec) {depth : Nat} {flag : Bool} (hd : depth ≤ 29) : ∀ (ps : List (Nat × Bool)) (s : FixedBuilder)
    (S : List Nat), Inv depth flag s S → (∀ p ∈ ps, p.1 < 12 * 4 ^ depth) →
    ∃ s', runPushes s ps = some s' ∧ Inv depth flag s' (S ++ ps.map (·.1)) := by
  intro ps
  induction ps with
  | nil => intro s S inv _; exact ⟨s, rfl, by simpa using inv⟩
  | cons p ps ih =>
    intro s S inv hlt
    obtain ⟨h, d⟩ := p
    obtain ⟨s1, e1, inv1⟩ := inv.push hor hd h (hlt (h, d) (by simp)) d
    obtain ⟨s2, e2, inv2⟩ := ih s1 (S ++ [h]) inv1 (fun p hp => hlt p (by simp [hp]))
    refine ⟨s2, by simp [runPushes, e1, e2], ?_⟩
    simpa [List.append_assoc] using inv2

/-- the builder preserves exactly what was pushed (C15), relative to `OrSpec`.  The Boolean of a push ("the buffer reached
    its capacity after this push") is arbitrary: every `Vec` capacity behaviour.  No panic; `None` iff nothing was pushed. -/
theorem fixed_builder_sem (hor : OrSpec) (depth : Nat) (flag : Bool) (hd : depth ≤ 29) (ps : List (Nat × Bool))
    (hlt : ∀ p ∈ ps, p.1 < 12 * 4 ^ depth) :
    ∃ r, runBuilder depth flag ps = some r ∧ (r = none ↔ ps = []) ∧
      ∀ m, r = some m → m.dmax = depth ∧ (∀ e ∈ m.entries, ValidRaw depth e) ∧ WF depth m.cells ∧
        ∀ x, stOf depth m.cells x = if x ∈ ps.map (·.1) then Tri.ofFlag flag else .abs := by
  cases hps : ps with
  | nil =>
    refine ⟨none, by simp [runBuilder, runPushes, FixedBuilder.init, FixedBuilder.toBmoc], by simp, ?_⟩
    intro m hm; cases hm
  | cons p0 ps0 =>
    rw [← hps]
    have hne : ps.map (·.1) ≠ [] := by rw [hps]; simp
    obtain ⟨s, e, inv⟩ := Inv.run hor hd ps _ [] (Inv.init depth flag) hlt
    rw [List.nil_append] at inv
    have final : ∀ s' : FixedBuilder, Inv depth flag s' (ps.map (·.1)) → s'.buffer = [] →
        s'.bmoc ≠ none ∧
        ∀ m, s'.bmoc = some m → m.dmax = depth ∧ (∀ e ∈ m.entries, ValidRaw depth e) ∧ WF depth m.cells ∧
          ∀ x, stOf depth m.cells x = if x ∈ ps.map (·.1) then Tri.ofFlag flag else .abs := by
      intro s' inv' hb
      refine ⟨?_, ?_⟩
      · intro hn
        rcases inv'.hne hne with h | h
        · exact h hb
        · exact h hn
      · intro m hm
        obtain ⟨md, good⟩ := inv'.hbmoc m hm
        refine ⟨md, good.1, good.2, ?_⟩
        intro x
        have h1 := inv'.hsem x
        have h2 := inv'.hflag x
        simp only [stB, hm, hb, List.not_mem_nil, false_or] at h1 h2
        by_cases hx : x ∈ ps.map (·.1)
        · rw [if_pos hx]
          rcases h2 with h2 | h2
          · exact absurd h2 (h1.1 hx)
          · exact h2
        · rw [if_neg hx]
          by_contra hne'
          exact hx (h1.2 hne')
    have hpsne : ¬ (ps = []) := by rw [hps]; simp
    unfold runBuilder
    rw [e, Option.bind_some]
    unfold FixedBuilder.toBmoc
    by_cases hlen : s.buffer.length > 0
    · rw [if_pos hlen]
      obtain ⟨s', e', inv', hb', _⟩ := inv.drain hor hd
      obtain ⟨f1, f2⟩ := final s' inv' hb'
      rw [e', Option.map_some]
      refine ⟨s'.bmoc, rfl, ?_, f2⟩
      exact ⟨fun h => absurd h f1, fun h => absurd h hpsne⟩
    · rw [if_neg hlen]
      have hb : s.buffer = [] := List.eq_nil_of_length_eq_zero (by omega)
      obtain ⟨f1, f2⟩ := final s inv hb
      refine ⟨s.bmoc, rfl, ?_, f2⟩
      exact ⟨fun h => absurd h f1, fun h => absurd h hpsne⟩

example : dedupAdj (sortNat [7, 5, 5, 6, 5]) = [5, 6, 7] := by decide
-- run lengths: `16` may start a depth-0 cell (16 = 4^2) but only 5 consecutive hashes follow
example : largestLowerCellSequenceLen 2 16 [16, 17, 18, 19, 20] = 5 := by decide
example : largestLowerCellSequenceLen 2 17 [17, 18, 19, 20] = 1 := by decide
-- both arms of the `next_power_of_two` trick: a run of 4 gives one cell of depth 1, a run of 5..7 gives `dd = 0`
-- (`tz(8) >> 2`: single cells, nothing is lost), a run of 16 gives one cell of depth 0
example : (buffToBmoc 2 true [16, 17, 18, 19]).cells = [⟨1, 4, true⟩] := by decide
example : (buffToBmoc 2 true [16, 17, 18, 19, 20, 21]).cells =
    [⟨2, 16, true⟩, ⟨2, 17, true⟩, ⟨2, 18, true⟩, ⟨2, 19, true⟩, ⟨2, 20, true⟩, ⟨2, 21, true⟩] := by decide
example : (runBuilder 2 true ((List.range 16).map (fun k => (32 + k, false)))).map (·.map (·.cells)) =
    some (some [⟨0, 2, true⟩]) := by decide
-- nothing pushed: `None`
example : runBuilder 2 true [] = some none := by decide
-- unsorted pushes with repetitions, no intermediate drain
example : (runBuilder 2 true [(7, false), (5, false), (5, false), (6, false), (5, false)]).map (·.map (·.cells)) =
    some (some [⟨2, 5, true⟩, ⟨2, 6, true⟩, ⟨2, 7, true⟩]) := by decide
-- drains in the middle (capacity 2): the partial results are combined by `or` (and packed)
example : (runBuilder 2 true [(16, false), (17, true), (19, false), (18, true)]).map (·.map (·.cells)) =
    some (some [⟨1, 4, true⟩]) := by decide +kernel
example : (runBuilder 2 false [(16, false), (17, true), (19, false), (18, true), (3, false)]).map (·.map (·.cells)) =
    some (some [⟨2, 3, false⟩, ⟨2, 16, false⟩, ⟨2, 17, false⟩, ⟨2, 18, false⟩, ⟨2, 19, false⟩]) := by decide +kernel
-- the hypotheses of `fixed_builder_sem` / `buffToBmoc_sem` are satisfiable by these values
example : ∀ p ∈ [(16, false), (17, true), (19, false), (18, true), (3, false)], p.1 < 12 * 4 ^ 2 := by decide
example : [3, 16, 17, 18, 19].Pairwise (· < ·) ∧ ∀ x ∈ [3, 16, 17, 18, 19], x < 12 * 4 ^ 2 := by decide

#print axioms sort_dedup_spec
#print axioms seqLen_spec
#print axioms buffToBmoc_sem
#print axioms fixed_builder_sem

end Hpx.Bmoc.Builder
