/-
C14 — external edges: the result of `external_edge` / `external_edge_sorted` (`externalList`,
`external_edge_spec_all_delta` in `ExternalEdgeLists.lean`) as a set (`external_edge_set`: the cell numbers of depth
`d + dd` outside `hash` that share a vertex, as points of the sphere, `TopoSpec.Touch`, with a descendant of `hash`),
without duplicates, in order, and its length.  Every `delta_depth`, `0` included: the external edge is then the list of
the neighbours; each theorem `…_all_delta` comes with its instance for `1 ≤ dd` (both are items of C14).
-/
import HpxVerif.Lemmas.ExternalEdgeLists
import HpxVerif.Lemmas.EdgeInternalSorted

namespace Hpx.EdgeExternal
open Hpx Hpx.Topo Hpx.TopoSpec Hpx.TopoNeigh Hpx.TopoLift Hpx.EdgeInternal MW

theorem mem_sideList_iff (d dd hv h : Nat) (f : MW) (hsum : d + dd ≤ 29) (hf : f ≠ C) :
    h ∈ sideList hv dd f ↔ h / 4 ^ dd = hv ∧
      OnSide (2 ^ dd) f ((partsOf (d + dd) h).i % 2 ^ dd) ((partsOf (d + dd) h).j % 2 ^ dd) := by
  have hpos := Nat.two_pow_pos dd
  unfold sideList
  rw [List.mem_map]
  constructor
  · rintro ⟨⟨x, y⟩, hm, rfl⟩
    obtain ⟨hx, hy, hs⟩ := (mem_sideCoords dd f hf x y).1 hm
    obtain ⟨_, hi, hj⟩ := child_block d dd hv x y (by omega) hx hy
    rw [hi, hj]
    exact ⟨(cellVal_div hv dd x y hx hy).1, hs⟩
  · rintro ⟨rfl, hs⟩
    exact ⟨_, (mem_sideCoords dd f hf _ _).2 ⟨Nat.mod_lt _ hpos, Nat.mod_lt _ hpos, hs⟩, (child_decomp d dd h hsum).2.symm⟩

theorem mem_externalList (d hash dd : Nat) (s : Bool) (h' : Nat) :
    h' ∈ externalList d hash dd s ↔
      ∃ dir hv, (dir, hv) ∈ nbList d hash false ∧ h' ∈ sideList hv dd (fromD d hash dir) := by
  unfold externalList
  rw [List.mem_flatMap]
  constructor
  · rintro ⟨⟨dir, hv⟩, hm, hx⟩; exact ⟨dir, hv, (mem_orderOf s _ _).1 hm, hx⟩
  · rintro ⟨dir, hv, hm, hx⟩; exact ⟨(dir, hv), (mem_orderOf s _ _).2 hm, hx⟩

theorem sideList_range (hv dd : Nat) (f : MW) (hf : f ≠ C) (h' : Nat) (hm : h' ∈ sideList hv dd f) :
    hv * 4 ^ dd ≤ h' ∧ h' < (hv + 1) * 4 ^ dd := by
  obtain ⟨⟨x, y⟩, hxy, rfl⟩ := List.mem_map.1 hm
  obtain ⟨hx, hy, _⟩ := (mem_sideCoords dd f hf x y).1 hxy
  exact (cellVal_div hv dd x y hx hy).2

/-- **C14, `external_edge_set`** (soundness and completeness): the members of the external edge are exactly
    the cell numbers `h'` of depth `d + dd` that lie outside `hash` (their ancestor at depth `d` is not `hash`) and share
    a vertex, as points of the sphere, with some descendant `h''` of `hash` at depth `d + dd`.  Both orders, any build,
    every `d`, every `dd` with `d + dd ≤ 29`. -/
theorem external_edge_set_all_delta (cfg : Cfg) (d dd : Nat) (hsum : d + dd ≤ 29) (hash : Nat)
    (hh : hash < 12 * 4 ^ d) (s : Bool) :
    ∃ l, externalEdge cfg d hash dd s = some l ∧ ∀ h', h' ∈ l ↔
      (h' < 12 * 4 ^ (d + dd) ∧ h' / 4 ^ dd ≠ hash ∧
        ∃ h'', h'' / 4 ^ dd = hash ∧ Touch (2 ^ (d + dd)) (partsOf (d + dd) h') (partsOf (d + dd) h'')) := by
  refine ⟨_, external_edge_spec_all_delta cfg d dd hsum hash hh s, ?_⟩
  intro h'
  have hd : d ≤ 29 := by omega
  have hn1 := one_le_pow d
  have hM2 : 2 ^ d * 2 ^ dd ≤ 4294967296 := by rw [← Nat.pow_add]; exact pow_le_u32 (d + dd) hsum
  -- numbers to parts: `/ 4^dd` is `anc dd`
  have hanc := fun h => (child_decomp d dd h hsum).1
  rw [mem_externalList]
  constructor
  · rintro ⟨dir, hv, hm, hx⟩
    obtain ⟨hdir, hnb, hfC, hbk, _⟩ := fromD_back hd hh hm
    obtain ⟨rfl, hs⟩ := (mem_sideList_iff d dd hv h' _ hsum hfC).1 hx
    have hvlt := nbG_lt hd hh hnb
    have hlt := (div_lt_iff d dd h').1 hvlt
    have hQv := partsOf_valid (d + dd) h' hlt
    rw [Nat.pow_add] at hQv
    obtain ⟨P, hPv, hPa, ht⟩ :=
      facing_sound (2 ^ d) dd _ _ _ _ hn1 hM2 hQv (hanc h') ((nbG_eq_some hd hvlt).1 hbk).2 hs
    rw [← Nat.pow_add] at hPv ht
    have hP := partsOf_numberOf (d + dd) hsum P hPv
    refine ⟨hlt, nbG_ne_self hd hh hdir hnb, numberOf (d + dd) P, ?_, by rw [hP]; exact ht⟩
    exact partsOf_injective d hd _ _ (by rw [← hanc, hP, hPa])
  · rintro ⟨hlt, hne, h'', rfl, ht⟩
    have hq1 := (div_lt_iff d dd h').2 hlt
    have hQv := partsOf_valid (d + dd) h' hlt
    have hPv := partsOf_valid (d + dd) h'' ((div_lt_iff d dd h'').1 hh)
    rw [Nat.pow_add] at hQv hPv ht
    obtain ⟨⟨G, hGC, hG⟩, hon⟩ := facing_complete (2 ^ d) dd _ _ _ hn1 hM2 hPv hQv (hanc h'')
      (by rw [hanc]; exact fun e => hne (partsOf_injective d hd _ _ e)) ht
    rw [hanc] at hG hon
    have hmem : (G, h' / 4 ^ dd) ∈ nbList d (h'' / 4 ^ dd) false :=
      mem_nbList.2 ⟨Or.inl hGC, (nbG_eq_some hd hh).2 ⟨hq1, hG⟩⟩
    obtain ⟨_, _, hfC, hbk, _⟩ := fromD_back hd hh hmem
    exact ⟨G, _, hmem, (mem_sideList_iff d dd _ h' _ hsum hfC).2 ⟨rfl, hon _ ((nbG_eq_some hd hq1).1 hbk).2⟩⟩

theorem external_edge_set (cfg : Cfg) (d dd : Nat) (h1 : 1 ≤ dd) (hsum : d + dd ≤ 29) (hash : Nat)
    (hh : hash < 12 * 4 ^ d) (s : Bool) :
    ∃ l, externalEdge cfg d hash dd s = some l ∧ ∀ h', h' ∈ l ↔
      (h' < 12 * 4 ^ (d + dd) ∧ h' / 4 ^ dd ≠ hash ∧
        ∃ h'', h'' / 4 ^ dd = hash ∧ Touch (2 ^ (d + dd)) (partsOf (d + dd) h') (partsOf (d + dd) h'')) :=
  external_edge_set_all_delta cfg d dd hsum hash hh s

theorem sideList_sorted (hv dd : Nat) (f : MW) (hd : dd ≤ 32) : (sideList hv dd f).Pairwise (· < ·) := by
  have mono : ∀ a b, a < b → b < 2 ^ dd → sp a < sp b := fun a b h hb => sp_mono h (lt_pow_of_le hd hb)
  have hr : ∀ g : Nat → Nat × Nat, (∀ a b, a < b → b < 2 ^ dd → cellVal hv dd (g a) < cellVal hv dd (g b)) →
      (((List.range (2 ^ dd)).map g).map (cellVal hv dd)).Pairwise (· < ·) := by
    intro g hg
    rw [List.map_map, List.pairwise_map]
    exact List.Pairwise.imp_of_mem (fun {a b} _ hb h => hg a b h (List.mem_range.1 hb)) List.pairwise_lt_range
  unfold sideList
  cases f
  case S | E | W | N | C => simp [sideCoords]
  case SE | SW | NE | NW => exact hr _ fun a b h hb => by rw [cellVal_eq, cellVal_eq]; have := mono a b h hb; omega

theorem insertEntry_values (e : MW × Nat) (l : List (MW × Nat)) :
    (insertEntry e l).map (·.2) = Bmoc.insertSorted e.2 (l.map (·.2)) := by
  induction l with
  | nil => rfl
  | cons a l ih =>
    unfold insertEntry
    rw [List.map_cons, Bmoc.insertSorted]
    split
    · rfl
    · rw [List.map_cons, ih]

theorem sortEntries_values (l : List (MW × Nat)) : (sortEntries l).map (·.2) = Bmoc.sortNat (l.map (·.2)) := by
  induction l with
  | nil => rfl
  | cons a l ih =>
    show (insertEntry a (sortEntries l)).map (·.2) = Bmoc.insertSorted a.2 (Bmoc.sortNat (l.map (·.2)))
    rw [insertEntry_values, ih]

theorem sortEntries_strict (l : List (MW × Nat)) (h : (l.map (·.2)).Nodup) :
    (sortEntries l).Pairwise (fun a b => a.2 < b.2) := by
  have := Bmoc.sortNat_strict _ h
  rwa [← sortEntries_values, List.pairwise_map] at this

theorem externalList_perm (d hash dd : Nat) : (externalList d hash dd true).Perm (externalList d hash dd false) :=
  List.Perm.flatMap_right _ (sortEntries_perm _)

/-- the order of the sorted variant: the neighbours are visited by strictly increasing number -/
theorem sorted_order (d : Nat) (hd : d ≤ 29) (hash : Nat) (hh : hash < 12 * 4 ^ d) :
    (orderOf true (nbList d hash false)).Pairwise (fun a b => a.2 < b.2) ∧
    (orderOf true (nbList d hash false)).Perm (nbList d hash false) :=
  ⟨sortEntries_strict _ (nbList_values_nodup d hd hash hh false), sortEntries_perm _⟩

/-- **C14, `external_edge_sorted_spec`**: `external_edge_sorted` returns a strictly increasing list, which
    is a permutation of the result of `external_edge` (same members, same length): the neighbours are visited by
    increasing number `hv`, the pieces of different neighbours lie in the disjoint increasing ranges
    `[hv·4^dd, (hv+1)·4^dd)`, and each piece is increasing -/
theorem external_edge_sorted_spec_all_delta (cfg : Cfg) (d dd : Nat) (hsum : d + dd ≤ 29) (hash : Nat)
    (hh : hash < 12 * 4 ^ d) :
    ∃ ls lu, externalEdge cfg d hash dd true = some ls ∧ externalEdge cfg d hash dd false = some lu ∧
      ls.Pairwise (· < ·) ∧ ls.Perm lu ∧ (∀ h', h' ∈ ls ↔ h' ∈ lu) ∧ ls.length = lu.length := by
  have hd : d ≤ 29 := by omega
  have hperm := externalList_perm d hash dd
  refine ⟨_, _, external_edge_spec_all_delta cfg d dd hsum hash hh true,
    external_edge_spec_all_delta cfg d dd hsum hash hh false, ?_, hperm, fun h' => hperm.mem_iff, hperm.length_eq⟩
  unfold externalList
  rw [List.pairwise_flatMap]
  constructor
  · intro e _
    exact sideList_sorted e.2 dd _ (by omega)
  · refine List.Pairwise.imp_of_mem ?_ (sorted_order d hd hash hh).1
    intro a b ha hb hab x hx y hy
    rw [mem_orderOf] at ha hb
    obtain ⟨_, _, fa, _⟩ := fromD_back hd hh ha
    obtain ⟨_, _, fb, _⟩ := fromD_back hd hh hb
    have r1 := (sideList_range a.2 dd _ fa x hx).2
    have r2 := (sideList_range b.2 dd _ fb y hy).1
    have : (a.2 + 1) * 4 ^ dd ≤ b.2 * 4 ^ dd := Nat.mul_le_mul_right _ hab
    omega

theorem external_edge_sorted_spec (cfg : Cfg) (d dd : Nat) (h1 : 1 ≤ dd) (hsum : d + dd ≤ 29) (hash : Nat)
    (hh : hash < 12 * 4 ^ d) :
    ∃ ls lu, externalEdge cfg d hash dd true = some ls ∧ externalEdge cfg d hash dd false = some lu ∧
      ls.Pairwise (· < ·) ∧ ls.Perm lu ∧ (∀ h', h' ∈ ls ↔ h' ∈ lu) ∧ ls.length = lu.length :=
  external_edge_sorted_spec_all_delta cfg d dd hsum hash hh

/-- **C14, `external_edge_nodup`**: no duplicates, both orders -/
theorem external_edge_nodup_all_delta (cfg : Cfg) (d dd : Nat) (hsum : d + dd ≤ 29) (hash : Nat)
    (hh : hash < 12 * 4 ^ d) (s : Bool) :
    ∃ l, externalEdge cfg d hash dd s = some l ∧ l.Nodup := by
  obtain ⟨ls, lu, h1, h2, hs, hp, _⟩ := external_edge_sorted_spec_all_delta cfg d dd hsum hash hh
  have hn : ls.Nodup := hs.imp Nat.ne_of_lt
  cases s
  · exact ⟨lu, h2, hp.nodup_iff.1 hn⟩
  · exact ⟨ls, h1, hn⟩

theorem external_edge_nodup (cfg : Cfg) (d dd : Nat) (h1 : 1 ≤ dd) (hsum : d + dd ≤ 29) (hash : Nat)
    (hh : hash < 12 * 4 ^ d) (s : Bool) :
    ∃ l, externalEdge cfg d hash dd s = some l ∧ l.Nodup :=
  external_edge_nodup_all_delta cfg d dd hsum hash hh s

theorem sum_card (N : Nat) (L : List (MW × Nat)) :
    (L.map fun e => if e.1.isCardinal = true then 1 else N).sum =
      (L.filter fun e => e.1.isCardinal).length + N * (L.filter fun e => !e.1.isCardinal).length := by
  induction L with
  | nil => simp
  | cons a L ih =>
    rw [List.map_cons, List.sum_cons, ih, List.filter_cons, List.filter_cons]
    by_cases h : a.1.isCardinal = true
    · simp [h]; omega
    · simp [h, Nat.mul_add]; omega

/-- the four ordinal neighbours always exist -/
theorem ordinal_count (d hash : Nat) (hh : hash < 12 * 4 ^ d) :
    ((nbList d hash false).filter fun e => !e.1.isCardinal).length = 4 := by
  rw [nbList_false, keyed_filter (fun w => !w.isCardinal), keyed_length]
  have h : ∀ w ∈ [SE, SW, NE, NW], (nbG d hash w).isSome = true := fun w hw => by
    obtain ⟨v, e⟩ := nbG_ordinal d hash hh (w := w) (by revert w; decide)
    rw [e]; rfl
  exact congrArg List.length (List.filter_eq_self.2 h)

/-- **C14, `external_edge_length`**: the external edge has `4·2^dd` cells along the four sides plus one corner cell per
    cardinal neighbour: `4·2^dd + 4` in general, `4·2^dd + 3` for the 24 cells with 7 neighbours (`Special`),
    `4·2^dd + 2` at depth 0 (both orders); at `dd = 0` this is the number of neighbours `8`, `7`, `6` -/
theorem external_edge_length_all_delta (cfg : Cfg) (d dd : Nat) (hsum : d + dd ≤ 29) (hash : Nat)
    (hh : hash < 12 * 4 ^ d) (s : Bool) :
    ∃ l, externalEdge cfg d hash dd s = some l ∧
      l.length = 4 * 2 ^ dd + ((nbList d hash false).filter fun e => e.1.isCardinal).length ∧
      l.length = 4 * 2 ^ dd + (if d = 0 then 2 else if Special (2 ^ d) (partsOf d hash) then 3 else 4) := by
  have hd : d ≤ 29 := by omega
  have hp := partsOf_valid d hash hh
  refine ⟨_, external_edge_spec_all_delta cfg d dd hsum hash hh s, ?_⟩
  have hlen : (externalList d hash dd s).length = (externalList d hash dd false).length := by
    cases s
    · rfl
    · exact (externalList_perm d hash dd).length_eq
  have hf : (externalList d hash dd false).length =
      4 * 2 ^ dd + ((nbList d hash false).filter fun e => e.1.isCardinal).length := by
    unfold externalList orderOf
    simp only [Bool.false_eq_true, if_false]
    rw [List.length_flatMap]
    have : (nbList d hash false).map (fun e => (sideList e.2 dd (fromD d hash e.1)).length) =
        (nbList d hash false).map (fun e => if e.1.isCardinal = true then 1 else 2 ^ dd) := by
      apply List.map_congr_left
      rintro ⟨dir, hv⟩ hm
      exact ((external_edge_struct_spec_all_delta cfg d dd hsum hash hh).2 dir hv hm).1
    rw [this, sum_card, ordinal_count d hash hh]
    omega
  have hc : ((nbList d hash false).filter fun e => e.1.isCardinal).length + 4 = count (2 ^ d) (partsOf d hash) := by
    have h1 := nbList_length d hash hd hh false
    rw [if_neg (by decide), Nat.add_zero] at h1
    rw [← h1, ← ordinal_count d hash hh]
    have := List.length_eq_length_filter_add (l := nbList d hash false) (fun e => e.1.isCardinal)
    omega
  refine ⟨by rw [hlen, hf], ?_⟩
  rw [hlen, hf]
  by_cases h0 : d = 0
  · subst h0
    rw [if_pos rfl]
    have : count (2 ^ 0) (partsOf 0 hash) = 6 := neighbours_count_one _ hp
    omega
  · rw [if_neg h0]
    have := neighbours_count (2 ^ d) _ (EdgeInternal.two_le_pow (by omega)) hp
    split <;> simp_all

theorem external_edge_length (cfg : Cfg) (d dd : Nat) (h1 : 1 ≤ dd) (hsum : d + dd ≤ 29) (hash : Nat)
    (hh : hash < 12 * 4 ^ d) (s : Bool) :
    ∃ l, externalEdge cfg d hash dd s = some l ∧
      l.length = 4 * 2 ^ dd + ((nbList d hash false).filter fun e => e.1.isCardinal).length ∧
      l.length = 4 * 2 ^ dd + (if d = 0 then 2 else if Special (2 ^ d) (partsOf d hash) then 3 else 4) :=
  external_edge_length_all_delta cfg d dd hsum hash hh s

/-- with `delta_depth = 0` the external edge is the list of the neighbours, in both profiles.  Finding F25: with masks
    `x_mask(0)`, `y_mask(0)`, `xy_mask(0)` shifted by 64 bits (the crate before `fix: x_mask, y_mask and xy_mask at depth 0`)
    `external_edge(depth 1, cell 10, 0)` panics in a debug build and returns
    `[18446744073709551615, 8, 12297829382473034411, 27, 11, 5, 6148914691236517207]` in a release build -/
example : externalEdge { debug := true, bmi := false } 1 10 0 false = some [25, 8, 9, 27, 11, 5, 7] ∧
    externalEdge { debug := false, bmi := false } 1 10 0 false = some [25, 8, 9, 27, 11, 5, 7] ∧
    (nbList 1 10 false).map (·.2) = [25, 8, 9, 27, 11, 5, 7] := by decide +kernel

theorem external_edge_delta0_nodup (cfg : Cfg) (d : Nat) (hd : d ≤ 29) (hash : Nat) (hh : hash < 12 * 4 ^ d) (s : Bool) :
    ∃ l, externalEdge cfg d hash 0 s = some l ∧ l.Nodup :=
  external_edge_nodup_all_delta cfg d 0 (by omega) hash hh s

theorem external_edge_delta0_sorted (cfg : Cfg) (d : Nat) (hd : d ≤ 29) (hash : Nat) (hh : hash < 12 * 4 ^ d) :
    ∃ ls lu, externalEdge cfg d hash 0 true = some ls ∧ externalEdge cfg d hash 0 false = some lu ∧
      ls.Pairwise (· < ·) ∧ ls.Perm lu ∧ (∀ h', h' ∈ ls ↔ h' ∈ lu) ∧ ls.length = lu.length :=
  external_edge_sorted_spec_all_delta cfg d 0 (by omega) hash hh

/-- membership: `h'` is in `external_edge*(hash, 0)` iff it is a cell number of the depth, different from `hash`, whose
    cell shares a vertex with the cell `hash` as points of the sphere (`TopoSpec.Touch`), i.e. iff it is a neighbour -/
theorem external_edge_delta0_mem (cfg : Cfg) (d : Nat) (hd : d ≤ 29) (hash : Nat) (hh : hash < 12 * 4 ^ d) (s : Bool) :
    ∃ l, externalEdge cfg d hash 0 s = some l ∧ ∀ h', h' ∈ l ↔
      (h' < 12 * 4 ^ d ∧ h' ≠ hash ∧ Touch (2 ^ d) (partsOf d hash) (partsOf d h')) := by
  refine ⟨_, external_edge_delta0 cfg d hd hash hh s, ?_⟩
  intro h'
  have hns := neighbours_spec cfg d hd hash hh false
  have e : h' ∈ (orderOf s (nbList d hash false)).map (·.2) ↔ h' ∈ (nbList d hash false).map (·.2) := by
    simp only [List.mem_map, mem_orderOf]
  rw [e]
  constructor
  · intro hm
    have hlt := values_lt d hd hash hh false h' hm
    exact ⟨hlt, (neighbours_complete_hash cfg d hd hash hh _ hns h' hlt).1 hm⟩
  · rintro ⟨hlt, h2⟩
    exact (neighbours_complete_hash cfg d hd hash hh _ hns h' hlt).2 h2

/-- length = number of neighbours: 8, 7 for the 24 cells with 7 neighbours (`Special`, i.e. `hash ∈ specialHashes d`),
    6 at depth 0 (both orders) -/
theorem external_edge_delta0_length (cfg : Cfg) (d : Nat) (hd : d ≤ 29) (hash : Nat) (hh : hash < 12 * 4 ^ d) (s : Bool) :
    ∃ l, externalEdge cfg d hash 0 s = some l ∧
      l.length = (nbList d hash false).length ∧
      l.length = (if d = 0 then 6 else if Special (2 ^ d) (partsOf d hash) then 7 else 8) ∧
      (Special (2 ^ d) (partsOf d hash) ↔ hash ∈ specialHashes d) := by
  obtain ⟨l, hl, _, h2⟩ := external_edge_length_all_delta cfg d 0 (by omega) hash hh s
  refine ⟨l, hl, ?_, ?_, special_hash_iff d hd hash hh⟩
  · have e := external_edge_delta0 cfg d hd hash hh s
    rw [hl] at e
    rw [Option.some.inj e, List.length_map]
    cases s
    · rfl
    · exact (sortEntries_perm _).length_eq
  · rw [h2]
    by_cases h0 : d = 0
    · simp [h0]
    · simp only [h0, if_false]
      split <;> rfl

/-- `external_edge_set` as a list: the cell numbers outside `hash` touching a descendant of `hash`, in increasing order,
    found by trying every cell number of the depth -/
def specSet (d dd hash : Nat) : List Nat :=
  (List.range (12 * 4 ^ (d + dd))).filter fun h' =>
    h' / 4 ^ dd != hash && (List.range (4 ^ dd)).any fun k =>
      decide (Touch (2 ^ (d + dd)) (partsOf (d + dd) h') (partsOf (d + dd) (hash * 4 ^ dd + k)))

def chkSet (cfg : Cfg) (d dd : Nat) : Bool :=
  (List.range (12 * 4 ^ d)).all fun h => externalEdge cfg d h dd true == some (specSet d dd h)

theorem mem_specSet (d dd hash h' : Nat) :
    h' ∈ specSet d dd hash ↔ h' < 12 * 4 ^ (d + dd) ∧ h' / 4 ^ dd ≠ hash ∧
      ∃ h'', h'' / 4 ^ dd = hash ∧ Touch (2 ^ (d + dd)) (partsOf (d + dd) h') (partsOf (d + dd) h'') := by
  have hpos : 0 < 4 ^ dd := Nat.pow_pos (by decide)
  simp only [specSet, List.mem_filter, List.mem_range, Bool.and_eq_true, bne_iff_ne, ne_eq, List.any_eq_true,
    decide_eq_true_eq]
  refine and_congr_right fun _ => and_congr_right fun _ => ⟨?_, ?_⟩
  · rintro ⟨k, hk, ht⟩
    exact ⟨_, by rw [Nat.mul_comm, Nat.mul_add_div hpos, Nat.div_eq_of_lt hk, Nat.add_zero], ht⟩
  · rintro ⟨h'', rfl, ht⟩
    exact ⟨h'' % 4 ^ dd, Nat.mod_lt _ hpos, by rwa [Nat.mul_comm, Nat.div_add_mod]⟩

/-- the sorted external edge is the enumeration `specSet`, at every depth: both lists are strictly increasing and have
    the same members (`external_edge_set`) -/
theorem chkSet_true (cfg : Cfg) (d dd : Nat) (hsum : d + dd ≤ 29) : chkSet cfg d dd = true := by
  simp only [chkSet, List.all_eq_true, List.mem_range, beq_iff_eq]
  intro h hh
  obtain ⟨l, hl, hmem⟩ := external_edge_set_all_delta cfg d dd hsum h hh true
  obtain ⟨ls, _, hls, _, hsorted, _⟩ := external_edge_sorted_spec_all_delta cfg d dd hsum h hh
  obtain rfl : ls = l := Option.some.inj (hls.symm.trans hl)
  have hspec : (specSet d dd h).Pairwise (· < ·) := List.pairwise_lt_range.filter _
  rw [hl]
  refine congrArg some (List.Perm.eq_of_pairwise (fun a b _ _ h1 h2 => absurd h1 (Nat.lt_asymm h2)) hsorted hspec ?_)
  exact (List.perm_ext_iff_of_nodup (hsorted.imp Nat.ne_of_lt) (hspec.imp Nat.ne_of_lt)).2
    fun a => (hmem a).trans (mem_specSet d dd h a).symm

/-- an instance of `chkSet_true`: nothing is evaluated here -/
example : chkSet {} 0 1 = true := chkSet_true _ _ _ (by decide)

/-- the three lengths: depth 0; a cell with 7 neighbours (depth 2, cell 5); an ordinary cell -/
example : (externalList 0 3 2 false).length = 4 * 2 ^ 2 + 2 ∧ (externalList 2 5 1 false).length = 4 * 2 ^ 1 + 3 ∧
    (externalList 2 6 1 true).length = 4 * 2 ^ 1 + 4 := by decide +kernel

end Hpx.EdgeExternal

#print axioms Hpx.EdgeExternal.external_edge_length
#print axioms Hpx.EdgeExternal.external_edge_set
#print axioms Hpx.EdgeExternal.external_edge_nodup
#print axioms Hpx.EdgeExternal.external_edge_sorted_spec
#print axioms Hpx.EdgeExternal.external_edge_set_all_delta
#print axioms Hpx.EdgeExternal.external_edge_nodup_all_delta
#print axioms Hpx.EdgeExternal.external_edge_sorted_spec_all_delta
#print axioms Hpx.EdgeExternal.external_edge_length_all_delta
#print axioms Hpx.EdgeExternal.external_edge_delta0_nodup
#print axioms Hpx.EdgeExternal.external_edge_delta0_sorted
#print axioms Hpx.EdgeExternal.external_edge_delta0_mem
#print axioms Hpx.EdgeExternal.external_edge_delta0_length
