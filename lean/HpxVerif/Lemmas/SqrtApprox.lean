import HpxVerif.Lemmas.SqrtApproxModel
import HpxVerif.Lemmas.RingBij

/-!
# The `f64` square root used by `from_ring` (C10/C11): error bounds and discharge of `RingBij.ApproxOK`

`isqrtF64 y = (Float.sqrt (Float.ofNat y)).toUInt64.toNat` is computed once from Lean's logical model of `Float`, for all
`0 < y < 2^64`, no sampling (`isqrtF64_eq`).  On that whole range `⌊√y⌋ ≤ isqrtF64 y ≤ ⌊√y⌋ + 1` (`isqrtF64_sharp`, which
uses round to nearest; `isqrtF64_bounds` is its two-sided weakening).  Hence the `f64` estimate of the polar-cap ring
index is the exact index or one more for every `x < 2^63` (`polarRingApprox_sharp`), and
`approxOK_2_60 : RingBij.ApproxOK (2 ^ 60)`.
-/

open Float.Model Float.Model.UnpackedFloat

namespace Hpx.SqrtApprox
open Hpx.Layer

theorem four_pow (k : Nat) : 4 ^ k = 2 ^ k * 2 ^ k := by rw [← Nat.mul_pow]

/-- the relative error `2^-52` of the conversion is below the integer square root -/
theorem div_le_sqrt (y : Nat) (hy : y < 2 ^ 64) : y / 2 ^ 52 ≤ y.sqrt := by
  by_cases hs : y < 2 ^ 52
  · rw [Nat.div_eq_of_lt hs]; omega
  · have b := Nat.lt_succ_sqrt y
    simp only [Nat.succ_eq_add_one] at b
    have hS : 2 ^ 26 ≤ y.sqrt := Nat.le_sqrt.2 (by omega)
    omega

/-- the tight upper bound: a faithfully rounded root of a faithfully rounded argument, scaled by `2^k` (`k ≥ 1`),
    has floor at most `⌊√y⌋ + 1` -/
theorem upper_tight (y v k r : Nat) (hy : y < 2 ^ 64) (h1 : v ≤ y + y / 2 ^ 52) (hk : 1 ≤ k)
    (hr : r ≤ (v * 4 ^ k).sqrt + 1) : r / 2 ^ k ≤ y.sqrt + 1 := by
  have hd := div_le_sqrt y hy
  generalize y / 2 ^ 52 = d at h1 hd
  have b := Nat.lt_succ_sqrt y
  simp only [Nat.succ_eq_add_one] at b
  have c := Nat.sqrt_le (v * 4 ^ k)
  have hK : 2 ^ 1 ≤ 2 ^ k := Nat.pow_le_pow_right (by decide) hk
  rw [four_pow] at c hr
  generalize y.sqrt = S at *
  generalize (v * (2 ^ k * 2 ^ k)).sqrt = root at *
  generalize 2 ^ k = K at *
  -- `v ≤ S² + 3 S < (S + 3/2)²`, so `root < (S + 3/2) K`
  have h2 : v * (K * K) ≤ (S * S + 3 * S) * (K * K) := by
    apply Nat.mul_le_mul_right
    have : (S + 1) * (S + 1) = S * S + 2 * S + 1 := by ring
    omega
  have h3 : 2 * root < (2 * S + 3) * K := by
    apply Nat.mul_self_lt_mul_self_iff.1
    have e1 : 2 * root * (2 * root) = 4 * (root * root) := by ring
    have e2 : (2 * S + 3) * K * ((2 * S + 3) * K) = 4 * ((S * S + 3 * S) * (K * K)) + 9 * (K * K) := by ring
    have : 0 < K * K := Nat.mul_pos (by omega) (by omega)
    omega
  -- and `r ≤ root + 1 < (S + 2) K`, as `K ≥ 2`
  have : r / K < S + 2 := by
    rw [Nat.div_lt_iff_lt_mul (by omega)]
    have e3 : (2 * S + 3) * K = 2 * (S * K) + 3 * K := by ring
    have e4 : (S + 2) * K = S * K + 2 * K := by ring
    omega
  omega

/-- the estimate, computed, on the whole `u64` range.  With `v` the argument rounded to 53 bits (relative error `2^-52`;
    `y ≤ v + D` where `D` is half a unit in the last place, `0` when the conversion is exact) and `4^k` the scaling of its
    mantissa in `Float.sqrt` (`4^g ≤ v`, `D · 2^k ≤ 2^g`): `isqrtF64 y = ⌊r / 2^k⌋` where `r` is `√(v·4^k)` rounded to
    nearest -/
theorem isqrtF64_eq (y : Nat) (h0 : 0 < y) (hy : y < 2 ^ 64) :
    ∃ v k r g D : Nat, v ≤ y + y / 2 ^ 52 ∧ y ≤ v + y / 2 ^ 52 ∧ 20 ≤ k ∧ 4 ^ g ≤ v ∧ y ≤ v + D ∧ D * 2 ^ k ≤ 2 ^ g ∧
      r = (if v * 4 ^ k - (v * 4 ^ k).sqrt * (v * 4 ^ k).sqrt ≤ (v * 4 ^ k).sqrt then (v * 4 ^ k).sqrt
            else (v * 4 ^ k).sqrt + 1) ∧
      isqrtF64 y = r / 2 ^ k := by
  obtain ⟨m, j, h, v, hun, hm1, hm2, hj, hv, hv1, hv2, hn1, hn2⟩ := float_ofNat_nearest y h0 hy
  have h4 : ∀ n, (4 : Nat) ^ n = 2 ^ (2 * n) := fun n => by rw [Nat.pow_mul]
  -- the exponent `j - 52` of `v` is `52 + j % 2 - 2 k` with `k = 52 - j / 2`: the root is taken of `m · 2^(52 + j % 2) = v · 4^k`
  have hM : v * 4 ^ (52 - j / 2) = m * 2 ^ (52 + j % 2) := by
    have : v * 4 ^ (52 - j / 2) * 2 ^ 52 = m * 2 ^ (52 + j % 2) * 2 ^ 52 := by
      rw [Nat.mul_right_comm, ← hv, h4, Nat.mul_assoc, Nat.mul_assoc, ← Nat.pow_add, ← Nat.pow_add,
        show j + 2 * (52 - j / 2) = 52 + j % 2 + 52 by omega]
    exact Nat.eq_of_mul_eq_mul_right (by decide) this
  have hval := float_sqrt_toUInt64 _ m _ h hun hm1 hm2 (52 - j / 2) (j % 2) _ (by omega) (by omega) (by omega) (by omega) hM
  -- `v ≥ 2^j ≥ 4^(j / 2)`
  have hv4 : 4 ^ (j / 2) ≤ v := by
    have h1 : 2 ^ (2 * (j / 2)) ≤ 2 ^ j := Nat.pow_le_pow_right (by decide) (by omega)
    have h2 : 2 ^ j * 2 ^ 52 ≤ v * 2 ^ 52 := by rw [← hv, Nat.mul_comm]; exact Nat.mul_le_mul_right _ hm1
    rw [h4]
    exact Nat.le_trans h1 (Nat.le_of_mul_le_mul_right h2 (by decide))
  by_cases hj52 : j ≤ 52
  · rw [show j - 52 = 0 by omega] at hn1
    exact ⟨v, _, _, _, 0, hv1, hv2, by omega, hv4, by omega, by rw [Nat.zero_mul]; exact Nat.zero_le _, rfl, hval⟩
  · -- half a unit in the last place is `2^(j - 53)`
    rw [show j - 52 = j - 53 + 1 by omega, Nat.pow_succ] at hn1
    refine ⟨v, _, _, _, 2 ^ (j - 53), hv1, hv2, by omega, hv4, by omega, ?_, rfl, hval⟩
    rw [← Nat.pow_add]
    exact Nat.pow_le_pow_right (by decide) (by omega)

/-! ## the sharp statement (round to nearest)

Faithful rounding alone (result = truncation or truncation + 1) gives `⌊√y⌋ − 1 ≤ isqrtF64 y ≤ ⌊√y⌋ + 1` (the upper bound
is `upper_tight`).  With the round-to-nearest-even rule of the model (round and sticky bits of `ExtendedMantissa`,
`Accuracy` of `sqrtCore`), which `isqrtF64_eq` keeps, the lower bound is sharp as well: the `f64` estimate of the polar
ring index is never too small, and at most one too large (finding F2 is the only possible deviation).
-/

/-- the rounding rule of `Float.sqrt`: `⌊√X⌋` is rounded up exactly when `X > ⌊√X⌋² + ⌊√X⌋`; so the rounded root exceeds every
    `T` with `T² + T < X` (that is, `T + 1/2 < √X`) -/
theorem lt_rounded_root (X T : Nat) (h : T * T + T < X) :
    T < (if X - X.sqrt * X.sqrt ≤ X.sqrt then X.sqrt else X.sqrt + 1) := by
  have a := Nat.sqrt_le X
  have b := Nat.lt_succ_sqrt X
  simp only [Nat.succ_eq_add_one] at b
  split <;> by_contra hc
  · have : X.sqrt * X.sqrt ≤ T * T := Nat.mul_le_mul (by omega) (by omega)
    omega
  · have : (X.sqrt + 1) * (X.sqrt + 1) ≤ T * T := Nat.mul_le_mul (by omega) (by omega)
    omega

/-- the tight lower bound: if the argument `v` is below `y` by at most `D` with `D · 2^k ≤ 2^g ≤ √v`, the correctly
    rounded root `r` of `v · 4^k` is at least `⌊√y⌋ · 2^k` (a root just below `⌊√y⌋ · 2^k` is rounded up) -/
theorem lower_tight (y v k g D : Nat) (hg : 4 ^ g ≤ v) (hD : y ≤ v + D) (hDK : D * 2 ^ k ≤ 2 ^ g) :
    y.sqrt * 2 ^ k ≤
      (if v * 4 ^ k - (v * 4 ^ k).sqrt * (v * 4 ^ k).sqrt ≤ (v * 4 ^ k).sqrt then (v * 4 ^ k).sqrt
        else (v * 4 ^ k).sqrt + 1) := by
  have a := Nat.sqrt_le y
  have hK : 0 < 2 ^ k := Nat.pow_pos (by decide)
  rw [four_pow] at hg ⊢
  generalize y.sqrt = S at *
  generalize 2 ^ k = K at *
  generalize 2 ^ g = G at *
  rcases Nat.eq_zero_or_pos (S * K) with h0 | h0
  · rw [h0]; exact Nat.zero_le _
  obtain ⟨T, hT⟩ : ∃ T, S * K = T + 1 := ⟨S * K - 1, by omega⟩
  rw [hT]
  -- with `T + 1 = S K`: `T² + T = S² K² - S K`, to be shown below `v K²`
  apply lt_rounded_root
  have h1 : T * T + T + S * K = S * S * (K * K) := by
    rw [show S * S * (K * K) = S * K * (S * K) by ring, hT]; ring
  suffices S * S * (K * K) < v * (K * K) + S * K by omega
  by_cases hvS : S * S ≤ v
  · have := Nat.mul_le_mul_right (K * K) hvS
    omega
  · -- `v < S² ≤ v + D`: then `G < S`, and `D K² ≤ G K < S K`
    have hSG : G < S := Nat.mul_self_lt_mul_self_iff.1 (by omega)
    have h2 : S * S * (K * K) ≤ (v + D) * (K * K) := Nat.mul_le_mul_right _ (by omega)
    have h3 : D * K * K < S * K := Nat.mul_lt_mul_of_pos_right (by omega) hK
    rw [Nat.add_mul, ← Nat.mul_assoc D] at h2
    omega

theorem isqrtF64_sharp (y : Nat) (h0 : 0 < y) (hy : y < 2 ^ 64) :
    y.sqrt ≤ isqrtF64 y ∧ isqrtF64 y ≤ y.sqrt + 1 := by
  obtain ⟨v, k, r, g, D, hv1, hv2, hk20, hv4, hD, hDK, hr, hval⟩ := isqrtF64_eq y h0 hy
  -- upper bound (faithful rounding suffices)
  have hrle : r ≤ (v * 4 ^ k).sqrt + 1 := by rw [hr]; split <;> omega
  have hup := upper_tight y v k r hy hv1 (by omega) hrle
  -- lower bound (round to nearest)
  have hlow : y.sqrt * 2 ^ k ≤ r := by rw [hr]; exact lower_tight y v k g D hv4 hD hDK
  have hdiv : y.sqrt ≤ r / 2 ^ k := by
    rw [Nat.le_div_iff_mul_le (Nat.pow_pos (by decide))]; exact hlow
  omega

/-- the two-sided weakening of `isqrtF64_sharp`; the value `⌊√y⌋ + 1` does occur: finding F2, see the example after
    `realRI_eq_exactRI` -/
theorem isqrtF64_bounds (y : Nat) (h0 : 0 < y) (hy : y < 2 ^ 64) :
    y.sqrt ≤ isqrtF64 y + 1 ∧ isqrtF64 y ≤ y.sqrt + 1 := by
  obtain ⟨h1, h2⟩ := isqrtF64_sharp y h0 hy
  exact ⟨by omega, h2⟩

example : 0 < 2 ^ 60 + 12345 ∧ 2 ^ 60 + 12345 < 2 ^ 61 ∧ isqrtF64 (2 ^ 60 + 12345) = 1073741824 ∧
    (2 ^ 60 + 12345).sqrt = 1073741824 := by decide +kernel

/-- on ring `t` (`tri4 t ≤ x < tri4 (t + 1)`, i.e. `(2t+1)² ≤ 2x + 1 < (2t+3)²`) the square root of `2x + 1` is `2t + 1` or
    `2t + 2`, and the estimate is `(isqrtF64 (2x + 1) − 1) / 2`: a bound on `isqrtF64` becomes a bound on the estimate -/
theorem polarRingApprox_window (x t : Nat) (h1 : tri4 t ≤ x) (h2 : x < tri4 (t + 1)) :
    polarRingApprox x = (isqrtF64 (2 * x + 1) - 1) / 2 ∧ 2 * t + 1 ≤ (2 * x + 1).sqrt ∧
      (2 * x + 1).sqrt ≤ 2 * t + 2 := by
  rw [RingBij.tri4_eq] at h1 h2
  have e1 : (2 * t + 1) * (2 * t + 1) = 4 * (t * t) + 4 * t + 1 := by ring
  have e2 : (2 * t + 3) * (2 * t + 3) = 4 * ((t + 1) * (t + 1)) + 4 * (t + 1) + 1 := by ring
  have c2 : (2 * x + 1).sqrt < 2 * t + 3 := Nat.sqrt_lt.2 (by omega)
  refine ⟨?_, Nat.le_sqrt.2 (by omega), by omega⟩
  unfold polarRingApprox
  rw [show 1 + x <<< 1 = 2 * x + 1 by rw [Nat.shiftLeft_eq]; omega, Nat.shiftRight_eq_div_pow]

theorem polarRingApprox_sharp (x t : Nat) (hx : x < 2 ^ 63) (h1 : tri4 t ≤ x) (h2 : x < tri4 (t + 1)) :
    t ≤ polarRingApprox x ∧ polarRingApprox x ≤ t + 1 := by
  obtain ⟨e, c1, c2⟩ := polarRingApprox_window x t h1 h2
  obtain ⟨hb1, hb2⟩ := isqrtF64_sharp (2 * x + 1) (by omega) (by omega)
  rw [e]; omega

/-- both values occur: exact at the first cell of the ring, one too large at the last cell of the same ring (depth 26) -/
example : tri4 67108862 ≤ 9007199120523263 ∧ 9007199120523263 < tri4 (67108862 + 1) ∧
    polarRingApprox (tri4 67108862) = 67108862 ∧ polarRingApprox 9007199120523263 = 67108862 + 1 := by
  decide +kernel

theorem approxOK_2_63 : RingBij.ApproxOK (2 ^ 63) := fun x t hx h1 h2 => by
  obtain ⟨a, b⟩ := polarRingApprox_sharp x t hx h1 h2
  exact ⟨by omega, by omega⟩

/-- the hypothesis of C10/C11 on `f64::sqrt` holds: `2^60` covers all depths `≤ 29` -/
theorem approxOK_2_60 : RingBij.ApproxOK (2 ^ 60) := approxOK_2_63.mono (by decide)

/-- … for every depth `≤ 29` in the form used by `RingBij.fromRing_toRing` -/
theorem approxOK_depth (d : Nat) (hd : d ≤ 29) : RingBij.ApproxOK (firstHashInEqr d) :=
  RingBij.approxOK_of_lt_2_60 approxOK_2_60 d hd

/-- the float ring-index function (estimate + 4 correction steps) is the exact one below `2^60` -/
theorem realRI_eq_exactRI (x : Nat) (hx : x < 2 ^ 60) : RingBij.realRI x = RingBij.exactRI x :=
  (RingBij.realRI_exactBelow approxOK_2_60).eq hx (RingBij.exactRI_exact x).1 (RingBij.exactRI_exact x).2

example : isqrtF64 0 = 0 := by decide +kernel

/-- the upper bound is attained (finding F2): the estimate is one too large for the last cell of the polar ring 67108862
    at depth 26 -/
example : tri4 67108862 ≤ 9007199120523263 ∧ 9007199120523263 < tri4 (67108862 + 1) ∧
    polarRingApprox 9007199120523263 = 67108862 + 1 ∧
    isqrtF64 (1 + 9007199120523263 <<< 1) = (1 + 9007199120523263 <<< 1).sqrt + 1 := by decide +kernel

end Hpx.SqrtApprox


#print axioms Hpx.SqrtApprox.isqrtF64_bounds
#print axioms Hpx.SqrtApprox.approxOK_2_60
#print axioms Hpx.SqrtApprox.isqrtF64_sharp
#print axioms Hpx.SqrtApprox.polarRingApprox_sharp
