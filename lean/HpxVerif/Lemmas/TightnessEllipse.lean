import HpxVerif.Lemmas.TightnessCone
import HpxVerif.Lemmas.PolyCoverSpec

/-!
# Tightness clause of C13 (every cell reported by the elliptical-cone coverage has its centre within `a + 2·Mtrue depth`)
# and the emit rule of the polygon descent (C12)

`a` is the semi-major axis (`0 < b ≤ a < π/2`).  Over ℝ the three tests of the classifier bound the angular distance of the
tested position to the centre of the ellipse by `a` (`contains`, `contains_cone`) and `a + D` (`overlap_cone`), whence
`econe_tight_rec`; on the cell list and on the returned BMOC the clause is `C13.ell_internal_tight`,
`C13.elliptical_cone_coverage_tight`.  For polygons (C12) only the structural half of the clause is here: `poly_emit_rule`.
-/

namespace Hpx.Tightness
open Hpx Hpx.Hash Hpx.Proj Hpx.Cover Hpx.C2V Hpx.C2VReal Hpx.EnvelopeReal Hpx.CellReal Hpx.TopoLift
  Hpx.CellExtent Hpx.Bmoc Hpx.Sph Hpx.EConeEq Real

/-- the quick rejection `a + D < distance` of `overlap_cone` did not fire -/
theorem overlapCone_true_near (lon lat a b pa l φ D : ℝ)
    (h : (ECone.new (α := ℝ) lon lat a b pa).overlapCone l φ D = some true) :
    adist (l, φ) (ProjSIN.new lon lat).c0 ≤ a + D := by
  have hD := overlapCone_some_pos _ _ _ _ _ h
  by_contra hcon
  rw [not_le] at hcon
  have := overlapCone_far (ECone.new (α := ℝ) lon lat a b pa) (ProjSIN.new_coherent lon lat) l φ D hD hcon
  rw [this] at h
  simp at h

/-- C13, tightness clause (ℝ, release profile).  Elliptical cone of centre `(lon, lat)`, semi-axes `0 < b ≤ a < π/2`, any
    position angle; `dists` the list `largest_center_to_vertex_distances_with_radius(ds, target + 1, lon, lat, a)`.
    Every cell of the output of the descent has a centre, which is within `a + 2·Mtrue depth` of the centre of the ellipse. -/
theorem econe_tight_rec (cfg : Cfg) (lon lat a b pa : ℝ) (hb : 0 < b) (hba : b ≤ a) (ha : a < π / 2)
    (ds target : ℕ) (hdt : ds ≤ target) (ht : target ≤ 29) (dists : List ℝ)
    (hdists : largestC2VsWithRadius false ds (target + 1) lon lat a = some dists) (fuel root : ℕ) (out : List Cell)
    (h : coverRec target (ellClassifier (α := ℝ) cfg target (ECone.new lon lat a b pa) dists) fuel ds root 0 = some out)
    (c : Cell) (hc : c ∈ out) :
    ∃ ctr, center (α := ℝ) cfg c.depth c.hash = some ctr ∧
      adist ctr (lon, lat) ≤ a + valR c.depth lon lat a ∧ adist ctr (lon, lat) ≤ a + 2 * Mtrue c.depth := by
  obtain ⟨hds, hrule⟩ := coverRec_emitted_from target _ fuel ds root out h c hc
  have ha0 : 0 ≤ a := by linarith
  have hv0 := valR_nonneg_of_radius c.depth lon lat a ha0
  have hv2 := valR_le_twice c.depth lon lat a ha0
  have key : ∀ D, dists[c.depth - ds]? = some D → D = valR c.depth lon lat a := fun D hdl =>
    (dists_getElem ds target ht lon lat a dists hdists c.depth hds D hdl).2
  rcases hrule with ⟨hk, _⟩ | ⟨_, hk⟩
  · obtain ⟨ctr, D, hctr, hdl, hcc⟩ := ellClassifier_full cfg target _ dists _ _ _ hk
    rw [key D hdl] at hcc
    have := ((econe_containsCone_between lon lat a b pa ctr.1 ctr.2 _ hba ha hv0).2 hcc).2
    rw [adist_new_c0] at this
    exact ⟨ctr, hctr, by linarith, by linarith [Mtrue_pos c.depth]⟩
  · obtain ⟨ctr, D, hctr, hdl, hkeep⟩ := ellClassifier_descend_keep cfg target _ dists _ _ _ _ hk
    rw [key D hdl] at hkeep
    rcases hkeep with hin | hov
    · have := (econe_contains_between lon lat a b pa ctr.1 ctr.2 hb hba ha).2 hin
      rw [adist_new_c0] at this
      exact ⟨ctr, hctr, by linarith, by linarith [Mtrue_pos c.depth]⟩
    · have := overlapCone_true_near lon lat a b pa ctr.1 ctr.2 _ hov
      rw [adist_new_c0] at this
      exact ⟨ctr, hctr, this, by linarith⟩

/-! ## polygons (C12): the structural half of the tightness clause, every numeric instance

A cell is reported by the polygon descent only if (i) it contains (the cell number at the target depth of) a vertex of the
polygon, or (ii) at least one of its four vertices is declared inside the polygon, or (iii) one of its four edges is
declared to cross an edge of the polygon.  What remains for "a reported cell is within one cell size of the polygon" is
geometric and NOT attempted here: soundness over ℝ of `Polygon::contains` (a `true` answer at a cell vertex means that
vertex belongs to the polygon), of `intersect_great_circle_arc` (a `true` answer gives a common point of the cell edge and
the polygon boundary), the meaning of `is_in_list` (`hash` maps the polygon vertex into that cell: C01 over ℝ), and the
extent of a cell (every point of a cell within the largest centre-to-vertex distance of its depth from `center`: proved only
for the strictly equatorial cells, `CellExtent.inCellEq_extent`). -/

section
variable {α : Type} [Num α]

/-- what the polygon classifier saw on a cell that it did not skip -/
def PolyKept (cfg : Cfg) (target : Nat) (poly : Polygon α) (sortedHashs : List Nat) (d h : Nat) : Prop :=
  isInList d h target sortedHashs = true ∨
  ∃ vs cs, Hash.vertices (α := α) cfg d h = some vs ∧ vs.mapM (fun v => fromSphCoo cfg.debug v.1 v.2) = some cs ∧
    (0 < (cs.filter fun c => poly.contains c).length ∨
      ∃ s e nn w, cs = [s, e, nn, w] ∧
        (poly.intersectGreatCircleArc nn e || poly.intersectGreatCircleArc s e ||
          poly.intersectGreatCircleArc w nn || poly.intersectGreatCircleArc w s) = true)

theorem polyClassifier_kept (cfg : Cfg) (target : Nat) (poly : Polygon α) (sortedHashs : List Nat) (d h l : Nat)
    (v : Verdict) (hk : polyClassifier cfg target poly sortedHashs d h l = some v) (hv : v ≠ .skip) :
    PolyKept cfg target poly sortedHashs d h := by
  rcases PolyCompose.polyClassifier_cases cfg target poly sortedHashs d h l v hk with ⟨hin, _⟩ | ⟨_, vs, cs, hvs, hcs, hc⟩
  · exact Or.inl hin
  · refine Or.inr ⟨vs, cs, hvs, hcs, ?_⟩
    cases hc with
    | full h4 => exact Or.inl (by omega)
    | inside hpos => exact Or.inl hpos
    | crossing sv e nn w _ hcs harc => exact Or.inr ⟨sv, e, nn, w, hcs, harc⟩
    | clear => exact absurd rfl hv

/-- C12, the emit rule of the polygon descent (every numeric instance, every build): every cell of the output of the descent was
    kept for one of the three reasons of `PolyKept` -/
theorem poly_emit_rule (cfg : Cfg) (target : Nat) (poly : Polygon α) (sortedHashs : List Nat)
    (fuel depth hash level : Nat) (out : List Cell)
    (h : coverRec target (polyClassifier cfg target poly sortedHashs) fuel depth hash level = some out)
    (c : Cell) (hc : c ∈ out) : PolyKept cfg target poly sortedHashs c.depth c.hash := by
  obtain ⟨l, _, ⟨hk, _⟩ | ⟨_, hk⟩⟩ := coverRec_emitted (fun _ _ => True) target _ (fun _ _ _ => trivial) fuel depth hash
    level out trivial h c hc
  · exact polyClassifier_kept cfg target poly sortedHashs _ _ l _ hk (by simp)
  · exact polyClassifier_kept cfg target poly sortedHashs _ _ l _ hk (by simp)
end

end Hpx.Tightness

#print axioms Hpx.Tightness.econe_tight_rec
#print axioms Hpx.Tightness.poly_emit_rule
