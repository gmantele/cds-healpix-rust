import HpxVerif.Lemmas.RingLayout
import HpxVerif.Lemmas.CellNumber

/-!
# NESTED <-> RING conversion, level of parts (`HashParts`)

The abscissa of a centre is linear in the parts once base cell 4 is given column 4 instead of 0 where it wraps around
(`col`, `xNat_spec`); that column is the one `to_ring` adds in the equatorial band and the one of the frame in which
`from_ring` computes there.  On the ring layout of `RingLayout` (`nside = 2^d`), `to_ring p` is cell `inRing p` of ring
`ringOf p` (`toRing_spec`) and the centre of `p` is the point of the layout there (`centerXY_layout`), whence the RING
order and, at *every* depth, injectivity (ring and abscissa give the coordinates `(I, J)` of the frame in which
`from_ring` computes: `frame`) and surjectivity (by counting the valid parts).  `from_ring ∘ to_ring = id`
(`fromRing_toRing_parts`) needs `d ≤ 32` because `from_ring` truncates `i`, `j` to `u32`; injectivity of `to_ring`
itself does not.
-/

namespace Hpx.RingBij
open Hpx Hpx.Layer

/-! ## rewriting the shifts of the model into arithmetic over `nside d` -/

theorem nside_pos (d : Nat) : 0 < nside d := by rw [nside_eq]; exact Nat.pow_pos (by decide)

theorem nside_par (d : Nat) : nside d = 1 ∨ nside d % 2 = 0 := by
  rw [nside_eq]
  cases d with
  | zero => left; rfl
  | succ n => right; rw [Nat.pow_succ]; omega

theorem shl_d2 (a d : Nat) : a <<< (d + 2) = 4 * (a * nside d) := by
  rw [Nat.shiftLeft_eq, nside_eq, Nat.pow_add]; ring

theorem shr_d2 (a d : Nat) : a >>> (d + 2) = a / (4 * nside d) := by
  rw [Nat.shiftRight_eq_div_pow, nside_eq, Nat.pow_add]; congr 1; ring

theorem shr_d (a d : Nat) : a >>> d = a / nside d := by
  rw [Nat.shiftRight_eq_div_pow, nside_eq]

theorem fe_tri4 (d : Nat) : firstHashInEqr d = tri4 (nside d) := by
  unfold firstHashInEqr; rw [shl2d, tri4_eq]; omega

theorem div_of_lt {n k : Nat} (q : Nat) (h : k < n) : (k + n * q) / n = q := by
  rw [Nat.add_mul_div_left _ _ (by omega), Nat.div_eq_of_lt h]; omega

theorem mod_of_lt {n k : Nat} (q : Nat) (h : k < n) : (k + n * q) % n = k := by
  rw [Nat.add_mul_mod_self_left, Nat.mod_eq_of_lt h]

theorem valid_lt {d : Nat} {p : HashParts} (hv : Valid d p) : p.d0h < 12 ∧ p.i < nside d ∧ p.j < nside d := by
  rw [nside_eq]; exact hv

def ringOf (ns : Nat) (p : HashParts) : Nat := (p.d0h / 4 + 2) * ns - (p.i + p.j + 2)

/-- the abscissa `X ∈ [0, 8·ns)` of the centre of a cell, as a natural number -/
def xNat (ns : Nat) (p : HashParts) : Nat :=
  let off := (2 * (p.d0h % 4) + (if p.d0h / 4 = 1 then 0 else 1)) * ns
  if p.i + off < p.j then p.i + off + 8 * ns - p.j else p.i + off - p.j

/-- column of a cell's base cell, counted from the meridian `X = 0`: `d0h % 4`, except that the cells of base cell 4
    west of that meridian (whose abscissa wraps around to `[7·ns, 8·ns)`) are in column 4.  This is the column
    `to_ring` adds in its equatorial branch, and the column of the frame in which `from_ring` computes. -/
def col (p : HashParts) : Nat := if p.d0h = 4 ∧ p.i < p.j then 4 else p.d0h % 4

/-- the column enters the arithmetic only through the product `ns · col`, which `omega` takes as an atom -/
theorem col_mul (ns : Nat) (p : HashParts) :
    ns * col p ≤ 3 * ns ∨ (p.d0h = 4 ∧ p.i < p.j ∧ ns * col p = 4 * ns) := by
  unfold col; split
  · right; omega
  · left; rw [Nat.mul_comm]; exact Nat.mul_le_mul_right _ (by omega)

/-- linear description of `xNat`: rows 0 and 2 of base cells are shifted east by half a base cell -/
theorem xNat_spec (d : Nat) (p : HashParts) (hv : Valid d p) :
    xNat (nside d) p + p.j = p.i + 2 * (nside d * col p) + nside d * ((p.d0h / 4 + 1) % 2) := by
  obtain ⟨hb, -, hj⟩ := valid_lt hv
  generalize nside d = ns at *
  unfold xNat col
  dsimp only
  have h3 : (p.d0h / 4 + 1) % 2 = if p.d0h / 4 = 1 then 0 else 1 := by split <;> omega
  rw [h3, Nat.add_mul, Nat.mul_assoc, Nat.mul_comm (p.d0h % 4) ns, Nat.mul_comm _ ns]
  by_cases hw : p.d0h = 4 ∧ p.i < p.j
  · simp only [hw, and_self, if_true, Nat.reduceMod, Nat.reduceDiv, Nat.mul_zero, Nat.add_zero]
    omega
  · rw [if_neg hw]
    -- without the wrap, either the offset is 0 and `j ≤ i`, or it is at least `ns > j`
    have h0 : p.d0h % 4 = 0 → ns * (p.d0h % 4) = 0 := fun h => by rw [h]; rfl
    have h3 : p.d0h % 4 ≠ 0 → ns ≤ ns * (p.d0h % 4) := fun h => Nat.le_mul_of_pos_right ns (by omega)
    have h4 : p.d0h / 4 ≠ 1 → ns * (if p.d0h / 4 = 1 then 0 else 1) = ns := fun h => by rw [if_neg h, Nat.mul_one]
    have h5 : p.d0h / 4 = 1 → ns * (if p.d0h / 4 = 1 then 0 else 1) = 0 := fun h => by rw [if_pos h]; rfl
    generalize ns * (p.d0h % 4) = Q at *
    generalize ns * (if p.d0h / 4 = 1 then 0 else 1) = E at *
    split <;> omega

theorem xNat_lt (d : Nat) (p : HashParts) (hv : Valid d p) : xNat (nside d) p < 8 * nside d := by
  have hX := xNat_spec d p hv
  obtain ⟨hb, hi, hj⟩ := valid_lt hv
  have hE : nside d * ((p.d0h / 4 + 1) % 2) ≤ nside d * 1 := Nat.mul_le_mul_left _ (by omega)
  rcases col_mul (nside d) p with h | ⟨h0, h, e⟩
  · omega
  · rw [e, h0] at hX; omega

/-- in the caps (rows 0 and 2) no abscissa wraps around -/
theorem xNat_cap (d : Nat) (p : HashParts) (hv : Valid d p) (hk : p.d0h / 4 = 0 ∨ p.d0h / 4 = 2) :
    xNat (nside d) p + p.j = p.i + 2 * (nside d * (p.d0h % 4)) + nside d := by
  have hX := xNat_spec d p hv
  rw [col, if_neg (by omega)] at hX
  rcases hk with h | h <;> simpa only [h, Nat.reduceAdd, Nat.reduceMod, Nat.mul_one] using hX

theorem cap_below (d u : Nat) (hu : u < nside d) :
    tri4 (u + 1) ≤ firstHashInEqr d ∧ 2 * firstHashInEqr d ≤ nHash d := by
  have h1 : tri4 (u + 1) ≤ tri4 (nside d) := tri4_mono hu
  have h3 := Nat.le_mul_self (nside d)
  rw [fe_tri4, nHash_eq, tri4_eq (nside d)] at *
  exact ⟨h1, by omega⟩

theorem ri_cap {d : Nat} {RI : Nat → Nat} (hRI : ExactBelow RI (firstHashInEqr d)) {u r : Nat} (hu : u < nside d)
    (hr : r < 4 * (u + 1)) : RI (tri4 u + r) = u := by
  have h1 := (cap_below d u hu).1
  have h2 := tri4_succ u
  exact hRI.eq (by omega) (by omega) (by omega)

/-! ## `to_ring` on parts, region by region

`t` is the ring of the cell (`region` below): `t + (i + j + 2) = (row + 2)·nside`. -/

/-- the rank in a cap as `to_ring` computes it; both caps run this code, with `q` cells per facet -/
theorem cap_rank {i j q c : Nat} (Q first : Nat) (hc : 2 * c + j + 1 = q + i) :
    (if ((i : Int) - j) / 2 + ((q / 2 + Q : Nat) : Int) < 0 then none
      else some ((((i : Int) - j) / 2 + ((q / 2 + Q : Nat) : Int)).toNat + first)) = some (first + (c + Q)) := by
  rw [if_neg (by omega)]
  simp only [Option.some.injEq]
  omega

theorem toRing_north (d : Nat) (p : HashParts) (hv : Valid d p) (t : Nat)
    (ht : t + (p.i + p.j + 2) = (p.d0h / 4 + 2) * nside d) (hk : p.d0h / 4 = 0) (hlt : t < nside d) :
    toRingParts d p = some (tri4 t + (nside d - 1 - p.j + (t + 1) * (p.d0h % 4))) := by
  obtain ⟨hb, -, hj⟩ := valid_lt hv
  unfold toRingParts idiv2
  dsimp only
  rw [hk] at ht ⊢
  rw [if_neg (by omega), show (0 + 2) * nside d - (p.i + p.j + 2) = t by omega, if_pos hlt]
  exact cap_rank _ _ (by omega)

theorem toRing_south (d : Nat) (p : HashParts) (hk : p.d0h / 4 = 2) (hh : p.i + p.j + 1 ≤ nside d) :
    toRingParts d p = some (nHash d - tri4 (p.i + p.j + 1) + (p.i + (p.i + p.j + 1) * (p.d0h % 4))) := by
  obtain ⟨c1, c2⟩ := cap_below d (p.i + p.j) hh
  unfold toRingParts idiv2
  dsimp only
  rw [hk, if_neg (by omega), if_neg (by omega), if_pos (by omega), if_neg (by omega)]
  exact cap_rank _ _ (by omega)

/-- halving commutes with the sum in `to_ring`'s equatorial branch -/
theorem half_sum {L : Int} {E Q X : Nat} (hX : (X : Int) = L + 2 * Q + E) (h : E % 2 = 0 ∨ L = 0) :
    L / 2 + (E / 2 : Nat) + Q = (X / 2 : Nat) := by omega

theorem toRing_eq (d : Nat) (p : HashParts) (hv : Valid d p) (t : Nat)
    (ht : t + (p.i + p.j + 2) = (p.d0h / 4 + 2) * nside d) (h1 : nside d ≤ t) (h2 : t + 2 ≤ 3 * nside d) :
    toRingParts d p = some (xNat (nside d) p / 2 + (firstHashInEqr d + 4 * ((t - nside d) * nside d))) := by
  have hX := xNat_spec d p hv
  obtain ⟨hb, hi, hj⟩ := valid_lt hv
  have hc : ((p.d0h == 4 && decide ((p.i : Int) - p.j < 0)) = true) ↔ (p.d0h = 4 ∧ p.i < p.j) := by
    simp only [Bool.and_eq_true, beq_iff_eq, decide_eq_true_eq]; omega
  -- `nside · (row offset)` is even, except at depth 0, where `i = j = 0`
  have hE : nside d * ((p.d0h / 4 + 1) % 2) % 2 = 0 ∨ (p.i : Int) - p.j = 0 := by
    rcases nside_par d with h | h
    · right; omega
    · left; rw [Nat.mul_mod, h, Nat.zero_mul]
  unfold toRingParts idiv2
  dsimp only
  rw [shl_d2, if_neg (by omega), show (p.d0h / 4 + 2) * nside d - (p.i + p.j + 2) = t by omega, if_neg (by omega),
    if_neg (by omega)]
  simp only [hc]
  rw [show (if p.d0h = 4 ∧ p.i < p.j then 4 else p.d0h % 4) = col p from rfl,
    half_sum (X := xNat (nside d) p) (by omega) hE, if_neg (by omega), Int.toNat_natCast]

/-- column / row, in the `(I, J)` frame used by `from_ring` in the equatorial region, of the base cell of row `k` and
    column `c` (`col`) -/
def eqI0 (k c : Nat) : Nat := if k = 0 then c + 1 else c
def eqJ0 (k c : Nat) : Nat := if k = 2 then 3 - c else 4 - c

theorem depth0_eq (p : HashParts) (hb : p.d0h < 12) :
    eqI0 (p.d0h / 4) (col p) < 256 ∧ eqJ0 (p.d0h / 4) (col p) < 256 ∧
    depth0HashUnsafe (eqI0 (p.d0h / 4) (col p)) (eqJ0 (p.d0h / 4) (col p)) = p.d0h := by
  have T : ∀ b, b < 12 → eqI0 (b / 4) (b % 4) < 256 ∧ eqJ0 (b / 4) (b % 4) < 256 ∧
    depth0HashUnsafe (eqI0 (b / 4) (b % 4)) (eqJ0 (b / 4) (b % 4)) = b := by decide
  unfold col; split
  · next h => rw [h.1]; decide
  · exact T _ hb

/-- the frame coordinates `(I, J) = (i + ns·I0, j + ns·J0)` in which `from_ring` computes are determined by the ring
    and the abscissa, in every region: `I + J = 7·ns − 2 − t`, `I − J = X − 4·ns` -/
theorem frame (d : Nat) (p : HashParts) (hv : Valid d p) (t : Nat)
    (ht : t + (p.i + p.j + 2) = (p.d0h / 4 + 2) * nside d) :
    xNat (nside d) p + 3 * nside d = 2 * (p.i + nside d * eqI0 (p.d0h / 4) (col p)) + (t + 2) ∧
    11 * nside d = xNat (nside d) p + 2 * (p.j + nside d * eqJ0 (p.d0h / 4) (col p)) + (t + 2) := by
  have hX := xNat_spec d p hv
  have hQ := col_mul (nside d) p
  have hb := (valid_lt hv).1
  generalize xNat (nside d) p = X at *
  generalize nside d = ns at *
  unfold eqI0 eqJ0
  have hk : p.d0h / 4 = 0 ∨ p.d0h / 4 = 1 ∨ p.d0h / 4 = 2 := by omega
  rcases hk with h | h | h <;> rw [h] at hX ht ⊢
  all_goals simp only [Nat.reduceEqDiff, if_false, if_true, Nat.reduceAdd, Nat.reduceMod, Nat.mul_add, Nat.mul_sub,
    Nat.mul_one, Nat.mul_zero] at hX ht ⊢
  all_goals generalize ns * col p = Q at *
  all_goals omega

/-! ## `from_ring` on parts, region by region: each takes the result of the `toRing_*` of its region back -/

/-- `i` and `j` as `from_ring` computes them in a cap (`h` as in the code), from the ring `t` counted from the pole and
    the rank `c` in the facet -/
theorem cap_ij {h : Int} {c Q t i j : Nat} (hi : h + (2 * c - t) = 2 * i) (hj : h - (2 * c - t) = 2 * j)
    (hi' : i < 2 ^ 32) (hj' : j < 2 ^ 32) :
    ((h + ((((c + Q - Q) <<< 1 : Nat) : Int) - t)) / 2).toNat % 2 ^ 32 = i ∧
    ((h - ((((c + Q - Q) <<< 1 : Nat) : Int) - t)) / 2).toNat % 2 ^ 32 = j := by omega

theorem fromRing_north (d : Nat) (RI : Nat → Nat) (hRI : ExactBelow RI (firstHashInEqr d)) (hd : nside d ≤ 2 ^ 32)
    (p : HashParts) (hv : Valid d p) (t : Nat)
    (ht : t + (p.i + p.j + 2) = (p.d0h / 4 + 2) * nside d) (hk : p.d0h / 4 = 0) (hlt : t < nside d) :
    fromRingParts d RI (tri4 t + (nside d - 1 - p.j + (t + 1) * (p.d0h % 4))) = some p := by
  obtain ⟨b, i, j⟩ := p
  obtain ⟨hb, hi, hj⟩ := valid_lt hv
  dsimp only at *
  rw [hk] at ht
  rw [show b % 4 = b by omega]
  have hb4 : b < 4 := by omega
  clear hk hb
  obtain ⟨c1, c2⟩ := cap_below d t hlt
  have h2 := tri4_succ t
  -- the column enters only through the product `(t + 1) · column`, kept as an atom
  have hQ : (t + 1) * b ≤ (t + 1) * 3 := Nat.mul_le_mul_left _ (by omega)
  unfold fromRingParts idiv2
  dsimp only
  rw [ri_cap hRI hlt (by omega), Nat.add_sub_cancel_left, div_of_lt _ (by omega)]
  generalize (t + 1) * b = Q at *
  generalize nside d = ns at *
  generalize tri4 t = T at *
  generalize tri4 (t + 1) = T1 at *
  generalize nHash d = H at *
  generalize firstHashInEqr d = fe at *
  rw [if_neg (by omega), if_pos (by omega), if_neg (by omega)]
  simp only [Option.some.injEq, HashParts.mk.injEq]
  exact ⟨by omega, cap_ij (by omega) (by omega) (by omega) (by omega)⟩

theorem fromRing_south (d : Nat) (RI : Nat → Nat) (hRI : ExactBelow RI (firstHashInEqr d)) (hd : nside d ≤ 2 ^ 32)
    (p : HashParts) (hk : p.d0h / 4 = 2) (hh : p.i + p.j + 1 ≤ nside d) :
    fromRingParts d RI (nHash d - tri4 (p.i + p.j + 1) + (p.i + (p.i + p.j + 1) * (p.d0h % 4))) = some p := by
  obtain ⟨b, i, j⟩ := p
  dsimp only at *
  obtain ⟨m, rfl, hm⟩ : ∃ m, b = 8 + m ∧ m < 4 := ⟨b - 8, by omega, by omega⟩
  rw [show (8 + m) % 4 = m by omega]
  clear hk
  obtain ⟨c1, c2⟩ := cap_below d (i + j) hh
  have h2 := tri4_succ (i + j)
  have hQ : (i + j + 1) * m ≤ (i + j + 1) * 3 := Nat.mul_le_mul_left _ (by omega)
  -- counted from the last cell, the cell is in ring `i + j` from the south pole
  have hx : nHash d - 1 - (nHash d - tri4 (i + j + 1) + (i + (i + j + 1) * m)) =
      tri4 (i + j) + (4 * (i + j + 1) - 1 - (i + (i + j + 1) * m)) := by omega
  unfold fromRingParts idiv2
  dsimp only
  rw [hx, ri_cap hRI hh (by omega), Nat.add_sub_cancel_left,
    show ((i + j + 1) <<< 2) - 1 - (4 * (i + j + 1) - 1 - (i + (i + j + 1) * m)) = i + (i + j + 1) * m
      by omega,
    div_of_lt _ (by omega)]
  generalize (i + j + 1) * m = Q at *
  generalize nside d = ns at *
  generalize tri4 (i + j) = T at *
  generalize tri4 (i + j + 1) = T1 at *
  generalize nHash d = H at *
  generalize firstHashInEqr d = fe at *
  rw [if_neg (by omega), if_neg (by omega), if_pos (by omega), if_neg (by omega), if_neg (by omega), if_neg (by omega)]
  simp only [Option.some.injEq, HashParts.mk.injEq]
  exact ⟨by omega, cap_ij (by omega) (by omega) (by omega) (by omega)⟩

/-- in the band `from_ring` computes the frame coordinates `I`, `J` from the ring `t` and the abscissa `X` and splits them
    at `nside`: where they are `i + ns·I0`, `j + ns·J0` (the equations of `frame`), it returns `i`, `j` and the base cell
    at `(I0, J0)` -/
theorem fromRing_eq (d : Nat) (RI : Nat → Nat) (t X I0 J0 i j : Nat)
    (h1 : nside d ≤ t) (h2 : t + 2 ≤ 3 * nside d) (hX : X < 8 * nside d) (hi : i < nside d) (hj : j < nside d)
    (hI0 : I0 < 256) (hJ0 : J0 < 256)
    (f1 : X + 3 * nside d = 2 * (i + nside d * I0) + (t + 2))
    (f2 : 11 * nside d = X + 2 * (j + nside d * J0) + (t + 2)) :
    fromRingParts d RI (X / 2 + (firstHashInEqr d + 4 * ((t - nside d) * nside d))) =
      some ⟨depth0HashUnsafe I0 J0, i, j⟩ := by
  have hfe := fe_tri4 d
  have h0 := tri4_eq (nside d)
  have hnh := nHash_eq d
  have h3 := Nat.le_mul_self (nside d)
  have h4 : (t - nside d) * nside d + 2 * nside d ≤ 2 * (nside d * nside d) := by
    have := Nat.mul_le_mul_right (nside d) (by omega : t - nside d + 2 ≤ 2 * nside d)
    rw [Nat.add_mul, Nat.mul_assoc] at this; exact this
  have e0 : 4 * nside d * (t - nside d) = 4 * ((t - nside d) * nside d) := by ring
  unfold fromRingParts idiv2
  dsimp only
  rw [show X / 2 + (firstHashInEqr d + 4 * ((t - nside d) * nside d)) - firstHashInEqr d =
    X / 2 + 4 * nside d * (t - nside d) by omega]
  simp only [shr_d2 _ d, shl_d2 _ d, shr_d _ d]
  rw [div_of_lt _ (by omega), show X / 2 + 4 * nside d * (t - nside d) - 4 * ((t - nside d) * nside d) = X / 2 by omega]
  generalize nside d = ns at *
  generalize nHash d = H at *
  generalize firstHashInEqr d = fe at *
  rw [if_neg (by omega), if_neg (by omega), if_neg (by omega), if_neg (by omega)]
  have eI : (ns <<< 1 - 2 - (t - ns) + ((X / 2) <<< 1 + (t - ns) % 2)) >>> 1 = i + ns * I0 := by omega
  have eJ : (((ns <<< 1 - 2 - (t - ns) : Nat) : Int) - (((X / 2) <<< 1 + (t - ns) % 2 : Nat) : Int)) / (2 : Int)
      + ((ns <<< 2 : Nat) : Int) = ((j + ns * J0 : Nat) : Int) := by omega
  rw [eI, eJ, Int.toNat_natCast, div_of_lt _ hi, div_of_lt _ hj, mod_of_lt _ hi, mod_of_lt _ hj, Nat.mod_eq_of_lt hI0,
    Nat.mod_eq_of_lt hJ0, if_neg (by omega)]

theorem roundtrip_eq (d : Nat) (RI : Nat → Nat) (p : HashParts) (hv : Valid d p) (t : Nat)
    (ht : t + (p.i + p.j + 2) = (p.d0h / 4 + 2) * nside d) (h1 : nside d ≤ t) (h2 : t + 2 ≤ 3 * nside d) :
    fromRingParts d RI (xNat (nside d) p / 2 + (firstHashInEqr d + 4 * ((t - nside d) * nside d))) = some p := by
  obtain ⟨f1, f2⟩ := frame d p hv t ht
  obtain ⟨hb, hi, hj⟩ := valid_lt hv
  obtain ⟨b1, b2, b3⟩ := depth0_eq p hb
  conv_rhs => rw [show p = ⟨p.d0h, p.i, p.j⟩ from rfl, ← b3]
  exact fromRing_eq d RI t _ _ _ p.i p.j h1 h2 (xNat_lt d p hv) hi hj b1 b2 f1 f2

def inRing (ns : Nat) (p : HashParts) : Nat :=
  let t := ringOf ns p
  if t < ns then (ns - 1 - p.j) + (t + 1) * (p.d0h % 4)
  else if t + 1 < 3 * ns then xNat ns p / 2
  else p.i + (p.i + p.j + 1) * (p.d0h % 4)

/-- the regions as `to_ring` branches: the transition rings go with the caps -/
theorem region (d : Nat) (p : HashParts) (hv : Valid d p) :
    ∃ t, ringOf (nside d) p = t ∧ t + (p.i + p.j + 2) = (p.d0h / 4 + 2) * nside d ∧
      ((p.d0h / 4 = 0 ∧ t < nside d ∧ inRing (nside d) p = nside d - 1 - p.j + (t + 1) * (p.d0h % 4)) ∨
       (nside d ≤ t ∧ t + 2 ≤ 3 * nside d ∧ inRing (nside d) p = xNat (nside d) p / 2) ∨
       (p.d0h / 4 = 2 ∧ 3 * nside d ≤ t + 1 ∧ inRing (nside d) p = p.i + (p.i + p.j + 1) * (p.d0h % 4))) := by
  obtain ⟨hb, hi, hj⟩ := valid_lt hv
  generalize nside d = ns at *
  unfold inRing ringOf
  dsimp only
  have hk : p.d0h / 4 = 0 ∨ p.d0h / 4 = 1 ∨ p.d0h / 4 = 2 := by omega
  obtain ⟨t, e⟩ : ∃ t, (p.d0h / 4 + 2) * ns - (p.i + p.j + 2) = t := ⟨_, rfl⟩
  rw [e]
  refine ⟨t, rfl, by rcases hk with h | h | h <;> rw [h] at e ⊢ <;> omega, ?_⟩
  by_cases h1 : t < ns
  · exact .inl ⟨by rcases hk with h | h | h <;> rw [h] at e <;> omega, h1, if_pos h1⟩
  by_cases h2 : t + 1 < 3 * ns
  · exact .inr (.inl ⟨by omega, by omega, by rw [if_neg h1, if_pos h2]⟩)
  · exact .inr (.inr ⟨by rcases hk with h | h | h <;> rw [h] at e <;> omega, by omega, by rw [if_neg h1, if_neg h2]⟩)

theorem toRing_spec (d : Nat) (p : HashParts) (hv : Valid d p) :
    toRingParts d p = some (RingReal.ringStart (nside d) (ringOf (nside d) p) + inRing (nside d) p) ∧
    ringOf (nside d) p < 4 * nside d - 1 ∧
    inRing (nside d) p < 4 * RingReal.perFacet (nside d) (ringOf (nside d) p) := by
  have hns := nside_pos d
  obtain ⟨hb, hi, hj⟩ := valid_lt hv
  obtain ⟨t, hr, ht, hreg⟩ := region d p hv
  rw [hr]
  rcases hreg with ⟨hk, hlt, hin⟩ | ⟨g1, g2, hin⟩ | ⟨hk, g1, hin⟩ <;> rw [hin]
  · have hQ : (t + 1) * (p.d0h % 4) ≤ (t + 1) * 3 := Nat.mul_le_mul_left _ (by omega)
    rw [RingReal.ringStart_north hlt, RingReal.perFacet_north hlt, toRing_north d p hv t ht hk hlt]
    rw [hk] at ht
    exact ⟨rfl, by omega, by omega⟩
  · have hx := xNat_lt d p hv
    rw [RingReal.ringStart_eq g1 (by omega), RingReal.perFacet_eq (by omega) (by omega), toRing_eq d p hv t ht g1 g2,
      fe_tri4, Nat.add_comm]
    exact ⟨rfl, by omega, by omega⟩
  · have hQ : (p.i + p.j + 1) * (p.d0h % 4) ≤ (p.i + p.j + 1) * 3 := Nat.mul_le_mul_left _ (by omega)
    rw [hk] at ht
    rw [RingReal.ringStart_south g1, RingReal.perFacet_south g1 (by omega),
      show 4 * nside d - 1 - t = p.i + p.j + 1 by omega, toRing_south d p hk (by omega), nHash_eq]
    exact ⟨rfl, by omega, by omega⟩

theorem toRingParts_lt (d : Nat) (p : HashParts) (hv : Valid d p) :
    ∃ r, toRingParts d p = some r ∧ r < 12 * 4 ^ d := by
  obtain ⟨h1, h2, h3⟩ := toRing_spec d p hv
  refine ⟨_, h1, ?_⟩
  rw [four_pow_eq, ← Nat.mul_assoc]
  exact RingReal.ringStart_add_lt (nside_pos d) h2 h3

theorem fromRing_spec (d : Nat) (RI : Nat → Nat) (hRI : ExactBelow RI (firstHashInEqr d)) (hd : d ≤ 32)
    (p : HashParts) (hv : Valid d p) :
    fromRingParts d RI (RingReal.ringStart (nside d) (ringOf (nside d) p) + inRing (nside d) p) = some p := by
  have hd' : nside d ≤ 2 ^ 32 := by rw [nside_eq]; exact Nat.pow_le_pow_right (by decide) hd
  obtain ⟨t, hr, ht, hreg⟩ := region d p hv
  rw [hr]
  rcases hreg with ⟨hk, hlt, hin⟩ | ⟨g1, g2, hin⟩ | ⟨hk, g1, hin⟩ <;> rw [hin]
  · rw [RingReal.ringStart_north hlt]
    exact fromRing_north d RI hRI hd' p hv t ht hk hlt
  · rw [RingReal.ringStart_eq g1 (by omega), ← RingReal.tri4_same, ← fe_tri4, Nat.add_comm]
    exact roundtrip_eq d RI p hv t ht g1 g2
  · rw [hk] at ht
    rw [RingReal.ringStart_south g1, show 4 * nside d - 1 - t = p.i + p.j + 1 by omega, ← nHash_eq]
    exact fromRing_south d RI hRI hd' p hk (by omega)

/-- depth `≤ 32`: beyond, `from_ring` truncates `i`, `j` to `u32`.  `hRI` holds of any `ExactRI` function
    (`ExactRI.below`) and, under `ApproxOK`, of the one of the code (`realRI_exactBelow`) -/
theorem fromRing_toRing_parts (d : Nat) (RI : Nat → Nat) (hRI : ExactBelow RI (firstHashInEqr d)) (hd : d ≤ 32)
    (p : HashParts) (hv : Valid d p) (r : Nat) (hr : toRingParts d p = some r) : fromRingParts d RI r = some p := by
  have h1 := (toRing_spec d p hv).1
  rw [hr] at h1
  cases h1
  exact fromRing_spec d RI hRI hd p hv

theorem centerXY_closed (d : Nat) (p : HashParts) (hv : Valid d p) :
    centerXY d p = ((xNat (nside d) p : Int), 2 * (nside d : Int) - 1 - (ringOf (nside d) p : Int)) := by
  obtain ⟨t, hr, ht, -⟩ := region d p hv
  obtain ⟨hb, hi, hj⟩ := valid_lt hv
  obtain ⟨b, i, j⟩ := p
  rw [centerXY_linear, hr]
  unfold xNat
  dsimp only at *
  -- the offset of the base cell, as `xNat` has it (a natural number)
  obtain ⟨off, hoff⟩ : ∃ off, (2 * (b % 4) + (if b / 4 = 1 then 0 else 1)) * nside d = off := ⟨_, rfl⟩
  have hI : (2 * ((b % 4 : Nat) : Int) + (if b / 4 = 1 then 0 else 1)) * (nside d : Int) = (off : Int) := by
    rw [← hoff]; split <;> push_cast <;> ring
  rw [hI, hoff]
  generalize nside d = ns at *
  have hk : b / 4 = 0 ∨ b / 4 = 1 ∨ b / 4 = 2 := by omega
  apply Prod.ext <;> dsimp only
  · split <;> split <;> omega
  · rcases hk with h | h | h <;> rw [h] at ht ⊢ <;> omega

theorem cxI_inRing (d : Nat) (p : HashParts) (hv : Valid d p) :
    RingReal.cxI (nside d) (ringOf (nside d) p) (inRing (nside d) p) = xNat (nside d) p := by
  obtain ⟨hb, hi, hj⟩ := valid_lt hv
  obtain ⟨t, hr, ht, hreg⟩ := region d p hv
  rw [hr]
  rcases hreg with ⟨hk, hlt, hin⟩ | ⟨g1, g2, hin⟩ | ⟨hk, g1, hin⟩ <;> rw [hin]
  · have hX := xNat_cap d p hv (.inl hk)
    rw [hk] at ht
    unfold RingReal.cxI
    rw [RingReal.perFacet_north hlt, RingReal.cxOff_north hlt, div_of_lt _ (by omega), mod_of_lt _ (by omega),
      Nat.mul_assoc]
    omega
  · obtain ⟨f1, -⟩ := frame d p hv t ht
    rw [RingReal.cxI_band (by omega) (by omega)]
    omega
  · have hX := xNat_cap d p hv (.inr hk)
    rw [hk] at ht
    unfold RingReal.cxI
    rw [RingReal.perFacet_south g1 (by omega), RingReal.cxOff_south g1,
      show 4 * nside d - 1 - t = p.i + p.j + 1 by omega, div_of_lt _ (by omega), mod_of_lt _ (by omega), Nat.mul_assoc]
    omega

theorem centerXY_layout (d : Nat) (p : HashParts) (hv : Valid d p) :
    centerXY d p =
      ((RingReal.cxI (nside d) (ringOf (nside d) p) (inRing (nside d) p) : Int),
       RingReal.cyI (nside d) (ringOf (nside d) p)) := by
  rw [centerXY_closed d p hv, cxI_inRing d p hv]
  rfl

theorem ring_order_parts (d : Nat) (p q : HashParts) (hp : Valid d p) (hq : Valid d q) (rp rq : Nat)
    (h1 : toRingParts d p = some rp) (h2 : toRingParts d q = some rq) :
    rp < rq ↔ ((centerXY d p).2 > (centerXY d q).2 ∨
      ((centerXY d p).2 = (centerXY d q).2 ∧ (centerXY d p).1 < (centerXY d q).1)) := by
  obtain ⟨s1, s2, s3⟩ := toRing_spec d p hp
  obtain ⟨s1', s2', s3'⟩ := toRing_spec d q hq
  rw [h1] at s1; rw [h2] at s1'
  cases s1; cases s1'
  rw [centerXY_layout d p hp, centerXY_layout d q hq]
  exact RingReal.layout_order (nside_pos d) s2 s2' s3 s3'

theorem add_mul_inj {n a b q q' : Nat} (ha : a < n) (hb : b < n) (e : a + n * q = b + n * q') : a = b ∧ q = q' := by
  have h1 := mod_of_lt q ha
  have h2 := mod_of_lt q' hb
  have h3 := div_of_lt q ha
  have h4 := div_of_lt q' hb
  rw [e] at h1 h3
  exact ⟨by omega, by omega⟩

/-- the ring and the rank in the ring determine the parts: they give the abscissa (`cxI_inRing`), hence the frame
    coordinates, hence `i`, `j` and the place of the base cell in the frame -/
theorem spec_inj (d : Nat) (p q : HashParts) (hp : Valid d p) (hq : Valid d q)
    (ht : ringOf (nside d) p = ringOf (nside d) q) (hr : inRing (nside d) p = inRing (nside d) q) : p = q := by
  have hX := cxI_inRing d p hp
  rw [ht, hr, cxI_inRing d q hq] at hX
  obtain ⟨t, hr1, g, -⟩ := region d p hp
  obtain ⟨t', hr1', g', -⟩ := region d q hq
  rw [hr1, hr1'] at ht
  subst ht
  obtain ⟨f1, f2⟩ := frame d p hp t g
  obtain ⟨f1', f2'⟩ := frame d q hq t g'
  rw [← hX] at f1 f2
  obtain ⟨hb, hi, hj⟩ := valid_lt hp
  obtain ⟨hb', hi', hj'⟩ := valid_lt hq
  obtain ⟨a1, a2⟩ := add_mul_inj hi hi' (by omega : p.i + nside d * eqI0 (p.d0h / 4) (col p) =
    q.i + nside d * eqI0 (q.d0h / 4) (col q))
  obtain ⟨b1, b2⟩ := add_mul_inj hj hj' (by omega : p.j + nside d * eqJ0 (p.d0h / 4) (col p) =
    q.j + nside d * eqJ0 (q.d0h / 4) (col q))
  have z := (depth0_eq p hb).2.2
  rw [a2, b2, (depth0_eq q hb').2.2] at z
  obtain ⟨b, i, j⟩ := p
  obtain ⟨b', i', j'⟩ := q
  dsimp only at a1 b1 z
  rw [a1, b1, z]

theorem toRingParts_injective (d : Nat) (p q : HashParts) (hp : Valid d p) (hq : Valid d q)
    (e : toRingParts d p = toRingParts d q) : p = q := by
  obtain ⟨s1, s2, s3⟩ := toRing_spec d p hp
  obtain ⟨s1', s2', s3'⟩ := toRing_spec d q hq
  rw [e, s1'] at s1
  obtain ⟨ht, hr⟩ := RingReal.ring_decompose_unique (nside_pos d) s2 s2' s3 s3' (Option.some.inj s1).symm
  exact spec_inj d p q hp hq ht hr

theorem onto_of_injective (N : Nat) : ∀ f : Nat → Nat, (∀ x, x < N → f x < N) →
    (∀ x y, x < N → y < N → f x = f y → x = y) → ∀ y, y < N → ∃ x, x < N ∧ f x = y := by
  induction N with
  | zero => intro _ _ _ y hy; omega
  | succ N ih =>
    intro f hf hinj y hy
    -- leave out the value `f N`: the values above it move down by one
    have hN := hf N (by omega)
    have hne : ∀ x, x < N → f x ≠ f N := fun x hx e => by have := hinj x N (by omega) (by omega) e; omega
    have hg := ih (fun x => if f x < f N then f x else f x - 1)
      (fun x hx => by have := hf x (by omega); have := hne x hx; split <;> omega)
      (fun x x' hx hx' e => hinj x x' (by omega) (by omega) (by
        have := hne x hx; have := hne x' hx'; split at e <;> split at e <;> omega))
    rcases Nat.lt_trichotomy y (f N) with h | h | h
    · obtain ⟨x, hx, e⟩ := hg y (by omega)
      exact ⟨x, by omega, by have := hne x hx; split at e <;> omega⟩
    · exact ⟨N, by omega, h.symm⟩
    · obtain ⟨x, hx, e⟩ := hg (y - 1) (by omega)
      exact ⟨x, by omega, by have := hne x hx; split at e <;> omega⟩

theorem toRing_surj (d r : Nat) (hr : r < 12 * 4 ^ d) : ∃ p, Valid d p ∧ toRingParts d p = some r := by
  have hns : 0 < 2 ^ d := Nat.pow_pos (by decide)
  have h4 : 12 * 4 ^ d = 12 * 2 ^ d * 2 ^ d := by rw [four_pow_eq, nside_eq, Nat.mul_assoc]
  -- `to_ring` is injective on the valid parts and maps them into `[0, 12·4^d)`, and there are `12·4^d` of them:
  -- `h < 12·4^d` numbers the parts `(h / 2^d / 2^d, h / 2^d % 2^d, h % 2^d)`
  have hv : ∀ h, h < 12 * 4 ^ d → Valid d ⟨h / 2 ^ d / 2 ^ d, h / 2 ^ d % 2 ^ d, h % 2 ^ d⟩ := fun h hh =>
    ⟨(Nat.div_lt_iff_lt_mul hns).2 ((Nat.div_lt_iff_lt_mul hns).2 (h4 ▸ hh)), Nat.mod_lt _ hns, Nat.mod_lt _ hns⟩
  obtain ⟨h, hh, e⟩ := onto_of_injective (12 * 4 ^ d)
    (fun h => (toRingParts d ⟨h / 2 ^ d / 2 ^ d, h / 2 ^ d % 2 ^ d, h % 2 ^ d⟩).getD 0)
    (fun h hh => by obtain ⟨r, e, hlt⟩ := toRingParts_lt d _ (hv h hh); rw [e]; exact hlt)
    (fun h h' hh hh' e => by
      obtain ⟨r, e1, -⟩ := toRingParts_lt d _ (hv h hh)
      obtain ⟨r', e1', -⟩ := toRingParts_lt d _ (hv h' hh')
      have := toRingParts_injective d _ _ (hv h hh) (hv h' hh') (by rw [e1, e1'] at e ⊢; exact congrArg some e)
      simp only [HashParts.mk.injEq] at this
      obtain ⟨a, b, c⟩ := this
      rw [← Nat.div_add_mod h (2 ^ d), ← Nat.div_add_mod (h / 2 ^ d) (2 ^ d), a, b, c, Nat.div_add_mod,
        Nat.div_add_mod]) r hr
  obtain ⟨r', e1, -⟩ := toRingParts_lt d _ (hv h hh)
  exact ⟨_, hv h hh, by rw [e1] at e ⊢; exact congrArg some e⟩

theorem toRing_fromRing_parts (d : Nat) (RI : Nat → Nat) (hRI : ExactBelow RI (firstHashInEqr d)) (hd : d ≤ 32)
    (r : Nat) (hr : r < 12 * 4 ^ d) : ∃ p, fromRingParts d RI r = some p ∧ Valid d p ∧ toRingParts d p = some r := by
  obtain ⟨p, hv, hp⟩ := toRing_surj d r hr
  exact ⟨p, fromRing_toRing_parts d RI hRI hd p hv r hp, hv, hp⟩

theorem toRingParts_bijective (d : Nat) :
    (∀ p, Valid d p → ∃ r, toRingParts d p = some r ∧ r < 12 * 4 ^ d) ∧
    (∀ p q, Valid d p → Valid d q → toRingParts d p = toRingParts d q → p = q) ∧
    (∀ r, r < 12 * 4 ^ d → ∃ p, Valid d p ∧ toRingParts d p = some r) :=
  ⟨toRingParts_lt d, fun p q hp hq e => toRingParts_injective d p q hp hq e, toRing_surj d⟩

#print axioms toRingParts_bijective

theorem fe_lt (d : Nat) (hd : d ≤ 29) : firstHashInEqr d < 2 ^ 60 := by
  rw [fe_tri4, tri4_eq, ← four_pow_eq, nside_eq]
  have h1 : 4 ^ d ≤ 4 ^ 29 := Nat.pow_le_pow_right (by decide) hd
  have h2 : 2 ^ d ≤ 2 ^ 29 := Nat.pow_le_pow_right (by decide) hd
  omega

theorem approxOK_of_lt_2_60 (h : ApproxOK (2 ^ 60)) (d : Nat) (hd : d ≤ 29) : ApproxOK (firstHashInEqr d) :=
  h.mono (Nat.le_of_lt (fe_lt d hd))

/-- the hypotheses of the round trips and of the RING order are satisfiable; the instance is the wrap-around case
    `d0h = 4 ∧ i < j` -/
example : Valid 2 ⟨4, 1, 2⟩ ∧ toRingParts 2 ⟨4, 1, 2⟩ = some 103 ∧ fromRingParts 2 exactRI 103 = some ⟨4, 1, 2⟩ ∧
    fromRingParts 2 realRI 103 = some ⟨4, 1, 2⟩ ∧ centerXY 2 ⟨4, 1, 2⟩ = (31, 0) := by decide +kernel

/-- … and a polar-cap instance -/
example : Valid 2 ⟨1, 3, 2⟩ ∧ toRingParts 2 ⟨1, 3, 2⟩ = some 7 ∧ fromRingParts 2 realRI 7 = some ⟨1, 3, 2⟩ ∧
    centerXY 2 ⟨1, 3, 2⟩ = (13, 6) := by decide +kernel

end Hpx.RingBij
