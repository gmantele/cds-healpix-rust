/-
C12, T2 (what the "fully covered" flag says about the rest of the cell): a COUNTER-EXAMPLE to "a cell whose four vertices are inside a convex polygon is inside the polygon",
proved over ℝ on the model functions (`vertices`, `sph_coo`, `center`, `Polygon::new`, `Polygon::contains`, the classifier
of `polygon_coverage`).

Cell: depth 1, number 23 (base cell 5, `i = j = 1`): plane centre `(2, 1/2)`; vertices S `(π/2, 0)`, E `(5π/8, asin 1/3)`,
N `(π/2, asin 2/3)`, W `(3π/8, asin 1/3)`.  Its south-east side is the image of a straight segment of the projection plane
(`lon = π/2 + t·π/8`, `sin lat = t/3`); it is not a great-circle arc and lies up to 0.47° on the OUTER side of the great circle
through S and E.  Polygon: the triangle `A B C` with rational unit vectors, whose edge `A → B` passes 0.22° outside S and E
and 0.23° inside the point `sph_coo(23, 2/3, 0) = (7π/12, asin 2/9)` of that side.

Evaluation of the `Float` instance of the model (the run that is compared bit for bit with the crate), with
`verts = [(1.1912028869057143, -0.3337048686230828), (2.3195238551787396, 0.5575791415950039),
(0.6981317007977318, 0.9599310885968813)]` (the same construction before rounding to rational unit vectors):
  `polygonCoverage {} 1 verts false`, `… true`  ↦  … `{ depth := 1, hash := 23, full := true }`
  `polygonCoverage {} 2 verts false`, `polygonCoverage {} 3 verts true`  ↦  … `{ depth := 1, hash := 23, full := true }`
  `Polygon.contains` at `sphCoo {} 1 23 0.5 0.0 = (1.767146, 0.167448)` ↦ `false`;  at `center {} 1 23` ↦ `true`.
-/
import HpxVerif.Lemmas.PolyComposeCentre
import HpxVerif.Lemmas.CellRealPoints

set_option autoImplicit false

namespace Hpx.PolyCompose
open Hpx Hpx.Cover Hpx.Bmoc Hpx.Sph Real Hpx.Proj Hpx.CellReal Hpx.EnvelopeReal Hpx.TopoLift

theorem sqrt_bounds (x lo hi : ℝ) (hlo : 0 ≤ lo) (hhi : 0 < hi) (h1 : lo ^ 2 < x) (h2 : x < hi ^ 2) :
    lo < √x ∧ √x < hi :=
  ⟨(Real.lt_sqrt hlo).mpr h1, (Real.sqrt_lt' hhi).mpr h2⟩

theorem mul_bounds (x y a1 a2 b1 b2 : ℝ) (ha : 0 ≤ a1) (hb : 0 ≤ b1) (hx1 : a1 < x) (hx2 : x < a2) (hy1 : b1 < y) (hy2 : y < b2) :
    a1 * b1 < x * y ∧ x * y < a2 * b2 :=
  ⟨mul_lt_mul'' hx1 hy1 ha hb, mul_lt_mul'' hx2 hy2 (ha.trans hx1.le) (hb.trans hy1.le)⟩

theorem b_sqrt2 : (1.414 : ℝ) < √2 ∧ √2 < 1.415 := sqrt_bounds 2 _ _ (by norm_num) (by norm_num) (by norm_num) (by norm_num)
theorem b_sqrt3 : (1.732 : ℝ) < √3 ∧ √3 < 1.733 := sqrt_bounds 3 _ _ (by norm_num) (by norm_num) (by norm_num) (by norm_num)

theorem b_s8 : (0.382 : ℝ) < sin (π / 8) ∧ sin (π / 8) < 0.383 := by
  obtain ⟨l, h⟩ := b_sqrt2
  rw [sin_pi_div_eight]
  obtain ⟨a, b⟩ := sqrt_bounds (2 - √2) 0.764 0.766 (by norm_num) (by norm_num) (by norm_num; linarith) (by norm_num; linarith)
  constructor <;> linarith

theorem b_c8 : (0.923 : ℝ) < cos (π / 8) ∧ cos (π / 8) < 0.924 := by
  obtain ⟨l, h⟩ := b_sqrt2
  rw [cos_pi_div_eight]
  obtain ⟨a, b⟩ := sqrt_bounds (2 + √2) 1.846 1.848 (by norm_num) (by norm_num) (by norm_num; linarith) (by norm_num; linarith)
  constructor <;> linarith

theorem sin_pi_div_twelve : sin (π / 12) = √2 * (√3 - 1) / 4 := by
  rw [show π / 12 = π / 3 - π / 4 by ring, sin_sub, sin_pi_div_three, cos_pi_div_four, cos_pi_div_three, sin_pi_div_four]
  ring

theorem cos_pi_div_twelve : cos (π / 12) = √2 * (√3 + 1) / 4 := by
  rw [show π / 12 = π / 3 - π / 4 by ring, cos_sub, sin_pi_div_three, cos_pi_div_four, cos_pi_div_three, sin_pi_div_four]
  ring

theorem b_s12 : (0.258 : ℝ) < sin (π / 12) ∧ sin (π / 12) < 0.260 := by
  obtain ⟨l2, h2⟩ := b_sqrt2
  obtain ⟨l3, h3⟩ := b_sqrt3
  rw [sin_pi_div_twelve]
  obtain ⟨a, b⟩ := mul_bounds √2 (√3 - 1) 1.414 1.415 0.732 0.733 (by norm_num) (by norm_num) l2 h2 (by linarith) (by linarith)
  exact ⟨by linarith, by linarith⟩

theorem b_c12 : (0.965 : ℝ) < cos (π / 12) ∧ cos (π / 12) < 0.967 := by
  obtain ⟨l2, h2⟩ := b_sqrt2
  obtain ⟨l3, h3⟩ := b_sqrt3
  rw [cos_pi_div_twelve]
  obtain ⟨a, b⟩ := mul_bounds √2 (√3 + 1) 1.414 1.415 2.732 2.733 (by norm_num) (by norm_num) l2 h2 (by linarith) (by linarith)
  exact ⟨by linarith, by linarith⟩

theorem b_cE : (0.942 : ℝ) < cos (Real.arcsin (1 / 3)) ∧ cos (Real.arcsin (1 / 3)) < 0.943 := by
  rw [Real.cos_arcsin]
  exact sqrt_bounds _ _ _ (by norm_num) (by norm_num) (by norm_num) (by norm_num)

theorem b_cN : (0.745 : ℝ) < cos (Real.arcsin (2 / 3)) ∧ cos (Real.arcsin (2 / 3)) < 0.746 := by
  rw [Real.cos_arcsin]
  exact sqrt_bounds _ _ _ (by norm_num) (by norm_num) (by norm_num) (by norm_num)

theorem b_cM : (0.974 : ℝ) < cos (Real.arcsin (2 / 9)) ∧ cos (Real.arcsin (2 / 9)) < 0.975 := by
  rw [Real.cos_arcsin]
  exact sqrt_bounds _ _ _ (by norm_num) (by norm_num) (by norm_num) (by norm_num)

/-- `A = (47.92°, −31.89°)`, `B = (132.74°, 31.89°)`, `C = (36.87°, 53.13°)`, counter-clockwise -/
noncomputable def bulgeLL : List (ℝ × ℝ) :=
  [(Real.arccos (65 / 97), Real.arcsin (-(28 / 53))), (Real.arccos (-(207 / 305)), Real.arcsin (28 / 53)),
   (Real.arccos (4 / 5), Real.arcsin (4 / 5))]

noncomputable def bA : Coo ℝ :=
  { x := 45 / 53 * (65 / 97), y := 45 / 53 * (72 / 97), z := -(28 / 53), lon := Real.arccos (65 / 97), lat := Real.arcsin (-(28 / 53)) }
noncomputable def bB : Coo ℝ :=
  { x := 45 / 53 * (-(207 / 305)), y := 45 / 53 * (224 / 305), z := 28 / 53, lon := Real.arccos (-(207 / 305)), lat := Real.arcsin (28 / 53) }
noncomputable def bC : Coo ℝ :=
  { x := 3 / 5 * (4 / 5), y := 3 / 5 * (3 / 5), z := 4 / 5, lon := Real.arccos (4 / 5), lat := Real.arcsin (4 / 5) }

theorem cooOf_arc (c s cb sb : ℝ) (h1 : c ^ 2 + s ^ 2 = 1) (hs : 0 ≤ s) (h2 : cb ^ 2 + sb ^ 2 = 1) (hcb : 0 ≤ cb) :
    cooOf (Real.arccos c, Real.arcsin sb) =
      { x := cb * c, y := cb * s, z := sb, lon := Real.arccos c, lat := Real.arcsin sb } := by
  obtain ⟨c1, c2⟩ := abs_le.mp ((sq_le_one_iff_abs_le_one c).mp (by linarith [sq_nonneg s]))
  obtain ⟨s1, s2⟩ := abs_le.mp ((sq_le_one_iff_abs_le_one sb).mp (by linarith [sq_nonneg cb]))
  have e1 : Real.sqrt (1 - c ^ 2) = s := by
    rw [show 1 - c ^ 2 = s ^ 2 by linarith, Real.sqrt_sq hs]
  have e2 : Real.sqrt (1 - sb ^ 2) = cb := by
    rw [show 1 - sb ^ 2 = cb ^ 2 by linarith, Real.sqrt_sq hcb]
  unfold cooOf
  simp only [Real.cos_arccos c1 c2, Real.sin_arccos, Real.cos_arcsin, Real.sin_arcsin s1 s2, e1, e2]

theorem bulgeLL_map : bulgeLL.map cooOf = [bA, bB, bC] := by
  simp only [bulgeLL, List.map_cons, List.map_nil]
  rw [cooOf_arc (65 / 97) (72 / 97) (45 / 53) (-(28 / 53)) (by norm_num) (by norm_num) (by norm_num) (by norm_num),
    cooOf_arc (-(207 / 305)) (224 / 305) (45 / 53) (28 / 53) (by norm_num) (by norm_num) (by norm_num) (by norm_num),
    cooOf_arc (4 / 5) (3 / 5) (3 / 5) (4 / 5) (by norm_num) (by norm_num) (by norm_num) (by norm_num)]
  rfl

theorem bulgeLL_range : ∀ ll ∈ bulgeLL, 0 ≤ ll.1 ∧ ll.1 < 2 * π ∧ -(π / 2) ≤ ll.2 ∧ ll.2 ≤ π / 2 := by
  have hpi := pi_pos
  intro ll hll
  simp only [bulgeLL, List.mem_cons, List.not_mem_nil, or_false] at hll
  rcases hll with rfl | rfl | rfl <;>
    exact ⟨Real.arccos_nonneg _, lt_of_le_of_lt (Real.arccos_le_pi _) (by linarith), Real.neg_pi_div_two_le_arcsin _,
      Real.arcsin_le_pi_div_two _⟩

theorem bulge_convex : ConvexNoPole 1 (bulgeLL.map cooOf) := by
  have hpi := pi_pos
  have hval : ∀ v ∈ bulgeLL.map cooOf, v.Valid ∧ v.NonPole := by
    intro v hv
    refine ⟨valid_map_cooOf bulgeLL_range v hv, ?_⟩
    obtain ⟨ll, hll, rfl⟩ := List.mem_map.mp hv
    simp only [bulgeLL, List.mem_cons, List.not_mem_nil, or_false] at hll
    rcases hll with rfl | rfl | rfl <;>
      exact ⟨Real.neg_pi_div_two_lt_arcsin.mpr (by norm_num), Real.arcsin_lt_pi_div_two.mpr (by norm_num)⟩
  refine ⟨Or.inl rfl, by simp [bulgeLL], hval, ?_, ⟨(1, 1, 1), ?_⟩, ?_, ?_⟩
  · rw [bulgeLL_map]
    intro i k hi hk h1 h2'
    simp only [List.length_cons, List.length_nil] at hi hk h1 h2'
    interval_cases i <;> interval_cases k <;> simp [prevIdx] at h1 h2' ⊢ <;>
      (simp only [dot, cross, bA, bB, bC]; norm_num)
  · rw [bulgeLL_map]
    intro v hv
    simp only [List.mem_cons, List.not_mem_nil, or_false] at hv
    rcases hv with rfl | rfl | rfl <;> (simp only [dot, bA, bB, bC]; norm_num)
  · rw [bulgeLL_map]
    exact ⟨(bA, bB), by simp [edges_three], by simp only [cross, bA, bB]; norm_num⟩
  · rw [bulgeLL_map]
    exact ⟨(bB, bC), by simp [edges_three], by simp only [cross, bB, bC]; norm_num⟩

theorem parts_23 : partsOf 1 23 = ⟨5, 1, 1⟩ := by decide

theorem cx_23 : cellCx 1 5 1 1 = 2 := by unfold cellCx baseX; norm_num
theorem cy_23 : cellCy 1 5 1 1 = 1 / 2 := by unfold cellCy baseY; norm_num

/-- the four vertices of the cell 23 of depth 1, as `vertices()` returns them over ℝ -/
noncomputable def cell23 : List (ℝ × ℝ) :=
  [(π / 2, 0), (5 * π / 8, Real.arcsin (1 / 3)), (π / 2, Real.arcsin (2 / 3)), (3 * π / 8, Real.arcsin (1 / 3))]

theorem vertices_23 (cfg : Cfg) : Hash.vertices (α := ℝ) cfg 1 23 = some cell23 := by
  have hdec : Layer.decodeHash cfg 1 23 = some ⟨5, 1, 1⟩ := by
    rw [decodeHash_spec cfg 1 (by decide) 23 (by decide), parts_23]
  rw [vertices_plane cfg 1 23 5 1 1 (by decide) hdec (by decide) (by decide) (by decide)]
  have n2 : norm8 (2 : ℝ) = 2 := norm8_of_nonneg _ (by norm_num)
  have n3 : norm8 ((2 : ℝ) - 1 / 2 ^ 1) = 3 / 2 := by rw [norm8_of_nonneg _ (by norm_num)]; norm_num
  simp only [vtx, cx_23, cy_23, n2, n3]
  rw [unprojT_band 2 (1 / 2 - 1 / 2 ^ 1) (by norm_num) (by norm_num) (by norm_num),
    unprojT_band (2 + 1 / 2 ^ 1) (1 / 2) (by norm_num) (by norm_num) (by norm_num [abs_le]),
    unprojT_band 2 (1 / 2 + 1 / 2 ^ 1) (by norm_num) (by norm_num) (by norm_num),
    unprojT_band (3 / 2) (1 / 2) (by norm_num) (by norm_num) (by norm_num [abs_le])]
  congr 2
  · norm_num; ring
  · congr 1
    · congr 1 <;> [ring; norm_num]
    · congr 1
      · congr 1 <;> [ring; norm_num]
      · congr 2 <;> [ring; norm_num]

/-- the point of the south-east side of the cell at two thirds of the way from S to E, as `sph_coo(23, 2/3, 0)` returns it -/
theorem sphCoo_23 (cfg : Cfg) : Hash.sphCoo (α := ℝ) cfg 1 23 (2 / 3) 0 = some (7 * π / 12, Real.arcsin (2 / 9)) := by
  have hdec : Layer.decodeHash cfg 1 23 = some ⟨5, 1, 1⟩ := by
    rw [decodeHash_spec cfg 1 (by decide) 23 (by decide), parts_23]
  rw [(sph_coo_plane cfg 1 23 5 1 1 (2 / 3) 0 (by decide) hdec (by decide) (by decide) (by decide) (by norm_num) (by norm_num)
    (by norm_num) (by norm_num)).1]
  have e1 : cooPt 1 5 1 1 (2 / 3) 0 = (7 / 3, 1 / 3) := by
    unfold cooPt; rw [cx_23, cy_23, norm8_of_nonneg _ (by norm_num)]; norm_num
  rw [e1, unprojT_band (7 / 3) (1 / 3) (by norm_num) (by norm_num) (by norm_num [abs_le])]
  congr 2
  · ring
  · norm_num


theorem pS_xyz : (cooOf (π / 2, (0 : ℝ))).x = 0 ∧ (cooOf (π / 2, (0 : ℝ))).y = 1 ∧ (cooOf (π / 2, (0 : ℝ))).z = 0 := by
  simp [cooOf]

theorem pN_xyz : (cooOf (π / 2, Real.arcsin (2 / 3))).x = 0 ∧ 0.745 < (cooOf (π / 2, Real.arcsin (2 / 3))).y ∧
    (cooOf (π / 2, Real.arcsin (2 / 3))).y < 0.746 ∧ (cooOf (π / 2, Real.arcsin (2 / 3))).z = 2 / 3 := by
  obtain ⟨a, b⟩ := b_cN
  refine ⟨by simp [cooOf], ?_, ?_, ?_⟩
  · show _ < cos (Real.arcsin (2 / 3)) * sin (π / 2); rw [sin_pi_div_two, mul_one]; exact a
  · show cos (Real.arcsin (2 / 3)) * sin (π / 2) < _; rw [sin_pi_div_two, mul_one]; exact b
  · show sin (Real.arcsin (2 / 3)) = _; exact Real.sin_arcsin (by norm_num) (by norm_num)

theorem side_xyz {α z r1 r2 s1 s2 c1 c2 : ℝ} (hz1 : -1 ≤ z) (hz2 : z ≤ 1) (hr1 : 0 ≤ r1) (hs1 : 0 ≤ s1) (hc1 : 0 ≤ c1)
    (hr : r1 < cos (Real.arcsin z) ∧ cos (Real.arcsin z) < r2) (hs : s1 < sin α ∧ sin α < s2)
    (hc : c1 < cos α ∧ cos α < c2) :
    (-(r2 * s2) < (cooOf (α + π / 2, Real.arcsin z)).x ∧ (cooOf (α + π / 2, Real.arcsin z)).x < -(r1 * s1) ∧
      r1 * c1 < (cooOf (α + π / 2, Real.arcsin z)).y ∧ (cooOf (α + π / 2, Real.arcsin z)).y < r2 * c2 ∧
      (cooOf (α + π / 2, Real.arcsin z)).z = z) ∧
    (r1 * s1 < (cooOf (π / 2 - α, Real.arcsin z)).x ∧ (cooOf (π / 2 - α, Real.arcsin z)).x < r2 * s2 ∧
      r1 * c1 < (cooOf (π / 2 - α, Real.arcsin z)).y ∧ (cooOf (π / 2 - α, Real.arcsin z)).y < r2 * c2 ∧
      (cooOf (π / 2 - α, Real.arcsin z)).z = z) := by
  obtain ⟨m1, m2⟩ := mul_bounds _ _ _ _ _ _ hr1 hs1 hr.1 hr.2 hs.1 hs.2
  obtain ⟨m3, m4⟩ := mul_bounds _ _ _ _ _ _ hr1 hc1 hr.1 hr.2 hc.1 hc.2
  have hz := Real.sin_arcsin hz1 hz2
  simp only [cooOf, cos_add_pi_div_two, sin_add_pi_div_two, cos_pi_div_two_sub, sin_pi_div_two_sub, mul_neg, neg_lt_neg_iff]
  exact ⟨⟨m2, m1, m3, m4, hz⟩, m1, m2, m3, m4, hz⟩

/-- the three edge normals, up to positive factors: `(−29748, 30364, 4185)`, `(1204, 7, 1305)`, `(8316, 19252, −13653)` -/
theorem dot_cross_CA (p : Coo ℝ) : dot p (cross bC bA) = 3 / 128525 * (-29748 * p.x + 30364 * p.y + 4185 * p.z) := by
  simp only [dot, cross, bA, bC]; ring
theorem dot_cross_AB (p : Coo ℝ) : dot p (cross bA bB) = 9144 / 16620853 * (1204 * p.x + 7 * p.y + 1305 * p.z) := by
  simp only [dot, cross, bA, bB]; ring
theorem dot_cross_BC (p : Coo ℝ) : dot p (cross bB bC) = 3 / 80825 * (8316 * p.x + 19252 * p.y - 13653 * p.z) := by
  simp only [dot, cross, bB, bC]; ring

theorem inside_tri (p : Coo ℝ) (h1 : 0 < -29748 * p.x + 30364 * p.y + 4185 * p.z) (h2 : 0 < 1204 * p.x + 7 * p.y + 1305 * p.z)
    (h3 : 0 < 8316 * p.x + 19252 * p.y - 13653 * p.z) : InsideAll 1 (bulgeLL.map cooOf) p := by
  rw [bulgeLL_map]
  intro e he
  rw [edges_three] at he
  simp only [List.mem_cons, List.not_mem_nil, or_false] at he
  rcases he with rfl | rfl | rfl <;> rw [one_mul]
  · rw [dot_cross_CA]; exact mul_pos (by norm_num) h1
  · rw [dot_cross_AB]; exact mul_pos (by norm_num) h2
  · rw [dot_cross_BC]; exact mul_pos (by norm_num) h3

theorem inside_S : InsideAll 1 (bulgeLL.map cooOf) (cooOf (π / 2, (0 : ℝ))) := by
  obtain ⟨hx, hy, hz⟩ := pS_xyz
  apply inside_tri <;> rw [hx, hy, hz] <;> norm_num

theorem inside_N : InsideAll 1 (bulgeLL.map cooOf) (cooOf (π / 2, Real.arcsin (2 / 3))) := by
  obtain ⟨hx, hy1, hy2, hz⟩ := pN_xyz
  apply inside_tri <;> rw [hx, hz] <;> linarith

theorem inside_E : InsideAll 1 (bulgeLL.map cooOf) (cooOf (5 * π / 8, Real.arcsin (1 / 3))) := by
  have h := (side_xyz (by norm_num) (by norm_num) (by norm_num) (by norm_num) (by norm_num) b_cE b_s8 b_c8).1
  rw [show π / 8 + π / 2 = 5 * π / 8 by ring] at h
  obtain ⟨hx1, hx2, hy1, hy2, hz⟩ := h
  apply inside_tri <;> rw [hz] <;> linarith

theorem inside_W : InsideAll 1 (bulgeLL.map cooOf) (cooOf (3 * π / 8, Real.arcsin (1 / 3))) := by
  have h := (side_xyz (by norm_num) (by norm_num) (by norm_num) (by norm_num) (by norm_num) b_cE b_s8 b_c8).2
  rw [show π / 2 - π / 8 = 3 * π / 8 by ring] at h
  obtain ⟨hx1, hx2, hy1, hy2, hz⟩ := h
  apply inside_tri <;> rw [hz] <;> linarith

theorem outside_M : 1 * dot (cooOf (7 * π / 12, Real.arcsin (2 / 9))) (cross bA bB) < 0 := by
  have h := (side_xyz (by norm_num) (by norm_num) (by norm_num) (by norm_num) (by norm_num) b_cM b_s12 b_c12).1
  rw [show π / 12 + π / 2 = 7 * π / 12 by ring] at h
  obtain ⟨hx1, hx2, hy1, hy2, hz⟩ := h
  rw [one_mul, dot_cross_AB, hz]
  exact mul_neg_of_pos_of_neg (by norm_num) (by linarith)


theorem cell23_range : ∀ ll ∈ cell23, 0 ≤ ll.1 ∧ ll.1 < 2 * π ∧ -(π / 2) ≤ ll.2 ∧ ll.2 ≤ π / 2 := by
  have hpi := pi_pos
  intro ll hll
  simp only [cell23, List.mem_cons, List.not_mem_nil, or_false] at hll
  rcases hll with rfl | rfl | rfl | rfl
  · exact ⟨by positivity, by simp only; linarith, by simp only; linarith, by simp only; linarith⟩
  · exact ⟨by positivity, by simp only; linarith, Real.neg_pi_div_two_le_arcsin _, Real.arcsin_le_pi_div_two _⟩
  · exact ⟨by positivity, by simp only; linarith, Real.neg_pi_div_two_le_arcsin _, Real.arcsin_le_pi_div_two _⟩
  · exact ⟨by positivity, by simp only; linarith, Real.neg_pi_div_two_le_arcsin _, Real.arcsin_le_pi_div_two _⟩

theorem cell23_inside : ∀ v ∈ cell23, InsideAll 1 (bulgeLL.map cooOf) (cooOf v) := by
  intro v hv
  simp only [cell23, List.mem_cons, List.not_mem_nil, or_false] at hv
  rcases hv with rfl | rfl | rfl | rfl
  · exact inside_S
  · exact inside_E
  · exact inside_N
  · exact inside_W

/-- T2, counter-example (ℝ, both profiles, every build).  The triangle `bulgeLL` (counter-clockwise, strictly convex,
    inside an open hemisphere, no pole inside; unit vectors rational) and the cell 23 of depth 1 (south vertex on the equator
    at longitude `π/2`):
    * `Polygon::new` succeeds; the four vertices returned by `vertices(1, 23)` are strictly inside the three edge
      half-spaces, `Polygon::contains` answers `true` for the four of them, and the classifier of `polygon_coverage`
      answers `full` for the cell in every descent in which `is_in_list` is false for it (every target depth, every list);
    * the centre of the cell is strictly inside as well;
    * yet the position `sph_coo(1, 23, 2/3, 0)` — a point of the cell, on its south-east side — is strictly OUTSIDE the
      half-space of the edge `A → B`, and `Polygon::contains` answers `false` for it.
    So even for convex polygons the flag "fully covered" does not mean that the cell is inside the polygon: the sides of a
    cell are not great-circle arcs and bulge out of the geodesic quadrilateral of its vertices (here by 0.47°; the effect
    is of second order in the cell size).  On the `Float` instance (the model run that is compared with the crate)
    `polygon_coverage(depth 1, 2 or 3, this triangle, either mode)` returns the cell `1/23` with the full flag. -/
theorem full_flag_not_whole_cell (cfg : Cfg) :
    (∀ ll ∈ bulgeLL, 0 ≤ ll.1 ∧ ll.1 < 2 * π ∧ -(π / 2) ≤ ll.2 ∧ ll.2 ≤ π / 2) ∧ ConvexNoPole 1 (bulgeLL.map cooOf) ∧
    ∃ poly : Polygon ℝ, Polygon.new cfg.debug bulgeLL = some poly ∧
      (∀ (target : Nat) (srt : List Nat) (l : Nat), isInList 1 23 target srt = false →
        polyClassifier cfg target poly srt 1 23 l = some .full) ∧
      (∃ s e n w : ℝ × ℝ, Hash.vertices (α := ℝ) cfg 1 23 = some [s, e, n, w] ∧
        ∀ v ∈ [s, e, n, w], InsideAll 1 (bulgeLL.map cooOf) (cooOf v) ∧
          ∃ c, fromSphCoo cfg.debug v.1 v.2 = some c ∧ poly.contains c = true) ∧
      (∃ ctr : ℝ × ℝ, Hash.center (α := ℝ) cfg 1 23 = some ctr ∧ InsideAll 1 (bulgeLL.map cooOf) (cooOf ctr)) ∧
      ∃ (m : ℝ × ℝ) (c : Coo ℝ), Hash.sphCoo (α := ℝ) cfg 1 23 (2 / 3) 0 = some m ∧
        fromSphCoo cfg.debug m.1 m.2 = some c ∧ poly.contains c = false ∧ ¬ InsideAll 1 (bulgeLL.map cooOf) (cooOf m) := by
  have hpi := pi_pos
  obtain ⟨poly, hnew, hvs, hb⟩ := polygon_new_real cfg.debug bulgeLL (by simp [bulgeLL]) bulgeLL_range
  -- `Polygon::contains` is "strictly inside the three half-spaces" for the points that are not on the boundary
  have hiff := fun p => contains_iff_insideAll poly hb 1 (hvs ▸ bulge_convex) p
  rw [hvs] at hiff
  have hcoo : ∀ v ∈ cell23, fromSphCoo cfg.debug v.1 v.2 = some (cooOf v) ∧ poly.contains (cooOf v) = true := by
    intro v hv
    obtain ⟨a1, a2, a3, a4⟩ := cell23_range v hv
    exact ⟨fromSphCoo_inRange cfg.debug v.1 v.2 a1 a2 a3 a4,
      (hiff _ (cooOf_valid v a1 a2 a3 a4) (offBoundary_of_inside _ _ _ (cell23_inside v hv))).mpr (cell23_inside v hv)⟩
  refine ⟨bulgeLL_range, bulge_convex, poly, hnew, ?_, ?_, ?_, ?_⟩
  · intro target srt l hin
    unfold polyClassifier
    rw [hin, vertices_23 cfg]
    simp only [Bool.false_eq_true, if_false]
    rw [mapM_fromSphCoo cfg.debug cell23 cell23_range]
    simp only
    -- the four corners pass the filter
    rw [List.filter_eq_self.mpr (List.forall_mem_map.mpr fun v hv => (hcoo v hv).2)]
    rfl
  · exact ⟨_, _, _, _, vertices_23 cfg, fun v hv => ⟨cell23_inside v hv, cooOf v, hcoo v hv⟩⟩
  · obtain ⟨s, e, n, w, ctr, hv, hc, hcomb⟩ := centre_inside_of_SN_inside cfg 1 23 (by decide) (by decide) (by
      rw [parts_23, cy_23]; norm_num [abs_lt])
    refine ⟨ctr, hc, ?_⟩
    rw [vertices_23 cfg] at hv
    have hl := Option.some.inj hv
    simp only [cell23, List.cons.injEq, and_true] at hl
    obtain ⟨rfl, _, rfl, _⟩ := hl
    exact hcomb 1 _ inside_S inside_N
  · have r1 : (0 : ℝ) ≤ 7 * π / 12 := by positivity
    have r2 : 7 * π / 12 < 2 * π := by linarith
    have hval := cooOf_valid (7 * π / 12, Real.arcsin (2 / 9)) r1 r2 (Real.neg_pi_div_two_le_arcsin _)
      (Real.arcsin_le_pi_div_two _)
    obtain ⟨hoff, hout⟩ := offBoundary_of_outside 1 (bulgeLL.map cooOf) _ (bA, bB) (by rw [bulgeLL_map]; simp [edges_three])
      outside_M
    exact ⟨_, cooOf (7 * π / 12, Real.arcsin (2 / 9)), sphCoo_23 cfg,
      fromSphCoo_inRange cfg.debug _ _ r1 r2 (Real.neg_pi_div_two_le_arcsin _) (Real.arcsin_le_pi_div_two _),
      Bool.eq_false_iff.mpr fun hc => hout ((hiff _ hval hoff).mp hc), hout⟩


#print axioms Hpx.PolyCompose.full_flag_not_whole_cell

end Hpx.PolyCompose
