import HpxVerif.Lemmas.EnvelopeRealCell
import HpxVerif.Lemmas.CellReal

/-!
# The farthest point of an equatorial cell from its centre is a vertex, and the cell-size helpers bound it

In the equatorial region the projection is cylindrical equal-area (`λ = x·π/4`, `sin φ = 2y/3`), so from a centre of
sine-latitude `zc` (`cc = cos φc ≥ 0`) the cosine of the angular distance is `cosd zc cc θ z = zc·z + cc·√(1 − z²)·cos θ`.
It is concave on `|θ| ≤ π/4`, `|z| ≤ 1`: `√(1 − z²)·cos θ = √(u·w)` with `u = 1 − z²`, `w = cos² θ = (1 + cos 2θ)/2` both
concave and non-negative, and the geometric mean is concave and increasing in `(u, w)` (Cauchy–Schwarz).  Hence over a diamond
it is at least its minimum at the four vertices, and the cell-size helpers, which dominate the vertex distances, bound the
distance from the centre to every position of the cell.
-/

namespace Hpx.CellExtent
open Real Set

noncomputable def cosd (zc cc θ z : ℝ) : ℝ := zc * z + cc * (Real.sqrt (1 - z ^ 2) * Real.cos θ)

theorem cos_sq_concave (θ0 θ1 t : ℝ) (ht0 : 0 ≤ t) (ht1 : t ≤ 1) (hθ0 : |θ0| ≤ π / 4) (hθ1 : |θ1| ≤ π / 4) :
    (1 - t) * cos θ0 ^ 2 + t * cos θ1 ^ 2 ≤ cos ((1 - t) * θ0 + t * θ1) ^ 2 := by
  obtain ⟨l0, u0⟩ := abs_le.mp hθ0
  obtain ⟨l1, u1⟩ := abs_le.mp hθ1
  have h := strictConcaveOn_cos_Icc.concaveOn.2 (x := 2 * θ0) (y := 2 * θ1) ⟨by linarith, by linarith⟩
    ⟨by linarith, by linarith⟩ (sub_nonneg.mpr ht1) ht0 (by ring)
  simp only [smul_eq_mul] at h
  rw [show (1 - t) * (2 * θ0) + t * (2 * θ1) = 2 * ((1 - t) * θ0 + t * θ1) by ring, cos_two_mul, cos_two_mul,
    cos_two_mul] at h
  linarith

theorem cosd_concave (zc cc θ0 θ1 z0 z1 t : ℝ) (hcc : 0 ≤ cc) (ht0 : 0 ≤ t) (ht1 : t ≤ 1)
    (hθ0 : |θ0| ≤ π / 4) (hθ1 : |θ1| ≤ π / 4) (hz0 : |z0| ≤ 1) (hz1 : |z1| ≤ 1) :
    (1 - t) * cosd zc cc θ0 z0 + t * cosd zc cc θ1 z1 ≤ cosd zc cc ((1 - t) * θ0 + t * θ1) ((1 - t) * z0 + t * z1) := by
  have hpi := Real.pi_pos
  have hs := sub_nonneg.mpr ht1
  have hθ : -(π / 4) ≤ (1 - t) * θ0 + t * θ1 ∧ (1 - t) * θ0 + t * θ1 ≤ π / 4 :=
    convex_Icc (-(π / 4)) (π / 4) (abs_le.mp hθ0) (abs_le.mp hθ1) hs ht0 (by ring)
  have hk : 0 ≤ cos ((1 - t) * θ0 + t * θ1) :=
    Real.cos_nonneg_of_neg_pi_div_two_le_of_le (by linarith [hθ.1]) (by linarith [hθ.2])
  have hu : ∀ z : ℝ, |z| ≤ 1 → 0 ≤ 1 - z ^ 2 := fun z h => sub_nonneg.mpr ((sq_le_one_iff_abs_le_one z).mpr h)
  set p0 := Real.sqrt (1 - z0 ^ 2)
  set p1 := Real.sqrt (1 - z1 ^ 2)
  have e0 : p0 ^ 2 = 1 - z0 ^ 2 := Real.sq_sqrt (hu z0 hz0)
  have e1 : p1 ^ 2 = 1 - z1 ^ 2 := Real.sq_sqrt (hu z1 hz1)
  have hw := mul_nonneg hs ht0
  -- `1 − z²` and `cos² θ` are concave; Cauchy–Schwarz on the weighted sums of `(p, cos θ)`
  have hZ : (1 - t) * p0 ^ 2 + t * p1 ^ 2 ≤ 1 - ((1 - t) * z0 + t * z1) ^ 2 := by
    rw [e0, e1]; linarith [mul_nonneg hw (sq_nonneg (z0 - z1))]
  have hT := cos_sq_concave θ0 θ1 t ht0 ht1 hθ0 hθ1
  have hZ0 : 0 ≤ (1 - t) * p0 ^ 2 + t * p1 ^ 2 := add_nonneg (mul_nonneg hs (sq_nonneg _)) (mul_nonneg ht0 (sq_nonneg _))
  have hT0 : 0 ≤ (1 - t) * cos θ0 ^ 2 + t * cos θ1 ^ 2 :=
    add_nonneg (mul_nonneg hs (sq_nonneg _)) (mul_nonneg ht0 (sq_nonneg _))
  have hsq : ((1 - t) * (p0 * cos θ0) + t * (p1 * cos θ1)) ^ 2 ≤
      (1 - ((1 - t) * z0 + t * z1) ^ 2) * cos ((1 - t) * θ0 + t * θ1) ^ 2 :=
    calc ((1 - t) * (p0 * cos θ0) + t * (p1 * cos θ1)) ^ 2
        ≤ ((1 - t) * p0 ^ 2 + t * p1 ^ 2) * ((1 - t) * cos θ0 ^ 2 + t * cos θ1 ^ 2) := by
          linarith [mul_nonneg hw (sq_nonneg (p0 * cos θ1 - p1 * cos θ0))]
      _ ≤ _ := mul_le_mul hZ hT hT0 (hZ0.trans hZ)
  have hmain : (1 - t) * (p0 * cos θ0) + t * (p1 * cos θ1) ≤
      Real.sqrt (1 - ((1 - t) * z0 + t * z1) ^ 2) * cos ((1 - t) * θ0 + t * θ1) := by
    rw [← Real.sqrt_sq hk, ← Real.sqrt_mul (hZ0.trans hZ)]
    exact Real.le_sqrt_of_sq_le hsq
  unfold cosd
  linarith [mul_le_mul_of_nonneg_left hmain hcc]

/-! ## the diamond: the minimum of `cosd` is at a vertex -/

open Hpx.EnvelopeReal Hpx.Cover Hpx.Proj Hpx.CellReal

/-- `cos(angular distance)` from the centre of plane ordinate `y` to the point at plane offset `(a, b)` (equatorial region) -/
noncomputable def gd (y a b : ℝ) : ℝ := cosd (y * (2 / 3)) (Real.cos (latOf y)) (a * (π / 4)) ((y + b) * (2 / 3))

theorem gd_neg_a (y a b : ℝ) : gd y (-a) b = gd y a b := by
  unfold gd cosd; rw [neg_mul, Real.cos_neg]

theorem two_thirds_le (y : ℝ) (hy : |y| ≤ 1) : |y * (2 / 3)| ≤ 1 := by
  obtain ⟨h1, h2⟩ := abs_le.mp hy
  rw [abs_le]; constructor <;> linarith

theorem abs_add_le_one {y δ b : ℝ} (hy : |y| + δ ≤ 1) (hb : |b| ≤ δ) : |y + b| ≤ 1 :=
  (abs_add_le y b).trans (by linarith)

theorem gd_edge (y δ e t : ℝ) (hδ0 : 0 < δ) (hδ1 : δ ≤ 1) (hy : |y| + δ ≤ 1) (he : |e| = δ) (ht0 : 0 ≤ t) (ht1 : t ≤ 1) :
    min (gd y δ 0) (gd y 0 e) ≤ gd y (δ - t * δ) (t * e) := by
  have hpi := Real.pi_pos
  have h := (Convex.min_le_combo _ _ (sub_nonneg.mpr ht1) ht0 (by ring)).trans
    (cosd_concave (y * (2 / 3)) (Real.cos (latOf y)) (δ * (π / 4)) 0 (y * (2 / 3)) ((y + e) * (2 / 3)) t
      (cos_latOf_nonneg y) ht0 ht1 (by rw [abs_of_pos (by positivity)]; nlinarith)
      (by rw [abs_zero]; positivity) (two_thirds_le y (by linarith)) (two_thirds_le _ (abs_add_le_one hy he.le)))
  unfold gd
  rw [add_zero, zero_mul]
  rwa [show (1 - t) * (δ * (π / 4)) + t * 0 = (δ - t * δ) * (π / 4) by ring,
    show (1 - t) * (y * (2 / 3)) + t * ((y + e) * (2 / 3)) = (y + t * e) * (2 / 3) by ring] at h

theorem gd_diamond (y δ a b : ℝ) (hδ0 : 0 < δ) (hδ1 : δ ≤ 1) (hy : |y| + δ ≤ 1) (hab : |a| + |b| ≤ δ) :
    min (gd y 0 δ) (min (gd y 0 (-δ)) (gd y δ 0)) ≤ gd y a b := by
  have hpi := Real.pi_pos
  have hb := abs_nonneg b
  -- push the point horizontally to the border: `cos` decreases with `|a|`
  have hstep1 : gd y (δ - |b|) b ≤ gd y a b := by
    unfold gd cosd
    have hcos : Real.cos ((δ - |b|) * (π / 4)) ≤ Real.cos (a * (π / 4)) := by
      rw [← Real.cos_abs (a * (π / 4)), abs_mul, abs_of_pos (by positivity : (0 : ℝ) < π / 4)]
      exact Real.cos_le_cos_of_nonneg_of_le_pi (by positivity) (by nlinarith) (by nlinarith [abs_nonneg a])
    have := mul_le_mul_of_nonneg_left (mul_le_mul_of_nonneg_left hcos (Real.sqrt_nonneg (1 - ((y + b) * (2 / 3)) ^ 2)))
      (cos_latOf_nonneg y)
    linarith
  refine le_trans ?_ hstep1
  rcases le_or_gt 0 b with hb0 | hb0
  · -- north-east edge
    have h := gd_edge y δ δ (b / δ) hδ0 hδ1 hy (abs_of_pos hδ0) (div_nonneg hb0 hδ0.le)
      (by rw [div_le_one hδ0]; rw [abs_of_nonneg hb0] at hab; linarith [abs_nonneg a])
    rw [div_mul_cancel₀ _ hδ0.ne'] at h
    rw [abs_of_nonneg hb0]
    exact le_trans (le_min ((min_le_right _ _).trans (min_le_right _ _)) (min_le_left _ _)) h
  · -- south-east edge
    have h := gd_edge y δ (-δ) (-b / δ) hδ0 hδ1 hy (by rw [abs_neg, abs_of_pos hδ0]) (div_nonneg (by linarith) hδ0.le)
      (by rw [div_le_one hδ0]; rw [abs_of_neg hb0] at hab; linarith [abs_nonneg a])
    rw [div_mul_cancel₀ _ hδ0.ne', mul_neg, div_mul_cancel₀ _ hδ0.ne', neg_neg] at h
    rw [abs_of_neg hb0]
    exact le_trans (le_min ((min_le_right _ _).trans (min_le_right _ _)) ((min_le_right _ _).trans (min_le_left _ _))) h

theorem sin_latOf (y : ℝ) (hy : |y| ≤ 1) : Real.sin (latOf y) = y * (2 / 3) := by
  obtain ⟨h1, h2⟩ := abs_le.mp hy
  exact Real.sin_arcsin (by linarith) (by linarith)

theorem cos_latOf (y : ℝ) : Real.cos (latOf y) = Real.sqrt (1 - (y * (2 / 3)) ^ 2) := Real.cos_arcsin _

theorem cos_adist_gd (l1 l2 y a b : ℝ) (m : ℤ) (hl : l1 - l2 = a * (π / 4) + 2 * π * m) (hy : |y| ≤ 1)
    (hyb : |y + b| ≤ 1) : Real.cos (adist (l1, latOf y) (l2, latOf (y + b))) = gd y a b := by
  rw [cos_adist]
  simp only
  rw [hl, show a * (π / 4) + 2 * π * (m : ℝ) = a * (π / 4) + (m : ℝ) * (2 * π) by ring, Real.cos_add_int_mul_two_pi,
    sin_latOf y hy, sin_latOf (y + b) hyb, cos_latOf (y + b)]
  unfold gd cosd
  ring

theorem adist_le_of_cos_le (p q : ℝ × ℝ) (v : ℝ) (h0 : 0 ≤ v) (h : Real.cos v ≤ Real.cos (adist p q)) : adist p q ≤ v := by
  rcases le_or_gt v π with h1 | h1
  · exact (Real.strictAntiOn_cos.le_iff_ge ⟨h0, h1⟩ ⟨adist_nonneg p q, adist_le_pi p q⟩).mp h
  · exact (adist_le_pi p q).trans h1.le

theorem gd_meridian (y b : ℝ) (hy : |y| ≤ 1) (hyb : |y + b| ≤ 1) :
    gd y 0 b = Real.cos (latOf (y + b) - latOf y) := by
  rw [← cos_adist_gd 0 0 y 0 b 0 (by simp) hy hyb,
    adist_same_lon _ _ _ _ 0 (by simp) (latOf_abs_le y) (latOf_abs_le (y + b)), Real.cos_abs, ← Real.cos_neg, neg_sub]

theorem gd_north (y δ : ℝ) (hy : |y| ≤ 1) (hyN : |y + δ| ≤ 1) : gd y 0 δ = Real.cos (dN δ y) :=
  gd_meridian y δ hy hyN

theorem gd_south (y δ : ℝ) (hy : |y| ≤ 1) (hyS : |y + -δ| ≤ 1) : gd y 0 (-δ) = Real.cos (dS δ y) := by
  rw [gd_meridian y (-δ) hy hyS, ← Real.cos_neg, neg_sub, ← sub_eq_add_neg]
  rfl

theorem gd_east (y δ : ℝ) (hδ0 : 0 ≤ δ) (hδ1 : δ ≤ 1) (hy : |y| ≤ 1) : gd y δ 0 = Real.cos (dE δ y) := by
  have hy0 : |y + 0| ≤ 1 := by rwa [add_zero]
  rw [← cos_adist_gd (δ * (π / 4)) 0 y δ 0 0 (by simp) hy hy0, add_zero,
    adist_same_lat _ _ _ (δ * (π / 4)) 0 (by simp) (latOf_abs_le y)]
  rw [show δ * (π / 4) / 2 = δ * (π / 8) by ring, abs_of_nonneg (sin_step_nonneg δ hδ0 hδ1)]
  rfl

theorem eqr_extent_lonlat (x y δ x' y' : ℝ) (m m' : ℤ) (hδ0 : 0 < δ) (hδ1 : δ ≤ 1) (hy : |y| + δ ≤ 1)
    (hin : |x' - x| + |y' - y| ≤ δ) :
    adist (x * (π / 4) + 2 * π * m, latOf y) (x' * (π / 4) + 2 * π * m', latOf y') ≤
      max (dN δ y) (max (dS δ y) (dE δ y)) := by
  have hδ := (abs_of_pos hδ0).le
  have hyc : |y| ≤ 1 := by linarith
  have h := gd_diamond y δ (x - x') (y' - y) hδ0 hδ1 hy (by rwa [abs_sub_comm x x'])
  rw [← cos_adist_gd (x * (π / 4) + 2 * π * m) (x' * (π / 4) + 2 * π * m') y (x - x') (y' - y) (m - m')
      (by push_cast; ring) hyc (abs_add_le_one hy (by linarith [abs_nonneg (x' - x)])), add_sub_cancel,
    gd_north y δ hyc (abs_add_le_one hy hδ), gd_south y δ hyc (abs_add_le_one hy (by rwa [abs_neg])),
    gd_east y δ hδ0.le hδ1 hyc] at h
  rcases min_le_iff.mp h with h | h
  · exact (adist_le_of_cos_le _ _ _ (dN_nonneg δ y hδ0.le) h).trans (le_max_left _ _)
  · rcases min_le_iff.mp h with h | h
    · exact (adist_le_of_cos_le _ _ _ (dS_nonneg δ y hδ0.le) h).trans
        ((le_max_left _ _).trans (le_max_right _ _))
    · exact (adist_le_of_cos_le _ _ _ (dE_nonneg δ y hδ0.le hδ1) h).trans
        ((le_max_right _ _).trans (le_max_right _ _))

/-! ## in terms of the model's `unproj` -/

theorem norm8_shift (x : ℝ) : ∃ m : ℤ, norm8 x = x + 8 * m := by
  unfold norm8; split_ifs
  · exact ⟨1, by push_cast; ring⟩
  · exact ⟨0, by simp⟩

theorem unproj_band_lonlat (x y : ℝ) (hx0 : 0 ≤ x) (hx8 : x ≤ 8) (hy : |y| ≤ 1) :
    ∃ m : ℤ, unproj (α := ℝ) x y = some (x * (π / 4) + 2 * π * m, latOf y) := by
  obtain ⟨m, e⟩ := band_lon x
  exact ⟨m, by rw [unproj_band x y hx0 hx8 hy, e]; rfl⟩

theorem unproj_norm8_lonlat (x y : ℝ) (hx0 : -8 ≤ x) (hx8 : x ≤ 8) (hy : |y| ≤ 1) :
    ∃ m : ℤ, unproj (α := ℝ) (norm8 x) y = some (x * (π / 4) + 2 * π * m, latOf y) := by
  obtain ⟨m1, e1⟩ := unproj_band_lonlat (norm8 x) y (by unfold norm8; split_ifs <;> linarith)
    (by unfold norm8; split_ifs <;> linarith) hy
  obtain ⟨m3, e3⟩ := norm8_shift x
  refine ⟨m1 + m3, ?_⟩
  rw [e1, e3]
  congr 2
  push_cast; ring

/-- The farthest point of an equatorial cell from its centre is a vertex: for every plane point of the closed diamond of
    half-diagonal `δ` (abscissa reduced to `[0, 8)` by `norm8`, as `ensures_x_is_positive` does; `0 ≤ x`, `x + δ ≤ 8` as in
    `true_c2v_eqr`) the angular distance from the centre is at most the largest of the three centre-to-vertex distances of
    `true_c2v_eqr`.  `δ = 1`, the depth-0 base cells, is included. -/
theorem eqr_cell_extent (x y δ x' y' : ℝ) (hδ0 : 0 < δ) (hδ1 : δ ≤ 1) (hx0 : 0 ≤ x) (hx8 : x + δ ≤ 8)
    (hy : |y| + δ ≤ 1) (hin : |x' - x| + |y' - y| ≤ δ) :
    ∃ c p : ℝ × ℝ, unproj (α := ℝ) x y = some c ∧ unproj (α := ℝ) (norm8 x') y' = some p ∧
      c.2 = latOf y ∧ p.2 = latOf y' ∧
      adist c p ≤ max (dN δ y) (max (dS δ y) (dE δ y)) := by
  obtain ⟨a1, a2⟩ := abs_le.mp (show |x' - x| ≤ δ by linarith [abs_nonneg (y' - y)])
  have hyp := abs_add_le_one hy (show |y' - y| ≤ δ by linarith [abs_nonneg (x' - x)])
  rw [add_sub_cancel] at hyp
  obtain ⟨m, hc⟩ := unproj_band_lonlat x y hx0 (by linarith) (by linarith)
  obtain ⟨m', hp⟩ := unproj_norm8_lonlat x' y' (by linarith) (by linarith) hyp
  exact ⟨_, _, hc, hp, rfl, rfl, eqr_extent_lonlat x y δ x' y' m m' hδ0 hδ1 hy hin⟩

/-- the hypotheses are satisfiable: depth 0 base cell 4 wraps around `x = 0` (`δ = 1`, centre `(0, 0)`, point `(−1/2, 1/2)`
    on the north-west edge, abscissa reduced to `15/2`) -/
example : ∃ c p : ℝ × ℝ, unproj (α := ℝ) 0 0 = some c ∧ unproj (α := ℝ) (norm8 (-1 / 2)) (1 / 2) = some p ∧
      c.2 = latOf 0 ∧ p.2 = latOf (1 / 2) ∧ adist c p ≤ max (dN 1 0) (max (dS 1 0) (dE 1 0)) :=
  eqr_cell_extent 0 0 1 (-1 / 2) (1 / 2) one_pos le_rfl le_rfl (by norm_num) (by norm_num) (by
    rw [abs_of_neg (by norm_num : (-1 / 2 - 0 : ℝ) < 0), abs_of_pos (by norm_num : (0 : ℝ) < 1 / 2 - 0)]; norm_num)

end Hpx.CellExtent

namespace Hpx.CellExtent
open Hpx Hpx.Hash Hpx.C2V Hpx.C2VReal Hpx.Proj Hpx.Cover Hpx.CellReal Hpx.EnvelopeReal Real

theorem eqr_cell_extent_le {f : Option ℝ} (d : ℕ) (x y x' y' v : ℝ) (hx0 : 0 ≤ x) (hx8 : x + 1 / 2 ^ d ≤ 8)
    (hy : |y| + 1 / 2 ^ d ≤ 1) (hin : |x' - x| + |y' - y| ≤ 1 / 2 ^ d) (hv : f = some v)
    (h : max (dN (1 / 2 ^ d) y) (max (dS (1 / 2 ^ d) y) (dE (1 / 2 ^ d) y)) ≤ v) :
    ∃ (c p : ℝ × ℝ) (v : ℝ), unproj (α := ℝ) x y = some c ∧ unproj (α := ℝ) (norm8 x') y' = some p ∧
      f = some v ∧ adist c p ≤ v := by
  obtain ⟨hδ0, hδ1⟩ := distCw_range d
  obtain ⟨c, p, hc, hpp, _, _, hdist⟩ := eqr_cell_extent x y (1 / 2 ^ d) x' y' hδ0 hδ1 hx0 hx8 hy hin
  exact ⟨c, p, v, hc, hpp, hv, hdist.trans h⟩

/-- Over ℝ, release profile, depth `1 … 29`: `largest_center_to_vertex_distance`, evaluated at any position whose plane
    ordinate `yp` is that of a point of an equatorial cell (the centre itself, or `y'`), bounds the distance from the centre
    of the cell to ANY point of its closed diamond. -/
theorem eqr_cell_extent_envelope (d : ℕ) (hd1 : 1 ≤ d) (hd2 : d ≤ 29) (x y x' y' lon yp : ℝ) (hx0 : 0 ≤ x)
    (hx8 : x + 1 / 2 ^ d ≤ 8) (hy : |y| + 1 / 2 ^ d ≤ 1) (hin : |x' - x| + |y' - y| ≤ 1 / 2 ^ d)
    (hp : |yp - y| ≤ 1 / 2 ^ d) (hp1 : |yp| < 1) :
    ∃ (c p : ℝ × ℝ) (v : ℝ), unproj (α := ℝ) x y = some c ∧ unproj (α := ℝ) (norm8 x') y' = some p ∧
      largestC2V false d lon (latOf yp) = some v ∧ adist c p ≤ v :=
  eqr_cell_extent_le d x y x' y' _ hx0 hx8 hy hin (largestC2V_eq d hd1 hd2 _ _)
    (c2v_dominates_in_cell d hd1 lon yp y hy hp hp1)

/-- the same with `largest_center_to_vertex_distance_with_radius`, depth `2 … 29`: any cone `(lon, lat, r)` whose latitude
    band stays below the transition latitude (`|lat| + r < tl`: the polar-cap branch is not taken), ANY equatorial cell -/
theorem eqr_cell_extent_envelope_radius (d : ℕ) (hd1 : 2 ≤ d) (hd2 : d ≤ 29) (x y x' y' lon lat r : ℝ) (hx0 : 0 ≤ x)
    (hx8 : x + 1 / 2 ^ d ≤ 8) (hy : |y| + 1 / 2 ^ d ≤ 1) (hin : |x' - x| + |y' - y| ≤ 1 / 2 ^ d)
    (hA : |lat| + r < tl) :
    ∃ (c p : ℝ × ℝ) (v : ℝ), unproj (α := ℝ) x y = some c ∧ unproj (α := ℝ) (norm8 x') y' = some p ∧
      largestC2VWithRadius false d lon lat r = some v ∧ adist c p ≤ v :=
  eqr_cell_extent_le d x y x' y' _ hx0 hx8 hy hin (largestC2VWithRadius_eq d (by omega) hd2 _ _ _)
    (c2vR_dominates_eqr d hd1 lon lat r hA y hy)

/-- the same with the function WITH RADIUS, depth `1 … 29`, for the cells whose centre latitude is not below the latitude
    band of the cone (`|lat| − r ≤ |latOf y|`) -/
theorem eqr_cell_extent_envelope_radius_band (d : ℕ) (hd1 : 1 ≤ d) (hd2 : d ≤ 29) (x y x' y' lon lat r : ℝ)
    (hx0 : 0 ≤ x) (hx8 : x + 1 / 2 ^ d ≤ 8) (hy : |y| + 1 / 2 ^ d ≤ 1) (hin : |x' - x| + |y' - y| ≤ 1 / 2 ^ d)
    (hA : |lat| + r < tl) (hband : |lat| - r ≤ |latOf y|) :
    ∃ (c p : ℝ × ℝ) (v : ℝ), unproj (α := ℝ) x y = some c ∧ unproj (α := ℝ) (norm8 x') y' = some p ∧
      largestC2VWithRadius false d lon lat r = some v ∧ adist c p ≤ v :=
  eqr_cell_extent_le d x y x' y' _ hx0 hx8 hy hin (largestC2VWithRadius_eq d hd1 hd2 _ _ _)
    (c2vR_dominates_band d hd1 lon lat r hA y hy hband)

/-! ## depth 0 -/

theorem dN_equator (δ : ℝ) : dN δ 0 = Real.arcsin (δ * (2 / 3)) := by
  unfold dN; rw [zero_mul, Real.arcsin_zero, sub_zero, zero_add]

theorem dS_equator (δ : ℝ) : dS δ 0 = Real.arcsin (δ * (2 / 3)) := by
  rw [← dN_neg, neg_zero, dN_equator]

/-- depth 0 (`δ = 1`, centre ordinate `0`: the four equatorial base cells): the three centre-to-vertex distances are
    `tl, tl, π/4`, all below the depth-0 value `π/2 − tl` of the crate -/
theorem base_cell_extent : max (dN 1 0) (max (dS 1 0) (dE 1 0)) ≤ π / 2 - tl := by
  have hpi := Real.pi_gt_d2
  have h1 := tl_le
  rw [dN_equator, dS_equator, dE_equator 1 zero_le_one le_rfl, one_mul]
  show max tl (max tl _) ≤ _
  exact max_le (by linarith) (max_le (by linarith) (by linarith))

/-! ## on the cells of the NESTED scheme -/

theorem center_lonlat (cfg : Cfg) (d hash b i j : ℕ) (hh : hash < Layer.nHash d)
    (hdec : Layer.decodeHash cfg d hash = some ⟨b, i, j⟩) (hb : b < 12) (hi : i < 2 ^ d) (hj : j < 2 ^ d)
    (hband : |cellCy d b i j| ≤ 1) :
    ∃ m : ℤ, center (α := ℝ) cfg d hash = some (cellCx d b i j * (π / 4) + 2 * π * m, latOf (cellCy d b i j)) := by
  obtain ⟨c1, c2, _⟩ := center_ranges d b i j hb hi hj
  have ho : 0 < 1 / (2 : ℝ) ^ d := by positivity
  obtain ⟨y1, y2⟩ := abs_le.mp hband
  obtain ⟨m, hu⟩ := unproj_norm8_lonlat (cellCx d b i j) (cellCy d b i j) (by linarith only [c1, ho])
    (by linarith only [c2, ho]) hband
  rw [unproj_eq _ _ (by linarith only [y1]) (by linarith only [y2])] at hu
  exact ⟨m, by rw [center_plane cfg d hash b i j hh hdec hb hi hj, hu]⟩

theorem cell_extent_lonlat (cfg : Cfg) (d hash b i j : ℕ) (hh : hash < Layer.nHash d)
    (hdec : Layer.decodeHash cfg d hash = some ⟨b, i, j⟩) (hb : b < 12) (hi : i < 2 ^ d) (hj : j < 2 ^ d)
    (hband : |cellCy d b i j| < 1) :
    ∃ c : ℝ × ℝ, center (α := ℝ) cfg d hash = some c ∧
      ∀ (x' y' : ℝ) (m : ℤ), InDiamond (cellCx d b i j) (cellCy d b i j) (1 / 2 ^ d) x' y' →
        adist c (x' * (π / 4) + 2 * π * m, latOf y') ≤
          max (dN (1 / 2 ^ d) (cellCy d b i j)) (max (dS (1 / 2 ^ d) (cellCy d b i j)) (dE (1 / 2 ^ d) (cellCy d b i j))) := by
  obtain ⟨hδ0, hδ1⟩ := distCw_range d
  obtain ⟨mc, hc⟩ := center_lonlat cfg d hash b i j hh hdec hb hi hj hband.le
  exact ⟨_, hc, fun x' y' m hin =>
    eqr_extent_lonlat _ _ _ x' y' mc m hδ0 hδ1 (cellCy_band d b i j hband) hin⟩

/-- Over ℝ, release profile, depth `1 … 29`, every cell of the NESTED scheme whose centre is strictly inside the equatorial
    band: `center(d, hash)` succeeds, and `largest_center_to_vertex_distance`, evaluated at any position of the cell, bounds
    the angular distance from the centre to every position of the closed diamond of the cell. -/
theorem cell_extent_envelope (cfg : Cfg) (d hash b i j : ℕ) (hd1 : 1 ≤ d) (hd2 : d ≤ 29) (hh : hash < Layer.nHash d)
    (hdec : Layer.decodeHash cfg d hash = some ⟨b, i, j⟩) (hb : b < 12) (hi : i < 2 ^ d) (hj : j < 2 ^ d)
    (hband : |cellCy d b i j| < 1) :
    ∃ c : ℝ × ℝ, center (α := ℝ) cfg d hash = some c ∧
      ∀ lon yp : ℝ, |yp - cellCy d b i j| ≤ 1 / 2 ^ d → |yp| < 1 →
        ∃ v, largestC2V false d lon (latOf yp) = some v ∧
          ∀ (x' y' : ℝ) (m : ℤ), InDiamond (cellCx d b i j) (cellCy d b i j) (1 / 2 ^ d) x' y' →
            adist c (x' * (π / 4) + 2 * π * m, latOf y') ≤ v := by
  obtain ⟨c, hc, hall⟩ := cell_extent_lonlat cfg d hash b i j hh hdec hb hi hj hband
  exact ⟨c, hc, fun lon yp hp hp1 => ⟨_, largestC2V_eq d hd1 hd2 _ _, fun x' y' m hin => (hall x' y' m hin).trans
    (c2v_dominates_in_cell d hd1 lon yp _ (cellCy_band d b i j hband) hp hp1)⟩⟩

/-- the same with `largest_center_to_vertex_distance_with_radius(d, lon, lat, r)`, depth `2 … 29`, any cone with
    `|lat| + r < tl` -/
theorem cell_extent_envelope_radius (cfg : Cfg) (d hash b i j : ℕ) (hd1 : 2 ≤ d) (hd2 : d ≤ 29)
    (hh : hash < Layer.nHash d) (hdec : Layer.decodeHash cfg d hash = some ⟨b, i, j⟩) (hb : b < 12) (hi : i < 2 ^ d)
    (hj : j < 2 ^ d) (hband : |cellCy d b i j| < 1) (lon lat r : ℝ) (hA : |lat| + r < tl) :
    ∃ (c : ℝ × ℝ) (v : ℝ), center (α := ℝ) cfg d hash = some c ∧ largestC2VWithRadius false d lon lat r = some v ∧
      ∀ (x' y' : ℝ) (m : ℤ), InDiamond (cellCx d b i j) (cellCy d b i j) (1 / 2 ^ d) x' y' →
        adist c (x' * (π / 4) + 2 * π * m, latOf y') ≤ v := by
  obtain ⟨c, hc, hall⟩ := cell_extent_lonlat cfg d hash b i j hh hdec hb hi hj hband
  exact ⟨c, _, hc, largestC2VWithRadius_eq d (by omega) hd2 _ _ _, fun x' y' m hin => (hall x' y' m hin).trans
    (c2vR_dominates_eqr d hd1 lon lat r hA _ (cellCy_band d b i j hband))⟩

theorem unproj_diamond_lonlat (cx cy δ x' y' : ℝ) (hδ1 : δ ≤ 1) (hx0 : 0 ≤ norm8 cx) (hx8 : norm8 cx + δ ≤ 8)
    (hy : |cy| + δ ≤ 1) (hin : InDiamond (norm8 cx) cy δ x' y') :
    ∃ (x'' : ℝ) (m : ℤ), InDiamond cx cy δ x'' y' ∧
      unproj (α := ℝ) (norm8 x') y' = some (x'' * (π / 4) + 2 * π * m, latOf y') := by
  unfold InDiamond at hin ⊢
  obtain ⟨a1, a2⟩ := abs_le.mp (show |x' - norm8 cx| ≤ δ by linarith [abs_nonneg (y' - cy)])
  have hyp := abs_add_le_one hy (show |y' - cy| ≤ δ by linarith [abs_nonneg (x' - norm8 cx)])
  rw [add_sub_cancel] at hyp
  obtain ⟨m, e⟩ := unproj_norm8_lonlat x' y' (by linarith) (by linarith) hyp
  obtain ⟨m3, e3⟩ := norm8_shift cx
  refine ⟨x' - 8 * m3, m + m3, ?_, ?_⟩
  · rw [show x' - 8 * (m3 : ℝ) - cx = x' - norm8 cx by rw [e3]; ring]; exact hin
  · rw [e]
    congr 2
    push_cast; ring

/-- depth 2, cell 77 = base cell 4, `(i, j) = (3, 2)`: centre ordinate `1/2` -/
example : ∃ c : ℝ × ℝ, center (α := ℝ) {} 2 77 = some c ∧
      ∀ lon yp : ℝ, |yp - cellCy 2 4 3 2| ≤ 1 / 2 ^ 2 → |yp| < 1 →
        ∃ v, largestC2V false 2 lon (latOf yp) = some v ∧
          ∀ (x' y' : ℝ) (m : ℤ), InDiamond (cellCx 2 4 3 2) (cellCy 2 4 3 2) (1 / 2 ^ 2) x' y' →
            adist c (x' * (π / 4) + 2 * π * m, latOf y') ≤ v :=
  cell_extent_envelope {} 2 77 4 3 2 (by decide) (by decide) (by decide) (by decide +kernel) (by decide) (by decide)
    (by decide) (by unfold cellCy baseY; norm_num [abs_lt])

/-- depth 3 (`δ = 1/8`), plane centre `(3, 5/8)`, the point `(3 + 1/16, 5/8 − 1/16)` of the south-east edge, evaluated at
    the position of ordinate `3/4` (the north vertex) -/
example : (0 : ℝ) ≤ 3 ∧ (3 : ℝ) + 1 / 2 ^ 3 ≤ 8 ∧ |(5 / 8 : ℝ)| + 1 / 2 ^ 3 ≤ 1 ∧
    |(3 + 1 / 16 : ℝ) - 3| + |(5 / 8 - 1 / 16 : ℝ) - 5 / 8| ≤ 1 / 2 ^ 3 ∧ |(3 / 4 : ℝ) - 5 / 8| ≤ 1 / 2 ^ 3 ∧
    |(3 / 4 : ℝ)| < 1 := by
  norm_num [abs_of_pos, abs_of_neg, abs_lt, abs_le]

end Hpx.CellExtent

#print axioms Hpx.CellExtent.cosd_concave
#print axioms Hpx.CellExtent.gd_diamond
#print axioms Hpx.CellExtent.eqr_extent_lonlat
#print axioms Hpx.CellExtent.eqr_cell_extent
#print axioms Hpx.CellExtent.eqr_cell_extent_envelope
#print axioms Hpx.CellExtent.eqr_cell_extent_envelope_radius
#print axioms Hpx.CellExtent.eqr_cell_extent_envelope_radius_band
#print axioms Hpx.CellExtent.cell_extent_envelope
#print axioms Hpx.CellExtent.cell_extent_envelope_radius
