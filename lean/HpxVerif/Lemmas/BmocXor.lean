/-
`xor`: three-valued semantics and well-formedness of the unpacked output of the merge loop, for all pairs of well-formed,
in-range operands (C07, C08, C09): `not_in_cell_4_xor` (= complement inside a full low-resolution cell, reusing the `not`
machinery), and `xor` as an instance of the merge loop.
-/
import HpxVerif.Lemmas.BmocOr

namespace Hpx.Bmoc

@[simp] theorem Tri.xor_abs_left (t : Tri) : Tri.xor .abs t = t := by cases t <;> rfl
@[simp] theorem Tri.xor_abs_right (t : Tri) : Tri.xor t .abs = t := by cases t <;> rfl
@[simp] theorem Tri.xor_part_left (t : Tri) : Tri.xor .part t = .part := by cases t <;> rfl
@[simp] theorem Tri.xor_part_right (t : Tri) : Tri.xor t .part = .part := by cases t <;> rfl
theorem Tri.xor_full_left (t : Tri) : Tri.xor .full t = Tri.not t := by cases t <;> rfl
theorem Tri.xor_full_right (t : Tri) : Tri.xor t .full = Tri.not t := by cases t <;> rfl
theorem Tri.xor_comm (s t : Tri) : Tri.xor s t = Tri.xor t s := by cases s <;> cases t <;> rfl

namespace XorP

def tl : Option Cell → List Cell → List Cell
  | none, _ => []
  | some c, l => c :: l

@[simp] theorem tl_none (l : List Cell) : tl none l = [] := rfl
@[simp] theorem tl_some (c : Cell) (l : List Cell) : tl (some c) l = c :: l := rfl
theorem tl_ht_length (l : List Cell) : (tl l.head? l.tail).length = l.length := by cases l <;> rfl

end XorP

theorem keep_eq (c : Cell) : (if c.full then [] else [{ c with full := false }]) = (if c.full then [] else [c]) := by
  cases c with
  | mk d h f => cases f <;> rfl

theorem xorInLoop_eq (low : Cell) : ∀ (it : List Cell) (d h : Nat), notInCell4XorLoop low it d h =
    ((notLoop (it.takeWhile (isIn low)) d h).1, (notLoop (it.takeWhile (isIn low)) d h).2.1,
      (notLoop (it.takeWhile (isIn low)) d h).2.2, consumeWhileOverlapped low it) := by
  intro it
  induction it with
  | nil => exact fun d h => rfl
  | cons c rest ih =>
    intro d h
    by_cases hin : isIn low c = true
    · simp only [notInCell4XorLoop, hin, Bool.not_true, Bool.false_eq_true, if_false, if_true, keep_eq, ih,
        List.takeWhile_cons_of_pos, notLoop, consumeWhileOverlapped]
    · simp [notInCell4XorLoop, hin, notLoop, consumeWhileOverlapped]

theorem notInCell4Xor_spec (D : Nat) (hD : D ≤ 29) (low c : Cell) (it : List Cell) (hlow : low.depth ≤ D)
    (hw : WF D (c :: it)) (hr : ∀ c' ∈ c :: it, InR c') (hin : Inside D low c) :
    Consumed D low it (rem (notInCell4Xor low c it).2.1 (notInCell4Xor low c it).2.2) ∧
    Seg D (notInCell4Xor low c it).1 (lo D low) (hi D low) (fun x => Tri.not (stOf D (c :: it) x)) := by
  have h := cwo_split low hlow it hw.tail (fun c' hc' => by have := hw.lo_lt c' hc'; have := hin.2.1; omega)
  simp only [notInCell4Xor, keep_eq, xorInLoop_eq]
  generalize it.takeWhile (isIn low) = sk at h ⊢
  generalize consumeWhileOverlapped low it = t at h ⊢
  obtain ⟨es, k1, hafter⟩ := h
  rw [(notLoop_cursor sk c).1, (notLoop_cursor sk c).2]
  have hsplit : c :: it = (c :: sk) ++ rem t.1 t.2 := congrArg (c :: ·) es
  have hwsk : WF D (c :: sk) := (WF_append_iff.1 (hsplit ▸ hw)).1
  have hins : ∀ c' ∈ c :: sk, Inside D low c' := List.forall_mem_cons.2 ⟨hin, k1⟩
  have hend := hwsk.hi_le_last
  have hlast : sk.getLastD c ∈ c :: sk := List.getLastD_mem_cons
  have hlohi := lo_lt_hi D c
  refine ⟨⟨sk, es, fun c' hc' => (k1 c' hc').2.2, hafter⟩, ?_⟩
  -- inside `low` the other operand is `c :: sk`
  have hsem : ∀ x, x < hi D low → stOf D (c :: it) x = stOf D (c :: sk) x := fun x hx => by
    rw [hsplit, stOf_append_of_lt (fun c' hc' => Nat.lt_of_lt_of_le hx (hafter c' hc'))]
  have q2 : Seg D (if c.full then [] else [c]) (lo D c) (hi D c) (fun x => Tri.not (stOf D (c :: it) x)) :=
    Seg.keep _ hw.1 (fun x h1 h2 => by rw [stOf_in_cons h1 h2])
  have q3 := (Seg.notLoop D hD sk c hwsk (fun c' hc' => hr c' (hsplit ▸ List.mem_append_left _ hc'))).mono_g
    (g' := fun x => Tri.not (stOf D (c :: it) x)) (fun x h1 h2 => by
      have := (hins _ hlast).2.2
      rw [hsem x (by omega), stOf_tail_of_ge h1])
  have := Seg.inCell D true hin hw.1 (hwsk.depth_le _ hlast) (hins (sk.getLastD c) hlast)
    (Seg.append (Nat.le_of_lt hlohi) (hend c (List.mem_cons_self ..)) q2 q3)
    (Nat.le_trans (Nat.le_of_lt hlohi) (hend c (List.mem_cons_self ..))) (fun x _ hx => not_before hw hx)
    (fun x hx hx2 => by rw [hsem x hx2, stOf_absent_of_ge (fun c' hc' => Nat.le_trans (hend c' hc') hx)]; rfl)
  simpa [List.append_assoc] using this

def xorOps : MergeOps where
  coarse low c0 it k :=
    if low.full then
      let (pushed, cell, it') := notInCell4Xor low c0 it
      (k cell it').map (pushed ++ ·)
    else
      let (cell, it') := consumeWhileOverlapped low it
      (k cell it').map (low :: ·)
  same l r := if r.full && l.full then [] else [{ depth := l.depth, hash := l.hash, full := false }]

theorem xorLoop_eq : ∀ (fuel : Nat) (left : Option Cell) (lit : List Cell) (right : Option Cell) (rit : List Cell),
    xorLoop fuel left lit right rit = mergeLoop xorOps fuel left lit right rit := by
  intro fuel
  induction fuel with
  | zero => intro left lit right rit; rw [xorLoop, mergeLoop]
  | succ fuel ih =>
    intro left lit right rit
    rcases left with _ | l <;> rcases right with _ | r
    · rw [xorLoop, mergeLoop]
    · rw [xorLoop, mergeLoop, ih]
    · rw [xorLoop, mergeLoop, ih]
    rw [xorLoop, mergeLoop, cellRel]
    simp only [apply_ite (mergeStep xorOps (mergeLoop xorOps fuel) l lit r rit)]
    simp only [ih, mergeStep]
    -- the two sides differ on a cell present on both sides
    refine if_ctx_congr Iff.rfl (fun _ => rfl) (fun _ => if_ctx_congr Iff.rfl (fun _ => rfl)
      (fun _ => ite3_congr fun _ _ => ?_))
    simp only [xorOps]
    cases (r.full && l.full) <;> (simp only [Bool.false_eq_true, if_false, if_true]; rfl)

theorem triOp_xor : TriOp Tri.xor := ⟨Tri.xor_abs_right, Tri.xor_comm⟩

theorem xorOps_sound {D : Nat} (hD : D ≤ 29) : xorOps.Sound Tri.xor D where
  coarse low c0 it hlow hin hw hr := by
    simp only [xorOps]
    by_cases hf : low.full = true
    · obtain ⟨hc, s⟩ := notInCell4Xor_spec D hD low c0 it hlow hw hr hin
      exact ⟨_, _, _, fun _ => by rw [if_pos hf], hc, s.mono_g (fun x _ _ => by rw [hf]; exact (Tri.xor_full_left _).symm)⟩
    · have hlt : ∀ c ∈ it, lo D low < lo D c := fun c hc => by
        have := hw.lo_lt c hc; have := hin.2.1; omega
      refine ⟨[low], _, _, fun _ => by rw [if_neg hf]; rfl, cwo_spec low hlow it hw.tail hlt,
        seg_cell low hlow _ (fun x _ _ => ?_)⟩
      have hf' : low.full = false := by simpa using hf
      rw [hf']; simp [Tri.ofFlag]
  same l r hl := by
    simp only [xorOps]
    cases hlf : l.full <;> cases hrf : r.full <;>
      simp only [Bool.and_true, Bool.and_false, Bool.false_eq_true, if_false, if_true]
    · exact seg_cell (D := D) ⟨l.depth, l.hash, false⟩ hl _ (fun _ _ _ => rfl)
    · exact seg_cell (D := D) ⟨l.depth, l.hash, false⟩ hl _ (fun _ _ _ => rfl)
    · exact seg_cell (D := D) ⟨l.depth, l.hash, false⟩ hl _ (fun _ _ _ => rfl)
    · exact Seg.empty_abs D _ _ _ (fun _ _ _ => rfl)

/-- `xor` on cell lists, before `pack`.  Not `none`: the fuel of the model suffices. -/
theorem computes_xor : Computes Tri.xor xorCellsUnpacked := by
  have h := mergeLoop_computes triOp_xor (M := xorOps) (fun _ hD => xorOps_sound hD)
  simp only [← xorLoop_eq] at h
  exact h

end Hpx.Bmoc
