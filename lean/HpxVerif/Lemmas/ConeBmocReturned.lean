import HpxVerif.Lemmas.CoverContract
import HpxVerif.Lemmas.CoverAllWF

/-!
# C05 / C06 on the BMOC RETURNED by `cone_coverage_approx(_custom)`

Cones of the equatorial band (`|lat| + r < tl`), ℝ, both profiles.  T1 = no miss and T2 = full flags are truthful, on the
BMOC returned by `cone_coverage_approx`; T3 = both for `cone_coverage_approx_custom`, `delta_depth ≠ 0`.  The list of
`cone_coverage_approx_internal` satisfies the contract `Covered` (`coneInternal_covered`), and every statement is the
corresponding consequence of the contract (`Lemmas/CoverContract.lean`).

When the crate reports the ANCESTOR of a tested cell (small cone `depth < ds`; `to_lower_depth` of
`cone_coverage_approx_custom`) containment is stated with `InCellPlane`.  What is missing to say `InCellEq` in those
branches is a notion of position for the cells that straddle the transition latitude.
-/

namespace Hpx.ConeBmoc
open Hpx Hpx.Hash Hpx.C2V Hpx.C2VReal Hpx.Proj Hpx.Cover Hpx.CellReal Hpx.EnvelopeReal Hpx.TopoLift Hpx.CellExtent
open Hpx.Bmoc Hpx.Tightness Hpx.EConeEq Real

/-- a FULL cell is not centred on the transition latitude and every position of it (`InCellEq`) is strictly inside the
    cone; a partial cell is at the depth `D` of the BMOC -/
def GoodCell (lon lat r : ℝ) (D : ℕ) (c : Cell) : Prop :=
  (c.full = true → |pcy c.depth c.hash| ≠ 1 ∧ ∀ q, InCellEq c.depth c.hash q → adist (lon, lat) q < r) ∧
  (c.full = false → c.depth = D)

theorem goodCell_iff (lon lat r : ℝ) (D depth : ℕ) (c : Cell) :
    GoodCell lon lat r depth c ↔ GoodCellG (fun q => adist (lon, lat) q < r) (fun _ => False) D depth c :=
  ⟨fun h => ⟨fun hf => ⟨(h.1 hf).1, fun q hq => Or.inl ((h.1 hf).2 q hq)⟩, h.2⟩,
    fun h => ⟨fun hf => ⟨(h.1 hf).1, fun q hq => ((h.1 hf).2 q hq).resolve_right (fun ⟨_, _, _, hV⟩ => hV)⟩, h.2⟩⟩

theorem coneInternal_split (cfg : Cfg) (depth : ℕ) (lon lat r : ℝ) (hA : |lat| + r < tl) (cells : List Cell)
    (h : coneInternal (α := ℝ) cfg depth lon lat r = some cells) :
    Split cfg depth lon lat r (fun dists => coneClassifier (α := ℝ) cfg lon lat (Num.cos lat) (dists.map (toShsMinMax r)))
      (coneSmallTest cfg lon lat r) cells := by
  rcases coneInternal_cases cfg depth lon lat r cells h with ⟨hge, _⟩ | hi
  · exact absurd (of_decide_eq_true hge : π ≤ r) (not_le.mpr (r_lt_pi lat r hA))
  · exact hi.split

theorem coneInternal_good (cfg : Cfg) (depth : ℕ) (hd : depth ≤ 29) (lon lat r : ℝ) (hA : |lat| + r < tl)
    (cells : List Cell) (h : coneInternal (α := ℝ) cfg depth lon lat r = some cells) :
    ∀ c ∈ cells, GoodCellG (fun q => adist (lon, lat) q < r) (fun _ => False) depth depth c :=
  (coneInternal_split cfg depth lon lat r hA cells h).good hd hA (CoverAll.coneInternal_wf cfg depth lon lat r cells h)
    (fun dists => coneClassifier_ballTests cfg lon lat r dists) _ (fun _ hq => le_of_lt hq)
    (fun c D q hD0 hF hq => cone_full_sound lon lat r D c (r_lt_pi lat r hA).le hD0 hF q hq) _
    (fun dists h l hk _ => absurd (coneClassifier_descend cfg lon lat _ r dists _ _ _ true hk).1 (by simp))

theorem coneInternal_covered (cfg : Cfg) (depth : ℕ) (hd : depth ≤ 29) (lon lat r : ℝ) (hr : 0 ≤ r) (hA : |lat| + r < tl)
    (cells : List Cell) (h : coneInternal (α := ℝ) cfg depth lon lat r = some cells) :
    Covered cfg lon lat r (fun q => adist (lon, lat) q ≤ r) (fun q => adist (lon, lat) q < r) (fun _ => False) depth
      cells := by
  refine (coneInternal_split cfg depth lon lat r hA cells h).covered hd hr hA
    (CoverAll.coneInternal_wf cfg depth lon lat r cells h) (fun dists => coneClassifier_ballTests cfg lon lat r dists) ?_
    _ (fun _ hq => hq) (fun c D q hD0 _ hs hq => not_le.mpr (cone_skip_sound lon lat r D c hr hD0 hs q hq))
    (coneInternal_good cfg depth hd lon lat r hA cells h)
  intro ds e k hk
  unfold coneSmallTest at hk
  obtain ⟨ctr, hctr, rfl⟩ := Option.map_eq_some_iff.mp hk
  refine ⟨ctr, hctr, fun hns => ?_⟩
  -- in the band `r + D ≤ π`: the threshold `shs(min(r + D, π))` of the classifier is the `shs(r + D)` of the small-cone test
  have hmin : min (r + valR ds lon lat r) π = r + valR ds lon lat r :=
    min_eq_left (by linarith [valR_le ds lon lat r hr hA, tl_le, Real.pi_gt_three, abs_nonneg lat])
  have hmax : (toShsMinMax r (valR ds lon lat r)).max = toSquaredHalfSegment (r + valR ds lon lat r) := by
    show toSquaredHalfSegment (min _ π) = _
    rw [hmin]
  rw [hmax] at hns
  exact (Bool.not_eq_false _).mp hns

/-- **T1, `cone_coverage_approx_no_miss_equatorial`** (ℝ, both profiles, every `depth ≤ 29`): `b` the BMOC returned by
    `cone_coverage_approx(depth, lon, lat, r)`, cone of the equatorial band.  Every position of the cone that lies in a
    strictly equatorial start cell of depth `ds ≤ depth` lies in the cell of an ENTRY of `b` — whether that entry is a cell
    emitted by the descent or a parent created by the compaction. -/
theorem cone_coverage_approx_no_miss_equatorial (cfg : Cfg) (depth : ℕ) (lon lat r : ℝ) (hr : 0 ≤ r)
    (hA : |lat| + r < tl) (b : BMOC) (h : coneCoverageApprox (α := ℝ) cfg depth lon lat r = some b)
    (ds root : ℕ) (hst : IsStartCell cfg lon lat r ds root) (hds : ds ≤ depth) (q : ℝ × ℝ)
    (hq : InCellEq ds root q) (hin : adist (lon, lat) q ≤ r) :
    ∃ e ∈ b.entries, InCellEq (decode e depth).depth (decode e depth).hash q := by
  obtain ⟨hd, cells, hcells, rfl⟩ := coneCoverageApprox_unfold cfg depth lon lat r b h
  exact (coneInternal_covered cfg depth hd lon lat r hr hA cells hcells).packed_no_miss hd ds root hst hds q hq hin

/-- **every entry of the BMOC returned by `cone_coverage_approx` is a good cell** (`|lat| + r < tl`), whether emitted by the
    descent or created by the compaction -/
theorem cone_coverage_approx_good (cfg : Cfg) (depth : ℕ) (lon lat r : ℝ)
    (hA : |lat| + r < tl) (b : BMOC) (h : coneCoverageApprox (α := ℝ) cfg depth lon lat r = some b)
    (e : ℕ) (he : e ∈ b.entries) : GoodCell lon lat r depth (decode e depth) := by
  obtain ⟨hd, cells, hcells, rfl⟩ := coneCoverageApprox_unfold cfg depth lon lat r b h
  obtain ⟨hw, hrange⟩ := CoverAll.coneInternal_wf cfg depth lon lat r cells hcells
  exact (goodCell_iff _ _ _ _ _ _).mpr
    (packedG_good _ _ depth hd cells hw hrange (coneInternal_good cfg depth hd lon lat r hA cells hcells) e he)

/-- **T2, `cone_coverage_approx_full_inside_equatorial`** (ℝ, both profiles, every `depth ≤ 29`, `|lat| + r < tl`): every
    entry of the returned BMOC that is flagged FULL — a cell flagged by the descent or a parent created by the compaction
    of four full cells, at any number of levels — has every position (`InCellEq`) STRICTLY within `r` of the cone centre.
    (`cone_coverage_approx_good`: moreover such an entry is never centred on the transition latitude.) -/
theorem cone_coverage_approx_full_inside_equatorial (cfg : Cfg) (depth : ℕ) (lon lat r : ℝ)
    (hA : |lat| + r < tl) (b : BMOC) (h : coneCoverageApprox (α := ℝ) cfg depth lon lat r = some b)
    (e : ℕ) (he : e ∈ b.entries) (hf : (decode e depth).full = true) (q : ℝ × ℝ)
    (hq : InCellEq (decode e depth).depth (decode e depth).hash q) : adist (lon, lat) q < r :=
  ((cone_coverage_approx_good cfg depth lon lat r hA b h e he).1 hf).2 q hq

/-- the entries of the returned BMOC that are not full are at the requested depth (so they are cells of the internal
    list: the compaction only creates full cells) -/
theorem cone_coverage_approx_partial_depth (cfg : Cfg) (depth : ℕ) (lon lat r : ℝ)
    (hA : |lat| + r < tl) (b : BMOC) (h : coneCoverageApprox (α := ℝ) cfg depth lon lat r = some b)
    (e : ℕ) (he : e ∈ b.entries) (hf : (decode e depth).full = false) : (decode e depth).depth = depth :=
  (cone_coverage_approx_good cfg depth lon lat r hA b h e he).2 hf

/-- **T1, small-cone branch `depth < ds = best_starting_depth(r)`**: the reported cells are the ancestors at `depth` of the
    tested cells of depth `ds`.  For every start cell `root` (strictly equatorial) that contains a position `q` of the cone,
    the BMOC has the entry `(depth, root >> 2(ds − depth))`, flagged partial, and `q` is a position of that cell in the
    sense of `InCellPlane` — and of `InCellEq` as soon as that ancestor is strictly equatorial. -/
theorem cone_coverage_approx_no_miss_small (cfg : Cfg) (depth : ℕ) (lon lat r : ℝ) (hr : 0 ≤ r)
    (hA : |lat| + r < tl) (b : BMOC) (h : coneCoverageApprox (α := ℝ) cfg depth lon lat r = some b)
    (ds root : ℕ) (hst : IsStartCell cfg lon lat r ds root) (hds : depth < ds) (q : ℝ × ℝ)
    (hq : InCellEq ds root q) (hin : adist (lon, lat) q ≤ r) :
    ∃ e ∈ b.entries, (decode e depth).depth = depth ∧ (decode e depth).hash = root >>> ((ds - depth) <<< 1) ∧
      (decode e depth).full = false ∧ InCellPlane depth (root >>> ((ds - depth) <<< 1)) q ∧
      (|pcy depth (root >>> ((ds - depth) <<< 1))| < 1 → InCellEq depth (root >>> ((ds - depth) <<< 1)) q) := by
  obtain ⟨hd, cells, hcells, rfl⟩ := coneCoverageApprox_unfold cfg depth lon lat r b h
  exact (coneInternal_covered cfg depth hd lon lat r hr hA cells hcells).packed_small hd ds root hst hds q hq hin

/-- **T1 for every start depth, conclusion in the plane sense**: some entry of the BMOC contains `q` -/
theorem cone_coverage_approx_no_miss_plane (cfg : Cfg) (depth : ℕ) (lon lat r : ℝ) (hr : 0 ≤ r)
    (hA : |lat| + r < tl) (b : BMOC) (h : coneCoverageApprox (α := ℝ) cfg depth lon lat r = some b)
    (ds root : ℕ) (hst : IsStartCell cfg lon lat r ds root) (q : ℝ × ℝ)
    (hq : InCellEq ds root q) (hin : adist (lon, lat) q ≤ r) :
    ∃ e ∈ b.entries, InCellPlane (decode e depth).depth (decode e depth).hash q := by
  obtain ⟨hd, cells, hcells, rfl⟩ := coneCoverageApprox_unfold cfg depth lon lat r b h
  exact (coneInternal_covered cfg depth hd lon lat r hr hA cells hcells).packed_plane hd ds root hst q hq hin

/-- **T1 as a statement on the three-valued state**: the cell number `x` of `q` at the requested depth is not absent
    from the returned BMOC -/
theorem cone_coverage_approx_state_not_absent (cfg : Cfg) (depth : ℕ) (lon lat r : ℝ) (hr : 0 ≤ r)
    (hA : |lat| + r < tl) (b : BMOC) (h : coneCoverageApprox (α := ℝ) cfg depth lon lat r = some b)
    (ds root : ℕ) (hst : IsStartCell cfg lon lat r ds root) (q : ℝ × ℝ)
    (hq : InCellEq ds root q) (hin : adist (lon, lat) q ≤ r) :
    ∃ x, InCellPlane depth x q ∧ (ds ≤ depth → InCellEq depth x q) ∧ stOf depth b.cells x ≠ .abs := by
  obtain ⟨hd, cells, hcells, rfl⟩ := coneCoverageApprox_unfold cfg depth lon lat r b h
  exact (coneInternal_covered cfg depth hd lon lat r hr hA cells hcells).packed_state hd ds root hst q hq hin

theorem coneCoverageApproxCustom_unfold (cfg : Cfg) (depth deltaDepth : ℕ) (hdd : deltaDepth ≠ 0) (lon lat r : ℝ)
    (b : BMOC) (h : coneCoverageApproxCustom (α := ℝ) cfg depth deltaDepth lon lat r = some b) :
    depth + deltaDepth ≤ 29 ∧ ∃ cells, coneInternal (α := ℝ) cfg (depth + deltaDepth) lon lat r = some cells ∧
      b = { dmax := depth, entries := (toLowerLoop (depth + deltaDepth) depth
        (pack (depth + deltaDepth) (cells.map (encode (depth + deltaDepth)))) none) } := by
  rw [coneCoverageApproxCustom_eq] at h
  exact (finishCoverage_cases _ depth deltaDepth b h).resolve_left (fun h0 => hdd h0.1) |>.2

/-- **T3, no-miss for `cone_coverage_approx_custom`, `delta_depth ≠ 0`** (ℝ, both profiles).  The descent is run at
    `deep = depth + delta_depth ≤ 29`, compacted, then degraded to `depth`.  For every start cell `root` (of the descent at
    `deep`; any start depth) that is strictly equatorial and every position `q` of the cone in it, some ENTRY of the returned
    BMOC contains `q` (plane sense; `inCellPlane_eq`: in the sense of `InCellEq` when the entry is strictly equatorial):
    the ancestor at `depth` of a reported deeper cell is kept by `to_lower_depth`. -/
theorem cone_coverage_approx_custom_no_miss_equatorial (cfg : Cfg) (depth deltaDepth : ℕ) (hdd : deltaDepth ≠ 0)
    (lon lat r : ℝ) (hr : 0 ≤ r) (hA : |lat| + r < tl) (b : BMOC)
    (h : coneCoverageApproxCustom (α := ℝ) cfg depth deltaDepth lon lat r = some b)
    (ds root : ℕ) (hst : IsStartCell cfg lon lat r ds root) (q : ℝ × ℝ)
    (hq : InCellEq ds root q) (hin : adist (lon, lat) q ≤ r) :
    ∃ e ∈ b.entries, InCellPlane (decode e depth).depth (decode e depth).hash q ∧
      ∃ x, InCellPlane (depth + deltaDepth) x q ∧ (ds ≤ depth + deltaDepth → InCellEq (depth + deltaDepth) x q) ∧
        x / 4 ^ (depth + deltaDepth - (decode e depth).depth) = (decode e depth).hash := by
  obtain ⟨hdeep, cells, hcells, rfl⟩ := coneCoverageApproxCustom_unfold cfg depth deltaDepth hdd lon lat r b h
  obtain ⟨e, he, k1, _, _, k4⟩ := (coneInternal_covered cfg _ hdeep lon lat r hr hA cells hcells).lowered_no_miss hdeep depth
    (by omega) ds root hst q hq hin
  exact ⟨e, he, k1, k4⟩

theorem cone_coverage_approx_custom_good (cfg : Cfg) (depth deltaDepth : ℕ) (hdd : deltaDepth ≠ 0)
    (lon lat r : ℝ) (hA : |lat| + r < tl) (b : BMOC)
    (h : coneCoverageApproxCustom (α := ℝ) cfg depth deltaDepth lon lat r = some b)
    (e : ℕ) (he : e ∈ b.entries) : GoodCell lon lat r depth (decode e depth) := by
  obtain ⟨hdeep, cells, hcells, rfl⟩ := coneCoverageApproxCustom_unfold cfg depth deltaDepth hdd lon lat r b h
  obtain ⟨hw, hrange⟩ := CoverAll.coneInternal_wf cfg _ lon lat r cells hcells
  exact (goodCell_iff _ _ _ _ _ _).mpr (lowered_good _ _ _ depth hdeep (by omega) cells hw hrange
    (coneInternal_good cfg _ hdeep lon lat r hA cells hcells) e he)

/-- **T3, full flags of `cone_coverage_approx_custom`, `delta_depth ≠ 0`**: every entry of the returned BMOC flagged FULL
    has every position (`InCellEq`) strictly within `r` of the cone centre -/
theorem cone_coverage_approx_custom_full_inside_equatorial (cfg : Cfg) (depth deltaDepth : ℕ) (hdd : deltaDepth ≠ 0)
    (lon lat r : ℝ) (hA : |lat| + r < tl) (b : BMOC)
    (h : coneCoverageApproxCustom (α := ℝ) cfg depth deltaDepth lon lat r = some b)
    (e : ℕ) (he : e ∈ b.entries) (hf : (decode e depth).full = true) (q : ℝ × ℝ)
    (hq : InCellEq (decode e depth).depth (decode e depth).hash q) : adist (lon, lat) q < r :=
  ((cone_coverage_approx_custom_good cfg depth deltaDepth hdd lon lat r hA b h e he).1 hf).2 q hq

/-- **T3, "full only if all the deepest cells under it were full"**: a FULL entry of the BMOC returned by
    `cone_coverage_approx_custom` (`delta_depth ≠ 0`) covers only cells of depth `deep = depth + delta_depth` that are covered
    by a FULL cell of the list of the descent at `deep` -/
theorem cone_coverage_approx_custom_full_only_if (cfg : Cfg) (depth deltaDepth : ℕ) (hdd : deltaDepth ≠ 0)
    (lon lat r : ℝ) (b : BMOC)
    (h : coneCoverageApproxCustom (α := ℝ) cfg depth deltaDepth lon lat r = some b)
    (e : ℕ) (he : e ∈ b.entries) (hf : (decode e depth).full = true) (x : ℕ)
    (hx : x / 4 ^ (depth + deltaDepth - (decode e depth).depth) = (decode e depth).hash) :
    ∃ cells, coneInternal (α := ℝ) cfg (depth + deltaDepth) lon lat r = some cells ∧
      ∃ c ∈ cells, c.full = true ∧ x / 4 ^ (depth + deltaDepth - c.depth) = c.hash := by
  obtain ⟨hdeep, cells, hcells, rfl⟩ := coneCoverageApproxCustom_unfold cfg depth deltaDepth hdd lon lat r b h
  obtain ⟨hw, hrange⟩ := CoverAll.coneInternal_wf cfg _ lon lat r cells hcells
  exact ⟨cells, hcells, lowered_full_only_if _ depth hdeep (by omega) cells hw hrange e he hf x hx⟩

/-- **T3, no-miss, with `InCellEq` for the full entries**: the entry of `cone_coverage_approx_custom_no_miss_equatorial`
    contains `q` in the sense of `InCellEq` when it is flagged full (start depth `ds ≤ deep`) -/
theorem cone_coverage_approx_custom_no_miss_full (cfg : Cfg) (depth deltaDepth : ℕ) (hdd : deltaDepth ≠ 0)
    (lon lat r : ℝ) (hr : 0 ≤ r) (hA : |lat| + r < tl) (b : BMOC)
    (h : coneCoverageApproxCustom (α := ℝ) cfg depth deltaDepth lon lat r = some b)
    (ds root : ℕ) (hst : IsStartCell cfg lon lat r ds root) (hds : ds ≤ depth + deltaDepth) (q : ℝ × ℝ)
    (hq : InCellEq ds root q) (hin : adist (lon, lat) q ≤ r) :
    ∃ e ∈ b.entries, InCellPlane (decode e depth).depth (decode e depth).hash q ∧
      ((decode e depth).full = true ∨ |pcy (decode e depth).depth (decode e depth).hash| < 1 →
        InCellEq (decode e depth).depth (decode e depth).hash q) := by
  obtain ⟨hdeep, cells, hcells, rfl⟩ := coneCoverageApproxCustom_unfold cfg depth deltaDepth hdd lon lat r b h
  obtain ⟨e, he, k1, k2, k3, _⟩ := (coneInternal_covered cfg _ hdeep lon lat r hr hA cells hcells).lowered_no_miss hdeep depth
    (by omega) ds root hst q hq hin
  exact ⟨e, he, k1, fun hor => hor.elim (k3 hds) k2⟩

/-- `delta_depth = 0`: `cone_coverage_approx_custom` IS `cone_coverage_approx` (T1, T2 apply) -/
theorem coneCoverageApproxCustom_zero (cfg : Cfg) (depth : ℕ) (lon lat r : ℝ) (hd : depth ≤ 29) :
    coneCoverageApproxCustom (α := ℝ) cfg depth 0 lon lat r = coneCoverageApprox (α := ℝ) cfg depth lon lat r := by
  rw [coneCoverageApproxCustom_eq, coneCoverageApprox_eq]

/-- the numeric hypotheses and the start cells of the concrete cone: the nine cells are the cell of the centre at depth 3
    and its neighbours; the centre itself is a position of the strictly equatorial cell `3/4` -/
example : (0 : ℝ) ≤ 1 / 20 ∧ |(1 / 5 : ℝ)| + 1 / 20 < tl ∧ bestStartingDepth (1 / 20 : ℝ) = some 3 ∧
    InCellEq 3 4 ((1 : ℝ), (1 / 5 : ℝ)) ∧ adist ((1 : ℝ), (1 / 5 : ℝ)) (1, 1 / 5) ≤ 1 / 20 := by
  obtain ⟨h1, h2, _⟩ := ex_hyps
  refine ⟨h1.le, h2, best_starting_depth_ex, ex_centre_in_cell, ?_⟩
  rw [adist_self]; norm_num

theorem ex_start (cfg : Cfg) (h0 : ℕ) (nm : List (MW × ℕ)) (hh0 : Hash.hashV2 (α := ℝ) cfg 3 1 (1 / 5) = some h0)
    (hnm : Topo.neighbours cfg 3 h0 true = some nm) (root : ℕ) (hroot : root ∈ nm.map (·.2)) :
    IsStartCell cfg 1 (1 / 5) (1 / 20) 3 root :=
  Or.inr ⟨(band_has_start_depth (1 / 5) (1 / 20) ex_hyps.2.1).1, best_starting_depth_ex, h0, nm, hh0, hnm, hroot⟩

/-- **T1 and T2 on the concrete cone**: whatever BMOC `cone_coverage_approx(6, 1, 0.2, 0.05)` returns, every position of the
    cone in a strictly equatorial start cell (one of the nine cells of depth 3) lies in an entry, and every entry flagged
    full — packed parents included — is inside the cone -/
example (cfg : Cfg) (b : BMOC) (h : coneCoverageApprox (α := ℝ) cfg 6 1 (1 / 5) (1 / 20) = some b) :
    (∀ h0 nm, Hash.hashV2 (α := ℝ) cfg 3 1 (1 / 5) = some h0 → Topo.neighbours cfg 3 h0 true = some nm →
      ∀ root ∈ nm.map (·.2), ∀ q, InCellEq 3 root q → adist (1, 1 / 5) q ≤ 1 / 20 →
        ∃ e ∈ b.entries, InCellEq (decode e 6).depth (decode e 6).hash q) ∧
    (∀ e ∈ b.entries, (decode e 6).full = true → ∀ q, InCellEq (decode e 6).depth (decode e 6).hash q →
      adist (1, 1 / 5) q < 1 / 20) := by
  obtain ⟨h1, h2, _⟩ := ex_hyps
  refine ⟨?_, ?_⟩
  · intro h0 nm hh0 hnm root hroot q hq hin
    exact cone_coverage_approx_no_miss_equatorial cfg 6 1 (1 / 5) (1 / 20) h1.le h2 b h 3 root
      (ex_start cfg h0 nm hh0 hnm root hroot) (by decide) q hq hin
  · intro e he hf q hq
    exact cone_coverage_approx_full_inside_equatorial cfg 6 1 (1 / 5) (1 / 20) h2 b h e he hf q hq

/-- **T3 on the concrete cone** (`depth = 4`, `delta_depth = 2`: descent at depth 6, degraded to depth 4) -/
example (cfg : Cfg) (b : BMOC) (h : coneCoverageApproxCustom (α := ℝ) cfg 4 2 1 (1 / 5) (1 / 20) = some b) :
    (∀ h0 nm, Hash.hashV2 (α := ℝ) cfg 3 1 (1 / 5) = some h0 → Topo.neighbours cfg 3 h0 true = some nm →
      ∀ root ∈ nm.map (·.2), ∀ q, InCellEq 3 root q → adist (1, 1 / 5) q ≤ 1 / 20 →
        ∃ e ∈ b.entries, InCellPlane (decode e 4).depth (decode e 4).hash q) ∧
    (∀ e ∈ b.entries, (decode e 4).full = true → ∀ q, InCellEq (decode e 4).depth (decode e 4).hash q →
      adist (1, 1 / 5) q < 1 / 20) := by
  obtain ⟨h1, h2, _⟩ := ex_hyps
  refine ⟨?_, ?_⟩
  · intro h0 nm hh0 hnm root hroot q hq hin
    obtain ⟨e, he, k, _⟩ := cone_coverage_approx_custom_no_miss_equatorial cfg 4 2 (by decide) 1 (1 / 5) (1 / 20) h1.le h2 b h
      3 root (ex_start cfg h0 nm hh0 hnm root hroot) q hq hin
    exact ⟨e, he, k⟩
  · intro e he hf q hq
    exact cone_coverage_approx_custom_full_inside_equatorial cfg 4 2 (by decide) 1 (1 / 5) (1 / 20) h2 b h e he hf q hq

/-- `pack_closure` on a concrete list: four full siblings `1/4 … 1/7` of a depth-2 BMOC are replaced by their parent `0/1`,
    and the property "flagged full" (which passes from four siblings to the parent) holds for the entries of the result -/
example : pack 2 [buildRaw 1 4 true 2, buildRaw 1 5 true 2, buildRaw 1 6 true 2, buildRaw 1 7 true 2] = [buildRaw 0 1 true 2] ∧
    ∀ r ∈ pack 2 [buildRaw 1 4 true 2, buildRaw 1 5 true 2, buildRaw 1 6 true 2, buildRaw 1 7 true 2],
      (decode r 2).full = true := by
  refine ⟨by decide +kernel, ?_⟩
  refine pack_closure (fun c => c.full = true) 2 (by decide) (fun _ _ _ _ _ _ _ _ _ _ => rfl) _ ?_ ?_
  · intro r hr
    simp only [List.mem_cons, List.not_mem_nil, or_false] at hr
    rcases hr with rfl | rfl | rfl | rfl <;> exact validRaw_buildRaw _ (by decide) (by decide)
  · intro r hr
    simp only [List.mem_cons, List.not_mem_nil, or_false] at hr
    rcases hr with rfl | rfl | rfl | rfl <;> exact decode_full_buildRaw _ _ _

end Hpx.ConeBmoc


#print axioms Hpx.ConeBmoc.coneInternal_split
#print axioms Hpx.ConeBmoc.cone_coverage_approx_no_miss_equatorial
#print axioms Hpx.ConeBmoc.cone_coverage_approx_full_inside_equatorial
#print axioms Hpx.ConeBmoc.cone_coverage_approx_good
#print axioms Hpx.ConeBmoc.cone_coverage_approx_no_miss_small
#print axioms Hpx.ConeBmoc.cone_coverage_approx_no_miss_plane
#print axioms Hpx.ConeBmoc.cone_coverage_approx_state_not_absent
#print axioms Hpx.ConeBmoc.cone_coverage_approx_custom_no_miss_equatorial
#print axioms Hpx.ConeBmoc.cone_coverage_approx_custom_full_inside_equatorial
#print axioms Hpx.ConeBmoc.cone_coverage_approx_custom_full_only_if
#print axioms Hpx.ConeBmoc.cone_coverage_approx_custom_good
#print axioms Hpx.ConeBmoc.cone_coverage_approx_custom_no_miss_full
