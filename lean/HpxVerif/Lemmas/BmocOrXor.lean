/-
The public operators `BMOC::or` and `BMOC::xor` are one wrapper around two merges of the decoded cells: encode the merged
list with the larger `depth_max`, then `pack`.  What the wrapper adds (valid, strictly increasing entries; the same
three-valued content; operands of different depths) is proved once, for any function that `Computes` an operator.
-/
import HpxVerif.Lemmas.BmocXor
import HpxVerif.Lemmas.BmocPack
import HpxVerif.Lemmas.CoverWF

namespace Hpx.Bmoc

theorem or3_sem (D : Nat) (hD : D ≤ 29) (a b : List Cell) (ha : WF D a) (hb : WF D b)
    (hra : ∀ c ∈ a, InR c) (hrb : ∀ c ∈ b, InR c) (l : List Cell) (hl : orCellsUnpacked a b = some l) :
    ∀ x, x < 12 * 4 ^ D → stOf D l x = Tri.max (stOf D a x) (stOf D b x) :=
  fun x _ => (computes_or.of_eq hD ⟨ha, hra⟩ ⟨hb, hrb⟩ hl).2 x

/-- on plain MOCs (all flags `full`) `or`, before `pack`, gives a plain MOC, the union (C07) -/
theorem or_moc (D : Nat) (hD : D ≤ 29) (a b : List Cell) (ha : WF D a) (hb : WF D b)
    (hra : ∀ c ∈ a, InR c) (hrb : ∀ c ∈ b, InR c) (hfa : ∀ c ∈ a, c.full = true) (hfb : ∀ c ∈ b, c.full = true)
    (l : List Cell) (hl : orCellsUnpacked a b = some l) :
    (∀ c ∈ l, c.full = true) ∧ ∀ x, stOf D l x = .full ↔ (stOf D a x = .full ∨ stOf D b x = .full) := by
  obtain ⟨v, s⟩ := computes_or.of_eq hD ⟨ha, hra⟩ ⟨hb, hrb⟩ hl
  refine ⟨flags_of_sem v.1 (fun x => ?_), fun x => by rw [s x, tri_max_eq_full]⟩
  rw [s x]
  exact tri_max_of_flag (stOf_of_all_flag hfa x) (stOf_of_all_flag hfb x)

/-- three-valued semantics of `xor`, before `pack` (C08) -/
theorem xor3_sem (D : Nat) (hD : D ≤ 29) (a b : List Cell) (ha : WF D a) (hb : WF D b)
    (hra : ∀ c ∈ a, InR c) (hrb : ∀ c ∈ b, InR c) (l : List Cell) (hl : xorCellsUnpacked a b = some l)
    (x : Nat) (hx : x < 12 * 4 ^ D) : stOf D l x = Tri.xor (stOf D a x) (stOf D b x) :=
  (computes_xor.of_eq hD ⟨ha, hra⟩ ⟨hb, hrb⟩ hl).2 x

/-- the list that `xor` hands to `pack` is well formed and in range (C09) -/
theorem xor_wf (D : Nat) (hD : D ≤ 29) (a b : List Cell) (ha : WF D a) (hb : WF D b)
    (hra : ∀ c ∈ a, InR c) (hrb : ∀ c ∈ b, InR c) (l : List Cell) (hl : xorCellsUnpacked a b = some l) :
    WF D l ∧ ∀ c ∈ l, InR c :=
  (computes_xor.of_eq hD ⟨ha, hra⟩ ⟨hb, hrb⟩ hl).1

theorem inR_of_validRaw {dm : Nat} (hdm : dm ≤ 29) {l : List Nat} (hv : ∀ r ∈ l, ValidRaw dm r) :
    ∀ c ∈ cellsOf dm l, InR c :=
  fun c hc => (inRange_of_validRaw hdm hv c hc).2

/-- `BMOC::or`, `BMOC::xor`: merge the decoded cells, encode with the larger `depth_max`, `pack` -/
def packedOp (F : List Cell → List Cell → Option (List Cell)) (A B : BMOC) : Option BMOC :=
  (F A.cells B.cells).map fun cs =>
    { dmax := max A.dmax B.dmax, entries := pack (max A.dmax B.dmax) (cs.map (encode (max A.dmax B.dmax))) }

theorem or_eq_packedOp : BMOC.or = packedOp orCellsUnpacked := rfl
theorem xor_eq_packedOp : BMOC.xor = packedOp xorCellsUnpacked := rfl

variable {op : Tri → Tri → Tri} {F : List Cell → List Cell → Option (List Cell)}

theorem packedOp_spec (hF : Computes op F) (A B : BMOC) (hD : max A.dmax B.dmax ≤ 29)
    (hA : Valid (max A.dmax B.dmax) A.cells) (hB : Valid (max A.dmax B.dmax) B.cells) :
    ∃ R, packedOp F A B = some R ∧ R.dmax = max A.dmax B.dmax ∧ (∀ r ∈ R.entries, ValidRaw (max A.dmax B.dmax) r) ∧
      R.entries.Pairwise (· < ·) ∧ Valid (max A.dmax B.dmax) R.cells ∧
      ∀ x, stOf (max A.dmax B.dmax) R.cells x =
        op (stOf (max A.dmax B.dmax) A.cells x) (stOf (max A.dmax B.dmax) B.cells x) := by
  obtain ⟨l, hl, vl, hs⟩ := hF _ hD _ _ hA hB
  obtain ⟨g1, g2, g3, g4⟩ := Hpx.Cover.packed_bmoc_wf _ hD l vl.1 vl.2
  exact ⟨⟨max A.dmax B.dmax, pack (max A.dmax B.dmax) (l.map (encode (max A.dmax B.dmax)))⟩,
    by simp only [packedOp, hl, Option.map_some], rfl, g1, g3, ⟨g2, inR_of_validRaw hD g1⟩, fun x => (g4 x).trans (hs x)⟩

/-- operands well formed each w.r.t. its own `depth_max`: a cell of the deeper depth has in each operand the state of its
    ancestor there (last conjunct) -/
theorem packedOp_general (hF : Computes op F) (A B : BMOC) (hA : A.dmax ≤ 29) (hB : B.dmax ≤ 29)
    (vA : ∀ r ∈ A.entries, ValidRaw A.dmax r) (vB : ∀ r ∈ B.entries, ValidRaw B.dmax r)
    (wA : WF A.dmax A.cells) (wB : WF B.dmax B.cells) :
    ∃ R, packedOp F A B = some R ∧ R.dmax = max A.dmax B.dmax ∧ (∀ r ∈ R.entries, ValidRaw (max A.dmax B.dmax) r) ∧
      R.entries.Pairwise (· < ·) ∧ Valid (max A.dmax B.dmax) R.cells ∧
      (∀ x, stOf (max A.dmax B.dmax) R.cells x =
        op (stOf (max A.dmax B.dmax) A.cells x) (stOf (max A.dmax B.dmax) B.cells x)) ∧
      ∀ x, stOf (max A.dmax B.dmax) R.cells x =
        op (stOf A.dmax A.cells (x / 4 ^ (max A.dmax B.dmax - A.dmax)))
          (stOf B.dmax B.cells (x / 4 ^ (max A.dmax B.dmax - B.dmax))) := by
  obtain ⟨R, e, h1, h2, h3, h4, h5⟩ := packedOp_spec hF A B (Nat.max_le.2 ⟨hA, hB⟩)
    ⟨WF_rebase (Nat.le_max_left _ _) wA, inR_of_validRaw hA vA⟩ ⟨WF_rebase (Nat.le_max_right _ _) wB, inR_of_validRaw hB vB⟩
  refine ⟨R, e, h1, h2, h3, h4, h5, fun x => ?_⟩
  rw [h5 x, stOf_rebase (Nat.le_max_left _ _) wA.depth_le, stOf_rebase (Nat.le_max_right _ _) wB.depth_le]

/-- a partial depth-0 cell over a full depth-1 and a full depth-2 cell (then a further cell): partial cells are pushed around
    the full ones -/
example : orCellsUnpacked [⟨0, 0, false⟩, ⟨1, 4, true⟩] [⟨1, 1, true⟩, ⟨2, 12, true⟩, ⟨0, 2, false⟩] =
    some [⟨1, 0, false⟩, ⟨1, 1, true⟩, ⟨1, 2, false⟩, ⟨2, 12, true⟩, ⟨2, 13, false⟩, ⟨2, 14, false⟩, ⟨2, 15, false⟩,
      ⟨1, 4, true⟩, ⟨0, 2, false⟩] := by decide +kernel

/-- partial sub-cells only: the partial low-resolution cell is kept -/
example : orCellsUnpacked [⟨0, 0, false⟩] [⟨2, 1, false⟩, ⟨2, 5, false⟩, ⟨0, 1, false⟩] =
    some [⟨0, 0, false⟩, ⟨0, 1, false⟩] := by decide +kernel

/-- a full low-resolution cell absorbs its sub-cells -/
example : orCellsUnpacked [⟨2, 1, false⟩, ⟨2, 5, true⟩, ⟨0, 1, false⟩] [⟨0, 0, true⟩] =
    some [⟨0, 0, true⟩, ⟨0, 1, false⟩] := by decide +kernel

/-- the hypotheses of `computes_or`, `or3_sem` hold for these operands (`D = 2`) -/
example : WF 2 [⟨0, 0, false⟩, ⟨1, 4, true⟩] ∧ WF 2 [⟨1, 1, true⟩, ⟨2, 12, true⟩, ⟨0, 2, false⟩] ∧
    (∀ c ∈ [(⟨0, 0, false⟩ : Cell), ⟨1, 4, true⟩], InR c) ∧
    (∀ c ∈ [(⟨1, 1, true⟩ : Cell), ⟨2, 12, true⟩, ⟨0, 2, false⟩], InR c) := by
  simp [WF, InR, lo, hi]

/-- the hypotheses are satisfiable by non-trivial operands: a full coarse cell over partial and full finer cells, a
    partial coarse cell over finer cells, equal cells, disjoint cells -/
example : WF 2 [⟨0, 0, true⟩, ⟨0, 1, false⟩, ⟨1, 8, true⟩, ⟨2, 48, false⟩] ∧
    WF 2 [⟨2, 5, false⟩, ⟨2, 15, true⟩, ⟨1, 5, true⟩, ⟨1, 8, true⟩, ⟨1, 13, false⟩] ∧
    (∀ c ∈ [(⟨0, 0, true⟩ : Cell), ⟨0, 1, false⟩, ⟨1, 8, true⟩, ⟨2, 48, false⟩], InR c) ∧
    (∀ c ∈ [(⟨2, 5, false⟩ : Cell), ⟨2, 15, true⟩, ⟨1, 5, true⟩, ⟨1, 8, true⟩, ⟨1, 13, false⟩], InR c) := by
  refine ⟨?_, ?_, ?_, ?_⟩
  · simp [WF, hi, lo]
  · simp [WF, hi, lo]
  · intro c hc; simp only [List.mem_cons, List.not_mem_nil, or_false] at hc
    rcases hc with rfl | rfl | rfl | rfl <;> simp [InR]
  · intro c hc; simp only [List.mem_cons, List.not_mem_nil, or_false] at hc
    rcases hc with rfl | rfl | rfl | rfl | rfl <;> simp [InR]

/-- the model on those operands (evaluated by the kernel) -/
example : xorCellsUnpacked [⟨0, 0, true⟩, ⟨0, 1, false⟩, ⟨1, 8, true⟩, ⟨2, 48, false⟩]
      [⟨2, 5, false⟩, ⟨2, 15, true⟩, ⟨1, 5, true⟩, ⟨1, 8, true⟩, ⟨1, 13, false⟩] =
    some [⟨1, 0, true⟩, ⟨2, 4, true⟩, ⟨2, 5, false⟩, ⟨2, 6, true⟩, ⟨2, 7, true⟩, ⟨1, 2, true⟩, ⟨2, 12, true⟩,
      ⟨2, 13, true⟩, ⟨2, 14, true⟩, ⟨0, 1, false⟩, ⟨2, 48, false⟩, ⟨1, 13, false⟩] := by decide

/-- non-trivial operands of different `depth_max` satisfying the hypotheses of `packedOp_general`, and the operator on them -/
example : BMOC.xor ⟨1, [encode 1 ⟨0, 0, true⟩, encode 1 ⟨1, 5, false⟩]⟩
      ⟨2, [encode 2 ⟨2, 0, true⟩, encode 2 ⟨2, 1, true⟩, encode 2 ⟨2, 2, true⟩, encode 2 ⟨2, 7, false⟩, encode 2 ⟨1, 5, true⟩]⟩ =
    some ⟨2, [encode 2 ⟨2, 3, true⟩, encode 2 ⟨2, 4, true⟩, encode 2 ⟨2, 5, true⟩, encode 2 ⟨2, 6, true⟩,
      encode 2 ⟨2, 7, false⟩, encode 2 ⟨1, 2, true⟩, encode 2 ⟨1, 3, true⟩, encode 2 ⟨1, 5, false⟩]⟩ := by decide +kernel

/-- ... and they satisfy the hypotheses of `packedOp_general` -/
example : (∀ e ∈ [encode 1 ⟨0, 0, true⟩, encode 1 ⟨1, 5, false⟩], ValidRaw 1 e) ∧
    WF 1 (BMOC.cells ⟨1, [encode 1 ⟨0, 0, true⟩, encode 1 ⟨1, 5, false⟩]⟩) ∧
    (∀ e ∈ [encode 2 ⟨2, 0, true⟩, encode 2 ⟨2, 1, true⟩, encode 2 ⟨2, 2, true⟩, encode 2 ⟨2, 7, false⟩,
      encode 2 ⟨1, 5, true⟩], ValidRaw 2 e) ∧
    WF 2 (BMOC.cells ⟨2, [encode 2 ⟨2, 0, true⟩, encode 2 ⟨2, 1, true⟩, encode 2 ⟨2, 2, true⟩, encode 2 ⟨2, 7, false⟩,
      encode 2 ⟨1, 5, true⟩]⟩) := by
  have e1 : BMOC.cells ⟨1, [encode 1 ⟨0, 0, true⟩, encode 1 ⟨1, 5, false⟩]⟩ = [⟨0, 0, true⟩, ⟨1, 5, false⟩] := by
    decide +kernel
  have e2 : BMOC.cells ⟨2, [encode 2 ⟨2, 0, true⟩, encode 2 ⟨2, 1, true⟩, encode 2 ⟨2, 2, true⟩, encode 2 ⟨2, 7, false⟩,
      encode 2 ⟨1, 5, true⟩]⟩ = [⟨2, 0, true⟩, ⟨2, 1, true⟩, ⟨2, 2, true⟩, ⟨2, 7, false⟩, ⟨1, 5, true⟩] := by
    decide +kernel
  rw [e1, e2]
  refine ⟨?_, by simp [WF, hi, lo], ?_, by simp [WF, hi, lo]⟩
  · intro e he
    simp only [List.mem_cons, List.not_mem_nil, or_false] at he
    rcases he with rfl | rfl <;> exact ⟨_, by decide, by decide, rfl⟩
  · intro e he
    simp only [List.mem_cons, List.not_mem_nil, or_false] at he
    rcases he with rfl | rfl | rfl | rfl | rfl <;> exact ⟨_, by decide, by decide, rfl⟩

#print axioms or3_sem
#print axioms or_moc
#print axioms xor3_sem
#print axioms xor_wf

end Hpx.Bmoc
