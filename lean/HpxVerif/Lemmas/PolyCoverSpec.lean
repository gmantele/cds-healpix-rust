import HpxVerif.Model.PolyExact

/-!
`polygon_coverage` (both modes), every numeric instance: the model function unfolded once (`coverage_spec_with`), its start
cells (`startCells`, `startCells_cases`), and what the classifier saw, verdict by verdict (`polyClassifier_cases`, `CornerVerdict`).
-/

set_option autoImplicit false

namespace Hpx.PolyCompose
open Hpx Hpx.Cover Hpx.Bmoc Hpx.Sph

variable {α : Type} [Num α]

/-- the verdict of the polygon classifier on a cell with corners `cs` that is over no listed cell -/
inductive CornerVerdict (poly : Polygon α) (cs : List (Coo α)) : Verdict → Prop
  | full : (cs.filter fun c => poly.contains c).length = 4 → CornerVerdict poly cs .full
  | inside : 0 < (cs.filter fun c => poly.contains c).length → CornerVerdict poly cs (.descend false)
  | crossing (sv e nn w : Coo α) : (cs.filter fun c => poly.contains c).length = 0 → cs = [sv, e, nn, w] →
      (poly.intersectGreatCircleArc nn e || poly.intersectGreatCircleArc sv e ||
        poly.intersectGreatCircleArc w nn || poly.intersectGreatCircleArc w sv) = true → CornerVerdict poly cs (.descend false)
  | clear (sv e nn w : Coo α) : (cs.filter fun c => poly.contains c).length = 0 → cs = [sv, e, nn, w] →
      (poly.intersectGreatCircleArc nn e || poly.intersectGreatCircleArc sv e ||
        poly.intersectGreatCircleArc w nn || poly.intersectGreatCircleArc w sv) = false → CornerVerdict poly cs .skip

theorem polyClassifier_cases (cfg : Cfg) (target : Nat) (poly : Polygon α) (s : List Nat) (d h l : Nat) (v : Verdict)
    (hk : polyClassifier cfg target poly s d h l = some v) :
    (isInList d h target s = true ∧ v = .descend false) ∨
    (isInList d h target s = false ∧ ∃ vs cs, Hash.vertices (α := α) cfg d h = some vs ∧
      vs.mapM (fun v => fromSphCoo cfg.debug v.1 v.2) = some cs ∧ CornerVerdict poly cs v) := by
  unfold polyClassifier at hk
  split at hk
  · rename_i hin; exact Or.inl ⟨hin, (Option.some.inj hk).symm⟩
  · rename_i hin
    refine Or.inr ⟨by simpa using hin, ?_⟩
    split at hk
    · simp at hk
    · rename_i vs hvs
      split at hk
      · simp at hk
      · rename_i cs hcs
        refine ⟨vs, cs, hvs, hcs, ?_⟩
        dsimp only at hk
        split at hk
        · rename_i h4; exact Option.some.inj hk ▸ .full (by simpa using h4)
        · split at hk
          · rename_i hpos; exact Option.some.inj hk ▸ .inside (by simpa using hpos)
          · rename_i h0
            split at hk
            · rename_i sv e nn w _
              split at hk <;> rename_i harc
              · exact Option.some.inj hk ▸ .crossing sv e nn w (by simpa using h0) rfl harc
              · exact Option.some.inj hk ▸ .clear sv e nn w (by simpa using h0) rfl (by simpa using harc)
            · simp at hk

theorem classifier_skip (cfg : Cfg) (target : Nat) (poly : Polygon α) (s : List Nat) (d h l : Nat)
    (hk : polyClassifier cfg target poly s d h l = some .skip) : isInList d h target s = false := by
  rcases polyClassifier_cases cfg target poly s d h l _ hk with ⟨_, hv⟩ | ⟨hin, _⟩
  · cases hv
  · exact hin

theorem classifier_descend (cfg : Cfg) (target : Nat) (poly : Polygon α) (s : List Nat) (d h l : Nat) (fl : Bool)
    (hk : polyClassifier cfg target poly s d h l = some (.descend fl)) : fl = false := by
  rcases polyClassifier_cases cfg target poly s d h l _ hk with ⟨_, hv⟩ | ⟨_, _, _, _, _, hc⟩
  · cases hv; rfl
  · cases hc <;> rfl

theorem classifier_full (cfg : Cfg) (target : Nat) (poly : Polygon α) (s : List Nat) (d h l : Nat)
    (hk : polyClassifier cfg target poly s d h l = some .full) :
    isInList d h target s = false ∧ ∃ vs cs, Hash.vertices (α := α) cfg d h = some vs ∧
      vs.mapM (fun v => fromSphCoo cfg.debug v.1 v.2) = some cs ∧ (cs.filter fun c => poly.contains c).length = 4 := by
  rcases polyClassifier_cases cfg target poly s d h l _ hk with ⟨_, hv⟩ | ⟨hin, vs, cs, hvs, hcs, hc⟩
  · cases hv
  · cases hc with | full h4 => exact ⟨hin, vs, cs, hvs, hcs, h4⟩

/-- the start cells of `polygon_coverage`: `(depth_start, neigs)` -/
def startCells (cfg : Cfg) (depth : Nat) (poly : Polygon α) : Option (Nat × List Nat) :=
  match boundingCone poly.vertices with
  | none => none
  | some (centre, radius) =>
    if !C2V.hasBestStartingDepth radius then some (0, List.range 12)
    else
      match C2V.bestStartingDepth radius with
      | none => none
      | some ds0 =>
        let ds := min ds0 depth
        let ll := unitLonLat centre
        match Hash.hashV2 cfg ds ll.1 ll.2 with
        | none => none
        | some h0 => (Topo.neighbours cfg ds h0 true).map fun nm => (ds, sortNat (nm.map (·.2)))

/-- radius of `Cone::bounding_cone(poly.vertices())` -/
def boundingRadius (poly : Polygon α) : α :=
  match boundingCone poly.vertices with
  | some x => x.2
  | none => Num.zero

/-- `extra poly`: the extra cells of the sorted list (none in the approximate mode, the cells of the special points of every
    edge in the exact mode) -/
theorem coverage_spec_with (cfg : Cfg) (depth : Nat) (vertices : List (α × α)) (extra : Polygon α → Option (List Nat))
    (b : BMOC) (h : polygonCoverageWith cfg depth vertices extra = some b) :
    depth ≤ 29 ∧ ∃ (poly : Polygon α) (hs ex : List Nat) (ds : Nat) (roots : List Nat) (cells : List Cell),
      Polygon.new cfg.debug vertices = some poly ∧
      poly.vertices.mapM (fun c => Hash.hashV2 cfg depth c.lon c.lat) = some hs ∧ extra poly = some ex ∧
      startCells cfg depth poly = some (ds, roots) ∧
      roots.foldlM (fun acc r =>
        (coverRec depth (polyClassifier cfg depth poly (dedupAdj (sortNat (hs ++ ex)))) (depth + 2) ds r 0).map (acc ++ ·)) [] = some cells ∧
      b = { dmax := depth, entries := cells.map (encode depth) } := by
  unfold polygonCoverageWith at h
  split at h
  · simp at h
  · rename_i hd
    refine ⟨by omega, ?_⟩
    split at h
    · simp at h
    · rename_i poly hpoly
      split at h
      · simp at h
      · rename_i centre radius hbc
        simp only at h
        split at h
        · simp at h
        · rename_i ds roots hroots
          split at h
          · simp at h
          · rename_i hs hhs
            split at h
            · simp at h
            · rename_i ex hex
              simp only [Option.map_eq_some_iff] at h
              obtain ⟨cells, hcells, hb⟩ := h
              refine ⟨poly, hs, ex, ds, roots, cells, hpoly, hhs, hex, ?_, hcells, hb.symm⟩
              unfold startCells; rw [hbc]; exact hroots

theorem startCells_cases (cfg : Cfg) (depth : Nat) (poly : Polygon α) (ds : Nat) (roots : List Nat)
    (hs : startCells cfg depth poly = some (ds, roots)) :
    (C2V.hasBestStartingDepth (boundingRadius poly) = false ∧ ds = 0 ∧ roots = List.range 12) ∨
    (∃ ds0 h0 nm, C2V.hasBestStartingDepth (boundingRadius poly) = true ∧
      C2V.bestStartingDepth (boundingRadius poly) = some ds0 ∧ ds = min ds0 depth ∧
      Topo.neighbours cfg ds h0 true = some nm ∧ roots = sortNat (nm.map (·.2))) := by
  unfold startCells at hs
  unfold boundingRadius
  split at hs
  · simp at hs
  · rename_i centre radius hbc
    rw [hbc]
    simp only at hs ⊢
    split at hs
    · rename_i hnb
      simp only [Option.some.injEq, Prod.mk.injEq] at hs
      exact Or.inl ⟨by simpa using hnb, hs.1.symm, hs.2.symm⟩
    · rename_i hnb
      split at hs
      · simp at hs
      · rename_i ds0 hds0
        split at hs
        · simp at hs
        · rename_i h0 _
          simp only [Option.map_eq_some_iff, Prod.mk.injEq] at hs
          obtain ⟨nm, hnm, rfl, rfl⟩ := hs
          exact Or.inr ⟨ds0, h0, nm, by simpa using hnb, hds0, rfl, hnm, rfl⟩

theorem coverage_spec_start (cfg : Cfg) (depth : Nat) (vertices : List (α × α)) (exact : Bool) (b : BMOC)
    (h : polygonCoverage cfg depth vertices exact = some b) :
    depth ≤ 29 ∧ ∃ (poly : Polygon α) (hs ex : List Nat) (ds : Nat) (roots : List Nat) (cells : List Cell),
      Polygon.new cfg.debug vertices = some poly ∧
      poly.vertices.mapM (fun c => Hash.hashV2 cfg depth c.lon c.lat) = some hs ∧
      (if exact then specialHashes cfg depth poly else some []) = some ex ∧
      startCells cfg depth poly = some (ds, roots) ∧ ds ≤ depth ∧
      roots.foldlM (fun acc r =>
        (coverRec depth (polyClassifier cfg depth poly (dedupAdj (sortNat (hs ++ ex)))) (depth + 2) ds r 0).map (acc ++ ·)) [] = some cells ∧
      b = { dmax := depth, entries := cells.map (encode depth) } := by
  obtain ⟨hd, poly, hs, ex, ds, roots, cells, h1, h2, h3, h4, h5, h6⟩ := coverage_spec_with cfg depth vertices _ b h
  refine ⟨hd, poly, hs, ex, ds, roots, cells, h1, h2, ?_, h4, ?_, h5, h6⟩
  · cases exact <;> simpa using h3
  · rcases startCells_cases cfg depth poly ds roots h4 with ⟨_, rfl, _⟩ | ⟨ds0, _, _, _, _, rfl, _⟩
    · exact Nat.zero_le _
    · exact Nat.min_le_right _ _

theorem startCells_allsky (cfg : Cfg) (depth : Nat) (poly : Polygon α) (ds : Nat) (roots : List Nat)
    (hs : startCells cfg depth poly = some (ds, roots))
    (hno : C2V.hasBestStartingDepth (boundingRadius poly) = false) :
    ds = 0 ∧ roots = List.range 12 := by
  rcases startCells_cases cfg depth poly ds roots hs with ⟨_, h1, h2⟩ | ⟨_, _, _, hb, _⟩
  · exact ⟨h1, h2⟩
  · rw [hno] at hb; cases hb

end Hpx.PolyCompose
