/-
C04 — gluing for base cell 8 (south polar cap, column 0): the mirror image in the equator of the gluing for base cell 0
(`Kp_eq_mir` for the keys, `Glue_mir8` for the gluing relation; put together in `TopoGlue.lean`).
-/
import HpxVerif.Lemmas.TopoKeys

namespace Hpx.TopoNeigh
open Hpx Hpx.TopoSpec

-- not used by any proof: base cell 8 against each of the twelve pair by pair, as `TopoGlueN.lean` does for base cell 0
local macro "glue_tac" k1:ident k2:ident : tactic =>
  `(tactic| (rw [$k1:ident n a c hn ha ha' hc hc', $k2:ident n a' c' hn hd hd' he he']
             simp only [Prod.mk.injEq, KXn, KXe, KXs, wr, wl, Glue, Nat.reduceDiv, Nat.reduceMod, Nat.reduceAdd,
               Nat.reduceSub]
             constructor <;> intro h <;> first | exact False.elim h | omega))

theorem Kp_eq_mir (n : Int) (b b' : Nat) (a c a' c' : Int) (hb : b < 12) (hb' : b' < 12) :
    Kp n b a c = Kp n b' a' c' ↔ Kp n (mirB b) (n - c) (n - a) = Kp n (mirB b') (n - c') (n - a') := by
  simp only [Kp_mir n b a c hb, Kp_mir n b' a' c' hb', Prod.ext_iff, Int.neg_inj]

theorem Glue_mir8 (n : Int) (b' : Nat) (a c a' c' : Int) (hb' : b' < 12) :
    Glue n 0 (mirB b') (n - c) (n - a) (n - c') (n - a') ↔ Glue n 8 b' a c a' c' := by
  obtain rfl | rfl | rfl | rfl | rfl | rfl | rfl | rfl | rfl | rfl | rfl | rfl := b12 b' hb' <;>
  simp only [Glue, mirB, Nat.reduceDiv, Nat.reduceMod, Nat.reduceAdd, Nat.reduceSub, Nat.reduceMul] <;>
  omega

end Hpx.TopoNeigh
