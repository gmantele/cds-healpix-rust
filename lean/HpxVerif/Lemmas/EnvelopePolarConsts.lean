import HpxVerif.Lemmas.EnvelopePolar

/-!
# C16 — polar caps: how large the two constants are

`dMinP δ = intercept_npc` and `dMaxP δ` against multiples of `δ = 1/nside`: `0.873·δ ≤ dMinP δ ≤ 0.9·δ` (`dMinP_ge_small`,
`dMinP_le_lin`) and `dMaxP δ ≤ 1.073·δ` for `δ ≤ 1/8` (`dMaxP_le_small`), from `C0 = cos(tl)·cos(capLat(1 + δ))`
(`C0_sq`, `C0_bounds`), the tangent inequalities of `cos` on `[0, π/2]` and the lower bound `cos_gcDist_ge` for the cosine
of a great-circle distance.
-/

namespace Hpx.EnvelopePolar
open Hpx Hpx.Hash Hpx.Proj Hpx.Cover Hpx.C2V Hpx.C2VReal Hpx.EnvelopeReal Hpx.CellReal Real

/-! ## tangent inequalities for `cos` on `[0, π/2]`: those of `sin` (`sin_sub_ge`, `sin_sub_le`) at the complementary angles -/

theorem cos_add_le (a x : ℝ) (ha : 0 ≤ a) (hx : 0 ≤ x) (h : a + x ≤ π / 2) : cos (a + x) ≤ cos a - x * sin a := by
  have := sin_sub_ge (π / 2 - (a + x)) (π / 2 - a) (by linarith) (by linarith) (by linarith [Real.pi_pos])
  rw [Real.sin_pi_div_two_sub, Real.sin_pi_div_two_sub, Real.cos_pi_div_two_sub] at this
  linarith

theorem cos_sub_cos_le (A B : ℝ) (hA : 0 ≤ A) (hAB : A ≤ B) (hB : B ≤ π / 2) : cos A - cos B ≤ (B - A) * sin B := by
  have := sin_sub_le (π / 2 - B) (π / 2 - A) (by linarith) (by linarith) (by linarith [Real.pi_pos])
  rw [Real.sin_pi_div_two_sub, Real.sin_pi_div_two_sub, Real.cos_pi_div_two_sub] at this
  linarith

theorem cos_gcDist_ge (φ₁ φ₂ Δ : ℝ) (hC : 0 ≤ cos φ₁ * cos φ₂) :
    cos (φ₂ - φ₁) - cos φ₁ * cos φ₂ * (Δ ^ 2 / 2) ≤ cos (gcDist φ₁ φ₂ Δ) := by
  rw [cos_gcDist, cos_sub]
  have h := mul_le_mul_of_nonneg_left (Real.one_sub_sq_div_two_le_cos (x := Δ)) hC
  nlinarith

theorem dMaxP_le_of_cos (δ T : ℝ) (hT0 : 0 ≤ T) (h : cos T ≤ cos (dMaxP δ)) : dMaxP δ ≤ T :=
  le_of_cos_le (gcDist_le_pi _ _ _) hT0 h

/-- `cos(dMaxP δ) ≥ 1 − (2/5 + 5π²/288)·δ²`: from `cos(dMinP) ≥ 1 − 2δ²/5` and
    `C0·(1 − cos(πδ/4)) ≤ 5/9·(πδ/4)²/2` -/
theorem cos_dMaxP_ge (δ : ℝ) (h0 : 0 ≤ δ) (h1 : δ ≤ 1) : 1 - 573 / 1000 * δ ^ 2 ≤ cos (dMaxP δ) := by
  rw [cos_dMaxP]
  have ha := cos_dMinP_ge δ h0 h1
  have hx := Real.one_sub_sq_div_two_le_cos (x := π / 4 * δ)
  have hterm : cos tl * cos (capLat (1 + δ)) * (1 - cos (π / 4 * δ)) ≤ 5 / 9 * ((π / 4 * δ) ^ 2 / 2) :=
    mul_le_mul (C0_bounds δ h0 h1).2 (by linarith) (by linarith [Real.cos_le_one (π / 4 * δ)]) (by norm_num)
  have hx2 : (π / 4 * δ) ^ 2 = π ^ 2 * δ ^ 2 / 16 := by ring
  have hp := mul_le_mul_of_nonneg_right pi_sq_le (sq_nonneg δ)
  rw [hx2] at hterm
  linarith [sq_nonneg δ]

/-- `dMaxP δ ≤ 1.073·δ` for `0 < δ ≤ 1/8` (the limit of `dMaxP δ/δ` is `1.06897`): `T = 1.073·δ` satisfies
    `cos T ≤ 1 − T²/2 + 5/96·T⁴ ≤ 1 − 0.573·δ²` -/
theorem dMaxP_le_small (δ : ℝ) (h0 : 0 < δ) (h1 : δ ≤ 1 / 8) : dMaxP δ ≤ 1073 / 1000 * δ := by
  apply dMaxP_le_of_cos δ _ (by positivity)
  have hq := cos_le_quartic (1073 / 1000 * δ) (by positivity) (by linarith)
  have hM := cos_dMaxP_ge δ h0.le (by linarith)
  have h4 : δ ^ 2 * δ ^ 2 ≤ δ ^ 2 * (1 / 64) := mul_le_mul_of_nonneg_left (by nlinarith) (sq_nonneg δ)
  have e4 : (1073 / 1000 * δ) ^ 4 = (1073 / 1000) ^ 4 * (δ ^ 2 * δ ^ 2) := by ring
  have e2 : (1073 / 1000 * δ) ^ 2 = (1073 / 1000) ^ 2 * δ ^ 2 := by ring
  rw [e4, e2] at hq
  norm_num at hq
  linarith [sq_nonneg δ]

theorem dMaxP_pos (d : ℕ) (hd : 1 ≤ d) : 0 < dMaxP (1 / 2 ^ d) := by
  obtain ⟨h0, h1⟩ := half_pow_range d hd
  have := dMinP_pos (1 / 2 ^ d) h0 (by linarith)
  have := dMinP_lt_dMaxP _ h0 (by linarith)
  linarith

theorem dMinP_ge_small (δ : ℝ) (h0 : 0 ≤ δ) (h1 : δ ≤ 1 / 8) : 873 / 1000 * δ ≤ dMinP δ := by
  apply dMinP_ge_mul δ _ h0 (by linarith)
  have := pow_le_pow_left₀ (by norm_num : (0 : ℝ) ≤ 7 / 8) (by linarith : 7 / 8 ≤ 1 - δ) 2
  norm_num at this ⊢
  linarith

theorem dMinP_le_lin (δ : ℝ) (h0 : 0 ≤ δ) (h1 : δ ≤ 1) : dMinP δ ≤ 9 / 10 * δ := by
  apply le_of_sq_le_sq _ (by positivity)
  rw [mul_pow]
  linarith [dMinP_sq_le δ h0 h1, sq_nonneg δ]

end Hpx.EnvelopePolar
