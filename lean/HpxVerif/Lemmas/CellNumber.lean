import HpxVerif.Lemmas.LayerBmi
import HpxVerif.Lemmas.CenterXY
import HpxVerif.Lemmas.TopoSpec
import HpxVerif.Lemmas.EdgeInternal
import Mathlib.Tactic.Ring
import Mathlib.Tactic.Linarith

/-!
# Cell numbers and parts (either build, depth `≤ 29`)

A `HashParts` is *valid* at depth `d` when `d0h < 12 ∧ i < 2^d ∧ j < 2^d` (`RingBij.Valid d`, the same proposition as the
`Valid (2 ^ d)` of the specification of adjacency).  `numberOf d q = q.d0h·4^d + interleave q.i q.j` and `partsOf d h`
(quotient by `4^d`, even and odd bits of the remainder) are inverse bijections between the valid parts and `[0, 12·4^d)`, by
arithmetic alone.  The model computes them: `build_hash_from_parts` is `numberOf` (`build_spec`), `decode_hash` is `partsOf`
(`decodeHash_spec`, by what the shift and the mask do to any number).  `RingBij.build_spec`, `decode_build`, `decode_spec`
say the same on the expression `d0h·4^d + interleave i j`.

No proof here calls `ring` or `linarith`.  The two Mathlib modules are imported so that `2 ^ d`, `4 ^ d` in these statements
and in the modules on top (`TopoLift`, …) elaborate through Mathlib's `Monoid.npow`, as they do in the modules over ℝ that
rewrite with them.
-/

namespace Hpx.RingBij
open Hpx Hpx.Layer

/-! ## the shifts of the model as arithmetic over `nside d` -/

theorem nside_eq (d : Nat) : nside d = 2 ^ d := Layer.nside_eq d

theorem four_pow_eq (d : Nat) : 4 ^ d = nside d * nside d := by
  rw [nside_eq, ← Nat.pow_add, show (4 : Nat) = 2 ^ 2 from rfl, ← Nat.pow_mul]; congr 1; omega

theorem shl2d (a d : Nat) : a <<< (d <<< 1) = a * (nside d * nside d) := by
  rw [Nat.shiftLeft_eq, Nat.shiftLeft_eq, ← four_pow_eq, show (4 : Nat) = 2 ^ 2 from rfl, ← Nat.pow_mul]
  congr 2; omega

theorem nHash_eq (d : Nat) : nHash d = 12 * (nside d * nside d) := by
  unfold nHash; rw [shl2d]

def Valid (d : Nat) (p : HashParts) : Prop := p.d0h < 12 ∧ p.i < 2 ^ d ∧ p.j < 2 ^ d

instance (d : Nat) (p : HashParts) : Decidable (Valid d p) := by unfold Valid; infer_instance

/-! ## z-order facts (statements as in `Props/C18`) -/

theorem get_zoc_sufficient : ∀ d, d ≤ 29 → ∃ c, getZoc d = some c ∧ d ≤ c.bits := fun d hd =>
  let ⟨c, h1, _, h3⟩ := getZoc_spec d hd
  ⟨c, h1, h3⟩

theorem lut_ij2h_spec (c : ZocClass) (i j : Nat) (hi : i < 2 ^ c.bits) (hj : j < 2 ^ c.bits) :
    Lut.ij2h c i j = interleave i j :=
  Hpx.lut_ij2h_interleave c i j hi hj

theorem testBit_false_of_lt {z d q : Nat} (hz : z < 4 ^ d) (hq : 2 * d ≤ q) : z.testBit q = false := by
  apply Nat.testBit_lt_two_pow
  rw [show (4 : Nat) ^ d = 2 ^ (2 * d) by rw [Nat.pow_mul]] at hz
  exact Nat.lt_of_lt_of_le hz (Nat.pow_le_pow_right (by decide) hq)

theorem squeezeN_eq_of_lt {k k' d z : Nat} (hz : z < 4 ^ d) (hk : d ≤ k) (hk' : d ≤ k') :
    squeezeN k z = squeezeN k' z := by
  apply Nat.eq_of_testBit_eq; intro q
  rw [testBit_squeezeN, testBit_squeezeN]
  by_cases h : q < d
  · have h1 : q < k := by omega
    have h2 : q < k' := by omega
    simp [h1, h2]
  · rw [testBit_false_of_lt hz (by omega)]; simp

theorem squeezeN_lt_of_lt {k d z : Nat} (hz : z < 4 ^ d) : squeezeN k z < 2 ^ d := by
  apply Nat.lt_pow_two_of_testBit; intro q hq
  rw [testBit_squeezeN, testBit_false_of_lt hz (by omega)]; simp

theorem interleave_squeeze (z : Nat) (hz : z < 2 ^ 64) : interleave (squeezeN 32 z) (squeezeN 32 (z / 2)) = z := by
  apply Nat.eq_of_testBit_eq; intro p
  obtain ⟨q, rfl | rfl⟩ := parity_cases p
  · rw [testBit_interleave_even, testBit_squeezeN]
    by_cases h : q < 32
    · simp [h]
    · have : z.testBit (2 * q) = false :=
        Nat.testBit_lt_two_pow (Nat.lt_of_lt_of_le hz (Nat.pow_le_pow_right (by decide) (by omega)))
      simp [h, this]
  · rw [testBit_interleave_odd, testBit_squeezeN]
    have e : (z / 2).testBit (2 * q) = z.testBit (2 * q + 1) := by rw [Nat.testBit_succ]
    by_cases h : q < 32
    · simp [h, e]
    · have : z.testBit (2 * q + 1) = false :=
        Nat.testBit_lt_two_pow (Nat.lt_of_lt_of_le hz (Nat.pow_le_pow_right (by decide) (by omega)))
      simp [h, this]

theorem squeeze_interleave_i {k d i j : Nat} (hk : d ≤ k) (hk32 : k ≤ 32) (hi : i < 2 ^ d) :
    squeezeN k (interleave i j) = i := by
  rw [squeezeN_interleave hk32, Nat.mod_eq_of_lt (Nat.lt_of_lt_of_le hi (Nat.pow_le_pow_right (by decide) hk))]

theorem squeeze_interleave_j {k d i j : Nat} (hk : d ≤ k) (hk32 : k ≤ 32) (hj : j < 2 ^ d) :
    squeezeN k (interleave i j / 2) = j := by
  rw [squeezeN_interleave_half hk32, Nat.mod_eq_of_lt (Nat.lt_of_lt_of_le hj (Nat.pow_le_pow_right (by decide) hk))]

theorem shl2d' (a d : Nat) : a <<< (d <<< 1) = a * 4 ^ d := by rw [shl2d, four_pow_eq]

end Hpx.RingBij

/-! ## the two functions `numberOf`, `partsOf` -/

namespace Hpx.TopoLift
open Hpx Hpx.Topo Hpx.TopoSpec MW

def numberOf (d : Nat) (q : HashParts) : Nat := q.d0h * 4 ^ d + interleave q.i q.j

def num (d b x y : Nat) : Nat := b * 4 ^ d + interleave x y

def partsOf (d : Nat) (h : Nat) : HashParts :=
  ⟨h / 4 ^ d, squeezeN 32 (h % 4 ^ d), squeezeN 32 (h % 4 ^ d / 2)⟩

theorem nside_eq (d : Nat) : Layer.nside d = 2 ^ d := Layer.nside_eq d

theorem nHash_eq (d : Nat) : Layer.nHash d = 12 * 4 ^ d := RingBij.shl2d' 12 d

theorem one_le_pow (d : Nat) : 1 ≤ 2 ^ d := Nat.one_le_two_pow

theorem pow_le_u32 (d : Nat) (hd : d ≤ 29) : 2 ^ d ≤ 4294967296 :=
  Nat.le_trans (Nat.pow_le_pow_right (by decide) hd) (by decide)

theorem pow_lt_u32 (d : Nat) (hd : d ≤ 29) : 2 ^ d < 4294967296 :=
  Nat.lt_of_le_of_lt (Nat.pow_le_pow_right (by decide) hd) (by decide)

/-! ### they are inverse bijections between `[0, 12·4^d)` and the valid parts (arithmetic only) -/

theorem numberOf_lt (d : Nat) (q : HashParts) (hq : Valid (2 ^ d) q) : numberOf d q < 12 * 4 ^ d := by
  have h1 : (q.d0h + 1) * 4 ^ d ≤ 12 * 4 ^ d := Nat.mul_le_mul_right _ hq.1
  have h2 : interleave q.i q.j < 4 ^ d := interleave_lt hq.2.1 hq.2.2
  rw [Nat.add_mul] at h1
  unfold numberOf
  omega

theorem partsOf_lt (d h : Nat) : (partsOf d h).i < 2 ^ d ∧ (partsOf d h).j < 2 ^ d := by
  have hz : h % 4 ^ d < 4 ^ d := Nat.mod_lt _ (Nat.pow_pos (by decide))
  exact ⟨RingBij.squeezeN_lt_of_lt hz, RingBij.squeezeN_lt_of_lt (by omega)⟩

theorem partsOf_valid (d h : Nat) (hh : h < 12 * 4 ^ d) : Valid (2 ^ d) (partsOf d h) :=
  ⟨(Nat.div_lt_iff_lt_mul (Nat.pow_pos (by decide))).2 hh, partsOf_lt d h⟩

theorem numberOf_partsOf (d h : Nat) (hd : d ≤ 29) : numberOf d (partsOf d h) = h := by
  have hpos : 0 < 4 ^ d := Nat.pow_pos (by decide)
  have hz : h % 4 ^ d < 4 ^ d := Nat.mod_lt _ hpos
  have h64 : h % 4 ^ d < 2 ^ 64 := by
    have : (4 : Nat) ^ d ≤ 4 ^ 29 := Nat.pow_le_pow_right (by decide) hd
    omega
  unfold numberOf partsOf
  simp only
  rw [RingBij.interleave_squeeze _ h64, Nat.mul_comm, Nat.div_add_mod]

theorem mul_add_div_of_lt {a x N : Nat} (hx : x < N) : (a * N + x) / N = a := by
  rw [Nat.add_comm, Nat.add_mul_div_right _ _ (by omega), Nat.div_eq_of_lt hx, Nat.zero_add]

theorem squeezeN_block (k a z : Nat) (hk : k ≤ 32) (hz : z < 4 ^ k) :
    squeezeN 32 (a * 4 ^ k + z) = squeezeN (32 - k) a * 2 ^ k + squeezeN k z ∧
    squeezeN 32 ((a * 4 ^ k + z) / 2) = squeezeN (32 - k) (a / 2) * 2 ^ k + squeezeN k (z / 2) := by
  have e1 := mul_add_div_of_lt (a := a) hz
  have e2 := Nat.mul_add_mod_of_lt (a := a) hz
  have e3 : (4 : Nat) ^ k = 2 ^ (2 * k) := four_pow k
  have e : 32 = k + (32 - k) := by omega
  constructor
  · conv => lhs; rw [e]
    rw [squeezeN_split, e1, ← squeezeN_mod_ge (k := k) (w := 2 * k) (by omega), ← e3, e2, Nat.or_comm,
      ← Nat.shiftLeft_add_eq_or_of_lt (squeezeN_lt k z), Nat.shiftLeft_eq]
  · conv => lhs; rw [e]
    rw [squeezeN_split, Nat.div_div_eq_div_mul, Nat.mul_comm 2, ← Nat.div_div_eq_div_mul, e1,
      ← squeezeN_half_mod_ge (k := k) (w := 2 * k) (Nat.le_refl _), ← e3, e2, Nat.or_comm,
      ← Nat.shiftLeft_add_eq_or_of_lt (squeezeN_lt k (z / 2)), Nat.shiftLeft_eq]

theorem partsOf_cellVal (d dd hv x y : Nat) (hsum : d + dd ≤ 32) (hx : x < 2 ^ dd) (hy : y < 2 ^ dd) :
    partsOf (d + dd) (EdgeInternal.cellVal hv dd (x, y)) =
      ⟨(partsOf d hv).d0h, (partsOf d hv).i * 2 ^ dd + x, (partsOf d hv).j * 2 ^ dd + y⟩ := by
  have hz : interleave x y < 4 ^ dd := interleave_lt hx hy
  have hm : hv % 4 ^ d < 4 ^ d := Nat.mod_lt _ (Nat.pow_pos (by decide))
  have hm2 : hv % 4 ^ d / 2 < 4 ^ d := by omega
  have hw : EdgeInternal.cellVal hv dd (x, y) =
      hv / 4 ^ d * 4 ^ (d + dd) + (hv % 4 ^ d * 4 ^ dd + interleave x y) := by
    show hv * 4 ^ dd + interleave x y = _
    conv => lhs; rw [← Nat.div_add_mod hv (4 ^ d)]
    rw [Nat.add_mul, Nat.pow_add, Nat.mul_comm (4 ^ d) (hv / 4 ^ d), Nat.mul_assoc, Nat.add_assoc]
  have hlt : hv % 4 ^ d * 4 ^ dd + interleave x y < 4 ^ (d + dd) := by
    rw [Nat.pow_add]
    calc _ < hv % 4 ^ d * 4 ^ dd + 4 ^ dd := by omega
      _ = (hv % 4 ^ d + 1) * 4 ^ dd := by rw [Nat.add_mul, Nat.one_mul]
      _ ≤ 4 ^ d * 4 ^ dd := Nat.mul_le_mul_right _ hm
  obtain ⟨s1, s2⟩ := squeezeN_block dd (hv % 4 ^ d) _ (by omega) hz
  unfold partsOf
  rw [hw, mul_add_div_of_lt hlt, Nat.mul_add_mod_of_lt hlt, s1, s2, squeezeN_interleave (by omega),
    squeezeN_interleave_half (by omega), Nat.mod_eq_of_lt hx, Nat.mod_eq_of_lt hy,
    RingBij.squeezeN_eq_of_lt (k' := 32) hm (by omega) (by omega),
    RingBij.squeezeN_eq_of_lt (k' := 32) hm2 (by omega) (by omega)]

theorem partsOf_zero (b : Nat) : partsOf 0 b = ⟨b, 0, 0⟩ := by
  unfold partsOf
  rw [Nat.pow_zero, Nat.div_one, Nat.mod_one]
  rfl

/-- the cell of coordinates `(q.i, q.j)` in base cell `q.d0h` is the sub-cell `(q.i, q.j)` of the number `q.d0h` of depth 0 -/
theorem partsOf_numberOf (d : Nat) (hd : d ≤ 29) (q : HashParts) (hq : Valid (2 ^ d) q) :
    partsOf d (numberOf d q) = q := by
  have h := partsOf_cellVal 0 d q.d0h q.i q.j (by omega) hq.2.1 hq.2.2
  simp only [Nat.zero_add, partsOf_zero, Nat.zero_mul] at h
  exact h

theorem numberOf_injective (d : Nat) (hd : d ≤ 29) (p q : HashParts) (hp : Valid (2 ^ d) p) (hq : Valid (2 ^ d) q)
    (e : numberOf d p = numberOf d q) : p = q := by
  rw [← partsOf_numberOf d hd p hp, ← partsOf_numberOf d hd q hq, e]

theorem partsOf_injective (d : Nat) (hd : d ≤ 29) (h h' : Nat) (e : partsOf d h = partsOf d h') : h = h' := by
  rw [← numberOf_partsOf d h hd, ← numberOf_partsOf d h' hd, e]

/-! ### `build_hash_from_parts` computes `numberOf`, `decode_hash` computes `partsOf` -/

theorem build_spec (cfg : Cfg) (d : Nat) (hd : d ≤ 29) (q : HashParts) (hq : Valid (2 ^ d) q) :
    Layer.buildHashFromParts cfg d q.d0h q.i q.j = some (numberOf d q) := by
  rw [LayerBmi.build_of_lt cfg hd _ hq.2.1 hq.2.2, Nat.shiftLeft_eq, ← four_pow,
    EdgeInternal.or_eq_add _ _ _ (interleave_lt hq.2.1 hq.2.2)]
  rfl

theorem h2ij_i (cfg : Cfg) (c : ZocClass) (z : Nat) : Lut.ij2i c (Layer.h2ij cfg c z) = squeezeN c.bits z := by
  rw [LayerBmi.layer_h2ij_eq, ij2i_squeezePair]

theorem h2ij_j (cfg : Cfg) (c : ZocClass) (z : Nat) : Lut.ij2j c (Layer.h2ij cfg c z) = squeezeN c.bits (z / 2) := by
  rw [LayerBmi.layer_h2ij_eq, ij2j_squeezePair]

theorem and_xyMask (d h : Nat) : h &&& Layer.xyMask d = h % 4 ^ d := by
  unfold Layer.xyMask
  split
  · rw [RingBij.shl2d', Nat.one_mul, four_pow, Nat.and_two_pow_sub_one_eq_mod]
  · rw [show d = 0 by omega, Nat.and_zero, Nat.pow_zero, Nat.mod_one]

theorem decodeHash_spec (cfg : Cfg) (d : Nat) (hd : d ≤ 29) (h : Nat) (hh : h < 12 * 4 ^ d) :
    Layer.decodeHash cfg d h = some (partsOf d h) := by
  obtain ⟨c, hc, hdc⟩ := LayerBmi.zoc_curve cfg d hd
  have hz : h % 4 ^ d < 4 ^ d := Nat.mod_lt _ (Nat.pow_pos (by decide))
  have hb : h / 4 ^ d < 12 := (partsOf_valid d h hh).1
  have hs : h >>> (d <<< 1) % 256 = h / 4 ^ d := by
    rw [Nat.shiftRight_eq_div_pow, Nat.shiftLeft_eq, Nat.pow_one, Nat.mul_comm, ← four_pow]
    exact Nat.mod_eq_of_lt (by omega)
  unfold Layer.decodeHash partsOf
  simp only [hc, and_xyMask, hs, h2ij_i, h2ij_j, RingBij.squeezeN_eq_of_lt (k' := 32) hz hdc (by omega),
    RingBij.squeezeN_eq_of_lt (k' := 32) (show h % 4 ^ d / 2 < 4 ^ d by omega) hdc (by omega)]

end Hpx.TopoLift

/-! ## the same on the expression `d0h·4^d + interleave i j` -/

namespace Hpx.RingBij
open Hpx Hpx.Layer

theorem build_spec (cfg : Cfg) (d : Nat) (hd : d ≤ 29) (p : HashParts) (hv : Valid d p) :
    buildHashFromParts cfg d p.d0h p.i p.j = some (p.d0h * 4 ^ d + interleave p.i p.j) ∧
    p.d0h * 4 ^ d + interleave p.i p.j < 12 * 4 ^ d :=
  ⟨TopoLift.build_spec cfg d hd p hv, TopoLift.numberOf_lt d p hv⟩

theorem decode_build (cfg : Cfg) (d : Nat) (hd : d ≤ 29) (p : HashParts) (hv : Valid d p) :
    decodeHash cfg d (p.d0h * 4 ^ d + interleave p.i p.j) = some p :=
  (TopoLift.decodeHash_spec cfg d hd _ (TopoLift.numberOf_lt d p hv)).trans
    (congrArg some (TopoLift.partsOf_numberOf d hd p hv))

theorem decode_spec (cfg : Cfg) (d : Nat) (hd : d ≤ 29) (h : Nat) (hh : h < 12 * 4 ^ d) :
    ∃ p, decodeHash cfg d h = some p ∧ Valid d p ∧ h = p.d0h * 4 ^ d + interleave p.i p.j :=
  ⟨_, TopoLift.decodeHash_spec cfg d hd h hh, TopoLift.partsOf_valid d h hh, (TopoLift.numberOf_partsOf d h hd).symm⟩

end Hpx.RingBij
