import HpxVerif.Lemmas.ConeBmoc
import HpxVerif.Lemmas.CoverWF
import HpxVerif.Lemmas.BmocLower

/-!
# From the cell list handed to the builder to the returned BMOC: what the compaction and `to_lower_depth` keep

Shared by the cone and the elliptical cone (C05, C06, C13 on the returned BMOC).  A list of `GoodCellG` cells stays good
through `to_bmoc_packing` (a property that passes from four full siblings to their parent survives `pack`) and through
`to_lower_depth`, and what a cell of the list covered is covered by an entry of the result.

An ancestor of a strictly equatorial cell can be centred ON the transition latitude (its south child is strictly
equatorial), where `InCellEq` says nothing.  So when the crate reports the ANCESTOR of a tested cell (small cone
`depth < ds`; `to_lower_depth`) containment is stated with `InCellPlane`; with a centre strictly inside the band it IS
`InCellEq` (`inCellPlane_eq`).
-/

namespace Hpx.ConeBmoc
open Hpx Hpx.Hash Hpx.C2V Hpx.C2VReal Hpx.Proj Hpx.Cover Hpx.CellReal Hpx.EnvelopeReal Hpx.TopoLift Hpx.CellExtent
open Hpx.Bmoc Real

theorem anc_anc (x : ℕ) {a b c : ℕ} (hab : a ≤ b) (hbc : b ≤ c) : x / 4 ^ (c - b) / 4 ^ (b - a) = x / 4 ^ (c - a) := by
  rw [Nat.div_div_eq_div_mul, ← Nat.pow_add, show c - b + (b - a) = c - a by omega]

/-- what is known of every cell of the list of depth `D` handed to the builder, of every entry of the compacted BMOC
    (`depth = D`) and of every entry of the BMOC degraded to `depth < D` by `to_lower_depth` -/
def GoodCellG (P : ℝ × ℝ → Prop) (V : ℕ → Prop) (D depth : ℕ) (c : Cell) : Prop :=
  (c.full = true → |pcy c.depth c.hash| ≠ 1 ∧ ∀ q, InCellEq c.depth c.hash q →
    P q ∨ ∃ x, x / 4 ^ (D - c.depth) = c.hash ∧ InCellEq D x q ∧ V x) ∧
  (c.full = false → c.depth = depth)

theorem goodCellG_closure (P : ℝ × ℝ → Prop) (V : ℕ → Prop) (D : ℕ) (hD : D ≤ 29) :
    ∀ d h, 0 < d → d ≤ D → h % 4 = 0 → h < 12 * 4 ^ d → GoodCellG P V D D ⟨d, h, true⟩ →
      GoodCellG P V D D ⟨d, h + 1, true⟩ → GoodCellG P V D D ⟨d, h + 2, true⟩ →
      GoodCellG P V D D ⟨d, h + 3, true⟩ → GoodCellG P V D D ⟨d - 1, h / 4, true⟩ := by
  intro d h hd0 hdD h4 _ g0 g1 g2 g3
  obtain ⟨d', rfl⟩ : ∃ d', d = d' + 1 := ⟨d - 1, by omega⟩
  rw [Nat.add_sub_cancel]
  have e : ∀ k, k < 4 → h + k = 4 * (h / 4) + k := by intro k _; omega
  refine ⟨fun _ => ⟨?_, ?_⟩, fun hf => by simp at hf⟩
  · have := (g1.1 rfl).1
    simp only at this
    rw [e 1 (by omega), east_child_pcy d' (h / 4) (by omega)] at this
    exact this
  · intro q hq
    obtain ⟨k, hk, hkq⟩ := inCellEq_child d' (h / 4) q (by omega) hq
    rw [← e k hk] at hkq
    have g : GoodCellG P V D D ⟨d' + 1, h + k, true⟩ := by
      interval_cases k
      exacts [g0, g1, g2, g3]
    rcases (g.1 rfl).2 q hkq with hP | ⟨x, hx, hxq, hV⟩
    · exact Or.inl hP
    · refine Or.inr ⟨x, ?_, hxq, hV⟩
      show x / 4 ^ (D - d') = h / 4
      simp only at hx
      rw [← anc_anc x (Nat.le_add_right d' 1) hdD, hx, Nat.add_sub_cancel_left, Nat.pow_one]
      omega

theorem goodCellG_contains (P : ℝ × ℝ → Prop) (V : ℕ → Prop) (D : ℕ) (c : Cell) (hg : GoodCellG P V D D c)
    (hcd : c.depth ≤ D) (x : ℕ) (hcov : x / 4 ^ (D - c.depth) = c.hash) (q : ℝ × ℝ) (hq : InCellEq D x q) :
    InCellEq c.depth c.hash q := by
  cases hf : c.full with
  | false =>
    have hd := hg.2 hf
    rw [hd, Nat.sub_self, Nat.pow_zero, Nat.div_one] at hcov
    rw [hd, ← hcov]
    exact hq
  | true => exact inCellEq_ancestor D c.depth x c.hash hcd hcov q hq (hg.1 hf).1

theorem packedG_good (P : ℝ × ℝ → Prop) (V : ℕ → Prop) (D : ℕ) (hD : D ≤ 29) (cells : List Cell) (hw : WF D cells)
    (hr : ∀ c ∈ cells, InRange c) (hg : ∀ c ∈ cells, GoodCellG P V D D c) :
    ∀ e ∈ pack D (cells.map (encode D)), GoodCellG P V D D (decode e D) := by
  refine pack_closure _ D hD (goodCellG_closure P V D hD) _ (fun e he => ?_) (fun e he => ?_)
  · obtain ⟨c, hc, rfl⟩ := List.mem_map.1 he
    exact ⟨c, hw.depth_le c hc, hr c hc, rfl⟩
  · obtain ⟨c, hc, rfl⟩ := List.mem_map.1 he
    rw [decode_encode (hw.depth_le c hc) hD (hr c hc)]
    exact hg c hc

theorem packed_covers (D : ℕ) (hD : D ≤ 29) (cells : List Cell) (hw : WF D cells) (hr : ∀ c ∈ cells, InRange c)
    (c : Cell) (hc : c ∈ cells) (x : ℕ) (hx : x / 4 ^ (D - c.depth) = c.hash) :
    ∃ e ∈ pack D (cells.map (encode D)), (decode e D).depth ≤ D ∧
      x / 4 ^ (D - (decode e D).depth) = (decode e D).hash ∧ (decode e D).full = c.full := by
  obtain ⟨_, g2, _, g4⟩ := packed_bmoc_wf D hD cells hw hr
  have hst := (stOf_eq_ofFlag_iff_div hw x c.full).mpr ⟨c, hc, rfl, hx⟩
  rw [← g4 x] at hst
  obtain ⟨c', hc', kf, k⟩ := (stOf_eq_ofFlag_iff_div g2 x c.full).mp hst
  obtain ⟨e, he, rfl⟩ := List.mem_map.1 hc'
  exact ⟨e, he, g2.depth_le _ hc', k, kf⟩

theorem packed_partial_kept (P : ℝ × ℝ → Prop) (V : ℕ → Prop) (D : ℕ) (hD : D ≤ 29) (cells : List Cell) (hw : WF D cells)
    (hr : ∀ c ∈ cells, InRange c) (hg : ∀ c ∈ cells, GoodCellG P V D D c) (x : ℕ)
    (hc : ({ depth := D, hash := x, full := false } : Cell) ∈ cells) :
    ∃ e ∈ pack D (cells.map (encode D)), (decode e D).depth = D ∧ (decode e D).hash = x ∧ (decode e D).full = false := by
  obtain ⟨e, he, k1, k2, k3⟩ := packed_covers D hD cells hw hr _ hc x (by simp)
  have hdep := (packedG_good P V D hD cells hw hr hg e he).2 k3
  rw [hdep, Nat.sub_self, Nat.pow_zero, Nat.div_one] at k2
  exact ⟨e, he, hdep, k2.symm, k3⟩

theorem packed_state (D : ℕ) (hD : D ≤ 29) (cells : List Cell) (hw : WF D cells) (hr : ∀ c ∈ cells, InRange c)
    (c : Cell) (hc : c ∈ cells) (x : ℕ) (hx : x / 4 ^ (D - c.depth) = c.hash) :
    stOf D (cellsOf D (pack D (cells.map (encode D)))) x ≠ .abs := by
  obtain ⟨_, _, _, g4⟩ := packed_bmoc_wf D hD cells hw hr
  rw [g4 x, (stOf_eq_ofFlag_iff_div hw x c.full).mpr ⟨c, hc, rfl, hx⟩]
  exact Hpx.Bmoc.ofFlag_ne_abs _

theorem lowered_covers (deep depth : ℕ) (hdeep : deep ≤ 29) (hlt : depth < deep) (cells : List Cell)
    (hw : WF deep cells) (hr : ∀ c ∈ cells, InRange c) (c : Cell) (hc : c ∈ cells) (x : ℕ)
    (hx : x / 4 ^ (deep - c.depth) = c.hash) :
    ∃ e ∈ toLowerLoop deep depth (pack deep (cells.map (encode deep))) none, (decode e depth).depth ≤ depth ∧
      x / 4 ^ (deep - (decode e depth).depth) = (decode e depth).hash := by
  obtain ⟨v1, v2, _, _⟩ := packed_bmoc_wf deep hdeep cells hw hr
  obtain ⟨e1, he1, k1, k2, _⟩ := packed_covers deep hdeep cells hw hr c hc x hx
  -- the entry of the compacted BMOC that covers `x`, seen at `depth`: itself, or its ancestor
  obtain ⟨e, he, hco⟩ := List.mem_map.1 (((Lower.toLower_cells deep depth hdeep hlt _ v1 v2).2 _).2
    (List.mem_map.mpr ⟨_, List.mem_map.mpr ⟨e1, he1, rfl⟩, rfl⟩))
  refine ⟨e, he, ?_⟩
  rw [hco]
  unfold Lower.coarsen
  split
  · exact ⟨‹_›, k2⟩
  · exact ⟨le_rfl, by rw [← k2, anc_anc x (by omega) k1]⟩

theorem lowered_full_only_if (deep depth : ℕ) (hdeep : deep ≤ 29) (hlt : depth < deep) (cells : List Cell)
    (hw : WF deep cells) (hr : ∀ c ∈ cells, InRange c) (e : ℕ)
    (he : e ∈ toLowerLoop deep depth (pack deep (cells.map (encode deep))) none) (hf : (decode e depth).full = true) (x : ℕ)
    (hx : x / 4 ^ (deep - (decode e depth).depth) = (decode e depth).hash) :
    ∃ c ∈ cells, c.full = true ∧ x / 4 ^ (deep - c.depth) = c.hash := by
  obtain ⟨v1, v2, _, v4⟩ := packed_bmoc_wf deep hdeep cells hw hr
  obtain ⟨w1, _⟩ := Lower.toLower_wf deep depth hdeep hlt _ v1 v2
  have hc'' : decode e depth ∈ cellsOf depth (toLowerLoop deep depth (pack deep (cells.map (encode deep))) none) :=
    List.mem_map.mpr ⟨e, he, rfl⟩
  have hcd := w1.depth_le _ hc''
  have hst := (stOf_eq_ofFlag_iff_div w1 (x / 4 ^ (deep - depth)) true).mpr ⟨_, hc'', hf, by
    rw [anc_anc x hcd hlt.le]
    exact hx⟩
  obtain ⟨b1, b2⟩ := div_bounds x (4 ^ (deep - depth)) (Nat.pow_pos (by decide))
  have hfull := Lower.toLower_full_only_if deep depth hdeep hlt _ v1 v2 _ hst x b1 b2
  rw [v4 x] at hfull
  exact (stOf_eq_ofFlag_iff_div hw x true).mp hfull

theorem lowered_good (P : ℝ × ℝ → Prop) (V : ℕ → Prop) (deep depth : ℕ) (hdeep : deep ≤ 29) (hlt : depth < deep)
    (cells : List Cell) (hw : WF deep cells) (hr : ∀ c ∈ cells, InRange c) (hg : ∀ c ∈ cells, GoodCellG P V deep deep c) :
    ∀ e ∈ toLowerLoop deep depth (pack deep (cells.map (encode deep))) none,
      GoodCellG P V deep depth (decode e depth) := by
  intro e he
  obtain ⟨v1, v2, _, _⟩ := packed_bmoc_wf deep hdeep cells hw hr
  -- an entry is a cell of the compacted list seen at `depth`: itself, or its partial ancestor
  obtain ⟨c0, hc0, hco⟩ := List.mem_map.1
    (((Lower.toLower_cells deep depth hdeep hlt _ v1 v2).2 _).1 (List.mem_map.mpr ⟨e, he, rfl⟩))
  obtain ⟨e1, he1, rfl⟩ := List.mem_map.1 hc0
  rw [← hco]
  unfold Lower.coarsen
  split
  · have hg' := packedG_good P V deep hdeep cells hw hr hg e1 he1
    exact ⟨hg'.1, fun hf => by have := hg'.2 hf; omega⟩
  · exact ⟨fun hf => (by cases hf), fun _ => rfl⟩

end Hpx.ConeBmoc

#print axioms Hpx.ConeBmoc.packedG_good
