import HpxVerif.Lemmas.EConeEq

/-!
# Elliptical cones of the equatorial band: the starting depth, and the C13 statements with the stored centre

`|lat| + a < tl` forces `a < 0.74 < 0.841 = T₀`, so `best_starting_depth(a)` exists and the all-sky branch (12 base cells, no
starting depth) of `elliptical_cone_coverage_internal` is never taken for these ellipses (`band_has_start_depth`).  The three
statements of `Lemmas/EConeEq.lean` are restated at the centre stored by `ProjSIN::new`.
-/

namespace Hpx.EConeEq
open Hpx Hpx.Hash Hpx.C2V Hpx.C2VReal Hpx.Proj Hpx.Cover Hpx.CellReal Hpx.EnvelopeReal Hpx.TopoLift Hpx.CellExtent
open Hpx.Sph Hpx.Bmoc Real

theorem table_eq (k b e m : ℕ) (hb : Gen.smallerEdge2OpEdgeDistBits.getD k 0 = b) (he : F64.expF b = e)
    (hm : F64.manF b = m) (hs : F64.sgnF b = 0) (he0 : e ≠ 0) :
    table (α := ℝ) k = (((2 ^ 52 + m) * (2 : ℚ) ^ ((e : ℤ) - 1075) : ℚ) : ℝ) := by
  unfold table
  rw [hb]
  show ((F64.toRat b : ℚ) : ℝ) = _
  rw [toRat_of_fields b e m he hm hs he0]

/-- the first entry of the table of `best_starting_depth` (`0x3FEAEA08D83905AD ≈ 0.841069`) exceeds `3/4` -/
theorem table_zero_gt : (3 / 4 : ℝ) < table (α := ℝ) 0 := by
  rw [table_eq 0 0x3FEAEA08D83905AD 1022 0xAEA08D83905AD (by decide) (by decide) (by decide) (by decide) (by decide)]
  norm_num

theorem start_depth_exists (a : ℝ) (h : hasBestStartingDepth a = true) : ∃ ds, bestStartingDepth a = some ds := by
  unfold hasBestStartingDepth at h
  unfold bestStartingDepth
  rw [show Gen.bestStartingDepthGuardIdx = 0 from rfl, show (0 : ℕ) = Gen.hasBestStartingDepthIdx from rfl, h]
  exact ⟨_, rfl⟩

theorem band_has_start_depth (lat a : ℝ) (hA : |lat| + a < tl) :
    hasBestStartingDepth a = true ∧ ∃ ds, bestStartingDepth a = some ds := by
  have h1 := table_zero_gt
  have h2 := tl_le
  have h3 := abs_nonneg lat
  have hlt : Num.lt a (table (α := ℝ) 0) = true := by rw [Proj.r_lt]; simpa using (by linarith : a < table (α := ℝ) 0)
  have hbest : hasBestStartingDepth a = true := by
    unfold hasBestStartingDepth
    exact hlt
  exact ⟨hbest, start_depth_exists a hbest⟩

/-- `best_starting_depth(0.05) = 3` over the reals (the unrolled binary search of the crate: `T₃ ≈ 0.0900 > 0.05 ≥ T₄ ≈ 0.0447`) -/
theorem best_starting_depth_ex : bestStartingDepth (1 / 20 : ℝ) = some 3 := by
  have t0 := table_eq 0 0x3FEAEA08D83905AD 1022 0xAEA08D83905AD (by decide) (by decide) (by decide) (by decide) (by decide)
  have t29 := table_eq 29 0x3E16BE84763852D1 993 0x6BE84763852D1 (by decide) (by decide) (by decide) (by decide) (by decide)
  have t15 := table_eq 15 0x3EF6BE8911339427 1007 0x6BE8911339427 (by decide) (by decide) (by decide) (by decide) (by decide)
  have t7 := table_eq 7 0x3F76C31163ACF399 1015 0x6C31163ACF399 (by decide) (by decide) (by decide) (by decide) (by decide)
  have t3 := table_eq 3 0x3FB70A86005503BD 1019 0x70A86005503BD (by decide) (by decide) (by decide) (by decide) (by decide)
  have t5 := table_eq 5 0x3F96D0DF233825B0 1017 0x6D0DF233825B0 (by decide) (by decide) (by decide) (by decide) (by decide)
  have t4 := table_eq 4 0x3FA6E3A4EC0B299B 1018 0x6E3A4EC0B299B (by decide) (by decide) (by decide) (by decide) (by decide)
  have c0 : Num.lt (1 / 20 : ℝ) (table (α := ℝ) 0) = true := by rw [Proj.r_lt, t0]; norm_num
  have c29 : Num.lt (1 / 20 : ℝ) (table (α := ℝ) 29) = false := by rw [Proj.r_lt, t29]; norm_num
  have c15 : Num.lt (1 / 20 : ℝ) (table (α := ℝ) 15) = false := by rw [Proj.r_lt, t15]; norm_num
  have c7 : Num.lt (1 / 20 : ℝ) (table (α := ℝ) 7) = false := by rw [Proj.r_lt, t7]; norm_num
  have c3 : Num.lt (1 / 20 : ℝ) (table (α := ℝ) 3) = true := by rw [Proj.r_lt, t3]; norm_num
  have c5 : Num.lt (1 / 20 : ℝ) (table (α := ℝ) 5) = false := by rw [Proj.r_lt, t5]; norm_num
  have c4 : Num.lt (1 / 20 : ℝ) (table (α := ℝ) 4) = false := by rw [Proj.r_lt, t4]; norm_num
  unfold bestStartingDepth Gen.bestStartingDepthTree
  rw [show Gen.bestStartingDepthGuardIdx = 0 from rfl]
  simp only [c0, c29, c15, c7, c3, c5, c4, Bool.not_true, Bool.false_eq_true, if_false, if_true]

/-- `Sph.circular_no_miss` with the stored centre, `H1`, `hcover` and `hD` discharged -/
theorem econe_scheme_circular_no_miss_equatorial (cfg : Cfg) (lon lat a pa : ℝ) (ha : 0 < a) (hA : |lat| + a < tl)
    (hmin : 1 / 2 ^ 1024 < sin a) (ds target : ℕ) (hdt : ds ≤ target) (ht : target ≤ 29) (dists : List ℝ)
    (hdists : largestC2VsWithRadius false ds (target + 1) lon lat a = some dists) (fuel root : ℕ) (out : List Cell)
    (h : coverRec target (ellClassifier (α := ℝ) cfg target (ECone.new lon lat a a pa) dists) fuel ds root 0 = some out)
    (q : ℝ × ℝ) (hq : InCellEq ds root q) (hin : adist q (ProjSIN.new lon lat).c0 ≤ a) :
    ∃ c ∈ out, InCellEq c.depth c.hash q :=
  econe_circular_no_miss_equatorial cfg lon lat a pa ha hA hmin ds target hdt ht dists hdists fuel root out h q hq
    (by rwa [adist_new_c0] at hin)

/-- `Sph.circular_full_inside` with the stored centre, `H1` and `hD` discharged -/
theorem econe_scheme_circular_full_inside_equatorial (cfg : Cfg) (lon lat a pa : ℝ) (ha : 0 < a) (hA : |lat| + a < tl)
    (ds target : ℕ) (hdt : ds ≤ target) (ht : target ≤ 29) (dists : List ℝ)
    (hdists : largestC2VsWithRadius false ds (target + 1) lon lat a = some dists) (fuel root : ℕ) (out : List Cell)
    (h : coverRec target (ellClassifier (α := ℝ) cfg target (ECone.new lon lat a a pa) dists) fuel ds root 0 = some out)
    (c : Cell) (hc : c ∈ out) (hf : c.full = true) :
    (∀ q, InCellEq c.depth c.hash q → adist q (ProjSIN.new lon lat).c0 ≤ a) ∨
    (c.depth = target ∧ ∃ vs, Hash.vertices (α := ℝ) cfg c.depth c.hash = some vs ∧
      ∀ v ∈ vs, adist v (ProjSIN.new lon lat).c0 ≤ a) := by
  have := econe_circular_full_inside_equatorial cfg lon lat a pa ha hA ds target hdt ht dists hdists fuel root out h c hc hf
  simpa only [adist_new_c0] using this

/-- the centre stored by `ProjSIN::new` is kept: it is at distance 0 of `(lon, lat)`, hence a position of the inscribed circular
    cone (`econe_inner_no_miss_equatorial`) -/
theorem econe_scheme_centre_kept_equatorial (cfg : Cfg) (lon lat a b pa : ℝ) (hb : 0 < b) (hba : b ≤ a)
    (hA : |lat| + a < tl) (hmin : 1 / 2 ^ 1024 < sin b) (ds target : ℕ) (hdt : ds ≤ target) (ht : target ≤ 29)
    (dists : List ℝ) (hdists : largestC2VsWithRadius false ds (target + 1) lon lat a = some dists) (fuel root : ℕ)
    (out : List Cell)
    (h : coverRec target (ellClassifier (α := ℝ) cfg target (ECone.new lon lat a b pa) dists) fuel ds root 0 = some out)
    (hq : InCellEq ds root (ProjSIN.new lon lat).c0) :
    ∃ c ∈ out, InCellEq c.depth c.hash (ProjSIN.new lon lat).c0 :=
  econe_inner_no_miss_equatorial cfg lon lat a b pa hb hba hA hmin ds target hdt ht dists hdists fuel root out h _ hq
    (by rw [adist_comm, adist_new_c0, adist_self]; exact hb.le)

end Hpx.EConeEq


#print axioms Hpx.EConeEq.best_starting_depth_ex
#print axioms Hpx.EConeEq.econe_scheme_centre_kept_equatorial
