/-
Cross-operator laws of the BMOC algebra (C07, C08): de Morgan and `xor = (a or b) and not (a and b)` with partial flags,
from the four semantic theorems and Kleene's laws on `Tri`; on plain MOCs `or` and `xor` are commutative as STRUCTURAL
equalities (same entries), thanks to the canonical form produced by the final `pack`.
-/
import HpxVerif.Lemmas.BmocOrXor
import HpxVerif.Lemmas.BmocCanon

namespace Hpx.Bmoc

theorem tri_de_morgan (s t : Tri) : Tri.not (Tri.min s t) = Tri.max (Tri.not s) (Tri.not t) := by
  cases s <;> cases t <;> rfl

theorem tri_de_morgan' (s t : Tri) : Tri.not (Tri.max s t) = Tri.min (Tri.not s) (Tri.not t) := by
  cases s <;> cases t <;> rfl

/-- **de Morgan, first law, with partial flags**: `(not a) or (not b)` is computed (`or` does not panic on complements) and
    denotes the same three-valued set as `not (a and b)` -/
theorem de_morgan_or_not (D : Nat) (hD : D ≤ 29) (a b : List Cell) (ha : WF D a) (hb : WF D b)
    (hra : ∀ c ∈ a, InR c) (hrb : ∀ c ∈ b, InR c) :
    ∃ l, orCellsUnpacked (notCells a) (notCells b) = some l ∧
      ∀ x, x < 12 * 4 ^ D → stOf D l x = stOf D (notCells (andCells a b)) x := by
  obtain ⟨sa, wa, ra⟩ := notCells_spec D hD a ha hra
  obtain ⟨sb, wb, rb⟩ := notCells_spec D hD b hb hrb
  obtain ⟨l, hl, _, hs⟩ := computes_or D hD _ _ ⟨wa, ra⟩ ⟨wb, rb⟩
  refine ⟨l, hl, fun x hx => ?_⟩
  have wab := (and_wf_inside D a b ha hb).1
  have rab := and_inR D a b ha hb hra
  rw [hs x, sa x hx, sb x hx, (notCells_spec D hD _ wab rab).1 x hx, and_sem D a b ha hb x, tri_de_morgan]

/-- **de Morgan, second law, with partial flags**: `(not a) and (not b)` denotes the same three-valued set as the
    complement of any computed `a or b` -/
theorem de_morgan_and_not (D : Nat) (hD : D ≤ 29) (a b : List Cell) (ha : WF D a) (hb : WF D b)
    (hra : ∀ c ∈ a, InR c) (hrb : ∀ c ∈ b, InR c) (l : List Cell) (hl : orCellsUnpacked a b = some l)
    (x : Nat) (hx : x < 12 * 4 ^ D) :
    stOf D (andCells (notCells a) (notCells b)) x = stOf D (notCells l) x := by
  obtain ⟨sa, wa, _⟩ := notCells_spec D hD a ha hra
  obtain ⟨sb, wb, _⟩ := notCells_spec D hD b hb hrb
  obtain ⟨vl, hs⟩ := computes_or.of_eq hD ⟨ha, hra⟩ ⟨hb, hrb⟩ hl
  rw [and_sem D _ _ wa wb x, sa x hx, sb x hx, (notCells_spec D hD l vl.1 vl.2).1 x hx, hs x, tri_de_morgan']

theorem packedOp_comm_moc {op : Tri → Tri → Tri} {F : List Cell → List Cell → Option (List Cell)} (hF : Computes op F)
    (hcomm : ∀ s t, op s t = op t s) (hplain : ∀ s t, s ≠ .part → t ≠ .part → op s t ≠ .part) (A B : BMOC)
    (hD : max A.dmax B.dmax ≤ 29) (hA : Valid (max A.dmax B.dmax) A.cells) (hB : Valid (max A.dmax B.dmax) B.cells)
    (mA : ∀ c ∈ A.cells, c.full = true) (mB : ∀ c ∈ B.cells, c.full = true) :
    packedOp F A B = packedOp F B A ∧ (packedOp F A B).isSome := by
  obtain ⟨l1, h1, v1, s1⟩ := hF _ hD _ _ hA hB
  obtain ⟨l2, h2, v2, s2⟩ := hF _ hD _ _ hB hA
  have plain : ∀ {a : List Cell}, (∀ c ∈ a, c.full = true) → ∀ x, stOf (max A.dmax B.dmax) a x ≠ .part := fun m x => by
    rcases stOf_of_all_flag m x with h | h <;> rw [h] <;> decide
  have full : ∀ {l : List Cell}, WF (max A.dmax B.dmax) l → (∀ x, stOf (max A.dmax B.dmax) l x ≠ .part) →
      ∀ c ∈ l, c.full = true := fun w h =>
    flags_of_sem w (fun x => by
      have hx := h x
      generalize stOf (max A.dmax B.dmax) _ x = s at hx ⊢
      cases s
      · exact Or.inl rfl
      · exact absurd rfl hx
      · exact Or.inr rfl)
  have f1 := full v1.1 (fun x => s1 x ▸ hplain _ _ (plain mA x) (plain mB x))
  have f2 := full v2.1 (fun x => s2 x ▸ hplain _ _ (plain mB x) (plain mA x))
  have e := pack_eq_of_same_set _ hD l1 l2 v1.1 v2.1 v1.2 v2.2 f1 f2 (fun x _ => by rw [s1 x, s2 x, hcomm])
  simp only [packedOp, h1, h2, Option.map_some, e, Nat.max_comm B.dmax, Option.isSome_some, and_self]

theorem tri_xor_as_or_and_not (s t : Tri) : Tri.xor s t = Tri.min (Tri.max s t) (Tri.not (Tri.min s t)) := by
  cases s <;> cases t <;> rfl

/-- **`xor` in terms of the other three operators, with partial flags**: `a xor b` denotes the same three-valued set as
    `(a or b) and not (a and b)` -/
theorem xor_eq_or_and_not (D : Nat) (hD : D ≤ 29) (a b : List Cell) (ha : WF D a) (hb : WF D b)
    (hra : ∀ c ∈ a, InR c) (hrb : ∀ c ∈ b, InR c) (lo : List Cell) (hlo : orCellsUnpacked a b = some lo)
    (lx : List Cell) (hlx : xorCellsUnpacked a b = some lx) (x : Nat) (hx : x < 12 * 4 ^ D) :
    stOf D lx x = stOf D (andCells lo (notCells (andCells a b))) x := by
  obtain ⟨vlo, slo⟩ := computes_or.of_eq hD ⟨ha, hra⟩ ⟨hb, hrb⟩ hlo
  have wab := (and_wf_inside D a b ha hb).1
  have rab := and_inR D a b ha hb hra
  obtain ⟨sn, wn, _⟩ := notCells_spec D hD _ wab rab
  rw [(computes_xor.of_eq hD ⟨ha, hra⟩ ⟨hb, hrb⟩ hlx).2 x, and_sem D lo _ vlo.1 wn x, slo x, sn x hx,
    and_sem D a b ha hb x, tri_xor_as_or_and_not]

end Hpx.Bmoc
