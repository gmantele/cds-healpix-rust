import HpxVerif.Lemmas.ConeBmoc
import HpxVerif.Lemmas.ConeBmocReturned
import HpxVerif.Lemmas.EConeRealScheme

/-!
# C13 on the BMOC RETURNED by `elliptical_cone_coverage(_custom)`

`elliptical_cone_coverage(depth, lon, lat, a, b, pa)` is `Sph.ellipticalConeCoverageCustom … depth 0 …`
(`ellipticalConeCoverage` below).  Ellipses whose bounding disc stays in the equatorial band, `|lat| + a < tl`; ℝ, BOTH
profiles (`cfg.debug` arbitrary: a run of the debug profile that does not panic computes the radii of the release profile).
The list of `elliptical_cone_coverage_internal` satisfies the contract `Covered` (`Lemmas/CoverContract.lean`) for the
inscribed circular cone, of radius `b` (`ellInternal_covered`): the disc itself when `a = b` (no miss, truthful full flags),
and a region that contains the centre for every `0 < b ≤ a` (the cell of the centre is kept); every statement on the returned
BMOC is the corresponding consequence of the contract.

An ancestor reported in place of a tested cell may be centred ON the transition latitude; containment is then stated with
`ConeBmoc.InCellPlane` (`inCellPlane_eq`: it is `InCellEq` when the cell is strictly equatorial).
-/

/-! ## cells centred on the transition latitude are not flagged full by the elliptical descent

The east vertex of a cell centred ON the transition latitude is on the transition latitude too, hence outside every cone with
`|lat| + a < tl`; so a cell of the deepest depth that the elliptical descent flags full because its four vertices are inside
the ellipse is not such a cell. -/

namespace Hpx.EConeBmoc
open Hpx Hpx.Hash Hpx.C2V Hpx.C2VReal Hpx.Proj Hpx.Cover Hpx.CellReal Hpx.EnvelopeReal Hpx.TopoLift Hpx.CellExtent
open Hpx.Sph Hpx.Bmoc Hpx.ConeBmoc Real

/-- the east vertex has the ordinate of the centre in the projection plane -/
theorem edge_cell_vertex_tl (cfg : Cfg) (d h : ℕ) (hd : d ≤ 29) (hh : h < 12 * 4 ^ d) (hedge : |pcy d h| = 1)
    (vs : List (ℝ × ℝ)) (hvs : Hash.vertices (α := ℝ) cfg d h = some vs) : ∃ v ∈ vs, |v.2| = tl := by
  obtain ⟨hb, hi, hj⟩ := partsOf_valid d h hh
  rw [vertices_plane cfg d h (partsOf d h).d0h (partsOf d h).i (partsOf d h).j (by rw [nHash_eq]; exact hh)
    (decodeHash_spec cfg d hd h hh) hb hi hj] at hvs
  obtain ⟨x0, x8, _⟩ := vtx_x_range d (partsOf d h).d0h (partsOf d h).i (partsOf d h).j 1 hb hi hj
  have hy : |(vtx d (partsOf d h).d0h (partsOf d h).i (partsOf d h).j 1).2| = 1 := hedge
  obtain ⟨y1, y2⟩ := abs_le.mp hy.le
  have hu := unproj_band _ _ x0 x8 hy.le
  rw [unproj_eq _ _ (by linarith) (by linarith)] at hu
  cases Option.some.inj hvs
  refine ⟨_, List.mem_cons_of_mem _ List.mem_cons_self, ?_⟩
  rw [Option.some.inj hu]
  exact latOf_edge _ hy

theorem edge_cell_vertices_not_inside (cfg : Cfg) (lon lat a : ℝ) (hA : |lat| + a < tl) (d h : ℕ) (hd : d ≤ 29)
    (hh : h < 12 * 4 ^ d) (hedge : |pcy d h| = 1) (vs : List (ℝ × ℝ)) (hvs : Hash.vertices (α := ℝ) cfg d h = some vs)
    (hall : ∀ v ∈ vs, adist v (lon, lat) ≤ a) : False := by
  obtain ⟨v, hv, h1⟩ := edge_cell_vertex_tl cfg d h hd hh hedge vs hvs
  exact not_le.mpr (tl_not_in_cone lon lat a hA v h1) (by rw [adist_comm]; exact hall v hv)

def VtxInside (cfg : Cfg) (lon lat a : ℝ) (D x : ℕ) : Prop :=
  ∃ vs, Hash.vertices (α := ℝ) cfg D x = some vs ∧ ∀ v ∈ vs, adist v (lon, lat) ≤ a

end Hpx.EConeBmoc

#print axioms Hpx.EConeBmoc.edge_cell_vertex_tl

/-! ## the list of `elliptical_cone_coverage_internal` and the returned BMOC -/

namespace Hpx.EConeBmoc
open Hpx Hpx.Hash Hpx.C2V Hpx.C2VReal Hpx.Proj Hpx.Cover Hpx.CellReal Hpx.EnvelopeReal Hpx.TopoLift Hpx.CellExtent
open Hpx.Sph Hpx.Bmoc Hpx.Tightness Hpx.EConeEq Hpx.ConeBmoc Real

/-- `elliptical_cone_coverage(depth, lon, lat, a, b, pa)`: the `custom` function with `delta_depth = 0` -/
abbrev ellipticalConeCoverage {α : Type} [Num α] (cfg : Cfg) (depth : Nat) (lon lat a b pa : α) : Option BMOC :=
  ellipticalConeCoverageCustom cfg depth 0 lon lat a b pa

theorem b_lt_pi (lat a b : ℝ) (hba : b ≤ a) (hA : |lat| + a < tl) : b < π :=
  hba.trans_lt (r_lt_pi lat a hA)

theorem ellInternal_split (cfg : Cfg) (depth : ℕ) (lon lat a b pa : ℝ) (hbpi : b < π)
    (cells : List Cell) (h : ellInternal cfg depth lon lat a b pa = some cells) :
    Split cfg depth lon lat a (ellClassifier (α := ℝ) cfg depth (ECone.new lon lat a b pa))
      (ellSmallTest cfg (ECone.new lon lat a b pa)) cells := by
  rcases (ellInternal_cases cfg depth lon lat a b pa cells h).2 with ⟨hge, _⟩ | hi
  · exact absurd (of_decide_eq_true hge : π ≤ b) (not_le.mpr hbpi)
  · exact hi.split

theorem ellInternal_start_cells (cfg : Cfg) (depth : ℕ) (lon lat a b pa : ℝ) (hA : |lat| + a < tl) (hbpi : b < π) (ds : ℕ)
    (hds : bestStartingDepth a = some ds) (cells : List Cell) (h : ellInternal cfg depth lon lat a b pa = some cells) :
    ∃ h0 nm, Hash.hashV2 cfg ds lon lat = some h0 ∧ Topo.neighbours cfg ds h0 true = some nm ∧
      ∀ root ∈ nm.map (·.2), IsStartCell cfg lon lat a ds root := by
  have hbest := (band_has_start_depth lat a hA).1
  rcases (ellInternal_cases cfg depth lon lat a b pa cells h).2 with ⟨hge, _⟩ | hi
  · exact absurd (of_decide_eq_true hge : π ≤ b) (not_le.mpr hbpi)
  · obtain ⟨ds', h0, nm, hds', hh0, hnm⟩ := hi.start hbest
    obtain rfl : ds = ds' := Option.some.inj (hds.symm.trans hds')
    exact ⟨h0, nm, hh0, hnm, fun root hroot => Or.inr ⟨hbest, hds, h0, nm, hh0, hnm, hroot⟩⟩

theorem ellSmallTest_pass (cfg : Cfg) (e : ECone ℝ) (ds : ℕ) (dist : ℝ) (en : MW × ℕ) (k : Bool)
    (hk : ellSmallTest cfg e ds dist en = some k) : ∃ ctr, Hash.center (α := ℝ) cfg ds en.2 = some ctr ∧
      (¬ (e.contains ctr.1 ctr.2 = false ∧ e.overlapCone ctr.1 ctr.2 dist = some false) → k = true) := by
  unfold ellSmallTest at hk
  split at hk
  · cases hk
  · rename_i c hc
    refine ⟨c, hc, fun hns => ?_⟩
    split at hk
    · exact (Option.some.inj hk).symm
    · cases k
      · exact absurd ⟨by simpa using ‹¬ e.contains c.1 c.2 = true›, hk⟩ hns
      · rfl

theorem ell_flag (cfg : Cfg) (depth : ℕ) (hd : depth ≤ 29) (lon lat a b pa : ℝ) (hb : 0 < b) (hba : b ≤ a)
    (hA : |lat| + a < tl) (dists : List ℝ) (hh l : ℕ)
    (hk : ellClassifier (α := ℝ) cfg depth (ECone.new lon lat a b pa) dists depth hh l = some (.descend true))
    (hlt : hh < 12 * 4 ^ depth) : |pcy depth hh| ≠ 1 ∧ VtxInside cfg lon lat a depth hh := by
  obtain ⟨_, vs, hvs, hall⟩ := ellClassifier_descend_full cfg depth _ dists _ _ _ hk
  have hin : ∀ v ∈ vs, adist v (lon, lat) ≤ a := fun v hv => by
    have := (econe_contains_between lon lat a b pa v.1 v.2 hb hba (lt_halfPi_of_band lat a hA)).2
      (List.all_eq_true.mp hall v hv)
    rwa [adist_new_c0] at this
  exact ⟨fun hedge => edge_cell_vertices_not_inside cfg lon lat a hA depth hh hd hlt hedge vs hvs hin, vs, hvs, hin⟩

theorem ellInternal_good (cfg : Cfg) (depth : ℕ) (hd : depth ≤ 29) (lon lat a b pa : ℝ) (hb : 0 < b) (hba : b ≤ a)
    (hA : |lat| + a < tl) (cells : List Cell) (h : ellInternal cfg depth lon lat a b pa = some cells) :
    ∀ c ∈ cells, GoodCellG (fun q => adist q (lon, lat) ≤ a) (VtxInside cfg lon lat a depth) depth depth c :=
  (ellInternal_split cfg depth lon lat a b pa (b_lt_pi lat a b hba hA) cells h).good hd hA (CoverAll.ellInternal_wf cfg depth lon lat a b pa cells h)
    (fun dists => ellClassifier_ballTests cfg depth _ dists) _ (fun q hq => by rwa [adist_comm])
    (fun c D q hD0 hF hq => by
      rw [← adist_new_c0]
      exact containsCone_ball_inside lon lat a b pa c.1 c.2 D hba (lt_halfPi_of_band lat a hA) hD0 hF q hq)
    _ (ell_flag cfg depth hd lon lat a b pa hb hba hA)

/-- **the contract for the ellipse** `0 < b ≤ a`: region = the inscribed circular cone, of radius `b` around the centre — the
    whole region when `a = b`, and the centre is in it for every ellipse.  No point of it lies in a skipped ball
    (`inner_skip_sound`; the radii are at most `0.86`, so the centre of the ball is within `3` of `(lon, lat)`). -/
theorem ellInternal_covered (cfg : Cfg) (depth : ℕ) (hd : depth ≤ 29) (lon lat a b pa : ℝ) (hb : 0 < b) (hba : b ≤ a)
    (hA : |lat| + a < tl) (hmin : 1 / 2 ^ 1024 < sin b) (cells : List Cell)
    (h : ellInternal cfg depth lon lat a b pa = some cells) :
    Covered cfg lon lat a (fun q => adist q (lon, lat) ≤ b) (fun q => adist q (lon, lat) ≤ a)
      (VtxInside cfg lon lat a depth) depth cells :=
  (ellInternal_split cfg depth lon lat a b pa (b_lt_pi lat a b hba hA) cells h).covered hd (hb.le.trans hba) hA
    (CoverAll.ellInternal_wf cfg depth lon lat a b pa cells h) (fun dists => ellClassifier_ballTests cfg depth _ dists)
    (fun ds e k hk => ellSmallTest_pass cfg _ ds _ e k hk) _ (fun q hq => by rw [adist_comm]; exact le_trans hq hba)
    (fun c D q _ hD2 hs hq hR => by
      have hpi := Real.pi_gt_three
      have htl := tl_le
      have hlat0 := abs_nonneg lat
      have htri := adist_triangle c q (lon, lat)
      have := inner_skip_sound lon lat a b pa c.1 c.2 D hb hba (lt_halfPi_of_band lat a hA) hmin (by linarith) hs.1 hs.2
        (by linarith)
      linarith)
    (ellInternal_good cfg depth hd lon lat a b pa hb hba hA cells h)

theorem ellipticalConeCoverage_unfold (cfg : Cfg) (depth : ℕ) (lon lat a b pa : ℝ) (m : BMOC)
    (h : ellipticalConeCoverage (α := ℝ) cfg depth lon lat a b pa = some m) :
    depth ≤ 29 ∧ ∃ cells, ellInternal cfg depth lon lat a b pa = some cells ∧
      m = { dmax := depth, entries := pack depth (cells.map (encode depth)) } := by
  have h' : finishCoverage (fun d => ellInternal cfg d lon lat a b pa) depth 0 = some m := h
  exact ((finishCoverage_cases _ depth 0 m h').resolve_right (fun h0 => h0.1 rfl)).2

theorem ellipticalConeCoverageCustom_unfold (cfg : Cfg) (depth deltaDepth : ℕ) (hdd : deltaDepth ≠ 0)
    (lon lat a b pa : ℝ) (m : BMOC)
    (h : ellipticalConeCoverageCustom (α := ℝ) cfg depth deltaDepth lon lat a b pa = some m) :
    depth + deltaDepth ≤ 29 ∧ ∃ cells, ellInternal cfg (depth + deltaDepth) lon lat a b pa = some cells ∧
      m = { dmax := depth, entries := (toLowerLoop (depth + deltaDepth) depth
        (pack (depth + deltaDepth) (cells.map (encode (depth + deltaDepth)))) none) } := by
  rw [ellipticalConeCoverageCustom_eq] at h
  exact ((finishCoverage_cases _ depth deltaDepth m h).resolve_left (fun h0 => hdd h0.1)).2

/-- **`elliptical_cone_coverage_circular_no_miss_equatorial`** (ℝ, both profiles, every `depth ≤ 29`).  Circular elliptical
    cone `a = b`, any position angle, `|lat| + a < tl`, `sin a > 2^-1024`; `m` the BMOC returned by
    `elliptical_cone_coverage(depth, lon, lat, a, a, pa)`.  Every position within `a` of `(lon, lat)` that lies in a strictly
    equatorial start cell of depth `ds = best_starting_depth(a) ≤ depth` lies in the cell of an ENTRY of `m` — a cell emitted
    by the descent or a parent created by the compaction. -/
theorem elliptical_cone_coverage_circular_no_miss_equatorial (cfg : Cfg) (depth : ℕ) (lon lat a pa : ℝ) (ha : 0 < a)
    (hA : |lat| + a < tl) (hmin : 1 / 2 ^ 1024 < sin a) (m : BMOC)
    (h : ellipticalConeCoverage (α := ℝ) cfg depth lon lat a a pa = some m)
    (ds root : ℕ) (hst : IsStartCell cfg lon lat a ds root) (hds : ds ≤ depth) (q : ℝ × ℝ)
    (hq : InCellEq ds root q) (hin : adist q (lon, lat) ≤ a) :
    ∃ e ∈ m.entries, InCellEq (decode e depth).depth (decode e depth).hash q := by
  obtain ⟨hd, cells, hcells, rfl⟩ := ellipticalConeCoverage_unfold cfg depth lon lat a a pa m h
  exact (ellInternal_covered cfg depth hd lon lat a a pa ha le_rfl hA hmin cells hcells).packed_no_miss hd ds root hst hds q
    hq hin

/-- **no miss for every start depth, conclusion in the plane sense**: some entry of the BMOC contains `q` -/
theorem elliptical_cone_coverage_circular_no_miss_plane (cfg : Cfg) (depth : ℕ) (lon lat a pa : ℝ) (ha : 0 < a)
    (hA : |lat| + a < tl) (hmin : 1 / 2 ^ 1024 < sin a) (m : BMOC)
    (h : ellipticalConeCoverage (α := ℝ) cfg depth lon lat a a pa = some m)
    (ds root : ℕ) (hst : IsStartCell cfg lon lat a ds root) (q : ℝ × ℝ)
    (hq : InCellEq ds root q) (hin : adist q (lon, lat) ≤ a) :
    ∃ e ∈ m.entries, InCellPlane (decode e depth).depth (decode e depth).hash q := by
  obtain ⟨hd, cells, hcells, rfl⟩ := ellipticalConeCoverage_unfold cfg depth lon lat a a pa m h
  exact (ellInternal_covered cfg depth hd lon lat a a pa ha le_rfl hA hmin cells hcells).packed_plane hd ds root hst q hq hin

/-- **`elliptical_cone_coverage_circular_full_inside_equatorial`** (ℝ, both profiles, every `depth ≤ 29`, `a = b`,
    `|lat| + a < tl`).  Let `e` be an entry of the returned BMOC flagged FULL — a cell flagged by the descent or a parent
    created by the compaction of four full cells, at any number of levels — and `q` a position of its cell (`InCellEq`).
    Then EITHER `q` is within `a` of `(lon, lat)`, OR `q` is a position of a cell `x` of the deepest depth `depth` lying under
    the entry (`x / 4^(depth − d_e) = h_e`) whose four VERTICES are within `a` of `(lon, lat)` — the rule by which
    `elliptical_cone_coverage_internal` flags full the cells of the deepest depth (the whole of such a cell is not proved to
    be inside). -/
theorem elliptical_cone_coverage_circular_full_inside_equatorial (cfg : Cfg) (depth : ℕ) (lon lat a pa : ℝ) (ha : 0 < a)
    (hA : |lat| + a < tl) (m : BMOC) (h : ellipticalConeCoverage (α := ℝ) cfg depth lon lat a a pa = some m)
    (e : ℕ) (he : e ∈ m.entries) (hf : (decode e depth).full = true) (q : ℝ × ℝ)
    (hq : InCellEq (decode e depth).depth (decode e depth).hash q) :
    adist q (lon, lat) ≤ a ∨
    ∃ x, x / 4 ^ (depth - (decode e depth).depth) = (decode e depth).hash ∧ InCellEq depth x q ∧
      ∃ vs, Hash.vertices (α := ℝ) cfg depth x = some vs ∧ ∀ v ∈ vs, adist v (lon, lat) ≤ a := by
  obtain ⟨hd, cells, hcells, rfl⟩ := ellipticalConeCoverage_unfold cfg depth lon lat a a pa m h
  obtain ⟨hw, hrange⟩ := CoverAll.ellInternal_wf cfg depth lon lat a a pa cells hcells
  exact ((packedG_good _ _ depth hd cells hw hrange
    (ellInternal_good cfg depth hd lon lat a a pa ha le_rfl hA cells hcells) e he).1 hf).2 q hq

/-- the entries of the returned BMOC that are not full are at the requested depth (general ellipse) -/
theorem elliptical_cone_coverage_partial_depth (cfg : Cfg) (depth : ℕ) (lon lat a b pa : ℝ) (hb : 0 < b) (hba : b ≤ a)
    (hA : |lat| + a < tl) (m : BMOC) (h : ellipticalConeCoverage (α := ℝ) cfg depth lon lat a b pa = some m)
    (e : ℕ) (he : e ∈ m.entries) :
    ((decode e depth).full = true → |pcy (decode e depth).depth (decode e depth).hash| ≠ 1) ∧
    ((decode e depth).full = false → (decode e depth).depth = depth) := by
  obtain ⟨hd, cells, hcells, rfl⟩ := ellipticalConeCoverage_unfold cfg depth lon lat a b pa m h
  obtain ⟨hw, hrange⟩ := CoverAll.ellInternal_wf cfg depth lon lat a b pa cells hcells
  have := packedG_good _ _ depth hd cells hw hrange
    (ellInternal_good cfg depth hd lon lat a b pa hb hba hA cells hcells) e he
  exact ⟨fun hf => (this.1 hf).1, this.2⟩

/-- **`elliptical_cone_coverage_centre_cell_kept_equatorial`** (ℝ, both profiles, every `depth ≤ 29`).  General ellipse
    `0 < b ≤ a`, any position angle, `|lat| + a < tl`, `sin b > 2^-1024`.  If the centre `(lon, lat)` is a position of a
    strictly equatorial start cell `root` of depth `ds = best_starting_depth(a) ≤ depth`, then `(lon, lat)` is a position of
    the cell of an ENTRY of the returned BMOC. -/
theorem elliptical_cone_coverage_centre_cell_kept_equatorial (cfg : Cfg) (depth : ℕ) (lon lat a b pa : ℝ) (hb : 0 < b)
    (hba : b ≤ a) (hA : |lat| + a < tl) (hmin : 1 / 2 ^ 1024 < sin b) (m : BMOC)
    (h : ellipticalConeCoverage (α := ℝ) cfg depth lon lat a b pa = some m)
    (ds root : ℕ) (hst : IsStartCell cfg lon lat a ds root) (hds : ds ≤ depth) (hq : InCellEq ds root (lon, lat)) :
    ∃ e ∈ m.entries, InCellEq (decode e depth).depth (decode e depth).hash (lon, lat) := by
  obtain ⟨hd, cells, hcells, rfl⟩ := ellipticalConeCoverage_unfold cfg depth lon lat a b pa m h
  exact (ellInternal_covered cfg depth hd lon lat a b pa hb hba hA hmin cells hcells).packed_no_miss hd ds root hst hds _
    hq ((adist_self _).trans_le hb.le)

/-- **the cell of the centre is kept, every start depth, plane sense** -/
theorem elliptical_cone_coverage_centre_cell_kept_plane (cfg : Cfg) (depth : ℕ) (lon lat a b pa : ℝ) (hb : 0 < b)
    (hba : b ≤ a) (hA : |lat| + a < tl) (hmin : 1 / 2 ^ 1024 < sin b) (m : BMOC)
    (h : ellipticalConeCoverage (α := ℝ) cfg depth lon lat a b pa = some m)
    (ds root : ℕ) (hst : IsStartCell cfg lon lat a ds root) (hq : InCellEq ds root (lon, lat)) :
    ∃ e ∈ m.entries, InCellPlane (decode e depth).depth (decode e depth).hash (lon, lat) := by
  obtain ⟨hd, cells, hcells, rfl⟩ := ellipticalConeCoverage_unfold cfg depth lon lat a b pa m h
  exact (ellInternal_covered cfg depth hd lon lat a b pa hb hba hA hmin cells hcells).packed_plane hd ds root hst _ hq
    ((adist_self _).trans_le hb.le)

/-- **no miss as a statement on the three-valued state** (circular ellipse, every start depth): the cell number `x` of `q`
    at the requested depth is not absent from the returned BMOC -/
theorem elliptical_cone_coverage_circular_state_not_absent (cfg : Cfg) (depth : ℕ) (lon lat a pa : ℝ) (ha : 0 < a)
    (hA : |lat| + a < tl) (hmin : 1 / 2 ^ 1024 < sin a) (m : BMOC)
    (h : ellipticalConeCoverage (α := ℝ) cfg depth lon lat a a pa = some m)
    (ds root : ℕ) (hst : IsStartCell cfg lon lat a ds root) (q : ℝ × ℝ)
    (hq : InCellEq ds root q) (hin : adist q (lon, lat) ≤ a) :
    ∃ x, InCellPlane depth x q ∧ (ds ≤ depth → InCellEq depth x q) ∧ stOf depth m.cells x ≠ .abs := by
  obtain ⟨hd, cells, hcells, rfl⟩ := ellipticalConeCoverage_unfold cfg depth lon lat a a pa m h
  exact (ellInternal_covered cfg depth hd lon lat a a pa ha le_rfl hA hmin cells hcells).packed_state hd ds root hst q hq hin

/-- `delta_depth = 0`: `elliptical_cone_coverage_custom` IS `elliptical_cone_coverage` -/
theorem ellipticalConeCoverageCustom_zero {α : Type} [Num α] (cfg : Cfg) (depth : ℕ) (lon lat a b pa : α) :
    ellipticalConeCoverageCustom cfg depth 0 lon lat a b pa = ellipticalConeCoverage cfg depth lon lat a b pa := rfl

/-- **no-miss for `elliptical_cone_coverage_custom`, `delta_depth ≠ 0`, circular ellipse** (ℝ, both profiles).  The descent
    is run at `deep = depth + delta_depth ≤ 29`, compacted, then degraded to `depth`.  For every strictly equatorial start
    cell `root` (of the descent at `deep`; any start depth `ds`) and every position `q` of the disc in it, some ENTRY of the
    returned BMOC contains `q` in the plane sense — in the sense of `InCellEq` when the entry is strictly equatorial, or
    flagged full (`ds ≤ deep`) — and covers the cell number `x` of `q` at depth `deep`. -/
theorem elliptical_cone_coverage_custom_circular_no_miss_equatorial (cfg : Cfg) (depth deltaDepth : ℕ)
    (hdd : deltaDepth ≠ 0) (lon lat a pa : ℝ) (ha : 0 < a) (hA : |lat| + a < tl) (hmin : 1 / 2 ^ 1024 < sin a)
    (m : BMOC) (h : ellipticalConeCoverageCustom (α := ℝ) cfg depth deltaDepth lon lat a a pa = some m)
    (ds root : ℕ) (hst : IsStartCell cfg lon lat a ds root) (q : ℝ × ℝ)
    (hq : InCellEq ds root q) (hin : adist q (lon, lat) ≤ a) :
    ∃ e ∈ m.entries, InCellPlane (decode e depth).depth (decode e depth).hash q ∧
      (|pcy (decode e depth).depth (decode e depth).hash| < 1 →
        InCellEq (decode e depth).depth (decode e depth).hash q) ∧
      (ds ≤ depth + deltaDepth → (decode e depth).full = true →
        InCellEq (decode e depth).depth (decode e depth).hash q) ∧
      ∃ x, InCellPlane (depth + deltaDepth) x q ∧ (ds ≤ depth + deltaDepth → InCellEq (depth + deltaDepth) x q) ∧
        x / 4 ^ (depth + deltaDepth - (decode e depth).depth) = (decode e depth).hash := by
  obtain ⟨hdeep, cells, hcells, rfl⟩ := ellipticalConeCoverageCustom_unfold cfg depth deltaDepth hdd lon lat a a pa m h
  exact (ellInternal_covered cfg _ hdeep lon lat a a pa ha le_rfl hA hmin cells hcells).lowered_no_miss hdeep depth (by omega)
    ds root hst q hq hin

/-- **full flags of `elliptical_cone_coverage_custom`, `delta_depth ≠ 0`, circular ellipse**: for every entry flagged FULL and
    every position `q` of its cell (`InCellEq`), EITHER `q` is within `a` of `(lon, lat)`, OR `q` is a position of a cell `x` of
    depth `deep = depth + delta_depth` under the entry whose four VERTICES are within `a` of `(lon, lat)` -/
theorem elliptical_cone_coverage_custom_circular_full_inside_equatorial (cfg : Cfg) (depth deltaDepth : ℕ)
    (hdd : deltaDepth ≠ 0) (lon lat a pa : ℝ) (ha : 0 < a) (hA : |lat| + a < tl) (m : BMOC)
    (h : ellipticalConeCoverageCustom (α := ℝ) cfg depth deltaDepth lon lat a a pa = some m)
    (e : ℕ) (he : e ∈ m.entries) (hf : (decode e depth).full = true) (q : ℝ × ℝ)
    (hq : InCellEq (decode e depth).depth (decode e depth).hash q) :
    adist q (lon, lat) ≤ a ∨
    ∃ x, x / 4 ^ (depth + deltaDepth - (decode e depth).depth) = (decode e depth).hash ∧
      InCellEq (depth + deltaDepth) x q ∧
      ∃ vs, Hash.vertices (α := ℝ) cfg (depth + deltaDepth) x = some vs ∧ ∀ v ∈ vs, adist v (lon, lat) ≤ a := by
  obtain ⟨hdeep, cells, hcells, rfl⟩ := ellipticalConeCoverageCustom_unfold cfg depth deltaDepth hdd lon lat a a pa m h
  obtain ⟨hw, hrange⟩ := CoverAll.ellInternal_wf cfg _ lon lat a a pa cells hcells
  exact ((lowered_good _ _ _ depth hdeep (by omega) cells hw hrange
    (ellInternal_good cfg _ hdeep lon lat a a pa ha le_rfl hA cells hcells) e he).1 hf).2 q hq

/-- **the cell of the centre is kept by `elliptical_cone_coverage_custom`, `delta_depth ≠ 0`** (general ellipse
    `0 < b ≤ a`, `|lat| + a < tl`, `sin b > 2^-1024`): if the centre `(lon, lat)` is a position of a strictly equatorial start
    cell `root` (any start depth), some ENTRY of the returned BMOC contains it in the plane sense — in the sense of
    `InCellEq` when the entry is strictly equatorial, or flagged full (`ds ≤ deep`) -/
theorem elliptical_cone_coverage_custom_centre_cell_kept_equatorial (cfg : Cfg) (depth deltaDepth : ℕ)
    (hdd : deltaDepth ≠ 0) (lon lat a b pa : ℝ) (hb : 0 < b) (hba : b ≤ a) (hA : |lat| + a < tl)
    (hmin : 1 / 2 ^ 1024 < sin b) (m : BMOC)
    (h : ellipticalConeCoverageCustom (α := ℝ) cfg depth deltaDepth lon lat a b pa = some m)
    (ds root : ℕ) (hst : IsStartCell cfg lon lat a ds root) (hq : InCellEq ds root (lon, lat)) :
    ∃ e ∈ m.entries, InCellPlane (decode e depth).depth (decode e depth).hash (lon, lat) ∧
      (|pcy (decode e depth).depth (decode e depth).hash| < 1 →
        InCellEq (decode e depth).depth (decode e depth).hash (lon, lat)) ∧
      (ds ≤ depth + deltaDepth → (decode e depth).full = true →
        InCellEq (decode e depth).depth (decode e depth).hash (lon, lat)) := by
  obtain ⟨hdeep, cells, hcells, rfl⟩ := ellipticalConeCoverageCustom_unfold cfg depth deltaDepth hdd lon lat a b pa m h
  obtain ⟨e, he, k1, k2, k3, _⟩ := (ellInternal_covered cfg _ hdeep lon lat a b pa hb hba hA hmin cells
    hcells).lowered_no_miss hdeep depth (by omega) ds root hst _ hq ((adist_self _).trans_le hb.le)
  exact ⟨e, he, k1, k2, k3⟩

example : (0 : ℝ) < 1 / 20 ∧ |(1 / 5 : ℝ)| + 1 / 20 < tl ∧ 1 / 2 ^ 1024 < sin (1 / 20 : ℝ) ∧
    bestStartingDepth (1 / 20 : ℝ) = some 3 ∧ InCellEq 3 4 ((1 : ℝ), (1 / 5 : ℝ)) ∧
    adist ((1 : ℝ), (1 / 5 : ℝ)) (1, 1 / 5) ≤ 1 / 20 := by
  obtain ⟨h1, h2, h3⟩ := ex_hyps
  refine ⟨h1, h2, h3, best_starting_depth_ex, ex_centre_in_cell, ?_⟩
  rw [adist_self]; norm_num

/-- **the three theorems on the concrete ellipse** `lon = 1`, `lat = 0.2`, `a = b = 0.05`, any position angle, depth 6:
    whatever BMOC `elliptical_cone_coverage(6, 1, 0.2, 0.05, 0.05, pa)` returns (either profile), every position of the disc
    in a strictly equatorial start cell (the cell of the centre at depth 3 and its neighbours) lies in an entry; every
    position of an entry flagged full — packed parents included — is in the disc or in a depth-6 cell under the entry whose
    four vertices are in the disc; and the centre lies in an entry -/
example (cfg : Cfg) (pa : ℝ) (m : BMOC)
    (h : ellipticalConeCoverage (α := ℝ) cfg 6 1 (1 / 5) (1 / 20) (1 / 20) pa = some m) :
    (∀ h0 nm, Hash.hashV2 (α := ℝ) cfg 3 1 (1 / 5) = some h0 → Topo.neighbours cfg 3 h0 true = some nm →
      ∀ root ∈ nm.map (·.2), ∀ q, InCellEq 3 root q → adist q (1, 1 / 5) ≤ 1 / 20 →
        ∃ e ∈ m.entries, InCellEq (decode e 6).depth (decode e 6).hash q) ∧
    (∀ e ∈ m.entries, (decode e 6).full = true → ∀ q, InCellEq (decode e 6).depth (decode e 6).hash q →
      adist q (1, 1 / 5) ≤ 1 / 20 ∨
      ∃ x, x / 4 ^ (6 - (decode e 6).depth) = (decode e 6).hash ∧ InCellEq 6 x q ∧
        ∃ vs, Hash.vertices (α := ℝ) cfg 6 x = some vs ∧ ∀ v ∈ vs, adist v (1, 1 / 5) ≤ 1 / 20) ∧
    (∀ h0 nm, Hash.hashV2 (α := ℝ) cfg 3 1 (1 / 5) = some h0 → Topo.neighbours cfg 3 h0 true = some nm →
      4 ∈ nm.map (·.2) → ∃ e ∈ m.entries, InCellEq (decode e 6).depth (decode e 6).hash ((1 : ℝ), (1 / 5 : ℝ))) := by
  obtain ⟨h1, h2, h3⟩ := ex_hyps
  refine ⟨?_, ?_, ?_⟩
  · intro h0 nm hh0 hnm root hroot q hq hin
    exact elliptical_cone_coverage_circular_no_miss_equatorial cfg 6 1 (1 / 5) (1 / 20) pa h1 h2 h3 m h 3 root
      (ex_start cfg h0 nm hh0 hnm root hroot) (by decide) q hq hin
  · intro e he hf q hq
    exact elliptical_cone_coverage_circular_full_inside_equatorial cfg 6 1 (1 / 5) (1 / 20) pa h1 h2 m h e he hf q hq
  · intro h0 nm hh0 hnm hroot
    exact elliptical_cone_coverage_centre_cell_kept_equatorial cfg 6 1 (1 / 5) (1 / 20) (1 / 20) pa h1 le_rfl h2 h3 m h 3 4
      (ex_start cfg h0 nm hh0 hnm 4 hroot) (by decide) ex_centre_in_cell

/-- a genuinely elliptical example for the centre cell: `a = 0.05`, `b = 0.01`, position angle `0.3`, depth 6 -/
example (cfg : Cfg) (m : BMOC)
    (h : ellipticalConeCoverage (α := ℝ) cfg 6 1 (1 / 5) (1 / 20) (1 / 100) (3 / 10) = some m)
    (h0 : ℕ) (nm : List (MW × ℕ)) (hh0 : Hash.hashV2 (α := ℝ) cfg 3 1 (1 / 5) = some h0)
    (hnm : Topo.neighbours cfg 3 h0 true = some nm) (hroot : 4 ∈ nm.map (·.2)) :
    ∃ e ∈ m.entries, InCellEq (decode e 6).depth (decode e 6).hash ((1 : ℝ), (1 / 5 : ℝ)) := by
  obtain ⟨_, h2, _⟩ := ex_hyps
  have hpi := Real.pi_gt_three
  exact elliptical_cone_coverage_centre_cell_kept_equatorial cfg 6 1 (1 / 5) (1 / 20) (1 / 100) (3 / 10) (by norm_num)
    (by norm_num) h2 (tiny_lt_sin _ (by norm_num) (by linarith)) m h 3 4 (ex_start cfg h0 nm hh0 hnm 4 hroot) (by decide)
    ex_centre_in_cell

/-- **the `custom` variant on the concrete ellipse** (`depth = 4`, `delta_depth = 2`: descent at depth 6, degraded to 4) -/
example (cfg : Cfg) (pa : ℝ) (m : BMOC)
    (h : ellipticalConeCoverageCustom (α := ℝ) cfg 4 2 1 (1 / 5) (1 / 20) (1 / 20) pa = some m) :
    (∀ h0 nm, Hash.hashV2 (α := ℝ) cfg 3 1 (1 / 5) = some h0 → Topo.neighbours cfg 3 h0 true = some nm →
      ∀ root ∈ nm.map (·.2), ∀ q, InCellEq 3 root q → adist q (1, 1 / 5) ≤ 1 / 20 →
        ∃ e ∈ m.entries, InCellPlane (decode e 4).depth (decode e 4).hash q) ∧
    (∀ e ∈ m.entries, (decode e 4).full = true → ∀ q, InCellEq (decode e 4).depth (decode e 4).hash q →
      adist q (1, 1 / 5) ≤ 1 / 20 ∨
      ∃ x, x / 4 ^ (4 + 2 - (decode e 4).depth) = (decode e 4).hash ∧ InCellEq (4 + 2) x q ∧
        ∃ vs, Hash.vertices (α := ℝ) cfg (4 + 2) x = some vs ∧ ∀ v ∈ vs, adist v (1, 1 / 5) ≤ 1 / 20) := by
  obtain ⟨h1, h2, h3⟩ := ex_hyps
  refine ⟨?_, ?_⟩
  · intro h0 nm hh0 hnm root hroot q hq hin
    obtain ⟨e, he, k, _⟩ := elliptical_cone_coverage_custom_circular_no_miss_equatorial cfg 4 2 (by decide) 1 (1 / 5)
      (1 / 20) pa h1 h2 h3 m h 3 root (ex_start cfg h0 nm hh0 hnm root hroot) q hq hin
    exact ⟨e, he, k⟩
  · intro e he hf q hq
    exact elliptical_cone_coverage_custom_circular_full_inside_equatorial cfg 4 2 (by decide) 1 (1 / 5) (1 / 20) pa h1 h2
      m h e he hf q hq

end Hpx.EConeBmoc


#print axioms Hpx.EConeBmoc.ellInternal_split
#print axioms Hpx.EConeBmoc.elliptical_cone_coverage_circular_no_miss_equatorial
#print axioms Hpx.EConeBmoc.elliptical_cone_coverage_circular_full_inside_equatorial
#print axioms Hpx.EConeBmoc.elliptical_cone_coverage_centre_cell_kept_equatorial
#print axioms Hpx.EConeBmoc.elliptical_cone_coverage_circular_state_not_absent
#print axioms Hpx.EConeBmoc.elliptical_cone_coverage_custom_circular_no_miss_equatorial
#print axioms Hpx.EConeBmoc.elliptical_cone_coverage_custom_circular_full_inside_equatorial
#print axioms Hpx.EConeBmoc.elliptical_cone_coverage_custom_centre_cell_kept_equatorial
#print axioms Hpx.EConeBmoc.ellInternal_covered
