/-
C04 — `neighbours_complete`, `neighbourParts_symmetric`, `neighbours_exact`: every cell that has a vertex in common with
`p` (as points of the sphere) is returned by `neighbourParts n p dir` for some direction (the seam rules reach every cell
that touches a base cell, `seam_onto`; where it sits follows from `seam_vertex`); the neighbour relation is symmetric.
-/
import HpxVerif.Lemmas.TopoLabel
import HpxVerif.Lemmas.TopoCount

namespace Hpx.TopoNeigh
open Hpx Hpx.Topo Hpx.TopoSpec MW

/-- where the cell `(b', i', j')` lies in the extended chart of `b` (the inverse of the seam rules; by rows and column
    difference, as `Glue`) -/
def pre (n : Int) (b b' : Nat) (i' j' : Int) : Int × Int :=
  let d := (b' % 4 + 4 - b % 4) % 4
  match b / 4 with
  | 0 =>
    match b' / 4 with
    | 0 => match d with | 1 => (n, i') | 2 => (n, n) | 3 => (j', n) | _ => (i', j')
    | 1 => match d with | 0 => (-1, j') | 1 => (i', -1) | _ => (i', j')
    | _ => (-1, -1)
  | 1 =>
    match b' / 4 with
    | 0 => match d with | 0 => (n, j') | 3 => (i', n) | _ => (i', j')
    | 1 => match d with | 1 => (n, -1) | 3 => (-1, n) | _ => (i', j')
    | _ => match d with | 0 => (i', -1) | 3 => (-1, j') | _ => (i', j')
  | _ =>
    match b' / 4 with
    | 0 => (n, n)
    | 1 => match d with | 0 => (i', n) | 1 => (n, j') | _ => (i', j')
    | _ => match d with | 1 => (j', -1) | 2 => (-1, -1) | 3 => (-1, i') | _ => (i', j')

theorem seam_onto (n b b' : Nat) (a c a' c' : Int) (i' j' : Nat) (hn2 : n ≤ 4294967296) (hb : b < 12)
    (hb' : b' < 12) (hi' : i' < n) (hj' : j' < n) (hi : i' ≤ a' ∧ a' ≤ i' + 1) (hj : j' ≤ c' ∧ c' ≤ j' + 1)
    (hG : Glue n b b' a c a' c') :
    ∃ x y : Int, nbAt n b x y = some ⟨b', i', j'⟩ ∧ -1 ≤ x ∧ x ≤ n ∧ -1 ≤ y ∧ y ≤ n := by
  obtain ⟨b, h0, k, hk, rfl⟩ := exists_col b hb
  obtain ⟨b₀, h₀, rfl⟩ := exists_rot k b' hk hb'
  rw [Glue_rot] at hG
  refine ⟨(pre n b b₀ i' j').1, (pre n b b₀ i' j').2, ?_⟩
  rw [nbAt_rot n _ k _ _ (by omega) hk]
  clear hb hb' hk
  revert hG
  have z1 := zone_in n i' hi'; have z2 := zone_in n j' hj'; have z3 := zone_neg n; have z4 := zone_top n
  obtain rfl | rfl | rfl := h0 <;>
  obtain rfl | rfl | rfl | rfl | rfl | rfl | rfl | rfl | rfl | rfl | rfl | rfl := b12 b₀ h₀ <;>
  simp only [Glue, pre, nbAt, z1, z2, z3, z4, nbZ_tab, u32, Nat.reduceDiv, Nat.reduceMod, Nat.reduceAdd, Nat.reduceSub,
    false_imp_iff, Option.map_some, rot, Option.some.injEq, HashParts.mk.injEq, true_and, Int.toNat_natCast] <;>
  omega

/-- **C04, `neighbours_complete`**: every cell `q ≠ p` of the grid that has a vertex in common with `p` (as points of
    the sphere) is the neighbour of `p` in one of the eight directions.  Every `1 ≤ n ≤ 2^32`. -/
theorem neighbours_complete (n : Nat) (p q : HashParts) (hn : 1 ≤ n) (hn2 : n ≤ 4294967296) (hp : Valid n p)
    (hq : Valid n q) (hne : q ≠ p) (ht : Touch n p q) : ∃ dir ∈ dirs8, neighbourParts n p dir = some q := by
  obtain ⟨v, hv, w, hw, e⟩ := ht
  have hG := (vkey_eq_iff n p q v w hn hp hq hv hw).1 e
  have h1 := dA_range v; have h2 := dC_range v; have h3 := dA_range w; have h4 := dC_range w
  obtain ⟨hpb, hpi, hpj⟩ := hp
  obtain ⟨hqb, hqi, hqj⟩ := hq
  -- `q` is found at a place `(x, y)` of the extended chart of the base cell of `p`, and `(x, y)` is next to `(p.i, p.j)`
  obtain ⟨x, y, hq, hx, hx', hy, hy'⟩ := seam_onto n p.d0h q.d0h _ _ _ _ q.i q.j hn2 hpb hqb hqi hqj
    (by omega) (by omega) hG
  rw [seam_vertex n p.d0h x y _ _ _ w hn hn2 hpb hx hx' hy hy' (by omega) (by omega) (by omega) (by omega) hw hq] at hG
  have h5 := dA_range (rhoN (turn p.d0h (zone n x) (zone n y)) w)
  have h6 := dC_range (rhoN (turn p.d0h (zone n x) (zone n y)) w)
  obtain ⟨dir, -, e1, e2⟩ := ofOffsets_spec (x - p.i) (y - p.j) (by omega) (by omega) (by omega) (by omega)
  have hd : neighbourParts n p dir = some q := by
    rw [neighbourParts_eq_nbAt, e1, e2, show (p.i : Int) + (x - p.i) = x by omega, show (p.j : Int) + (y - p.j) = y by omega]
    exact hq
  refine ⟨dir, (mem_dirs8_iff dir).2 ?_, hd⟩
  rintro rfl
  rw [neighbourParts_C n p ⟨hpb, hpi, hpj⟩] at hd
  exact hne (Option.some.inj hd).symm

theorem touch_symm {n : Nat} {p q : HashParts} (h : Touch n p q) : Touch n q p := by
  obtain ⟨v, hv, w, hw, e⟩ := h
  exact ⟨w, hw, v, hv, e.symm⟩

theorem neighbour_touch (n : Nat) (p q : HashParts) (dir : MW) (hn : 1 ≤ n) (hn2 : n ≤ 4294967296)
    (hp : Valid n p) (h : neighbourParts n p dir = some q) : Touch n p q := by
  have hl := neighbour_labelled n p q dir hn hn2 hp h
  have hne : edgeOf dir ≠ [] := by cases dir <;> simp [edgeOf]
  obtain ⟨v, hv⟩ := List.exists_mem_of_ne_nil _ (hl ▸ hne)
  unfold shared at hv
  rw [List.mem_filter, decide_eq_true_eq, keys, List.mem_map] at hv
  obtain ⟨hv1, w, hw, e⟩ := hv
  exact ⟨v, hv1, w, hw, e.symm⟩

/-- **C04, `neighbourParts_symmetric`**: if `q` is the neighbour of `p` in a direction other than `C`, then `p` is the
    neighbour of `q` in one of the eight directions.  Every `1 ≤ n ≤ 2^32`. -/
theorem neighbourParts_symmetric (n : Nat) (p q : HashParts) (dir : MW) (hn : 1 ≤ n) (hn2 : n ≤ 4294967296)
    (hp : Valid n p) (hdir : dir ≠ C) (h : neighbourParts n p dir = some q) :
    ∃ dir' ∈ dirs8, neighbourParts n q dir' = some p :=
  neighbours_complete n q p hn hn2 (neighbourParts_valid n p q dir hn hn2 hp h) hp
    (fun e => neighbour_ne_self n p q dir hn hn2 hp hdir h e.symm) (touch_symm (neighbour_touch n p q dir hn hn2 hp h))

/-- with `q ≠ p` instead of `dir ≠ C` -/
theorem neighbourParts_symmetric' (n : Nat) (p q : HashParts) (dir : MW) (hn : 1 ≤ n) (hn2 : n ≤ 4294967296)
    (hp : Valid n p) (h : neighbourParts n p dir = some q) (hne : q ≠ p) :
    ∃ dir', neighbourParts n q dir' = some p := by
  have hdir : dir ≠ C := by
    rintro rfl
    rw [neighbourParts_C n p hp] at h
    exact hne (Option.some.inj h).symm
  obtain ⟨d, _, hd⟩ := neighbourParts_symmetric n p q dir hn hn2 hp hdir h
  exact ⟨d, hd⟩

/-- **C04, exact adjacency**: for two distinct cells of the grid, "`q` is a neighbour of `p` in one of the eight
    directions" is exactly "`p` and `q` have a vertex in common on the sphere".  Every `1 ≤ n ≤ 2^32`. -/
theorem neighbours_exact (n : Nat) (p q : HashParts) (hn : 1 ≤ n) (hn2 : n ≤ 4294967296) (hp : Valid n p)
    (hq : Valid n q) (hne : q ≠ p) : (∃ dir ∈ dirs8, neighbourParts n p dir = some q) ↔ Touch n p q :=
  ⟨fun ⟨dir, _, h⟩ => neighbour_touch n p q dir hn hn2 hp h, neighbours_complete n p q hn hn2 hp hq hne⟩

/-! ## the hypotheses are satisfiable; concrete instances (`n = 4`, depth 2) -/

example : Valid 4 ⟨3, 3, 1⟩ ∧ neighbourParts 4 ⟨3, 3, 1⟩ NE = some ⟨0, 1, 3⟩ ∧ (⟨0, 1, 3⟩ : HashParts) ≠ ⟨3, 3, 1⟩ := by
  decide
/-- across the seam between the polar facets 3 and 0 the shared side is the NE side of the first cell … -/
example : shared 4 ⟨3, 3, 1⟩ ⟨0, 1, 3⟩ = [E, N] :=
  neighbour_labelled 4 ⟨3, 3, 1⟩ ⟨0, 1, 3⟩ NE (by decide) (by decide) (by decide) (by decide)
/-- … and the way back is the NW direction (`direction_from_neighbour`: NE ↦ NW in the north polar cap) -/
example : neighbourParts 4 ⟨0, 1, 3⟩ NW = some ⟨3, 3, 1⟩ := by decide
example : Special 4 ⟨3, 3, 0⟩ ∧ neighbourParts 4 ⟨3, 3, 0⟩ E = none ∧ count 4 ⟨3, 3, 0⟩ = 7 :=
  ⟨by decide, by decide, by rw [neighbours_count 4 _ (by decide) (by decide)]; decide⟩
example : Touch 4 ⟨3, 3, 1⟩ ⟨0, 2, 3⟩ := ⟨N, by decide, W, by decide, by decide⟩

/-- the bound `n ≤ 2^32` of the theorems that carry it cannot be dropped: the model, like the code, passes the shifted coordinates
    as `u32` (no `u32` nside reaches that bound: `n = 2^depth ≤ 2^29`) -/
example : neighbourParts 4294967297 ⟨0, 4294967296, 0⟩ SE = some ⟨5, 0, 4294967296⟩ ∧
    shared 4294967297 ⟨0, 4294967296, 0⟩ ⟨5, 0, 4294967296⟩ = [] := by decide

end Hpx.TopoNeigh

#print axioms Hpx.TopoNeigh.neighbourParts_valid
#print axioms Hpx.TopoNeigh.neighbour_labelled
#print axioms Hpx.TopoNeigh.neighbours_distinct
#print axioms Hpx.TopoNeigh.neighbours_count
#print axioms Hpx.TopoNeigh.neighbours_count_one
#print axioms Hpx.TopoNeigh.neighbours_complete
#print axioms Hpx.TopoNeigh.neighbourParts_symmetric
#print axioms Hpx.TopoNeigh.neighbours_exact
#print axioms Hpx.TopoNeigh.vkey_injective
#print axioms Hpx.TopoNeigh.centerXY_eq
#print axioms Hpx.TopoNeigh.special_iff_mem
#print axioms Hpx.TopoNeigh.specialCells_nodup
