import Mathlib.Tactic.Ring

/-!
# The `f64` square root used by `from_ring` (C10/C11): Lean's logical model of `Float`

`Float.ofNat`, `Float.sqrt` and `Float.toUInt64` have a logical model (`Float.Model`, an IEEE `binary64` bit pattern that is
unpacked into sign / mantissa / exponent, operated on with `Nat` arithmetic and `Nat.sqrt`, rounded and packed again).
This file proves the facts about that model that are needed to bound the error of
`isqrtF64 y = (Float.sqrt (Float.ofNat y)).toUInt64.toNat`: rounding in the normal range of `binary64` yields the rounded
53-bit mantissa (renormalised when it reaches `2^53`, which does not change the value) and is exact when no non-zero bit
is dropped (`roundWithAccuracy_normal`, `roundWithAccuracy_padded`); a normal number survives `pack`/`unpack`
(`model_unpack_pack`).  The error bounds of `isqrtF64` are in `SqrtApprox.lean`.
-/

open Float.Model Float.Model.UnpackedFloat

namespace Hpx.SqrtApprox

theorem shiftRight_zero (em : ExtendedMantissa) : em >>> 0 = em := rfl

theorem shiftRight_succ (em : ExtendedMantissa) (n : Nat) : em >>> (n + 1) = (em >>> n).shiftRightOne := rfl

theorem shiftRight_add (em : ExtendedMantissa) (a b : Nat) : em >>> (a + b) = (em >>> a) >>> b := by
  induction b with
  | zero => rfl
  | succ b ih => rw [← Nat.add_assoc, shiftRight_succ, ih, shiftRight_succ]

/-- closed form of the shift: the mantissa is divided, the round bit is the last bit dropped, the sticky bit collects the bits
    below it and the residual bits the shift started from -/
theorem shiftRight_succ_eq (em : ExtendedMantissa) (n : Nat) :
    em >>> (n + 1) = ⟨em.mantissa / 2 ^ (n + 1), em.mantissa / 2 ^ n % 2 != 0,
      em.mantissa % 2 ^ n != 0 || (em.roundBit || em.stickyBit)⟩ := by
  induction n with
  | zero =>
    rw [shiftRight_succ, shiftRight_zero]
    simp [ExtendedMantissa.shiftRightOne, Nat.mod_one]
  | succ n ih =>
    rw [shiftRight_succ, ih]
    simp only [ExtendedMantissa.shiftRightOne, Nat.div_div_eq_div_mul, ← Nat.pow_succ, Nat.mod_pow_succ]
    rcases Nat.mod_two_eq_zero_or_one (em.mantissa / 2 ^ n) with h | h <;> simp [h]

theorem shiftRight_mantissa (em : ExtendedMantissa) (n : Nat) : (em >>> n).mantissa = em.mantissa / 2 ^ n := by
  cases n with
  | zero => simp [shiftRight_zero]
  | succ n => rw [shiftRight_succ_eq]

theorem shiftRight_exact (m n : Nat) (h : 2 ^ n ∣ m) :
    ExtendedMantissa.ofMantissaAndAccuracy m .exact >>> n = ⟨m / 2 ^ n, false, false⟩ := by
  show (⟨m, false, false⟩ : ExtendedMantissa) >>> n = _
  cases n with
  | zero => simp [shiftRight_zero]
  | succ n =>
    obtain ⟨c, rfl⟩ := h
    rw [shiftRight_succ_eq]
    have hp : 0 < 2 ^ n := Nat.pow_pos (by decide)
    simp only [Nat.pow_succ, Nat.mul_assoc, Nat.mul_div_cancel_left _ hp, Nat.mul_mod_right]
    simp

theorem roundedMantissa_bounds (em : ExtendedMantissa) :
    em.mantissa ≤ em.roundedMantissa ∧ em.roundedMantissa ≤ em.mantissa + 1 := by
  obtain ⟨m, r, s⟩ := em
  cases r <;> cases s <;>
    simp [ExtendedMantissa.roundedMantissa, ExtendedMantissa.accuracy, Accuracy.roundToNearestEven]
  omega

theorem ofMA_mantissa (m : Nat) (acc : Accuracy) :
    (ExtendedMantissa.ofMantissaAndAccuracy m acc).mantissa = m := by
  rcases acc with _ | o
  · rfl
  · cases o <;> rfl

theorem b64_mantissaBits : Format.binary64.mantissaBits = 53 := rfl
theorem b64_minExponent : Format.binary64.minExponent = -1074 := by decide
theorem b64_exponentBias : Format.binary64.exponentBias = 1023 := by decide

theorem targetExponent_normal (m : Nat) (e : Int) (he : -1022 ≤ (m.log2 : Int) + e) :
    Format.binary64.targetExponent (totalExponent m e) = (m.log2 : Int) + e - 52 := by
  unfold Format.targetExponent totalExponent
  rw [b64_mantissaBits, b64_minExponent]
  omega

theorem shiftToTarget_normal (m : Nat) (e : Int) (acc : Accuracy) (h1 : 2 ^ 52 ≤ m)
    (he : -1022 ≤ (m.log2 : Int) + e) :
    shiftToTargetExponent Format.binary64 m e acc =
      (ExtendedMantissa.ofMantissaAndAccuracy m acc >>> (m.log2 - 52), e + ((m.log2 - 52 : Nat) : Int)) := by
  have hl : 52 ≤ m.log2 := (Nat.le_log2 (by omega)).2 h1
  unfold shiftToTargetExponent shiftToExponent
  rw [targetExponent_normal m e he]
  have : ((m.log2 : Int) + e - 52 - e).toNat = m.log2 - 52 := by omega
  simp only [this]

theorem log2_normal {m : Nat} (h1 : 2 ^ 52 ≤ m) (h2 : m < 2 ^ 53) : m.log2 = 52 :=
  (Nat.log2_eq_iff (by omega)).2 ⟨h1, h2⟩

theorem log2_mul_two_pow (m k : Nat) (hm : 0 < m) : (m * 2 ^ k).log2 = m.log2 + k := by
  rw [Nat.log2_eq_iff (Nat.mul_ne_zero (by omega) (Nat.pos_iff_ne_zero.1 (Nat.pow_pos (by decide))))]
  have h1 := Nat.log2_self_le (n := m) (by omega)
  have h2 := @Nat.lt_log2_self m
  constructor
  · rw [Nat.pow_add]; exact Nat.mul_le_mul_right _ h1
  · rw [show m.log2 + k + 1 = (m.log2 + 1) + k by omega, Nat.pow_add]
    exact Nat.mul_lt_mul_of_pos_right h2 (Nat.pow_pos (by decide))

theorem trunc_bounds (m : Nat) (h1 : 2 ^ 52 ≤ m) :
    2 ^ 52 ≤ m / 2 ^ (m.log2 - 52) ∧ m / 2 ^ (m.log2 - 52) < 2 ^ 53 := by
  have hm0 : m ≠ 0 := by omega
  have hl : 52 ≤ m.log2 := (Nat.le_log2 hm0).2 h1
  generalize hsh : m.log2 - 52 = sh
  have hL : m.log2 = sh + 52 := by omega
  constructor
  · rw [Nat.le_div_iff_mul_le (Nat.pow_pos (by decide)), ← Nat.pow_add, Nat.add_comm, ← hL]
    exact Nat.log2_self_le hm0
  · rw [Nat.div_lt_iff_lt_mul (Nat.pow_pos (by decide)), ← Nat.pow_add]
    have := @Nat.lt_log2_self m
    rw [hL] at this
    rwa [show 53 + sh = sh + 52 + 1 by omega]

/-- congruence for `finite` with unrelated positivity proofs (rewriting with `▸` makes the kernel evaluate symbolic
    mantissas) -/
theorem finite_congr {s : Sign} {m m' : Nat} {e e' : Int} (h : 0 < m) (h' : 0 < m') (hm : m = m') (he : e = e') :
    UnpackedFloat.finite s m e h = UnpackedFloat.finite s m' e' h' := by
  subst hm; subst he; rfl

/-- **`roundWithAccuracy` in the normal range of `binary64`** (positive sign): with `R` the rounded mantissa after the
    first shift (53 bits, or `2^53`), the result `m' · 2^e'` is `R` at the shifted exponent.  `R = 2^53` is renormalised to
    `2^52` one exponent higher (`c = 1`), which is the same value: `R = m' · 2^c` covers both cases. -/
theorem roundWithAccuracy_normal (m : Nat) (e : Int) (acc : Accuracy) (h1 : 2 ^ 52 ≤ m)
    (he : -1022 ≤ (m.log2 : Int) + e) :
    ∃ m' e' h c, roundWithAccuracy Format.binary64 .positive m e acc = .finite .positive m' e' h ∧
      2 ^ 52 ≤ m' ∧ m' < 2 ^ 53 ∧ c ≤ 1 ∧
      (ExtendedMantissa.ofMantissaAndAccuracy m acc >>> (m.log2 - 52)).roundedMantissa = m' * 2 ^ c ∧
      e' = e + ((m.log2 - 52 + c : Nat) : Int) := by
  have hm0 : m ≠ 0 := by omega
  have hl : 52 ≤ m.log2 := (Nat.le_log2 hm0).2 h1
  obtain ⟨hq1, hq2⟩ := trunc_bounds m h1
  generalize hsh : m.log2 - 52 = sh at hq1 hq2
  have hL : m.log2 = sh + 52 := by omega
  generalize hq : m / 2 ^ sh = q at hq1 hq2
  unfold roundWithAccuracy
  rw [shiftToTarget_normal m e acc h1 he, hsh]
  dsimp only
  generalize hem : ExtendedMantissa.ofMantissaAndAccuracy m acc >>> sh = em
  have hemm : em.mantissa = q := by rw [← hem, shiftRight_mantissa, ofMA_mantissa, hq]
  have hb := roundedMantissa_bounds em
  rw [hemm] at hb
  generalize hr : em.roundedMantissa = r at hb
  -- `r` has 53 bits, or is `2^53 = 2^52 · 2`: the second shift drops `c` zero bits
  obtain ⟨c, m', hc, hrm, hm1, hm2⟩ : ∃ c m', c ≤ 1 ∧ r = m' * 2 ^ c ∧ 2 ^ 52 ≤ m' ∧ m' < 2 ^ 53 := by
    by_cases hr53 : r < 2 ^ 53
    · exact ⟨0, r, by omega, by omega, by omega, hr53⟩
    · exact ⟨1, 2 ^ 52, by omega, by omega, by decide, by decide⟩
  have hl2 : r.log2 = 52 + c := by
    rw [hrm, log2_mul_two_pow _ _ (by omega), log2_normal hm1 hm2]
  have hs2 : shiftToTargetExponent Format.binary64 r (e + (sh : Int)) .exact =
      (⟨m', false, false⟩, e + (sh : Int) + (c : Nat)) := by
    rw [shiftToTarget_normal r _ _ (by omega) (by omega), hl2, Nat.add_sub_cancel_left,
      shiftRight_exact r c ⟨m', by rw [hrm, Nat.mul_comm]⟩, hrm, Nat.mul_div_cancel _ (Nat.pow_pos (by decide))]
  rw [hs2]
  dsimp only
  rw [dif_neg (by omega)]
  exact ⟨m', _, by omega, c, rfl, hm1, hm2, hc, hrm, by omega⟩

theorem roundWithAccuracy_padded (m a : Nat) (e e' : Int) (h : 0 < m) (hm1 : 2 ^ 52 ≤ m) (hm2 : m < 2 ^ 53)
    (he : -1074 ≤ e + a) (he' : e' = e + a) :
    roundWithAccuracy Format.binary64 .positive (m * 2 ^ a) e .exact = .finite .positive m e' h := by
  have hl : (m * 2 ^ a).log2 = 52 + a := by rw [log2_mul_two_pow _ _ h, log2_normal hm1 hm2]
  obtain ⟨m', e'', h', c, heq, hb1, hb2, hc, hR, rfl⟩ := roundWithAccuracy_normal (m * 2 ^ a) e .exact
    (Nat.le_trans hm1 (Nat.le_mul_of_pos_right _ (Nat.pow_pos (by decide)))) (by omega)
  rw [hl, Nat.add_sub_cancel_left, shiftRight_exact _ _ (Nat.dvd_mul_left _ _),
    Nat.mul_div_cancel _ (Nat.pow_pos (by decide))] at hR
  change m = m' * 2 ^ c at hR
  -- `m` has 53 bits: nothing to renormalise
  obtain rfl : c = 0 := by
    rcases Nat.le_one_iff_eq_zero_or_eq_one.1 hc with rfl | rfl <;> omega
  rw [heq]
  exact finite_congr _ _ (by omega) (by omega)

theorem unpackSign_packComponents {spec : Format} {sign exponent mantissa} :
    unpackSign (packComponents spec sign exponent mantissa) = sign.toBitVec := by
  ext i hi
  have : i = 0 := by omega
  subst this
  simp [unpackSign, packComponents, BitVec.getLsbD_eq_getElem, BitVec.getLsbD_append, BitVec.getElem_append]

theorem model_unpack_pack (m : Nat) (e : Int) (h : 0 < m) (h1 : 2 ^ 52 ≤ m) (h2 : m < 2 ^ 53)
    (he1 : -1074 ≤ e) (he2 : e ≤ 971) :
    (Float.Model.pack (.finite .positive m e h)).unpack = .finite .positive m e h := by
  show UnpackedFloat.unpack Format.binary64 (UnpackedFloat.pack Format.binary64 (.finite .positive m e h)) = _
  have hl : m.log2 = 52 := log2_normal h1 h2
  unfold UnpackedFloat.pack
  simp only [b64_exponentBias, hl]
  rw [if_neg (by simp; omega), if_pos (by rfl)]
  unfold UnpackedFloat.unpack
  simp only [unpackMantissa_packComponents, unpackExponent_packComponents, unpackSign_packComponents]
  obtain ⟨k, hk⟩ : ∃ k : Nat, (e + (1023 : Nat) + (52 : Nat)).toNat = k := ⟨_, rfl⟩
  have hk1 : 1 ≤ k := by omega
  have hk2 : k ≤ 2046 := by omega
  have hke : (k : Int) = e + 1075 := by omega
  rw [hk]
  have hn1 : BitVec.ofNat 11 k ≠ -1#11 := by
    intro hc
    have := congrArg BitVec.toNat hc
    simp at this
    omega
  have hn0 : BitVec.ofNat 11 k ≠ 0#11 := by
    intro hc
    have := congrArg BitVec.toNat hc
    simp at this
    omega
  rw [if_neg hn1, if_neg hn0]
  have hm : (1#1 ++ BitVec.ofNat 52 m).toNat = m := by
    rw [BitVec.toNat_append]
    simp only [BitVec.toNat_ofNat]
    rw [← Nat.shiftLeft_add_eq_or_of_lt (Nat.mod_lt _ (by decide))]
    simp only [Nat.shiftLeft_eq]
    omega
  have he : ((BitVec.ofNat 11 k).toNat : Int) - ((Format.binary64.exponentBias : Int) + (52 : Nat)) = e := by
    rw [b64_exponentBias]
    simp only [BitVec.toNat_ofNat]
    omega
  exact finite_congr _ _ hm he

theorem mul_finite (spec : Format) (s₁ s₂ : Sign) (m₁ m₂ : Nat) (e₁ e₂ : Int) (h₁ : 0 < m₁) (h₂ : 0 < m₂) :
    UnpackedFloat.mul spec (.finite s₁ m₁ e₁ h₁) (.finite s₂ m₂ e₂ h₂) =
      roundWithAccuracy spec (s₁ * s₂) (m₁ * m₂) (e₁ + e₂) .exact := rfl

theorem pos_mul_pos : Sign.positive * Sign.positive = Sign.positive := rfl

/-! ## unfolding the `Float` operations into the model (generic, so that the kernel checks them on variables) -/

theorem toModel_mul (a b : Float) :
    (a * b).toModel = Float.Model.pack (UnpackedFloat.mul Format.binary64 a.toModel.unpack b.toModel.unpack) := rfl

theorem toModel_ofBits (c : UInt64) :
    (Float.ofBits c).toModel = Float.Model.pack (UnpackedFloat.unpack Format.binary64 c.toBitVec) := rfl

theorem toModel_toFloat (n : UInt64) :
    n.toFloat.toModel = Float.Model.pack (UnpackedFloat.ofNat Format.binary64 n.toNat) := rfl

theorem toModel_sqrt (a : Float) :
    a.sqrt.toModel = Float.Model.pack (UnpackedFloat.sqrt Format.binary64 a.toModel.unpack) := rfl

theorem toUInt64_eq (a : Float) : a.toUInt64 = a.toModel.unpack.toUInt64 := rfl

theorem ofModel_toModel (m : Float.Model) : (Float.ofModel m).toModel = m := rfl

theorem pow10_zero : Float.exactlyRepresentablePowersOfTen[0]'(by decide) = Float.ofBits 0x3FF0000000000000 := rfl

theorem float_ofNat_eq_small (y : Nat) (hy : y < 2 ^ 53) :
    Float.ofNat y = y.toUInt64.toFloat * Float.ofBits 0x3FF0000000000000 := by
  show Float.ofScientific y false 0 = _
  unfold Float.ofScientific
  rw [dif_pos ⟨hy, by decide⟩]
  simp only [pow10_zero, Bool.false_eq_true, if_false]

/-! ## `Float.ofNat` below `2^53`: exact -/

/-- the `Float` constant `1.0` (`10^0` in the table used by `Float.ofScientific`) -/
theorem one_unpack :
    (Float.ofBits 0x3FF0000000000000).toModel.unpack = .finite .positive (2 ^ 52) (-52) (by decide) := by
  rw [toModel_ofBits]
  have : UnpackedFloat.unpack Format.binary64 (0x3FF0000000000000 : UInt64).toBitVec =
      .finite .positive (2 ^ 52) (-52) (by decide) := rfl
  rw [this]
  exact model_unpack_pack _ _ _ (by decide) (by decide) (by decide) (by decide)

theorem shl_log2 (y : Nat) (h0 : 0 < y) (hy : y < 2 ^ 53) :
    2 ^ 52 ≤ y <<< (52 - y.log2) ∧ y <<< (52 - y.log2) < 2 ^ 53 := by
  have hL : y.log2 < 53 := (Nat.log2_lt (by omega)).2 hy
  have hl := log2_mul_two_pow y (52 - y.log2) h0
  rw [show y.log2 + (52 - y.log2) = 52 by omega] at hl
  rw [Nat.shiftLeft_eq]
  exact (Nat.log2_eq_iff (Nat.mul_ne_zero (by omega) (Nat.pos_iff_ne_zero.1 (Nat.pow_pos (by decide))))).1 hl

theorem unpacked_ofNat_small (y : Nat) (h0 : 0 < y) (hy : y < 2 ^ 53) :
    UnpackedFloat.ofNat Format.binary64 y =
      .finite .positive (y <<< (52 - y.log2)) ((y.log2 : Int) - 52)
        (by rw [Nat.shiftLeft_eq]; exact Nat.mul_pos h0 (Nat.pow_pos (by decide))) := by
  have hL : y.log2 < 53 := (Nat.log2_lt (by omega)).2 hy
  obtain ⟨hm1, hm2⟩ := shl_log2 y h0 hy
  unfold UnpackedFloat.ofNat UnpackedFloat.ofInt normalize
  have hc : compare (y : Int) 0 = .gt := by
    simp only [compare, compareOfLessAndEq]
    rw [if_neg (by omega), if_neg (by omega)]
  rw [hc]
  dsimp only
  unfold round
  rw [targetExponent_normal _ _ (by omega)]
  unfold decreaseExponent
  dsimp only
  rw [Int.toNat_natCast]
  have e1 : (0 - ((y.log2 : Int) + 0 - 52)).toNat = 52 - y.log2 := by omega
  rw [e1]
  have := roundWithAccuracy_padded (y <<< (52 - y.log2)) 0 (0 - ((52 - y.log2 : Nat) : Int)) ((y.log2 : Int) - 52)
    (Nat.lt_of_lt_of_le (by decide) hm1) hm1 hm2 (by omega) (by omega)
  rwa [Nat.pow_zero, Nat.mul_one] at this

theorem mul_one_normal (m : Nat) (e : Int) (h : 0 < m) (hm1 : 2 ^ 52 ≤ m) (hm2 : m < 2 ^ 53) (he : -1074 ≤ e) :
    UnpackedFloat.mul Format.binary64 (.finite .positive m e h) (.finite .positive (2 ^ 52) (-52) (by decide)) =
      .finite .positive m e h := by
  rw [mul_finite, pos_mul_pos]
  exact roundWithAccuracy_padded m 52 _ _ h hm1 hm2 (by omega) (by omega)

theorem toFloat_small (y : Nat) (h0 : 0 < y) (hy : y < 2 ^ 53) :
    (y.toUInt64.toFloat).toModel.unpack = UnpackedFloat.ofNat Format.binary64 y := by
  have hL : y.log2 < 53 := (Nat.log2_lt (by omega)).2 hy
  obtain ⟨hm1, hm2⟩ := shl_log2 y h0 hy
  rw [toModel_toFloat]
  have : y.toUInt64.toNat = y := by
    simp; omega
  rw [this, unpacked_ofNat_small y h0 hy]
  exact model_unpack_pack _ _ _ hm1 hm2 (by omega) (by omega)

/-- the fast path `y.toUInt64.toFloat * 1.0` of `Float.ofScientific` -/
theorem float_ofNat_small (y : Nat) (h0 : 0 < y) (hy : y < 2 ^ 53) :
    (Float.ofNat y).toModel.unpack = UnpackedFloat.ofNat Format.binary64 y := by
  have hL : y.log2 < 53 := (Nat.log2_lt (by omega)).2 hy
  obtain ⟨hm1, hm2⟩ := shl_log2 y h0 hy
  rw [float_ofNat_eq_small y hy, toModel_mul, one_unpack, toFloat_small y h0 hy, unpacked_ofNat_small y h0 hy,
    mul_one_normal _ _ _ hm1 hm2 (by omega)]
  exact model_unpack_pack _ _ _ hm1 hm2 (by omega) (by omega)

/-! ## `Float.ofNat` from `2^53` on: round to nearest -/

theorem float_ofNat_eq_large (y : Nat) (hy : 2 ^ 53 ≤ y) :
    Float.ofNat y = Float.ofModel (Float.Model.pack (UnpackedFloat.ofScientific Format.binary64 y 0)) := by
  show Float.ofScientific y false 0 = _
  unfold Float.ofScientific
  rw [dif_neg (by omega)]
  rfl

theorem unpacked_ofScientific_zero (y : Nat) (h0 : 0 < y) :
    UnpackedFloat.ofScientific Format.binary64 y 0 =
      roundWithAccuracy Format.binary64 .positive (y * 2 ^ 53) (-53) .exact := by
  unfold UnpackedFloat.ofScientific
  rw [dif_neg (by omega), if_neg (by decide), if_neg (by simp), if_pos (by decide), mul_finite, pos_mul_pos]
  simp [b64_mantissaBits, Nat.shiftLeft_eq]

theorem rounded_nearest (m n : Nat) :
    2 * m ≤ 2 * (((⟨m, false, false⟩ : ExtendedMantissa) >>> n).roundedMantissa * 2 ^ n) + 2 ^ n ∧
    2 * (((⟨m, false, false⟩ : ExtendedMantissa) >>> n).roundedMantissa * 2 ^ n) ≤ 2 * m + 2 ^ n := by
  cases n with
  | zero =>
    rw [shiftRight_zero]
    simp [ExtendedMantissa.roundedMantissa, ExtendedMantissa.accuracy, Accuracy.roundToNearestEven]
  | succ j =>
    -- `m = q · 2^(j+1) + b · 2^j + low` with round bit `b` and sticky bit `low ≠ 0`
    rw [shiftRight_succ_eq]
    dsimp only
    have hdm := Nat.div_add_mod m (2 ^ (j + 1))
    have hlow := Nat.mod_lt m (Nat.pow_pos (by decide) : 0 < 2 ^ j)
    rw [Nat.mod_pow_succ] at hdm
    rw [Nat.pow_succ] at hdm ⊢
    generalize m / (2 ^ j * 2) = q at *
    generalize m % 2 ^ j = low at *
    generalize 2 ^ j = P at *
    have e1 : q * (P * 2) = 2 * (q * P) := by ring
    have e2 : (q + 1) * (P * 2) = 2 * (q * P) + 2 * P := by ring
    have e3 : P * 2 * q = 2 * (q * P) := by ring
    rw [e3] at hdm
    rcases Nat.mod_two_eq_zero_or_one (m / P) with hb | hb <;> rw [hb] at hdm ⊢
    · -- below the middle: truncated
      have : (⟨q, (0 != 0), (low != 0 || (false || false))⟩ : ExtendedMantissa).roundedMantissa = q := by
        cases (low != 0) <;> rfl
      rw [this, e1]
      omega
    · by_cases h0 : low = 0
      · -- a tie: to even
        subst h0
        have : (⟨q, (1 != 0), (0 != 0 || (false || false))⟩ : ExtendedMantissa).roundedMantissa = q + q % 2 := rfl
        rw [this]
        rcases Nat.mod_two_eq_zero_or_one q with hq | hq <;> rw [hq]
        · rw [Nat.add_zero, e1]; omega
        · rw [e2]; omega
      · -- above the middle: up
        have : (⟨q, (1 != 0), (low != 0 || (false || false))⟩ : ExtendedMantissa).roundedMantissa = q + 1 := by
          rw [show (low != 0) = true by simp [h0]]; rfl
        rw [this, e2]
        omega

/-- **`Float.ofNat y` for `0 < y < 2^64`, round to nearest**: a normal number `m · 2^(j-52)` (53-bit `m`) that is an integer
    `v` (`m · 2^j = v · 2^52`), equal to `y` up to a relative error `2^-52` and within half a unit in the last place
    (`2^(j-52) / 2`) of `y`; so `v = y` when `j ≤ 52` -/
theorem float_ofNat_nearest (y : Nat) (h0 : 0 < y) (hy : y < 2 ^ 64) :
    ∃ m j h v, (Float.ofNat y).toModel.unpack = .finite .positive m ((j : Nat) - 52) h ∧ 2 ^ 52 ≤ m ∧ m < 2 ^ 53 ∧
      j ≤ 64 ∧ m * 2 ^ j = v * 2 ^ 52 ∧ v ≤ y + y / 2 ^ 52 ∧ y ≤ v + y / 2 ^ 52 ∧
      2 * y ≤ 2 * v + 2 ^ (j - 52) ∧ 2 * v ≤ 2 * y + 2 ^ (j - 52) := by
  have hL : y.log2 < 64 := (Nat.log2_lt (by omega)).2 hy
  have hl1 := Nat.log2_self_le (n := y) (by omega)
  by_cases hs : y < 2 ^ 53
  · obtain ⟨hm1, hm2⟩ := shl_log2 y h0 hs
    refine ⟨_, _, _, y, (float_ofNat_small y h0 hs).trans (unpacked_ofNat_small y h0 hs), hm1, hm2, by omega, ?_, by omega, by omega,
      Nat.le_add_right _ _, Nat.le_add_right _ _⟩
    have hL' : y.log2 < 53 := (Nat.log2_lt (by omega)).2 hs
    rw [Nat.shiftLeft_eq, Nat.mul_assoc, ← Nat.pow_add]
    congr 2
    omega
  · have hy53 : 2 ^ 53 ≤ y := by omega
    obtain ⟨d, hd⟩ : ∃ d, y.log2 = d + 52 := ⟨y.log2 - 52, by have := (Nat.le_log2 (by omega)).2 hy53; omega⟩
    obtain ⟨m, e, h, c, heq, hm1, hm2, hc, hR, he⟩ := roundWithAccuracy_normal (y * 2 ^ 53) (-53) .exact
      (Nat.le_trans (by decide) (Nat.mul_le_mul_right _ hy53)) (by omega)
    rw [log2_mul_two_pow _ _ h0, show y.log2 + 53 - 52 = 53 + d by omega] at hR he
    obtain rfl : e = ((c + d + 52 : Nat) : Int) - 52 := by omega
    -- the 53 padding zeros are shifted out exactly: what is rounded is `y`, shifted by `d`
    rw [shiftRight_add, shiftRight_exact _ _ (Nat.dvd_mul_left _ _), Nat.mul_div_cancel _ (by decide)] at hR
    obtain ⟨hn1, hn2⟩ := rounded_nearest y d
    rw [hR] at hn1 hn2
    have hdy : 2 ^ d ≤ y / 2 ^ 52 := by
      rw [Nat.le_div_iff_mul_le (by decide), ← Nat.pow_add, ← hd]; exact hl1
    have hpow : (2 : Nat) ^ d ≤ 2 ^ (c + d) := Nat.pow_le_pow_right (by decide) (by omega)
    refine ⟨m, c + d + 52, h, m * 2 ^ c * 2 ^ d, ?_, hm1, hm2, by omega, ?_, by omega, by omega, ?_, ?_⟩
    · rw [float_ofNat_eq_large y hy53, ofModel_toModel, unpacked_ofScientific_zero y h0, heq]
      exact model_unpack_pack _ _ _ hm1 hm2 (by omega) (by omega)
    · rw [Nat.pow_add, Nat.pow_add]
      ring
    · rw [Nat.add_sub_cancel]; omega
    · rw [Nat.add_sub_cancel]; omega

theorem sqrt_targetExponent (m : Nat) (e : Int) (hl : m.log2 = 52) (he : -1000 ≤ e) :
    min (e.ediv 2) (Format.binary64.targetExponent ((totalExponent m e + 1).ediv 2)) = e / 2 - 26 := by
  unfold Format.targetExponent totalExponent
  rw [b64_mantissaBits, b64_minExponent, hl]
  have e1 : e.ediv 2 = e / 2 := rfl
  have e2 : (((52 : Nat) : Int) + 1 + e + 1).ediv 2 = (e + 54) / 2 := by
    show (((52 : Nat) : Int) + 1 + e + 1) / 2 = _
    congr 1; omega
  rw [e1, e2]
  omega

theorem nat_sqrt_bounds (M : Nat) (h1 : 2 ^ 104 ≤ M) (h2 : M < 2 ^ 106) : 2 ^ 52 ≤ M.sqrt ∧ M.sqrt < 2 ^ 53 :=
  ⟨Nat.le_sqrt.2 (by omega), Nat.sqrt_lt.2 (by omega)⟩

theorem ofMA_rounded (m : Nat) (acc : Accuracy) :
    (ExtendedMantissa.ofMantissaAndAccuracy m acc).roundedMantissa = acc.roundToNearestEven m := by
  rcases acc with _ | o
  · rfl
  · cases o <;> rfl

/-- **`sqrt` of a normal number, round to nearest**.  Write the exponent as `e = 52 + p - 2 k` with `p ≤ 1` its parity, so that
    `m · 2^e = M · 4^(-k)` with the 105- or 106-bit integer `M = m · 2^(52+p)`.  The result has the value `r · 2^(-k)` (`c = 1`:
    `r = 2^53`, renormalised), where the root `⌊√M⌋` is rounded up to `r` exactly when the remainder `M - ⌊√M⌋²` exceeds
    `⌊√M⌋` (i.e. `√M > ⌊√M⌋ + 1/2`) -/
theorem sqrt_nearest (m : Nat) (e : Int) (h : 0 < m) (hm1 : 2 ^ 52 ≤ m) (hm2 : m < 2 ^ 53) (k p M : Nat)
    (he : e = ((52 + p : Nat) : Int) - 2 * (k : Nat)) (hp : p ≤ 1) (hk : k ≤ 500) (hM : M = m * 2 ^ (52 + p)) :
    ∃ m2 e2 h2 c, UnpackedFloat.sqrt Format.binary64 (.finite .positive m e h) = .finite .positive m2 e2 h2 ∧
      2 ^ 52 ≤ m2 ∧ m2 < 2 ^ 53 ∧ c ≤ 1 ∧
      (if M - M.sqrt * M.sqrt ≤ M.sqrt then M.sqrt else M.sqrt + 1) = m2 * 2 ^ c ∧ e2 = (c : Nat) - (k : Int) := by
  have hl : m.log2 = 52 := log2_normal hm1 hm2
  unfold UnpackedFloat.sqrt sqrtCore
  dsimp only
  rw [sqrt_targetExponent m e hl (by omega), Nat.shiftLeft_eq, show e / 2 - 26 = -(k : Int) by omega,
    show (e - 2 * -(k : Int)).toNat = 52 + p by omega, ← hM]
  have hM1 : 2 ^ 104 ≤ M ∧ M < 2 ^ 106 := by
    obtain rfl | rfl : p = 0 ∨ p = 1 := by omega
    all_goals omega
  obtain ⟨hr1, hr2⟩ := nat_sqrt_bounds M hM1.1 hM1.2
  have hlr : M.sqrt.log2 = 52 := log2_normal hr1 hr2
  generalize hacc : (if M - M.sqrt * M.sqrt = 0 then Accuracy.exact
      else Accuracy.inexact (if M - M.sqrt * M.sqrt ≤ M.sqrt then Ordering.lt else Ordering.gt)) = acc
  obtain ⟨m2, e2, h2, c, heq, hb1, hb2, hc, hR, rfl⟩ := roundWithAccuracy_normal M.sqrt (-(k : Int)) acc hr1 (by omega)
  rw [hlr, Nat.sub_self, shiftRight_zero, ofMA_rounded] at hR
  refine ⟨m2, _, h2, c, heq, hb1, hb2, hc, ?_, by rw [hlr]; omega⟩
  rw [← hR, ← hacc]
  by_cases h0 : M - M.sqrt * M.sqrt = 0
  · rw [if_pos h0, if_pos (by omega)]; rfl
  · rw [if_neg h0]
    by_cases h1 : M - M.sqrt * M.sqrt ≤ M.sqrt
    · rw [if_pos h1, if_pos h1]; rfl
    · rw [if_neg h1, if_neg h1]; rfl

theorem toUInt64_spec (m : Nat) (e : Int) (h : 0 < m) (k : Nat) (hk : e = -(k : Int)) (hlt : m / 2 ^ k < 2 ^ 64) :
    (UnpackedFloat.finite .positive m e h).toUInt64.toNat = m / 2 ^ k := by
  subst hk
  unfold UnpackedFloat.toUInt64 UnpackedFloat.toInt roundToInt decreaseExponent shiftToExponent
  dsimp only
  have e1 : (-(k : Int) - 0).toNat = 0 := by omega
  have e2 : (0 - (-(k : Int) - ((0 : Nat) : Int))).toNat = k := by omega
  rw [e1, e2, Nat.shiftLeft_eq, Nat.pow_zero, Nat.mul_one, shiftRight_mantissa, ofMA_mantissa]
  simp only [Sign.apply, Int.toNat_natCast]
  unfold UInt64.ofNatClamp
  rw [dif_pos (by simpa [UInt64.size] using hlt)]
  simp

/-- notation of `sqrt_nearest`: the floor of `r · 2^(-k)`, where `r` is the root of `M` rounded to nearest -/
theorem float_sqrt_toUInt64 (a : Float) (m : Nat) (e : Int) (h : 0 < m) (ha : a.toModel.unpack = .finite .positive m e h)
    (hm1 : 2 ^ 52 ≤ m) (hm2 : m < 2 ^ 53) (k p M : Nat) (he : e = ((52 + p : Nat) : Int) - 2 * (k : Nat)) (hp : p ≤ 1)
    (hk1 : 1 ≤ k) (hk : k ≤ 500) (hM : M = m * 2 ^ (52 + p)) :
    a.sqrt.toUInt64.toNat = (if M - M.sqrt * M.sqrt ≤ M.sqrt then M.sqrt else M.sqrt + 1) / 2 ^ k := by
  obtain ⟨m2, e2, h2, c, hsq, hb1, hb2, hc, hr, rfl⟩ := sqrt_nearest m e h hm1 hm2 k p M he hp hk hM
  -- `m2 · 2^(c - k)` has the value `r · 2^(-k)`
  rw [toUInt64_eq, toModel_sqrt, ha, hsq, model_unpack_pack m2 _ h2 hb1 hb2 (by omega) (by omega),
    toUInt64_spec _ _ _ (k - c) (by omega) (Nat.lt_of_le_of_lt (Nat.div_le_self _ _) (by omega)), hr,
    ← Nat.mul_div_mul_right _ _ (Nat.pow_pos (by decide) : 0 < 2 ^ c), ← Nat.pow_add, Nat.sub_add_cancel (by omega)]

end Hpx.SqrtApprox
