/-
The BMI2 / LUT switch of the configuration is irrelevant for every `Layer` function of the model: the two families of
z-order implementations are the same functions (`Lemmas/BmiLemmas.lean`), and `get_zoc` selects the same class.
The lemmas `f cfg … = f (noBmi cfg) …` move a theorem stated for `cfg.bmi = false` to BMI2 builds.  The `…_any_build`
statements of the Props files do not need them: they are proved for every `cfg` from the closed forms.
-/
import HpxVerif.Lemmas.BmiLemmas
import HpxVerif.Model.Topo
import HpxVerif.Model.Hash
import HpxVerif.Lemmas.CenterXY

namespace Hpx.LayerBmi
open Hpx Hpx.Layer

def noBmi (cfg : Cfg) : Cfg := { cfg with bmi := false }

theorem zoc_curve (cfg : Cfg) (d : Nat) (hd : d ≤ 29) : ∃ c, zoc cfg d = some c ∧ d ≤ c.bits := by
  obtain ⟨c, h1, h2, hb⟩ := getZoc_spec d hd
  refine ⟨c, ?_, hb⟩
  unfold zoc; split <;> assumption

theorem _root_.Hpx.Layer.zoc_none_of_gt (cfg : Cfg) {d : Nat} (hd : 29 < d) : zoc cfg d = none := by
  unfold zoc; split <;> exact getZocFrom_guard _ hd

theorem layer_ij2h_eq (cfg : Cfg) (c : ZocClass) (i j : Nat) :
    ij2h cfg c i j = spreadN c.bits i ||| (spreadN c.bits j <<< 1) := by
  unfold ij2h; split
  · exact bmi_ij2h_eq c i j
  · exact lut_ij2h_eq c i j

theorem layer_h2ij_eq (cfg : Cfg) (c : ZocClass) (h : Nat) : h2ij cfg c h = squeezePair c.bits c.bits h := by
  unfold h2ij; split
  · exact bmi_h2ij_eq c h
  · exact lut_h2ij_eq c h

theorem layer_ij2h_interleave (cfg : Cfg) (c : ZocClass) (i j : Nat) (hi : i < 2 ^ c.bits) (hj : j < 2 ^ c.bits) :
    ij2h cfg c i j = interleave i j := by
  rw [layer_ij2h_eq, spread_interleave c.bits_le hi hj]

theorem build_of_lt (cfg : Cfg) {d i j : Nat} (hd : d ≤ 29) (d0h : Nat) (hi : i < 2 ^ d) (hj : j < 2 ^ d) :
    buildHashFromParts cfg d d0h i j = some (d0h <<< (2 * d) ||| interleave i j) := by
  obtain ⟨c, hc, hdc⟩ := zoc_curve cfg d hd
  have hp := Nat.pow_le_pow_right (n := 2) (by decide) hdc
  unfold buildHashFromParts
  simp only [hc, nside_eq, hi, hj, decide_true, Bool.and_self, Bool.not_true, Bool.and_false, Bool.false_eq_true,
    if_false]
  rw [layer_ij2h_interleave cfg c i j (Nat.lt_of_lt_of_le hi hp) (Nat.lt_of_lt_of_le hj hp),
    show d <<< 1 = 2 * d by rw [Nat.shiftLeft_eq, Nat.pow_one, Nat.mul_comm]]

theorem zoc_eq (cfg : Cfg) (d : Nat) : zoc cfg d = zoc (noBmi cfg) d := by
  unfold zoc noBmi
  by_cases h : cfg.bmi = true
  · simp [h, get_zoc_bmi_eq_lut]
  · simp [h]

theorem ij2h_eq (cfg : Cfg) (c : ZocClass) (i j : Nat) : ij2h cfg c i j = ij2h (noBmi cfg) c i j := by
  rw [layer_ij2h_eq, layer_ij2h_eq]

theorem h2ij_eq (cfg : Cfg) (c : ZocClass) (h : Nat) : h2ij cfg c h = h2ij (noBmi cfg) c h := by
  rw [layer_h2ij_eq, layer_h2ij_eq]

theorem decodeHash_eq (cfg : Cfg) (d h : Nat) : decodeHash cfg d h = decodeHash (noBmi cfg) d h := by
  unfold decodeHash
  rw [zoc_eq]
  cases zoc (noBmi cfg) d with
  | none => rfl
  | some c => simp only [h2ij_eq cfg]

theorem buildHashFromParts_eq (cfg : Cfg) (d b i j : Nat) :
    buildHashFromParts cfg d b i j = buildHashFromParts (noBmi cfg) d b i j := by
  unfold buildHashFromParts
  rw [zoc_eq]
  cases zoc (noBmi cfg) d with
  | none => rfl
  | some c => simp only [ij2h_eq cfg]; rfl

theorem noBmi_bmi (cfg : Cfg) : (noBmi cfg).bmi = false := rfl

end Hpx.LayerBmi

/-! ## hash, accessors, masks, corners of the internal edge: `f cfg … = f (noBmi cfg) …` -/

section
set_option autoImplicit false

namespace Hpx.BmiTransfer
open Hpx Hpx.Hash Hpx.LayerBmi

theorem noBmi_debug (cfg : Cfg) : (noBmi cfg).debug = cfg.debug := rfl

section HashFns
variable {α : Type} [Num α]

theorem hashV2_noBmi (cfg : Cfg) (d : Nat) (lon lat : α) : hashV2 cfg d lon lat = hashV2 (noBmi cfg) d lon lat := by
  unfold hashV2
  simp only [buildHashFromParts_eq cfg]

theorem hashWithDxDy_noBmi (cfg : Cfg) (d : Nat) (lon lat : α) :
    hashWithDxDy cfg d lon lat = hashWithDxDy (noBmi cfg) d lon lat := by
  unfold hashWithDxDy
  simp only [zoc_eq cfg, ij2h_eq cfg]
  rfl


theorem centerOfProjectedCell_noBmi (cfg : Cfg) (d h : Nat) :
    centerOfProjectedCell (α := α) cfg d h = centerOfProjectedCell (noBmi cfg) d h := by
  unfold centerOfProjectedCell
  simp only [decodeHash_eq cfg]

theorem vertex_noBmi (cfg : Cfg) (d h k : Nat) : vertex (α := α) cfg d h k = vertex (noBmi cfg) d h k := by
  unfold vertex; rw [centerOfProjectedCell_noBmi]

theorem pathAlongCellSide_noBmi (cfg : Cfg) (d h f g : Nat) (inc : Bool) (n : Nat) :
    pathAlongCellSide (α := α) cfg d h f g inc n = pathAlongCellSide (noBmi cfg) d h f g inc n := by
  unfold pathAlongCellSide; rw [centerOfProjectedCell_noBmi]

theorem pathAlongCellEdge_noBmi (cfg : Cfg) (d h s : Nat) (cw : Bool) (n : Nat) :
    pathAlongCellEdge (α := α) cfg d h s cw n = pathAlongCellEdge (noBmi cfg) d h s cw n := by
  unfold pathAlongCellEdge; rw [centerOfProjectedCell_noBmi]

theorem grid_noBmi (cfg : Cfg) (d h n : Nat) : grid (α := α) cfg d h n = grid (noBmi cfg) d h n := by
  unfold grid; rw [centerOfProjectedCell_noBmi]

end HashFns

section TopoFns
open Hpx.Topo

theorem xMaskFn_noBmi (cfg : Cfg) (dd : Nat) : xMaskFn cfg dd = xMaskFn (noBmi cfg) dd := rfl
theorem yMaskFn_noBmi (cfg : Cfg) (dd : Nat) : yMaskFn cfg dd = yMaskFn (noBmi cfg) dd := rfl
theorem xyMaskFn_noBmi (cfg : Cfg) (dd : Nat) : xyMaskFn cfg dd = xyMaskFn (noBmi cfg) dd := rfl

theorem internalCorner_noBmi (cfg : Cfg) (hash dd : Nat) (dir : MW) :
    internalCorner cfg hash dd dir = internalCorner (noBmi cfg) hash dd dir := rfl

end TopoFns

end Hpx.BmiTransfer

end
