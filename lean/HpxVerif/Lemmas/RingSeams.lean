/-
RING scheme (C11).  `RingIndexExact n` holds for every `n < 2^31`, from `SqrtApprox.polarRingApprox_sharp` on the whole
`u64` range; hence the `…_uncond` forms of the theorems of `RingReal*.lean` that carry it as a hypothesis.  The eight
north-cap seams in the plane: the integer tail of `hash_with_dldh` on the *phantom diamonds* next to them, what
`hashPlane` returns there in both profiles, and whether that cell contains the point (`ring_hash_seam_north_spec`).  The
south-cap seams and both poles (correct), and on the sphere the exact failure set `F3Set` of `ring::hash`
(`ring_hash_correct_iff`).
-/
import HpxVerif.Lemmas.RingRealHash
import HpxVerif.Lemmas.SqrtApprox

namespace Hpx.RingSeams
open Hpx Hpx.Ring Hpx.Proj Hpx.RingReal Real

/-! ## `RingIndexExact` holds

`RingIndexExact n` says: for every `x < tri4 n = 2n(n+1)`, `tri4 (polarRingIndex x) ≤ x < tri4 (polarRingIndex x + 1)`,
where `polarRingIndex x` = 4 correction steps applied to the `f64` estimate `polarRingApprox x = (isqrtF64 (2x+1) − 1)/2`.
`RingReal.ringIndexExact_of_approx` reduces it to "the estimate is within 4 of the exact index for `x < tri4 n`".
`SqrtApprox.polarRingApprox_sharp` proves more, on the whole range where `2x + 1` fits a `u64` (`x < 2^63`): the estimate is the
exact index or one above it.  `tri4 n ≤ 2^63` for every `n < 2^31`, which covers the bound `n < 2^30` of the theorems of
`Props/C11.lean` (and every `n ≤ 2^29 = nside_max`). -/

section Sqrt64
open Float.Model Float.Model.UnpackedFloat
open Hpx.Layer Hpx.SqrtApprox

/-- on the whole `u64` range; a weakening of `SqrtApprox.isqrtF64_sharp` -/
theorem isqrtF64_bounds64 (y : Nat) (h0 : 0 < y) (hy : y < 2 ^ 64) :
    y.sqrt ≤ isqrtF64 y + 1 ∧ isqrtF64 y ≤ y.sqrt + 2 := by
  obtain ⟨a, b⟩ := isqrtF64_bounds y h0 hy
  exact ⟨a, by omega⟩

end Sqrt64

theorem ringIndexExact_of_tri4 (n : Nat) (h : tri4 n ≤ 2 ^ 63) : RingIndexExact n :=
  RingBij.realRI_exactBelow (SqrtApprox.approxOK_2_63.mono h)

theorem tri4_le_iff {n N B : Nat} (h1 : tri4 N ≤ B) (h2 : B < tri4 (N + 1)) : tri4 n ≤ B ↔ n ≤ N :=
  ⟨fun h => Nat.le_of_lt_succ (tri4_lt_of_lt (Nat.lt_of_le_of_lt h h2)), fun h => Nat.le_trans (tri4_mono h) h1⟩

theorem tri4_le_2_63_iff (n : Nat) : tri4 n ≤ 2 ^ 63 ↔ n < 2 ^ 31 := by
  rw [tri4_le_iff (N := 2 ^ 31 - 1) (by decide) (by decide)]; omega

theorem ringIndexExact_holds_31 (n : Nat) (hn' : n < 2 ^ 31) : RingIndexExact n :=
  ringIndexExact_of_tri4 n ((tri4_le_2_63_iff n).mpr hn')

theorem ringIndexExact_holds (n : Nat) (hn' : n < 2 ^ 30) : RingIndexExact n :=
  ringIndexExact_holds_31 n (by omega)

/-- the part that `SqrtApprox.approxOK_2_60` (the form C10 uses, `x < 2^60`) discharges: exactly `n ≤ 759250124` -/
theorem tri4_le_2_60_iff (n : Nat) : tri4 n ≤ 2 ^ 60 ↔ n ≤ 759250124 :=
  tri4_le_iff (by decide) (by decide)

theorem ring_center_plane_uncond (debug : Bool) {n : Nat} (hn : 1 ≤ n) (hN : n < 2 ^ 30)
    (h : Nat) (hh : h < 12 * n * n) :
    ∃ r i, r < 4 * n - 1 ∧ i < 4 * perFacet n r ∧ h = ringStart n r + i ∧
      centerOfProjectedCell (α := ℝ) debug n h = some ((cxI n r i : ℝ) / n, (cyI n r : ℝ) / n) ∧
      0 ≤ (cxI n r i : ℝ) / n ∧ (cxI n r i : ℝ) / n < 8 ∧ -2 < (cyI n r : ℝ) / n ∧ (cyI n r : ℝ) / n < 2 ∧
      (cyI n r : ℝ) / n * n = ((2 * (n : ℤ) - 1 - r : ℤ) : ℝ) :=
  ring_center_plane debug hn hN (ringIndexExact_holds n hN) h hh

theorem center_eq_uncond (debug : Bool) {n r i : Nat} (hn : 1 ≤ n) (hN : n < 2 ^ 30)
    (hr : r < 4 * n - 1) (hi : i < 4 * perFacet n r) :
    centerOfProjectedCell (α := ℝ) debug n (ringStart n r + i) = some ((cxI n r i : ℝ) / n, (cyI n r : ℝ) / n) :=
  center_eq debug hn hN (ringIndexExact_holds n hN) hr hi

theorem ring_center_north_uncond (debug : Bool) {n r q j : Nat} (hN : n < 2 ^ 30)
    (hr : r + 1 < n) (hq : q < 4) (hj : j < r + 1) :
    centerOfProjectedCell (α := ℝ) debug n (tri4 r + (q * (r + 1) + j))
      = some (2 * (q : ℝ) + (2 * j + (n - r : ℕ) : ℝ) / n, ((2 * n - 1 - r : ℕ) : ℝ) / n) :=
  ring_center_north debug hN (ringIndexExact_holds n hN) hr hq hj

theorem ring_center_south_uncond (debug : Bool) {n t q j : Nat} (hN : n < 2 ^ 30)
    (ht : t + 1 < n) (hq : q < 4) (hj : j < t + 1) :
    centerOfProjectedCell (α := ℝ) debug n (12 * n * n - tri4 (t + 1) + (q * (t + 1) + j))
      = some (2 * (q : ℝ) + (2 * j + (n - t : ℕ) : ℝ) / n, -(((2 * n - 1 - t : ℕ) : ℝ) / n)) :=
  ring_center_south debug hN (ringIndexExact_holds n hN) ht hq hj

theorem ring_order_uncond (debug : Bool) {n : Nat} (hn : 1 ≤ n) (hN : n < 2 ^ 30)
    (h h' : Nat) (hlt : h < h') (hh' : h' < 12 * n * n) :
    ∃ cx cy cx' cy' : ℝ, centerOfProjectedCell (α := ℝ) debug n h = some (cx, cy) ∧
      centerOfProjectedCell (α := ℝ) debug n h' = some (cx', cy') ∧ (cy' < cy ∨ (cy' = cy ∧ cx < cx')) :=
  ring_order debug hn hN (ringIndexExact_holds n hN) h h' hlt hh'

theorem ring_hash_center_uncond (debug : Bool) {n : Nat} (hn : 1 ≤ n) (hN : n < 2 ^ 30)
    (h : Nat) (hh : h < 12 * n * n) :
    ∃ cx cy dl dh : ℝ, centerOfProjectedCell (α := ℝ) debug n h = some (cx, cy) ∧
      hashPlane debug n cx cy = some (h, dl, dh) ∧ ((dl, dh) = (1 / 2, 0) ∨ (dl, dh) = (0, 1 / 2)) ∧
      dldhToDxDy dl dh = (1 / 2, 1 / 2) :=
  ring_hash_center debug hn hN (ringIndexExact_holds n hN) h hh

theorem ring_hash_contains_partial_uncond (debug : Bool) {n : Nat} (hn : 1 ≤ n) (hN : n < 2 ^ 30)
    {X Y : ℝ} (hg : GoodPoint X Y) :
    ∃ (h : ℕ) (dl dh cx cy : ℝ), hashPlane debug n X Y = some (h, dl, dh) ∧ h < 12 * n * n ∧
      0 ≤ dl ∧ dl < 1 ∧ 0 ≤ dh ∧ dh < 1 ∧ centerOfProjectedCell (α := ℝ) debug n h = some (cx, cy) ∧
      (|X - cx| + |Y - cy| ≤ 1 / n ∨ |X - 8 - cx| + |Y - cy| ≤ 1 / n) :=
  ring_hash_contains_partial debug hn hN (ringIndexExact_holds n hN) hg

theorem ring_sph_coo_inverts_uncond (debug : Bool) {n : Nat} (hn : 1 ≤ n) (hN : n < 2 ^ 30)
    {X Y : ℝ} (hg : GoodPoint X Y) (h : ℕ) (dx dy : ℝ) (hh : hashPlaneDxDy debug n X Y = some (h, dx, dy)) :
    sphCoo debug n h dx dy = unproj X Y ∧ 0 ≤ dx ∧ dx < 1 ∧ 0 ≤ dy ∧ dy < 1 :=
  ring_sph_coo_inverts debug hn hN (ringIndexExact_holds n hN) hg h dx dy hh

theorem ring_sph_coo_inverts_sphere_uncond (debug : Bool) {n : Nat} (hn : 1 ≤ n) (hN : n < 2 ^ 30)
    (lon lat X Y : ℝ) (hp : proj lon lat = some (X, Y)) (hg : GoodPoint (ensuresXIsPositive X) Y)
    (h : ℕ) (dx dy : ℝ) (hh : hashWithDxDy debug n lon lat = some (h, dx, dy)) :
    sphCoo debug n h dx dy = unproj (ensuresXIsPositive X) Y :=
  ring_sph_coo_inverts_sphere debug hn hN (ringIndexExact_holds n hN) lon lat X Y hp hg h dx dy hh

theorem ring_hash_contains_sphere_partial_uncond (debug : Bool) {n : Nat} (hn : 1 ≤ n) (hN : n < 2 ^ 30)
    (lon lat X Y : ℝ) (hp : proj lon lat = some (X, Y)) (hg : GoodPoint (ensuresXIsPositive X) Y) :
    ∃ (h : ℕ) (cx cy : ℝ), Ring.hash debug n lon lat = some h ∧ h < 12 * n * n ∧
      centerOfProjectedCell (α := ℝ) debug n h = some (cx, cy) ∧
      (|ensuresXIsPositive X - cx| + |Y - cy| ≤ 1 / n ∨ |ensuresXIsPositive X - 8 - cx| + |Y - cy| ≤ 1 / n) :=
  ring_hash_contains_sphere_partial debug hn hN (ringIndexExact_holds n hN) lon lat X Y hp hg

theorem ring_hash_sphere_partial_uncond (debug : Bool) {n : Nat} (hn : 1 ≤ n) (hN : n < 2 ^ 30)
    (lon lat : ℝ) (hlon0 : 0 ≤ lon) (hlon1 : lon < 2 * π) (hlat0 : -(π / 2) ≤ lat) (hlat1 : lat ≤ π / 2)
    (hseam : lat < Real.arcsin (2 / 3) ∨ (lat < π / 2 ∧ ∀ k : ℕ, lon ≠ k * (π / 2))) :
    ∃ (X Y : ℝ) (h : ℕ) (cx cy : ℝ), proj (α := ℝ) lon lat = some (X, Y) ∧ Ring.hash debug n lon lat = some h ∧
      h < 12 * n * n ∧ centerOfProjectedCell (α := ℝ) debug n h = some (cx, cy) ∧
      (|X - cx| + |Y - cy| ≤ 1 / n ∨ |X - 8 - cx| + |Y - cy| ≤ 1 / n) :=
  ring_hash_sphere_partial debug hn hN (ringIndexExact_holds n hN) lon lat hlon0 hlon1 hlat0 hlat1 hseam

theorem ring_sph_coo_sphere_partial_uncond (debug : Bool) {n : Nat} (hn : 1 ≤ n) (hN : n < 2 ^ 30)
    (lon lat : ℝ) (hlon0 : 0 ≤ lon) (hlon1 : lon < 2 * π) (hlat0 : -(π / 2) ≤ lat) (hlat1 : lat ≤ π / 2)
    (hseam : lat < Real.arcsin (2 / 3) ∨ (lat < π / 2 ∧ ∀ k : ℕ, lon ≠ k * (π / 2))) :
    ∃ (X Y : ℝ) (h : ℕ) (dx dy : ℝ), proj (α := ℝ) lon lat = some (X, Y) ∧
      hashWithDxDy debug n lon lat = some (h, dx, dy) ∧ h < 12 * n * n ∧ 0 ≤ dx ∧ dx < 1 ∧ 0 ≤ dy ∧ dy < 1 ∧
      sphCoo debug n h dx dy = unproj X Y :=
  ring_sph_coo_sphere_partial debug hn hN (ringIndexExact_holds n hN) lon lat hlon0 hlon1 hlat0 hlat1 hseam

theorem ring_sph_coo_roundtrip_north_uncond (debug : Bool) {n : Nat} (hn : 1 ≤ n) (hN : n < 2 ^ 30)
    (lon lat : ℝ) (hlon0 : 0 ≤ lon) (hlon1 : lon < 2 * π) (hlat0 : 0 ≤ lat) (hlat1 : lat ≤ π / 2)
    (hpole : (Num.epsPole : ℝ) < Real.sqrt 6 * Real.cos (1 / 2 * lat + π / 4))
    (hseam : lat < Real.arcsin (2 / 3) ∨ (lat < π / 2 ∧ ∀ k : ℕ, lon ≠ k * (π / 2))) :
    ∃ (h : ℕ) (dx dy : ℝ), hashWithDxDy debug n lon lat = some (h, dx, dy) ∧ sphCoo debug n h dx dy = some (lon, lat) :=
  ring_sph_coo_roundtrip_north debug hn hN (ringIndexExact_holds n hN) lon lat hlon0 hlon1 hlat0 hlat1
    hpole hseam

/-- the unconditional theorems are not vacuous: the largest NSIDE of the statements (not a power of two, beyond
    `nside_max`), a cell far beyond enumeration -/
example : ∃ cx cy dl dh : ℝ, centerOfProjectedCell (α := ℝ) true 1073741823 13000000000000000000 = some (cx, cy) ∧
      hashPlane true 1073741823 cx cy = some (13000000000000000000, dl, dh) ∧
      ((dl, dh) = (1 / 2, 0) ∨ (dl, dh) = (0, 1 / 2)) ∧ dldhToDxDy dl dh = (1 / 2, 1 / 2) :=
  ring_hash_center_uncond true (n := 1073741823) (by norm_num) (by norm_num) _ (by norm_num)

theorem capRing {n r : ℕ} (hr : r < n) :
    perFacet n r = r + 1 ∧ cxOff n r = n - r ∧ ringStart n r = tri4 r ∧ cyI n r = 2 * (n : ℤ) - 1 - r :=
  ⟨perFacet_north hr, cxOff_north hr, ringStart_north hr, rfl⟩

theorem ring0 {n : ℕ} (hn : 1 ≤ n) :
    perFacet n 0 = 1 ∧ cxOff n 0 = n ∧ ringStart n 0 = 0 ∧ cyI n 0 = 2 * (n : ℤ) - 1 :=
  ⟨perFacet_north hn, cxOff_north hn, ringStart_zero n hn, by unfold cyI; omega⟩

theorem capCell {n r q j : ℕ} (hr : r < n) (hq : q < 4) (hj : j ≤ r) :
    q * (r + 1) + j < 4 * perFacet n r ∧ cxI n r (q * (r + 1) + j) = 2 * n * q + 2 * j + (n - r) := by
  obtain ⟨hp, hc, -, -⟩ := capRing hr
  have := cxI_facet (n := n) (r := r) (q := q) (j := j) (by omega)
  rw [hp] at this ⊢
  exact ⟨facet_index_lt hq (by omega), by rw [this, hc]⟩

theorem cxI_single {n r q : ℕ} (hp : perFacet n r = 1) : cxI n r q = 2 * n * q + cxOff n r := by
  have := cxI_facet (n := n) (r := r) (q := q) (j := 0) (by omega)
  rw [hp] at this
  simp only [Nat.mul_one, Nat.add_zero, Nat.mul_zero] at this
  exact this

theorem cxI_ring0 {n q : ℕ} (hn : 1 ≤ n) : cxI n 0 q = 2 * n * q + n := by
  obtain ⟨hp, hc, -, -⟩ := ring0 hn
  rw [cxI_single hp, hc]

/-! ## the phantom diamonds next to the north-cap seams -/

/-- phantom diamond EAST of the last cell of facet `q` (row `K = 4n + m + 1`, `0 ≤ m ≤ n − 2`: the ring `r = n − 2 − m`, with
    `r + 1` cells per facet; `I' = n(q+1) − ⌊(m+1)/2⌋`), both profiles, no underflow.  The index correction sends it to a
    cell whose centre is not the centre `2n(q+1) − m` of the phantom: for `m = 0`, `I'/n = q + 1` already and it lands on
    the LAST cell of facet `q` (one cell west of the phantom); for `m ≥ 1` on index `(q+1)(r+1)` of the ring — the FIRST
    cell of facet `q + 1`, on the other side of the gap, which for `q = 3` is the first cell of the next ring to the south
    (just east of `x = 0 ≡ 8`) -/
theorem hashTail_phantom_east {α : Type} [Num α] (debug : Bool) {n m q I' : Nat} (dl dh : α) (hn30 : n < 2 ^ 30)
    (hm : m + 2 ≤ n) (hq : q < 4) (hI : I' + (m + 1) / 2 = n * (q + 1)) :
    ∃ r i, r < n ∧ i < 4 * perFacet n r ∧ hashTail debug n dl dh (4 * n + m + 1) I' = some (ringStart n r + i, dl, dh) ∧
      (m = 0 ∧ cxI n r i + 2 = 2 * n * (q + 1) ∨ 1 ≤ m ∧ q < 3 ∧ cxI n r i = 2 * n * (q + 1) + m + 2 ∨
        1 ≤ m ∧ q = 3 ∧ cxI n r i = m + 1) := by
  -- `r` is the ring of the row `off = m + 1`, with `r + 1` cells per facet
  obtain ⟨r, hr⟩ : ∃ r, n = r + m + 2 := ⟨n - 2 - m, by omega⟩
  have ht := fun q s => hashTail_north_facet debug (n := n) (off := m + 1) (q := q) (s := s) dl dh hn30 (by omega)
  rw [show n - 1 - (m + 1) = r by omega, show n - (m + 1) = r + 1 by omega] at ht
  have hs := ringStart_north (n := n) (t := r) (by omega)
  have e1 : n * (q + 1) = n * q + n := Nat.mul_succ _ _
  rw [Nat.add_assoc (4 * n) m 1]
  by_cases h0 : m = 0
  · -- `I' = n·(q+1)`: the first diamond of the next stretch, sent to the last cell of facet `q`
    obtain ⟨hi, hcx⟩ := capCell (n := n) (r := r) (q := q) (j := r) (by omega) hq le_rfl
    refine ⟨r, _, by omega, hi, ?_, Or.inl ⟨h0, by rw [hcx, Nat.mul_add_one _ q]; omega⟩⟩
    rw [show I' = n * (q + 1) + 0 by omega, ht _ _ (by omega) (by omega) (by rw [Nat.add_one_mul]; omega), hs,
      Nat.add_one_mul]
    congr 3; omega
  · -- `I' = n·q + (n − ⌊off/2⌋)`: still in stretch `q`, beyond its `r + 1` cells
    rw [show I' = n * q + (r + 1 + (m + 1 + 1) / 2) by omega, ht _ _ (by omega) (by omega) (by omega),
      ← Nat.add_assoc (q * (r + 1)), Nat.add_sub_cancel, ← Nat.add_one_mul]
    by_cases hq3 : q = 3
    · -- facet 3: index `4(r + 1)`, the first cell of the next ring
      subst hq3
      obtain ⟨hi, hcx⟩ := capCell (n := n) (r := r + 1) (q := 0) (j := 0) (by omega) (by omega) (by omega)
      refine ⟨r + 1, _, by omega, hi, ?_, Or.inr (Or.inr ⟨by omega, rfl, by rw [hcx]; omega⟩)⟩
      rw [ringStart_north (by omega), tri4_succ]
      congr 2; omega
    · obtain ⟨hi, hcx⟩ := capCell (n := n) (r := r) (q := q + 1) (j := 0) (by omega) (by omega) (by omega)
      refine ⟨r, _, by omega, hi, ?_, Or.inr (Or.inl ⟨by omega, by omega, by rw [hcx]; omega⟩)⟩
      rw [hs]; rfl

/-! ### what the plane function returns on the eight north-cap seams -/

/-- **west seam, last ring** (`2 − 1/n ≤ y < 2`; the whole seam when `n = 1`): the phantom diamond is in the row
    `K = 5n` of the code's "north pole" exit, which returns cell `q` of the first ring with the conventional offsets
    `(1, 1)`, in both profiles.  Cell `q` is the right answer (the point is on its NW edge). -/
theorem hashPlane_seam_west_top (debug : Bool) {n q : ℕ} (hn : 1 ≤ n) (hn30 : n < 2 ^ 30) (hq : q < 4) {Y : ℝ}
    (h1 : 2 * (n : ℝ) - 1 ≤ n * Y) (h2 : Y < 2) : hashPlane debug n (2 * q + (Y - 1)) Y = some (q, 1, 1) := by
  have hn0 : (1 : ℝ) ≤ n := by exact_mod_cast hn
  have hY1 : 1 ≤ Y := by nlinarith
  obtain ⟨dl, dh, hP⟩ := hashPlane_west_tail debug (m := n - 1) hn hn30 hq rfl hY1 h2
    (by rw [Nat.cast_pred hn]; linarith) (by rw [Nat.cast_pred hn]; nlinarith)
  rw [hP, hashTail_pole debug _ _ hn (by omega), r_one]
  have : (n * q + (n - 1) / 2) / n = q := by
    apply Nat.div_eq_of_lt_le
    · rw [Nat.mul_comm]; omega
    · rw [Nat.add_mul, Nat.mul_comm q n]; omega
  rw [this]

/-- **east seam, last ring** (`2 − 1/n ≤ y < 2`, `1 < y`): "north pole" exit again; it returns cell `q` (right: the point
    is on its NE edge) for every `n ≥ 2`, but cell `q + 1` when `n = 1` (`i_in_ring / nside` with `i_in_ring = q + 1`):
    wrong, and for `q = 3` it is cell 4, an equatorial cell -/
theorem hashPlane_seam_east_top (debug : Bool) {n q : ℕ} (hn : 1 ≤ n) (hn30 : n < 2 ^ 30) (hq : q < 4) {Y : ℝ}
    (h1 : 2 * (n : ℝ) - 1 ≤ n * Y) (hY1 : 1 < Y) (h2 : Y < 2) :
    hashPlane debug n (2 * q + 2 - (Y - 1)) Y = some (if n = 1 then q + 1 else q, 1, 1) := by
  have hn0 : (1 : ℝ) ≤ n := by exact_mod_cast hn
  have hqr : (q : ℝ) ≤ 3 := by
    have : q ≤ 3 := by omega
    exact_mod_cast this
  obtain ⟨dl, dh, hP⟩ := hashPlane_east_tail debug (q := q) (m := n - 1) hn hn30 (le_of_lt hY1) h2
    (by linarith) (by rw [Nat.cast_pred hn]; linarith) (by rw [Nat.cast_pred hn]; nlinarith)
  rw [hP, hashTail_pole debug _ _ hn (by omega), r_one]
  have e1 : n * (q + 1) = n * q + n := by ring
  by_cases hone : n = 1
  · subst hone; simp
  · rw [if_neg hone]
    have : (n * (q + 1) - (n - 1 + 1) / 2) / n = q := by
      apply Nat.div_eq_of_lt_le
      · rw [Nat.mul_comm]; omega
      · rw [Nat.add_mul, Nat.mul_comm q n]; omega
    rw [this]

/-- **east seam of facet `q` below the last ring** (`n ≥ 2`, `1 < y < 2 − 1/n`, `m = ⌊n(y−1)⌋ ≤ n − 2`), both profiles, no
    panic: the three landing places of `hashTail_phantom_east`, counted in half-steps from the corner `x = 2(q+1)` of the
    triangle (from `x = 0` for `q = 3`) -/
theorem hashPlane_seam_east_low (debug : Bool) {n q m : ℕ} (hn30 : n < 2 ^ 30) (hq : q < 4)
    {Y : ℝ} (h1 : 1 < Y) (hm1 : (m : ℝ) ≤ n * (Y - 1)) (hm2 : (n : ℝ) * (Y - 1) < m + 1) (hm : m + 2 ≤ n) :
    ∃ (r i : ℕ) (dl dh : ℝ), r < n ∧ i < 4 * perFacet n r ∧
      hashPlane debug n (2 * q + 2 - (Y - 1)) Y = some (ringStart n r + i, dl, dh) ∧
      (m = 0 ∧ cxI n r i + 2 = 2 * n * (q + 1) ∨ 1 ≤ m ∧ q < 3 ∧ cxI n r i = 2 * n * (q + 1) + m + 2 ∨
        1 ≤ m ∧ q = 3 ∧ cxI n r i = m + 1) := by
  have hmr : (m : ℝ) + 2 ≤ n := by exact_mod_cast hm
  have h2 : Y < 2 := lt_of_mul_lt_mul_left (by linarith : (n : ℝ) * Y < n * 2) (Nat.cast_nonneg n)
  have hqr : (q : ℝ) ≤ 3 := by exact_mod_cast (by omega : q ≤ 3)
  obtain ⟨dl, dh, hP⟩ := hashPlane_east_tail debug (q := q) (m := m) (by omega) hn30 (le_of_lt h1) h2
    (by linarith) hm1 hm2
  have hle : n ≤ n * (q + 1) := Nat.le_mul_of_pos_right n (by omega)
  obtain ⟨r, i, hr, hi, ht, hcx⟩ :=
    hashTail_phantom_east debug dl dh hn30 hm hq (Nat.sub_add_cancel (by omega) : n * (q + 1) - (m + 1) / 2 + _ = _)
  exact ⟨r, i, dl, dh, hr, hi, by rw [hP, ht], hcx⟩

/-! ## right and wrong answers on the north-cap seams -/

/-- `h` is a cell of the RING scheme of `nside = n` and its closed diamond (half-diagonal `1/n` around
    `center_of_projected_cell`, modulo 8 in `x`) contains the plane point: the conclusion of `ring_hash_contains` -/
def Contains (debug : Bool) (n h : ℕ) (X Y : ℝ) : Prop :=
  h < 12 * n * n ∧ ∃ cx cy : ℝ, centerOfProjectedCell (α := ℝ) debug n h = some (cx, cy) ∧
    (|X - cx| + |Y - cy| ≤ 1 / n ∨ |X - 8 - cx| + |Y - cy| ≤ 1 / n)

/-- `h` is a wrong answer for the plane point: not a cell number at all, or a cell whose closed diamond — and every
    translate of it by a multiple of 8 in `x` — misses the point -/
def Misses (debug : Bool) (n h : ℕ) (X Y : ℝ) : Prop :=
  12 * n * n ≤ h ∨ ∃ cx cy : ℝ, centerOfProjectedCell (α := ℝ) debug n h = some (cx, cy) ∧
    ∀ k : ℤ, 1 / (n : ℝ) < |X + 8 * k - cx| + |Y - cy|

theorem misses_not_contains {debug : Bool} {n h : ℕ} {X Y : ℝ} (hm : Misses debug n h X Y) :
    ¬ Contains debug n h X Y := by
  rintro ⟨hlt, cx, cy, hc, hor⟩
  rcases hm with h1 | ⟨cx', cy', hc', hall⟩
  · omega
  · rw [hc] at hc'
    simp only [Option.some.injEq, Prod.mk.injEq] at hc'
    obtain ⟨rfl, rfl⟩ := hc'
    rcases hor with h | h
    · have := hall 0
      simp only [Int.cast_zero, mul_zero, add_zero] at this
      linarith
    · have := hall (-1)
      have e : X + 8 * ((-1 : ℤ) : ℝ) - cx = X - 8 - cx := by push_cast; ring
      rw [e] at this
      linarith

/-- a cell whose centre lies more than one half-step west of the point and, the other way round the plane (`x` is taken
    modulo 8, whence `k₀`), more than one half-step east of it -/
theorem misses_far_x (debug : Bool) {n r i : ℕ} (hn : 1 ≤ n) (hN : n < 2 ^ 30) (hr : r < 4 * n - 1)
    (hi : i < 4 * perFacet n r) {X Y : ℝ} (k₀ : ℤ) (h0 : 1 < (n : ℝ) * X - cxI n r i + 8 * n * k₀)
    (h1 : (n : ℝ) * X - cxI n r i + 8 * n * k₀ < 8 * n - 1) : Misses debug n (ringStart n r + i) X Y := by
  have hn0 : (0 : ℝ) < n := by exact_mod_cast hn
  refine Or.inr ⟨_, _, center_eq_uncond debug hn hN hr hi, fun k => ?_⟩
  have hfar : 1 < |(n : ℝ) * (X + 8 * k) - cxI n r i| := by
    rw [show (n : ℝ) * (X + 8 * k) - cxI n r i = (n : ℝ) * X - cxI n r i + 8 * n * k₀ + 8 * n * ((k - k₀ : ℤ) : ℝ) by
      push_cast; ring, lt_abs]
    rcases le_or_gt k₀ k with hk | hk
    · have : (0 : ℝ) ≤ ((k - k₀ : ℤ) : ℝ) := by exact_mod_cast (by omega : 0 ≤ k - k₀)
      exact Or.inl (by linarith only [h0, mul_nonneg (by linarith only [hn0] : (0 : ℝ) ≤ 8 * n) this])
    · have : ((k - k₀ : ℤ) : ℝ) ≤ -1 := by exact_mod_cast (by omega : k - k₀ ≤ -1)
      exact Or.inr (by linarith only [h1, mul_le_mul_of_nonneg_left this (by linarith only [hn0] : (0 : ℝ) ≤ 8 * n)])
  rw [abs_sub_div hn0]
  linarith only [div_lt_div_of_pos_right hfar hn0, abs_nonneg (Y - (cyI n r : ℝ) / n)]

theorem misses_far_y (debug : Bool) {n r i : ℕ} (hn : 1 ≤ n) (hN : n < 2 ^ 30) (hr : r < 4 * n - 1)
    (hi : i < 4 * perFacet n r) {X Y : ℝ} (h : 1 < |(n : ℝ) * Y - cyI n r|) :
    Misses debug n (ringStart n r + i) X Y := by
  have hn0 : (0 : ℝ) < n := by exact_mod_cast hn
  refine Or.inr ⟨_, _, center_eq_uncond debug hn hN hr hi, fun k => ?_⟩
  rw [abs_sub_div hn0 Y]
  have h1 : 1 / (n : ℝ) < |(n : ℝ) * Y - cyI n r| / n := div_lt_div_of_pos_right h hn0
  linarith [abs_nonneg (X + 8 * (k : ℝ) - (cxI n r i : ℝ) / n)]

theorem contains_near (debug : Bool) {n r i : ℕ} (hn : 1 ≤ n) (hN : n < 2 ^ 30) (hr : r < 4 * n - 1)
    (hi : i < 4 * perFacet n r) {X Y : ℝ} (h : |(n : ℝ) * X - cxI n r i| + |(n : ℝ) * Y - cyI n r| ≤ 1) :
    Contains debug n (ringStart n r + i) X Y := by
  have hn0 : (0 : ℝ) < n := by exact_mod_cast hn
  refine ⟨ringStart_add_lt hn hr hi, _, _, center_eq_uncond debug hn hN hr hi, Or.inl ?_⟩
  rw [abs_sub_div hn0, abs_sub_div hn0, ← add_div]
  exact div_le_div_of_nonneg_right h (le_of_lt hn0)

theorem contains_top (debug : Bool) {n q : ℕ} (hn : 1 ≤ n) (hN : n < 2 ^ 30) (hq : q < 4) {X Y : ℝ}
    (h1 : 2 * (n : ℝ) - 1 ≤ n * Y) (h2 : Y ≤ 2) (hX : X = 2 * q + (Y - 1) ∨ X = 2 * q + 2 - (Y - 1)) :
    Contains debug n q X Y := by
  have hn0 : (0 : ℝ) < n := by exact_mod_cast hn
  have hnY : (n : ℝ) * Y ≤ n * 2 := mul_le_mul_of_nonneg_left h2 hn0.le
  obtain ⟨hp, -, hs, hy⟩ := ring0 hn
  have := contains_near debug (n := n) (r := 0) (i := q) hn hN (by omega) (by rw [hp]; omega) (X := X) (Y := Y) (by
    rw [cxI_ring0 hn, hy]
    push_cast
    have e2 : |(n : ℝ) * Y - (2 * n - 1)| = n * Y - (2 * n - 1) := abs_of_nonneg (by linarith)
    rw [e2]
    rcases hX with rfl | rfl
    · have e1 : |(n : ℝ) * (2 * q + (Y - 1)) - (2 * n * q + n)| = -((n : ℝ) * (2 * q + (Y - 1)) - (2 * n * q + n)) :=
        abs_of_nonpos (by linarith)
      rw [e1]; linarith
    · have e1 : |(n : ℝ) * (2 * q + 2 - (Y - 1)) - (2 * n * q + n)| = (n : ℝ) * (2 * q + 2 - (Y - 1)) - (2 * n * q + n) :=
        abs_of_nonneg (by linarith)
      rw [e1]; linarith)
  rwa [hs, Nat.zero_add] at this

theorem two_le_of_low {n : ℕ} {Y : ℝ} (h1 : 1 ≤ Y) (h3 : (n : ℝ) * Y < 2 * n - 1) : 2 ≤ n := by
  have : (n : ℝ) * 1 ≤ n * Y := mul_le_mul_of_nonneg_left h1 (Nat.cast_nonneg n)
  exact_mod_cast (by linarith : (1 : ℝ) < n)

theorem seam_west0_wrong {n : ℕ} (hN : n < 2 ^ 30) {Y : ℝ} (h1 : 1 ≤ Y) (h3 : (n : ℝ) * Y < 2 * n - 1) :
    hashPlane true n (Y - 1) Y = none ∧
    ∃ (h : ℕ) (dl dh : ℝ), hashPlane false n (Y - 1) Y = some (h, dl, dh) ∧ Misses false n h (Y - 1) Y := by
  refine ⟨hashPlane_seam_north_west hN h1 h3, ?_⟩
  obtain ⟨m, hm1, hm2⟩ := floor_m (n := n) h1
  have hm := m_le_of_low hm1 h3
  obtain ⟨dl, dh, hP⟩ := hashPlane_seam_west0 false hN h1 hm1 hm2 hm
  refine ⟨_, dl, dh, hP, ?_⟩
  have hlt := tri4_lt_u64 (t := n - 2 - m) hN (by omega)
  rcases Nat.eq_zero_or_pos (n - 2 - m) with h0 | hpos
  · -- the ring next to the last one: the number `2^64 − 1`, not a cell
    left
    have : n * n ≤ 2 ^ 30 * 2 ^ 30 := Nat.mul_le_mul (by omega) (by omega)
    rw [h0, tri4_zero, Nat.mul_assoc]; omega
  · -- the LAST cell `tri4 (ρ + 1) − 1` of the ring `ρ`, one row north of the phantom, two north of the cell of the point
    obtain ⟨ρ, hρ⟩ := Nat.exists_eq_add_one_of_ne_zero hpos.ne'
    obtain ⟨hp, -, hs, hy⟩ := capRing (n := n) (r := ρ) (by omega)
    rw [hρ, tri4_succ] at hlt ⊢
    rw [show (tri4 ρ + 4 * (ρ + 1) + (2 ^ 64 - 1)) % 2 ^ 64 = ringStart n ρ + (4 * (ρ + 1) - 1) by rw [hs]; omega]
    apply misses_far_y false (by omega) hN (by omega) (by rw [hp]; omega)
    rw [hy, lt_abs]; right
    have hc : (n : ℝ) = ρ + m + 3 := by exact_mod_cast (by omega : n = ρ + m + 3)
    push_cast
    linarith only [hc, hm2]

theorem seam_west_low_wrong (debug : Bool) {n q : ℕ} (hN : n < 2 ^ 30) (hq1 : 1 ≤ q) (hq : q < 4) {Y : ℝ}
    (h1 : 1 ≤ Y) (h3 : (n : ℝ) * Y < 2 * n - 1) :
    ∃ (h : ℕ) (dl dh : ℝ), hashPlane debug n (2 * q + (Y - 1)) Y = some (h, dl, dh) ∧ h < 12 * n * n ∧
      Misses debug n h (2 * q + (Y - 1)) Y := by
  have hn2 := two_le_of_low h1 h3
  obtain ⟨r, i, dl, dh, hr, hi, hP, hx1, hx2⟩ := hashPlane_seam_west debug hn2 hN hq1 hq h1 h3
  have hn0 : (2 : ℝ) ≤ n := by exact_mod_cast hn2
  have hc0 : (0 : ℝ) ≤ cxI n r i := Nat.cast_nonneg _
  -- the centre lies at least two half-steps west of the point, and the point west of `x = 7`
  exact ⟨_, dl, dh, hP, ringStart_add_lt (by omega) hr hi, misses_far_x debug (by omega) hN hr hi 0
    (by push_cast; linarith only [hx1]) (by push_cast; linarith only [hx1, hx2, hc0, hn0])⟩

theorem seam_east_low_wrong (debug : Bool) {n q : ℕ} (hN : n < 2 ^ 30) (hq : q < 4) {Y : ℝ}
    (h1 : 1 < Y) (h3 : (n : ℝ) * Y < 2 * n - 1) :
    ∃ (h : ℕ) (dl dh : ℝ), hashPlane debug n (2 * q + 2 - (Y - 1)) Y = some (h, dl, dh) ∧ h < 12 * n * n ∧
      Misses debug n h (2 * q + 2 - (Y - 1)) Y := by
  obtain ⟨m, hm1, hm2⟩ := floor_m (n := n) (le_of_lt h1)
  have hm := m_le_of_low hm1 h3
  obtain ⟨r, i, dl, dh, hr, hi, hP, hcx⟩ := hashPlane_seam_east_low debug hN hq h1 hm1 hm2 hm
  have hmr : (m : ℝ) + 2 ≤ n := by exact_mod_cast hm
  have hm0 : (0 : ℝ) ≤ m := Nat.cast_nonneg m
  have hw0 : 0 < (n : ℝ) * (Y - 1) := mul_pos (by linarith only [hmr, hm0]) (by linarith only [h1])
  refine ⟨_, dl, dh, hP, ringStart_add_lt (by omega) (by omega) hi, ?_⟩
  -- the point lies `w = n(y − 1) ∈ (0, m + 1)` half-steps west of the corner `2n(q+1)`
  rcases hcx with ⟨rfl, hc⟩ | ⟨h0, -, hc⟩ | ⟨h0, rfl, hc⟩
  · have hc' : (cxI n r i : ℝ) + 2 = 2 * n * (q + 1) := by exact_mod_cast hc
    exact misses_far_x debug (by omega) hN (by omega) hi 0 (by push_cast at hm2 ⊢; linarith only [hc', hm2])
      (by push_cast; linarith only [hc', hw0, hmr])
  · have hc' : (cxI n r i : ℝ) = 2 * n * (q + 1) + m + 2 := by exact_mod_cast hc
    exact misses_far_x debug (by omega) hN (by omega) hi 1 (by push_cast; linarith only [hc', hm2, hmr, hm0])
      (by push_cast; linarith only [hc', hw0, hm0])
  · have hc' : (cxI n r i : ℝ) = m + 1 := by exact_mod_cast hc
    exact misses_far_x debug (by omega) hN (by omega) hi 0 (by push_cast; linarith only [hc', hm2, hmr, hm0])
      (by push_cast; linarith only [hc', hw0, hm0])

theorem seam_east_one_wrong (debug : Bool) {q : ℕ} (hq : q < 4) {Y : ℝ} (h1 : 1 < Y) (h2 : Y < 2) :
    hashPlane debug 1 (2 * q + 2 - (Y - 1)) Y = some (q + 1, 1, 1) ∧ Misses debug 1 (q + 1) (2 * q + 2 - (Y - 1)) Y := by
  have hP := hashPlane_seam_east_top debug (n := 1) (q := q) (by norm_num) (by norm_num) hq (Y := Y)
    (by push_cast; linarith) h1 h2
  rw [if_pos rfl] at hP
  refine ⟨hP, ?_⟩
  by_cases hq3 : q = 3
  · subst hq3
    have e : 3 + 1 = ringStart 1 1 + 0 := by decide
    rw [e]
    apply misses_far_y debug (by norm_num) (by norm_num) (by norm_num) (by decide)
    have : cyI 1 1 = 0 := by decide
    rw [this, lt_abs]; left; push_cast; linarith
  · obtain ⟨hp, -, hs, -⟩ := ring0 (n := 1) (by norm_num)
    have e : q + 1 = ringStart 1 0 + (q + 1) := by rw [hs]; omega
    have hc := cxI_ring0 (n := 1) (q := q + 1) le_rfl
    rw [e]
    exact misses_far_x debug le_rfl (by norm_num) (by norm_num) (by rw [hp]; omega) 1
      (by rw [hc]; push_cast; linarith) (by rw [hc]; push_cast; linarith)

/-- the plane part of `ring::hash` on the two slanted edges of the north Collignon triangle `q`, in the dev profile
    (`debug = true`, `none` = panic) and in the release profile: three clauses for the WEST edge `x = 2q + (y − 1)` (on
    the sphere `lon = q·π/2`), three for the EAST edge `x = 2q + 2 − (y − 1)` (`lon = −(3−q)·π/2`, not reached from
    `lon ∈ [0, 2π)`); they are read out one by one above `C11.ring_hash_seam_north_spec`. -/
theorem ring_hash_seam_north_spec {n q : ℕ} (hn : 1 ≤ n) (hN : n < 2 ^ 30) (hq : q < 4) {Y : ℝ} (h1 : 1 ≤ Y) (h2 : Y < 2) :
    ((2 * (n : ℝ) - 1 ≤ n * Y → ∀ debug, hashPlane debug n (2 * q + (Y - 1)) Y = some (q, 1, 1) ∧
        Contains debug n q (2 * q + (Y - 1)) Y) ∧
     ((n : ℝ) * Y < 2 * n - 1 → q = 0 → hashPlane true n (2 * q + (Y - 1)) Y = none ∧
        ∃ (h : ℕ) (dl dh : ℝ), hashPlane false n (2 * q + (Y - 1)) Y = some (h, dl, dh) ∧
          Misses false n h (2 * q + (Y - 1)) Y) ∧
     ((n : ℝ) * Y < 2 * n - 1 → 1 ≤ q → ∀ debug, ∃ (h : ℕ) (dl dh : ℝ),
        hashPlane debug n (2 * q + (Y - 1)) Y = some (h, dl, dh) ∧ h < 12 * n * n ∧
          Misses debug n h (2 * q + (Y - 1)) Y)) ∧
    (1 < Y →
     (2 * (n : ℝ) - 1 ≤ n * Y → 2 ≤ n → ∀ debug, hashPlane debug n (2 * q + 2 - (Y - 1)) Y = some (q, 1, 1) ∧
        Contains debug n q (2 * q + 2 - (Y - 1)) Y) ∧
     (n = 1 → ∀ debug, hashPlane debug n (2 * q + 2 - (Y - 1)) Y = some (q + 1, 1, 1) ∧
        Misses debug n (q + 1) (2 * q + 2 - (Y - 1)) Y) ∧
     ((n : ℝ) * Y < 2 * n - 1 → ∀ debug, ∃ (h : ℕ) (dl dh : ℝ),
        hashPlane debug n (2 * q + 2 - (Y - 1)) Y = some (h, dl, dh) ∧ h < 12 * n * n ∧
          Misses debug n h (2 * q + 2 - (Y - 1)) Y)) := by
  have hn0 : (1 : ℝ) ≤ n := by exact_mod_cast hn
  refine ⟨⟨?_, ?_, ?_⟩, fun hY1 => ⟨?_, ?_, ?_⟩⟩
  · intro h3 debug
    exact ⟨hashPlane_seam_west_top debug hn hN hq h3 h2, contains_top debug hn hN hq h3 (le_of_lt h2) (Or.inl rfl)⟩
  · intro h3 hq0
    subst hq0
    have e0 : (2 : ℝ) * ((0 : ℕ) : ℝ) + (Y - 1) = Y - 1 := by simp
    rw [e0]
    exact seam_west0_wrong hN h1 h3
  · intro h3 hq1 debug
    exact seam_west_low_wrong debug hN hq1 hq h1 h3
  · intro h3 hn2 debug
    have := hashPlane_seam_east_top debug hn hN hq h3 hY1 h2
    rw [if_neg (by omega)] at this
    exact ⟨this, contains_top debug hn hN hq h3 (le_of_lt h2) (Or.inr rfl)⟩
  · intro h1n debug
    subst h1n
    exact seam_east_one_wrong debug hq hY1 h2
  · intro h3 debug
    exact seam_east_low_wrong debug hN hq hY1 h3

/-! ### concrete instances (cross-checked against `#eval` of the model at `Float`, where these dyadic points are exact) -/

/-- `n = 4`, west seam of facet 0 at `y = 9/8`: the release profile returns cell 11 = `tri4 2 − 1` -/
example : ∃ dl dh : ℝ, hashPlane false 4 ((9 : ℝ) / 8 - 1) (9 / 8) = some (11, dl, dh) := by
  have := hashPlane_seam_west0 false (n := 4) (m := 0) (Y := 9 / 8) (by norm_num) (by norm_num) (by norm_num)
    (by norm_num) (by norm_num)
  have e : (tri4 (4 - 2 - 0) + (2 ^ 64 - 1)) % 2 ^ 64 = 11 := by decide
  rwa [e] at this

/-- `n = 4`, east seam of facet 3 at `y = 11/8`: both profiles return cell 12, the first cell of the NEXT ring -/
example (debug : Bool) : ∃ dl dh : ℝ, hashPlane debug 4 (2 * ((3 : ℕ) : ℝ) + 2 - ((11 : ℝ) / 8 - 1)) (11 / 8) = some (12, dl, dh) := by
  obtain ⟨dl, dh, hP⟩ := hashPlane_east_tail debug (n := 4) (q := 3) (m := 1) (Y := 11 / 8) (by norm_num) (by norm_num)
    (by norm_num) (by norm_num) (by norm_num) (by norm_num) (by norm_num)
  exact ⟨dl, dh, hP.trans (hashTail_north_facet debug (n := 4) (off := 2) (q := 3) (s := 3) dl dh (by norm_num)
    (by norm_num) (by norm_num) (by norm_num) (by norm_num))⟩

/-- the hypotheses of the specification are satisfiable, and its clauses are not vacuous: `n = 3`, `q = 1`, `y = 5/4` is
    below the last ring (`3·5/4 < 5`) -/
example : ∀ debug, ∃ (h : ℕ) (dl dh : ℝ), hashPlane debug 3 (2 * ((1 : ℕ) : ℝ) + ((5 : ℝ) / 4 - 1)) (5 / 4) = some (h, dl, dh) ∧
    h < 12 * 3 * 3 ∧ Misses debug 3 h (2 * ((1 : ℕ) : ℝ) + ((5 : ℝ) / 4 - 1)) (5 / 4) :=
  (ring_hash_seam_north_spec (n := 3) (q := 1) (Y := 5 / 4) (by norm_num) (by norm_num) (by norm_num) (by norm_num)
    (by norm_num)).1.2.2 (by norm_num) (by norm_num)

/-! ## the south cap: seams and pole are harmless -/

/-- **south-cap seams**: on the two slanted edges of the south triangle `q` (`|x − (2q+1)| = 2 + y`, `−2 ≤ y < −1`, the
    south pole included) `hash_with_dldh` returns, in both profiles, a cell whose closed diamond contains the point
    (a diamond owns its two southern edges, and the seams are southern edges of cells of the triangle) -/
theorem ring_hash_seam_south (debug : Bool) {n q : ℕ} (hn : 1 ≤ n) (hN : n < 2 ^ 30) (hq : q < 4) {X Y : ℝ}
    (h1 : -2 ≤ Y) (h2 : Y < -1) (hX : X = 2 * q + 1 - (2 + Y) ∨ X = 2 * q + 1 + (2 + Y)) :
    ∃ (h : ℕ) (dl dh : ℝ), hashPlane debug n X Y = some (h, dl, dh) ∧ 0 ≤ dl ∧ dl < 1 ∧ 0 ≤ dh ∧ dh < 1 ∧
      Contains debug n h X Y := by
  have hq0 : (0 : ℝ) ≤ q := Nat.cast_nonneg q
  have hqr : (q : ℝ) ≤ 3 := by
    have : q ≤ 3 := by omega
    exact_mod_cast this
  have hg : GoodPoint X Y := by
    refine ⟨by rcases hX with rfl | rfl <;> linarith, by rcases hX with rfl | rfl <;> linarith,
      Or.inr (Or.inr ⟨h1, h2, q, hq, ?_⟩)⟩
    rcases hX with rfl | rfl
    · rw [show 2 * (q : ℝ) + 1 - (2 + Y) - (2 * q + 1) = -(2 + Y) by ring, abs_neg, abs_of_nonneg (by linarith)]
    · rw [show 2 * (q : ℝ) + 1 + (2 + Y) - (2 * q + 1) = 2 + Y by ring, abs_of_nonneg (by linarith)]
  obtain ⟨h, dl, dh, cx, cy, hP, hlt, l0, l1, g0, g1, hc, hcont⟩ := ring_hash_contains_partial_uncond debug hn hN hg
  exact ⟨h, dl, dh, hP, l0, l1, g0, g1, hlt, cx, cy, hc, hcont⟩

theorem ringLast {n : ℕ} (hn : 1 ≤ n) :
    perFacet n (4 * n - 2) = 1 ∧ cxOff n (4 * n - 2) = n ∧ ringStart n (4 * n - 2) = 12 * n * n - 4 := by
  have e1 : tri4 1 = 4 := by decide
  obtain ⟨hp, hc, -⟩ := south_cap (n := n) (r := 4 * n - 2) (t := 0) (by omega) (by omega)
  refine ⟨hp, hc, ?_⟩
  rw [ringStart_south (by omega), show 4 * n - 1 - (4 * n - 2) = 1 by omega, e1, Nat.mul_assoc]

/-- **the south pole** of facet `q` (plane point `(2q+1, −2)`): `hash_with_dldh` returns, in both profiles, cell
    `12n² − 4 + q` of the last ring — the right one (the pole is its south vertex), with regular offsets in `[0,1)²`
    (unlike the north pole, `ring_hash_pole`, which takes a special exit with offsets `(1,1)`) -/
theorem ring_hash_south_pole (debug : Bool) {n q : ℕ} (hn : 1 ≤ n) (hN : n < 2 ^ 30) (hq : q < 4) :
    ∃ dl dh : ℝ, hashPlane debug n ((2 * q + 1 : ℕ) : ℝ) (-2) = some (12 * n * n - 4 + q, dl, dh) ∧
      0 ≤ dl ∧ dl < 1 ∧ 0 ≤ dh ∧ dh < 1 ∧ dldhToDxDy dl dh = (0, 0) ∧
      Contains debug n (12 * n * n - 4 + q) ((2 * q + 1 : ℕ) : ℝ) (-2) := by
  obtain ⟨hp, hc, hs⟩ := ringLast hn
  have hr : 4 * n - 2 < 4 * n - 1 := by omega
  have hi : q < 4 * perFacet n (4 * n - 2) := by rw [hp]; omega
  have hcxq : cxI n (4 * n - 2) q = 2 * n * q + n := by rw [cxI_single hp, hc]
  -- the pole is the south vertex of cell `q` of the last ring: the tail is entered at that cell
  have hP := hashPlane_axis debug (c := n) (Y := -2) hn hN hq rfl (by omega) (by ring)
  have ht := hashTail_cell debug (K := n + 1) (I' := n * q + n / 2) (((n % 2 : ℕ) : ℝ) / 2) (((n % 2 : ℕ) : ℝ) / 2) hn hN
    hr hi (by omega) (by rw [hcxq, Nat.mul_assoc]; omega)
  rw [hs] at ht
  rw [ht] at hP
  have hf : ((n % 2 : ℕ) : ℝ) / 2 = 0 ∨ ((n % 2 : ℕ) : ℝ) / 2 = 1 / 2 := by
    rcases Nat.mod_two_eq_zero_or_one n with h | h <;> rw [h] <;> norm_num
  have f0 : 0 ≤ ((n % 2 : ℕ) : ℝ) / 2 := by positivity
  have f1 : ((n % 2 : ℕ) : ℝ) / 2 < 1 := by rcases hf with h | h <;> rw [h] <;> norm_num
  refine ⟨_, _, hP, f0, f1, f0, f1, ?_, ?_⟩
  · unfold dldhToDxDy
    simp only [r_lt, r_one, r_zero]
    rcases hf with h | h <;> rw [h] <;> norm_num
  · -- the centre of that cell is `(2q+1, −2 + 1/n)`, one half-diagonal north of the pole
    have := contains_near debug hn hN hr hi (X := ((2 * q + 1 : ℕ) : ℝ)) (Y := -2) (by
      rw [hcxq, show cyI n (4 * n - 2) = 1 - 2 * (n : ℤ) by unfold cyI; omega]
      push_cast
      rw [show (n : ℝ) * (2 * q + 1) - (2 * n * q + n) = 0 by ring, show (n : ℝ) * -2 - (1 - 2 * n) = -1 by ring]
      norm_num)
    rwa [hs] at this

/-! ## the seams on the sphere

`Proj.sig lat = √6·cos(lat/2 + π/4)` is the Collignon factor of the north cap: the half-width of the triangles at the
height `y = 2 − sig lat` of the point, and the quantity that `F3Set` compares with `1/n`. -/

theorem sig_range {lat : ℝ} (h1 : Real.arcsin (2 / 3) ≤ lat) (h2 : lat ≤ π / 2) : 0 ≤ sig lat ∧ sig lat ≤ 1 := by
  rw [← (sigma_planeY_north h1).1]
  exact sigma_bounds lat (by linarith only [h1, asin23_nonneg, Real.pi_pos]) h2

theorem proj_west_seam {k : ℕ} (hk : k < 4) {lat : ℝ} (h1 : Real.arcsin (2 / 3) ≤ lat) (h2 : lat ≤ π / 2) :
    proj (α := ℝ) (k * (π / 2)) lat = some (2 * k + ((2 - sig lat) - 1), 2 - sig lat) := by
  have hpi := Real.pi_pos
  have hkr : (k : ℝ) ≤ 3 := by exact_mod_cast (by omega : k ≤ 3)
  obtain ⟨k', hk', hm1, hp1, hproj⟩ := proj_value (k * (π / 2)) lat (by positivity)
    (by linarith only [mul_le_mul_of_nonneg_right hkr (half_pos hpi).le, hpi])
    (by linarith only [h1, asin23_nonneg, hpi]) h2
  have e4 : (k : ℝ) * (π / 2) * (4 / π) = 2 * k := by field_simp; ring
  rw [e4] at hm1 hp1 hproj
  have hkk : k' = k := by
    have a1 : k' ≤ k := by exact_mod_cast (by linarith only [hm1] : (k' : ℝ) ≤ k)
    have a2 : k < k' + 1 := by exact_mod_cast (by linarith only [hp1] : (k : ℝ) < k' + 1)
    omega
  subst hkk
  rw [hproj, (sigma_planeY_north h1).1, (sigma_planeY_north h1).2]
  congr 2; ring

theorem hash_of_plane (debug : Bool) (n : ℕ) {lon lat X Y : ℝ} {r : Option (ℕ × ℝ × ℝ)}
    (hp : proj (α := ℝ) lon lat = some (X, Y)) (hP : hashPlane debug n X Y = r) :
    Ring.hash debug n lon lat = r.map (·.1) := by
  unfold Ring.hash
  rw [hashWithDlDh_eq, hp, ← hP]; rfl

/-- **the failure set of `ring::hash(nside = n, lon, lat)`** (finding F3), for `0 ≤ lon < 2π`: the four meridians
    `lon = k·π/2` of the north cap, from the transition latitude (included) up to — but excluding — the last ring
    (`n·√6·cos(lat/2 + π/4) > 1`, i.e. `y < 2 − 1/n` in the projection plane).  It is empty for `n = 1`. -/
def F3Set (n : ℕ) (lon lat : ℝ) : Prop :=
  (∃ k : ℕ, k < 4 ∧ lon = k * (π / 2)) ∧ Real.arcsin (2 / 3) ≤ lat ∧ lat ≤ π / 2 ∧
    1 < (n : ℝ) * (Real.sqrt 6 * Real.cos (1 / 2 * lat + π / 4))


theorem f3Set_corner {n k : ℕ} (hn : 2 ≤ n) (hk : k < 4) : F3Set n (k * (π / 2)) (Real.arcsin (2 / 3)) := by
  refine ⟨⟨k, hk, rfl⟩, le_refl _, Real.arcsin_le_pi_div_two _, ?_⟩
  rw [show Real.sqrt 6 * Real.cos (1 / 2 * Real.arcsin (2 / 3) + π / 4) = 1 from sig_transition]
  have : (2 : ℝ) ≤ n := by exact_mod_cast hn
  linarith

example (n : ℕ) (hn : 2 ≤ n) : F3Set n 0 (Real.arcsin (2 / 3)) := by
  simpa using f3Set_corner hn (k := 0) (by norm_num)

theorem f3Set_one (lon lat : ℝ) : ¬ F3Set 1 lon lat := by
  rintro ⟨-, h1, h2, h3⟩
  have := (sig_range h1 h2).2
  have h3 : 1 < ((1 : ℕ) : ℝ) * sig lat := h3
  push_cast at h3; linarith

/-- the correct-answer statement: the conclusion of `ring_hash_sphere_partial` -/
def HashCorrect (debug : Bool) (n : ℕ) (lon lat : ℝ) : Prop :=
  ∃ (X Y : ℝ) (h : ℕ) (cx cy : ℝ), proj (α := ℝ) lon lat = some (X, Y) ∧ Ring.hash debug n lon lat = some h ∧
    h < 12 * n * n ∧ centerOfProjectedCell (α := ℝ) debug n h = some (cx, cy) ∧
    (|X - cx| + |Y - cy| ≤ 1 / n ∨ |X - 8 - cx| + |Y - cy| ≤ 1 / n)

/-- the wrong-answer statement: a panic (`none`), or a number that is not a cell, or a cell that misses the point -/
def HashWrong (debug : Bool) (n : ℕ) (lon lat : ℝ) : Prop :=
  Ring.hash debug n lon lat = none ∨
  ∃ (X Y : ℝ) (h : ℕ), proj (α := ℝ) lon lat = some (X, Y) ∧ Ring.hash debug n lon lat = some h ∧ Misses debug n h X Y

theorem hashCorrect_of_plane {debug : Bool} {n h : ℕ} {lon lat X Y dl dh : ℝ}
    (hp : proj (α := ℝ) lon lat = some (X, Y)) (hP : hashPlane debug n X Y = some (h, dl, dh))
    (hc : Contains debug n h X Y) : HashCorrect debug n lon lat :=
  let ⟨hlt, cx, cy, hcen, hcont⟩ := hc
  ⟨X, Y, h, cx, cy, hp, hash_of_plane debug n hp hP, hlt, hcen, hcont⟩

theorem hashWrong_of_plane {debug : Bool} {n h : ℕ} {lon lat X Y dl dh : ℝ}
    (hp : proj (α := ℝ) lon lat = some (X, Y)) (hP : hashPlane debug n X Y = some (h, dl, dh))
    (hm : Misses debug n h X Y) : HashWrong debug n lon lat :=
  Or.inr ⟨X, Y, h, hp, hash_of_plane debug n hp hP, hm⟩

theorem hashWrong_not_correct {debug : Bool} {n : ℕ} {lon lat : ℝ} (hw : HashWrong debug n lon lat) :
    ¬ HashCorrect debug n lon lat := by
  rintro ⟨X, Y, h, cx, cy, hp, hh, hlt, hc, hcont⟩
  rcases hw with h0 | ⟨X', Y', h', hp', hh', hm⟩
  · rw [h0] at hh; cases hh
  · rw [hp] at hp'; rw [hh] at hh'
    simp only [Option.some.injEq, Prod.mk.injEq] at hp' hh'
    obtain ⟨rfl, rfl⟩ := hp'
    subst hh'
    exact misses_not_contains hm ⟨hlt, cx, cy, hc, hcont⟩

theorem ring_hash_north_pole_sphere (debug : Bool) {n : ℕ} (hn : 1 ≤ n) (hN : n < 2 ^ 30) (lon : ℝ) (hlon0 : 0 ≤ lon)
    (hlon1 : lon < 2 * π) : HashCorrect debug n lon (π / 2) := by
  obtain ⟨k, hk, -, -, hproj⟩ := proj_value lon (π / 2) hlon0 hlon1 (by linarith only [Real.pi_pos]) (le_refl _)
  obtain ⟨hs, hy⟩ := sigma_planeY_north (Real.arcsin_le_pi_div_two (2 / 3))
  rw [hs, hy, sig_half_pi, mul_zero, zero_add, sub_zero] at hproj
  have hn0 : (1 : ℝ) ≤ n := by exact_mod_cast hn
  have hP := ring_hash_pole debug hn hN hk
  push_cast at hP
  exact hashCorrect_of_plane hproj hP
    (contains_top debug hn hN hk (Y := 2) (by linarith) (le_refl _) (Or.inl (by ring)))

/-- **the failure set is exact** (not an over-approximation): on every point of `F3Set`, for every `1 ≤ n < 2^30`,
    `ring::hash` gives a wrong answer in BOTH profiles; on the meridian `lon = 0` the dev profile panics (and the release
    profile returns `2^64 − 1` or a far cell), on the three others both profiles silently return a cell of the
    neighbouring base cell that does not contain the point -/
theorem ring_hash_f3_wrong {n : ℕ} (hn : 1 ≤ n) (hN : n < 2 ^ 30) {lon lat : ℝ} (hf : F3Set n lon lat) :
    (lon = 0 → Ring.hash true n lon lat = none) ∧ (lon ≠ 0 → ∃ h, Ring.hash true n lon lat = some h ∧ h < 12 * n * n) ∧
    ∀ debug, HashWrong debug n lon lat := by
  obtain ⟨⟨k, hk, rfl⟩, h1, h2, h3⟩ := hf
  obtain ⟨s0, s1⟩ := sig_range h1 h2
  have hp := proj_west_seam hk h1 h2
  have hpi := Real.pi_pos
  have h3 : 1 < (n : ℝ) * sig lat := h3
  have hY1 : (1 : ℝ) ≤ 2 - sig lat := by linarith
  have hlow : (n : ℝ) * (2 - sig lat) < 2 * n - 1 := by linarith
  rcases Nat.eq_zero_or_pos k with rfl | hk1
  · rw [Nat.cast_zero, zero_mul, mul_zero, zero_add] at hp
    rw [Nat.cast_zero, zero_mul]
    obtain ⟨hd, h, dl, dh, hr, hm⟩ := seam_west0_wrong hN hY1 hlow
    have hnone := hash_of_plane true n hp hd
    refine ⟨fun _ => hnone, fun hne => absurd rfl hne, fun debug => ?_⟩
    cases debug
    · exact hashWrong_of_plane hp hr hm
    · exact Or.inl hnone
  · have hw := fun debug => seam_west_low_wrong debug hN hk1 hk hY1 hlow
    refine ⟨fun h0 => ?_, fun _ => ?_, fun debug => ?_⟩
    · have : (0 : ℝ) < k := by exact_mod_cast hk1
      linarith [mul_pos this (half_pos hpi)]
    · obtain ⟨h, dl, dh, hr, hlt, -⟩ := hw true
      exact ⟨h, hash_of_plane true n hp hr, hlt⟩
    · obtain ⟨h, dl, dh, hr, -, hm⟩ := hw debug
      exact hashWrong_of_plane hp hr hm

/-- **F3 on the sphere, exact witness for every `n ≥ 2`**: `ring::hash(nside, 0, asin(2/3))` panics in the dev profile
    (the point is the corner shared by base cells 0, 3, 4: it is in the *equatorial* region for the code's test
    `|lat| ≤ TRANSITION_LATITUDE`, and on the west seam of facet 0) -/
theorem ring_hash_corner_panics {n : Nat} (hn2 : 2 ≤ n) (hn30 : n < 2 ^ 30) :
    Ring.hash true n (0 : ℝ) (Real.arcsin (2 / 3)) = none := by
  simpa using (ring_hash_f3_wrong (by omega) hn30 (f3Set_corner hn2 (k := 0) (by norm_num))).1

/-- **`ring_hash_sphere_total`** — `ring::hash` on the WHOLE sphere, for every `1 ≤ nside = n < 2^30` (power of two or
    not), every `0 ≤ lon < 2π`, every latitude, in both profiles: EITHER the point is in the explicit failure set
    `F3Set n lon lat` (where the answer is wrong, `ring_hash_f3_wrong`), OR `ring::hash` returns a cell `h < 12 n²` whose
    closed diamond contains the projected point.  With respect to `ring_hash_sphere_partial` this adds: the north pole,
    and the part of the four seams that lies in the last ring. -/
theorem ring_hash_sphere_total (debug : Bool) {n : ℕ} (hn : 1 ≤ n) (hN : n < 2 ^ 30)
    (lon lat : ℝ) (hlon0 : 0 ≤ lon) (hlon1 : lon < 2 * π) (hlat0 : -(π / 2) ≤ lat) (hlat1 : lat ≤ π / 2) :
    F3Set n lon lat ∨ HashCorrect debug n lon lat := by
  have hpi := Real.pi_pos
  by_cases hseam : lat < Real.arcsin (2 / 3) ∨ (lat < π / 2 ∧ ∀ k : ℕ, lon ≠ k * (π / 2))
  · exact Or.inr (ring_hash_sphere_partial_uncond debug hn hN lon lat hlon0 hlon1 hlat0 hlat1 hseam)
  · rw [not_or, not_lt, not_and, not_forall] at hseam
    obtain ⟨h1, hex⟩ := hseam
    rcases hlat1.eq_or_lt with rfl | hlt
    · exact Or.inr (ring_hash_north_pole_sphere debug hn hN lon hlon0 hlon1)
    · obtain ⟨k, hk⟩ := hex hlt
      rw [not_not] at hk
      subst hk
      have hk : k < 4 := by
        exact_mod_cast lt_of_mul_lt_mul_right (by linarith only [hlon1] : (k : ℝ) * (π / 2) < (4 : ℕ) * (π / 2)) (half_pos hpi).le
      by_cases h3 : 1 < (n : ℝ) * sig lat
      · exact Or.inl ⟨⟨k, hk, rfl⟩, h1, hlat1, h3⟩
      · have hp := proj_west_seam hk h1 hlat1
        have s1 := (sig_range h1 hlat1).2
        have s0 : 0 < sig lat := mul_pos (Real.sqrt_pos.mpr (by norm_num))
          (Real.cos_pos_of_mem_Ioo ⟨by linarith only [h1, asin23_nonneg, hpi], by linarith only [hlt]⟩)
        have hn0 : (1 : ℝ) ≤ n := by exact_mod_cast hn
        have htop : 2 * (n : ℝ) - 1 ≤ n * (2 - sig lat) := by linarith
        exact Or.inr (hashCorrect_of_plane hp (hashPlane_seam_west_top debug hn hN hk htop (by linarith))
          (contains_top debug hn hN hk htop (by linarith) (Or.inl rfl)))

/-- the dichotomy is exclusive: **`ring::hash` is correct at `(lon, lat)` if and only if the point is not in `F3Set`** -/
theorem ring_hash_correct_iff (debug : Bool) {n : ℕ} (hn : 1 ≤ n) (hN : n < 2 ^ 30)
    (lon lat : ℝ) (hlon0 : 0 ≤ lon) (hlon1 : lon < 2 * π) (hlat0 : -(π / 2) ≤ lat) (hlat1 : lat ≤ π / 2) :
    HashCorrect debug n lon lat ↔ ¬ F3Set n lon lat := by
  constructor
  · intro hc hf
    exact hashWrong_not_correct ((ring_hash_f3_wrong hn hN hf).2.2 debug) hc
  · intro hnf
    rcases ring_hash_sphere_total debug hn hN lon lat hlon0 hlon1 hlat0 hlat1 with h | h
    · exact absurd h hnf
    · exact h

/-- for `nside = 1` `ring::hash` is correct on the whole sphere (`0 ≤ lon < 2π`) -/
theorem ring_hash_sphere_nside_one (debug : Bool) (lon lat : ℝ) (hlon0 : 0 ≤ lon) (hlon1 : lon < 2 * π)
    (hlat0 : -(π / 2) ≤ lat) (hlat1 : lat ≤ π / 2) : HashCorrect debug 1 lon lat :=
  (ring_hash_correct_iff debug (n := 1) (by norm_num) (by norm_num) lon lat hlon0 hlon1 hlat0 hlat1).mpr
    (f3Set_one lon lat)

/-- instance: the base-cell corner `(lon, lat) = (π/2, asin(2/3))` is in the failure set for every `2 ≤ n < 2^30`; there
    `ring::hash` does not panic, it silently returns a cell that does not contain the point, in both profiles -/
example (n : ℕ) (hn : 2 ≤ n) (hN : n < 2 ^ 30) (debug : Bool) :
    (∃ h, Ring.hash true n (π / 2) (Real.arcsin (2 / 3)) = some h ∧ h < 12 * n * n) ∧
      HashWrong debug n (π / 2) (Real.arcsin (2 / 3)) ∧ ¬ HashCorrect debug n (π / 2) (Real.arcsin (2 / 3)) := by
  have hpi := Real.pi_pos
  have hf : F3Set n (π / 2) (Real.arcsin (2 / 3)) := by simpa using f3Set_corner hn (k := 1) (by norm_num)
  obtain ⟨-, h2, h3⟩ := ring_hash_f3_wrong (by omega) hN hf
  exact ⟨h2 (by linarith), h3 debug, hashWrong_not_correct (h3 debug)⟩

end Hpx.RingSeams

namespace Hpx.SqrtApprox
open Hpx Hpx.Layer

/-- `RingReal.ringIndexExact_of_approx` without its hypothesis, for every `nside ≤ 2^29` (not only powers of two) -/
theorem ringIndexExact (n : Nat) (hn : n ≤ 2 ^ 29) : RingReal.RingIndexExact n :=
  RingSeams.ringIndexExact_holds_31 n (by omega)

end Hpx.SqrtApprox

#print axioms Hpx.RingSeams.ringIndexExact_holds
#print axioms Hpx.RingSeams.ring_hash_sphere_partial_uncond
#print axioms Hpx.RingSeams.hashPlane_seam_east_low
#print axioms Hpx.RingReal.hashPlane_seam_west0
#print axioms Hpx.RingSeams.ring_hash_seam_north_spec
#print axioms Hpx.RingSeams.misses_not_contains
#print axioms Hpx.RingSeams.ring_hash_sphere_total
#print axioms Hpx.RingSeams.ring_hash_f3_wrong
#print axioms Hpx.RingSeams.ring_hash_correct_iff
#print axioms Hpx.RingSeams.ring_hash_south_pole
#print axioms Hpx.RingSeams.ring_hash_seam_south
#print axioms Hpx.SqrtApprox.ringIndexExact
