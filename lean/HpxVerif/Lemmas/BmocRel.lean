import HpxVerif.Lemmas.BmocLists

/-!
`and`, `or` and `xor` start every step by the same nine-way case split on the depths and the shifted cell numbers of the
two current cells.  It decides one of five relative positions; `cellRel` names them and `cellRel_spec` says once what
each means for the intervals.
-/

namespace Hpx.Bmoc

def Inside (D : Nat) (low c : Cell) : Prop := low.depth ≤ c.depth ∧ lo D low ≤ lo D c ∧ hi D c ≤ hi D low

/-- the code's comparisons of `l.hash` with `r.hash >> 2(dr − dl)`, for `l` not deeper than `r`, are interval relations:
    the cell `(dl, r.hash >> 2(dr − dl))` is the ancestor of `r` at the depth of `l` -/
theorem cmp_shifted {D : Nat} {l r : Cell} (hd : l.depth ≤ r.depth) (hD : r.depth ≤ D) :
    (l.hash < r.hash >>> ((r.depth - l.depth) <<< 1) → hi D l ≤ lo D r) ∧
    (r.hash >>> ((r.depth - l.depth) <<< 1) < l.hash → hi D r ≤ lo D l) ∧
    (l.hash = r.hash >>> ((r.depth - l.depth) <<< 1) → lo D l ≤ lo D r ∧ hi D r ≤ hi D l) := by
  obtain ⟨b1, b2⟩ := anc_bounds D r.depth (r.depth - l.depth) r.hash (Nat.sub_le _ _) hD
  rw [← shr_eq_div, show r.depth - (r.depth - l.depth) = l.depth by omega] at b1 b2
  exact ⟨fun h => Nat.le_trans (Nat.mul_le_mul_right _ h) b1, fun h => Nat.le_trans b2 (Nat.mul_le_mul_right _ h),
    fun h => by unfold lo hi; rw [h]; exact ⟨b1, b2⟩⟩

theorem isIn_true {D : Nat} {low c : Cell} (hc : c.depth ≤ D) (h : isIn low c = true) :
    low.depth ≤ c.depth ∧ low.hash = c.hash >>> ((c.depth - low.depth) <<< 1) ∧
    lo D low ≤ lo D c ∧ hi D c ≤ hi D low := by
  unfold isIn at h
  simp only [Bool.and_eq_true, decide_eq_true_eq, beq_iff_eq] at h
  obtain ⟨h1, h2⟩ := h
  exact ⟨h1, h2, (cmp_shifted h1 hc).2.2 h2⟩

theorem isIn_of {low c : Cell} (hd : low.depth ≤ c.depth) (he : low.hash = c.hash >>> ((c.depth - low.depth) <<< 1)) :
    isIn low c = true := by
  unfold isIn; simp only [Bool.and_eq_true, decide_eq_true_eq, beq_iff_eq]; exact ⟨hd, he⟩

theorem Inside.hash_eq {D : Nat} {low c : Cell} (hc : c.depth ≤ D) (h : Inside D low c) :
    c.hash >>> (2 * (c.depth - low.depth)) = low.hash := by
  obtain ⟨c1, c2, _⟩ := cmp_shifted (D := D) h.1 hc
  obtain ⟨_, h1, h2⟩ := h
  have := lo_lt_hi D c
  rw [← shl1]
  rcases Nat.lt_trichotomy (c.hash >>> ((c.depth - low.depth) <<< 1)) low.hash with hlt | he | hgt
  · have := c2 hlt; omega
  · exact he
  · have := c1 hgt; omega

/-- relative position of two cells: `l` entirely before `r`, entirely after it, a strict ancestor of it (`over`), a strict
    descendant (`under`), or the same cell -/
inductive Rel | before | after | over | under | same

/-- the tests of the three operators, in their order -/
def cellRel (l r : Cell) : Rel :=
  if l.depth < r.depth then
    if l.hash < r.hash >>> ((r.depth - l.depth) <<< 1) then .before
    else if l.hash > r.hash >>> ((r.depth - l.depth) <<< 1) then .after else .over
  else if l.depth > r.depth then
    if l.hash >>> ((l.depth - r.depth) <<< 1) < r.hash then .before
    else if l.hash >>> ((l.depth - r.depth) <<< 1) > r.hash then .after else .under
  else if l.hash < r.hash then .before else if l.hash > r.hash then .after else .same

/-- the three-way comparison that each of the three depth cases of `cellRel` makes -/
theorem cmp3_cases {P : Rel → Prop} {a b : Nat} {x y z : Rel} (hlt : a < b → P x) (hgt : b < a → P y)
    (heq : a = b → P z) : P (if a < b then x else if a > b then y else z) := by
  by_cases h1 : a < b
  · rw [if_pos h1]; exact hlt h1
  · by_cases h2 : a > b
    · rw [if_neg h1, if_pos h2]; exact hgt h2
    · rw [if_neg h1, if_neg h2]; exact heq (by omega)

/-- what each relative position says of the intervals (and of `isIn`, which `or` and `xor` go on to test) -/
def Rel.Spec (D : Nat) (l r : Cell) : Rel → Prop
  | .before => hi D l ≤ lo D r
  | .after => hi D r ≤ lo D l
  | .over => l.depth < r.depth ∧ isIn l r = true ∧ Inside D l r
  | .under => r.depth < l.depth ∧ isIn r l = true ∧ Inside D r l
  | .same => l.depth = r.depth ∧ l.hash = r.hash ∧ lo D l = lo D r ∧ hi D l = hi D r

theorem cellRel_spec {D : Nat} {l r : Cell} (hl : l.depth ≤ D) (hr : r.depth ≤ D) : (cellRel l r).Spec D l r := by
  unfold cellRel
  by_cases hd : l.depth < r.depth
  · have hdl := Nat.le_of_lt hd
    obtain ⟨c1, c2, c3⟩ := cmp_shifted (D := D) hdl hr
    rw [if_pos hd]
    exact cmp3_cases c1 c2 (fun he => ⟨hd, isIn_of hdl he, hdl, c3 he⟩)
  · rw [if_neg hd]
    by_cases hd' : l.depth > r.depth
    · have hdl := Nat.le_of_lt hd'
      obtain ⟨c1, c2, c3⟩ := cmp_shifted (D := D) hdl hl
      rw [if_pos hd']
      exact cmp3_cases c2 c1 (fun he => ⟨hd', isIn_of hdl he.symm, hdl, c3 he.symm⟩)
    · have hde : l.depth = r.depth := by omega
      obtain ⟨c1, c2, _⟩ := cmp_shifted (D := D) (Nat.le_of_eq hde) hr
      simp only [show r.depth - l.depth = 0 by omega, Nat.zero_shiftLeft, Nat.shiftRight_zero] at c1 c2
      rw [if_neg hd']
      exact cmp3_cases c1 c2 (fun hh => ⟨hde, hh, by unfold lo; rw [hde, hh], by unfold hi; rw [hde, hh]⟩)

theorem isIn_spec {D : Nat} {low c : Cell} (hl : low.depth ≤ D) (hc : c.depth ≤ D) (hlt : lo D low < lo D c) :
    (isIn low c = true → Inside D low c) ∧ (isIn low c = false → hi D low ≤ lo D c) := by
  refine ⟨fun h => ⟨(isIn_true hc h).1, (isIn_true hc h).2.2⟩, fun h => ?_⟩
  have hrel := cellRel_spec hl hc
  have hlc := lo_lt_hi D c
  cases hr : cellRel low c <;> simp only [hr, Rel.Spec] at hrel
  · exact hrel
  · omega
  · rw [hrel.2.1] at h; cases h
  · have := hrel.2.2.2.1; omega
  · omega

theorem overlap_inside {D : Nat} {c s : Cell} (hcs : c.depth ≤ s.depth) (hs : s.depth ≤ D)
    (o1 : lo D c < hi D s) (o2 : lo D s < hi D c) : lo D c ≤ lo D s ∧ hi D s ≤ hi D c := by
  have hrel := cellRel_spec (D := D) (l := c) (r := s) (Nat.le_trans hcs hs) hs
  cases hc : cellRel c s <;> simp only [hc, Rel.Spec] at hrel
  · omega
  · omega
  · exact hrel.2.2.2
  · omega
  · omega

end Hpx.Bmoc
