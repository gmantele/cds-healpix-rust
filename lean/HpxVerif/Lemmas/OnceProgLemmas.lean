/-
C20: the factory bodies regenerated from the source are the program `goodProg`; safety of `goodProg` for any number of
threads and any interleaving with a two-step (torn) slot write; refinement to the four-step machine `Once.step`.
-/
import HpxVerif.Model.OnceProg

namespace Hpx.OnceProg
open Hpx.Once (OnceSt)

/-- both factories, as written in the source on this run, are the program `goodProg`; their `Once` arrays are plain
    `static`s (one `Once` per depth for the whole process, not a fresh one per use), the slots `static mut`, 30 each -/
theorem factories_are_goodProg :
    decodeProg Gen.layersProg = some goodProg ∧ decodeProg Gen.c2vProg = some goodProg ∧
    Gen.layersOnceIsStatic = true ∧ Gen.c2vOnceIsStatic = true ∧
    Gen.layersSlotIsStaticMut = true ∧ Gen.c2vSlotIsStaticMut = true ∧
    Gen.layersLens = (30, 30) ∧ Gen.c2vLens = (30, 30) := by decide

theorem upd_same (f : Nat → PC) (t : Nat) (v : PC) : upd f t v t = v := by simp [upd]
theorem upd_other (f : Nat → PC) (t u : Nat) (v : PC) (h : u ≠ t) : upd f t v u = f u := by simp [upd, h]

def Inv (s : St) : Prop :=
  s.race = false ∧
  match s.once with
  | .incomplete => s.slot = .none ∧ s.cons = 0 ∧ ∀ u, s.pc u = .at 0
  | .running t =>
    (∀ u, u ≠ t → s.pc u = .at 0) ∧
    ((s.pc t = .at 1 ∧ s.slot = .none ∧ s.cons = 0) ∨ (s.pc t = .at 2 ∧ s.slot = .writing ∧ s.cons = 0) ∨
     (s.pc t = .at 3 ∧ s.slot = .some ∧ s.cons = 1))
  | .complete => s.slot = .some ∧ s.cons = 1 ∧ ∀ u, s.pc u = .at 0 ∨ s.pc u = .at 4 ∨ s.pc u = .done true

theorem inv_init : Inv init := by simp [Inv, init]

theorem Inv.cases {s : St} (hi : Inv s) :
    (s.once = .incomplete ∧ s.slot = .none ∧ s.cons = 0 ∧ ∀ u, s.pc u = .at 0) ∨
    (∃ r, s.once = .running r ∧ (∀ u, u ≠ r → s.pc u = .at 0) ∧
      ((s.pc r = .at 1 ∧ s.slot = .none ∧ s.cons = 0) ∨ (s.pc r = .at 2 ∧ s.slot = .writing ∧ s.cons = 0) ∨
       (s.pc r = .at 3 ∧ s.slot = .some ∧ s.cons = 1))) ∨
    (s.once = .complete ∧ s.slot = .some ∧ s.cons = 1 ∧ ∀ u, s.pc u = .at 0 ∨ s.pc u = .at 4 ∨ s.pc u = .done true) := by
  have h := hi.2
  cases ho : s.once with
  | incomplete => rw [ho] at h; exact .inl ⟨rfl, h⟩
  | running r => rw [ho] at h; exact .inr (.inl ⟨r, rfl, h⟩)
  | complete => rw [ho] at h; exact .inr (.inr ⟨rfl, h⟩)

/-- the six moves of `goodProg` from a state satisfying the invariant: enter as initialiser, begin the write, end it,
    leave `call_once`; skip a complete `Once`, read the slot -/
theorem step_cases (s s' : St) (t : Nat) (hi : Inv s) (hs : step true goodProg s t = some s') :
    (s.once = .incomplete ∧ s.pc t = .at 0 ∧ s' = { s with once := .running t, pc := upd s.pc t (.at 1) }) ∨
    (s.once = .running t ∧ s.pc t = .at 1 ∧ s.slot = .none ∧ s.cons = 0 ∧
      s' = { s with slot := .writing, pc := upd s.pc t (.at 2) }) ∨
    (s.once = .running t ∧ s.pc t = .at 2 ∧ s.cons = 0 ∧
      s' = { s with slot := .some, cons := s.cons + 1, pc := upd s.pc t (.at 3) }) ∨
    (s.once = .running t ∧ s.pc t = .at 3 ∧ s.slot = .some ∧ s.cons = 1 ∧
      s' = { s with once := .complete, pc := upd s.pc t (.at 4) }) ∨
    (s.once = .complete ∧ s.pc t = .at 0 ∧ s' = { s with pc := upd s.pc t (.at 4) }) ∨
    (s.once = .complete ∧ s.pc t = .at 4 ∧ s.slot = .some ∧ s' = { s with pc := upd s.pc t (.done true) }) := by
  unfold step at hs
  rcases hi.cases with ⟨ho, -, -, h⟩ | ⟨r, ho, h, h'⟩ | ⟨ho, sl, -, h⟩
  · simp only [h t, goodProg, ho] at hs; simp at hs
    simp [← hs, h t, ho]
  · by_cases htr : t = r
    · subst htr
      rcases h' with ⟨p, sl, c⟩ | ⟨p, sl, c⟩ | ⟨p, sl, c⟩ <;> (simp only [p, goodProg] at hs; simp at hs) <;>
        simp [← hs, p, ho, sl, c]
    · simp only [h t htr, goodProg, ho] at hs; simp at hs
  · rcases h t with p | p | p
    · simp only [p, goodProg, ho] at hs; simp at hs
      simp [← hs, p, ho]
    · simp only [p, goodProg, sl] at hs; simp at hs
      simp [← hs, p, ho, sl]
    · simp only [p] at hs; cases hs

theorem inv_step (s s' : St) (t : Nat) (hi : Inv s) (hs : step true goodProg s t = some s') : Inv s' := by
  have other : ∀ v, (v = .at 0 ∨ v = .at 4 ∨ v = .done true) →
      (∀ u, u ≠ t → (s.pc u = .at 0 ∨ s.pc u = .at 4 ∨ s.pc u = .done true)) →
      ∀ u, upd s.pc t v u = .at 0 ∨ upd s.pc t v u = .at 4 ∨ upd s.pc t v u = .done true := fun v hv h u => by
    by_cases hu : u = t
    · rw [hu, upd_same]; exact hv
    · rw [upd_other _ _ _ _ hu]; exact h u hu
  obtain ⟨hr, hi'⟩ := hi
  rcases step_cases s s' t ⟨hr, hi'⟩ hs with ⟨ho, p, rfl⟩ | ⟨ho, p, -, c, rfl⟩ | ⟨ho, p, c, rfl⟩ | ⟨ho, p, sl, c, rfl⟩ |
      ⟨ho, p, rfl⟩ | ⟨ho, p, -, rfl⟩ <;>
    rw [ho] at hi' <;> simp only [] at hi' <;> refine ⟨hr, ?_⟩ <;> simp only [ho]
  · exact ⟨fun u hu => (upd_other _ _ _ _ hu).trans (hi'.2.2 u), Or.inl ⟨upd_same _ _ _, hi'.1, hi'.2.1⟩⟩
  · exact ⟨fun u hu => (upd_other _ _ _ _ hu).trans (hi'.1 u hu), Or.inr (Or.inl ⟨upd_same _ _ _, trivial, c⟩)⟩
  · exact ⟨fun u hu => (upd_other _ _ _ _ hu).trans (hi'.1 u hu), Or.inr (Or.inr ⟨upd_same _ _ _, trivial, by omega⟩)⟩
  · exact ⟨sl, c, other _ (Or.inr (Or.inl rfl)) fun u hu => Or.inl (hi'.1 u hu)⟩
  · exact ⟨hi'.1, hi'.2.1, other _ (Or.inr (Or.inl rfl)) fun u _ => hi'.2.2 u⟩
  · exact ⟨hi'.1, hi'.2.1, other _ (Or.inr (Or.inr rfl)) fun u _ => hi'.2.2 u⟩

theorem inv_run (sched : List Nat) (s : St) (hi : Inv s) : Inv (run true goodProg s sched) := by
  induction sched generalizing s with
  | nil => exact hi
  | cons t ts ih =>
    simp only [run]
    cases hs : step true goodProg s t with
    | none => exact ih s hi
    | some s' => exact ih s' (inv_step s s' t hi hs)

/-- C20: in every state reachable by any schedule of any number of threads, with the slot write split in two steps, no
    read has observed a store in progress, the object has been constructed at most once, and every thread that returned
    got the initialised object -/
theorem safe_torn (sched : List Nat) :
    (run true goodProg init sched).race = false ∧ (run true goodProg init sched).cons ≤ 1 ∧
    ∀ t b, (run true goodProg init sched).pc t = .done b →
      b = true ∧ (run true goodProg init sched).cons = 1 ∧ (run true goodProg init sched).slot = .some := by
  have hi := inv_run sched init inv_init
  refine ⟨hi.1, ?_, fun t b hb => ?_⟩
  · rcases hi.cases with ⟨-, -, h, -⟩ | ⟨r, -, -, ⟨-, -, h⟩ | ⟨-, -, h⟩ | ⟨-, -, h⟩⟩ | ⟨-, -, h, -⟩ <;> omega
  · -- only a complete `Once` lets a thread reach `done`
    rcases hi.cases with ⟨-, -, -, h⟩ | ⟨r, -, h, h'⟩ | ⟨-, sl, c, h⟩
    · have := h t; rw [hb] at this; cases this
    · by_cases e : t = r
      · subst e; rcases h' with h | h | h <;> (have := h.1; rw [hb] at this; cases this)
      · have := h t e; rw [hb] at this; cases this
    · rcases h t with h | h | h <;> rw [hb] at h <;> cases h
      exact ⟨rfl, c, sl⟩

/-- no deadlock: while some thread has not returned, some thread can move -/
theorem no_deadlock (s : St) (hi : Inv s) (t : Nat) (ht : ∀ b, s.pc t ≠ .done b) :
    ∃ u, (step true goodProg s u).isSome = true := by
  rcases hi.cases with ⟨ho, -, -, h⟩ | ⟨r, -, -, h⟩ | ⟨ho, sl, -, h⟩
  · exact ⟨t, by simp [step, h t, ho, goodProg]⟩
  · rcases h with h | h | h <;> exact ⟨r, by simp [step, h.1, goodProg]⟩
  · rcases h t with h | h | h
    · exact ⟨t, by simp [step, h, ho, goodProg]⟩
    · exact ⟨t, by simp [step, h, goodProg, sl]⟩
    · exact absurd h (ht true)

theorem absPC_upd (f : Nat → PC) (t : Nat) (v : PC) :
    (fun u => absPC (upd f t v u)) = Once.upd (fun u => absPC (f u)) t (absPC v) := by
  funext u
  by_cases hu : u = t <;> simp [upd, Once.upd, hu]

/-- **refinement**: every step of the program-level machine is a step of the four-step machine `Once.step` that the
    history replays on the real code are compared with, or (the first half of the write) leaves its state unchanged -/
theorem refines (s s' : St) (t : Nat) (hi : Inv s) (hs : step true goodProg s t = some s') :
    Once.step (abs s) t = some (abs s') ∨ abs s' = abs s := by
  rcases step_cases s s' t hi hs with ⟨ho, p, rfl⟩ | ⟨ho, p, sl, -, rfl⟩ | ⟨ho, p, -, rfl⟩ | ⟨ho, p, -, -, rfl⟩ |
      ⟨ho, p, rfl⟩ | ⟨ho, p, sl, rfl⟩
  · exact Or.inl (by simp only [Once.step, abs, p, ho, absPC_upd]; rfl)
  · -- the first half of the write: the coarse machine does not move
    refine Or.inr ?_
    simp only [abs, sl, absPC_upd]
    congr 1
    funext u
    by_cases hu : u = t <;> simp [Once.upd, hu, p, absPC]
  · exact Or.inl (by simp only [Once.step, abs, p, ho, absPC_upd]; rfl)
  · exact Or.inl (by simp only [Once.step, abs, p, ho, absPC_upd]; rfl)
  · exact Or.inl (by simp only [Once.step, abs, p, ho, absPC_upd]; rfl)
  · exact Or.inl (by simp only [Once.step, abs, p, ho, sl, absPC_upd]; rfl)

/-- the unsynchronised fast path (finding F5; seeded change C20_2) is not safe in this model: a two-thread history in
    which the early read observes a store in progress -/
theorem fast_path_races :
    (run true [.readRet, .enterOnce 5, .wbegin, .wend, .exitOnce, .readFinal] init [0, 0, 0, 1]).race = true := by decide

/-- a `const` array of `Once` (seeded change C20_1) gives every call a fresh `Once`: two constructions -/
theorem const_once_constructs_twice : (run false goodProg init [0, 0, 0, 1, 1, 1]).cons = 2 := by decide

/-- non-vacuity: a three-thread schedule of `goodProg` where thread 1 is blocked while thread 0 initialises -/
example : (run true goodProg init [0, 1, 0, 0, 1, 0, 1, 1, 0, 2, 2]).cons = 1 ∧
    (run true goodProg init [0, 1, 0, 0, 1, 0, 1, 1, 0, 2, 2]).pc 1 = .done true := by decide

end Hpx.OnceProg
