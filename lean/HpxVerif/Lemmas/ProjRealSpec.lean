/-
C17 over the reals: `proj` (in the closed form `proj_closed` of `ProjReal`) against an independent statement of the
Calabretta & Roukema (2007) HEALPix projection (H = 4, K = 3; `projSpec`, `proj_eq_spec`); `unproj ∘ proj = id` in the four
sign quadrants, and what `unproj ∘ proj` is beyond the pole threshold and at the poles.
-/
import HpxVerif.Lemmas.ProjReal
import Mathlib.Data.Real.Sign
namespace Hpx.Proj
open Real

/-- **Calabretta & Roukema (2007), HEALPix projection with H = 4, K = 3**, scaled by `4/π` (so that `x ∈ [0, 8)` for
    `lon ∈ [0, 2π)` and `y ∈ [-2, 2]`).  Written from the paper (eq. 1–2 equatorial zone, eq. 4–6 polar caps with
    `σ = √(K(1 − |sin θ|))`, `φ_c` the centre of the facet), independently of the code. -/
noncomputable def projSpec (lon lat : ℝ) : ℝ × ℝ :=
  let z := Real.sin lat
  if |z| ≤ 2 / 3 then (lon * 4 / π, 3 / 2 * z)
  else
    let σ := Real.sqrt (3 * (1 - |z|))
    let xc : ℝ := 2 * (⌊lon * 2 / π⌋ : ℝ) + 1
    (xc + (lon * 4 / π - xc) * σ, Real.sign lat * (2 - σ))

/-- the code's `σ` and ordinate are the specification's -/
theorem sigma_planeY_spec (lat : ℝ) (hl1 : -(π / 2) ≤ lat) (hl2 : lat ≤ π / 2) :
    (if |Real.sin lat| ≤ 2 / 3 then ((1 : ℝ), 3 / 2 * Real.sin lat)
      else (Real.sqrt (3 * (1 - |Real.sin lat|)), Real.sign lat * (2 - Real.sqrt (3 * (1 - |Real.sin lat|)))))
      = (sigma lat, planeY lat) := by
  have hA := asin23_nonneg
  have hpi := Real.pi_pos
  by_cases hN : Real.arcsin (2 / 3) < lat
  · have hs : 2 / 3 < Real.sin lat := by
      have := Real.sin_lt_sin_of_lt_of_le_pi_div_two (by linarith only [hA, hpi]) hl2 hN
      rwa [sin_arcsin_two_thirds] at this
    have habs : |Real.sin lat| = Real.sin lat := abs_of_nonneg (by linarith only [hs])
    have hne : ¬ |Real.sin lat| ≤ 2 / 3 := by rw [habs]; linarith only [hs]
    rw [if_neg hne, sigma_of_north hN, planeY_of_north hN, habs, sig_eq_sqrt lat (by linarith only [hl1, hpi]) hl2,
      Real.sign_of_pos (by linarith only [hN, hA]), one_mul]
  · by_cases hS : lat < -Real.arcsin (2 / 3)
    · have hs : Real.sin lat < -(2 / 3) := by
        have := Real.sin_lt_sin_of_lt_of_le_pi_div_two hl1 (by linarith only [hA, hpi]) hS
        rwa [Real.sin_neg, sin_arcsin_two_thirds] at this
      have habs : |Real.sin lat| = -Real.sin lat := abs_of_neg (by linarith only [hs])
      have hne : ¬ |Real.sin lat| ≤ 2 / 3 := by rw [habs]; linarith only [hs]
      -- the south cap through its mirror image
      have hN' : Real.arcsin (2 / 3) < -lat := by linarith only [hS]
      rw [if_neg hne, ← (sigma_planeY_neg lat).1, ← neg_neg (planeY lat), ← (sigma_planeY_neg lat).2, sigma_of_north hN',
        planeY_of_north hN', sig_eq_sqrt (-lat) (by linarith only [hl2, hpi]) (by linarith only [hl1]), Real.sin_neg, habs,
        Real.sign_of_neg (by linarith only [hS, hA])]
      congr 1; ring
    · obtain ⟨b1, b2⟩ := cea_y_bounds lat (not_lt.mp hS) (not_lt.mp hN)
      have he : |Real.sin lat| ≤ 2 / 3 := abs_le.mpr ⟨by linarith only [b1], by linarith only [b2]⟩
      rw [if_pos he, sigma_of_equatorial (not_lt.mp hS) (not_lt.mp hN), planeY_of_equatorial (not_lt.mp hS) (not_lt.mp hN)]
      congr 1; ring

/-- in the equatorial zone `σ = 1` and the facet centre cancels -/
theorem projSpec_eq (lon lat : ℝ) (hl1 : -(π / 2) ≤ lat) (hl2 : lat ≤ π / 2) :
    projSpec lon lat =
      (2 * (⌊lon * 2 / π⌋ : ℝ) + 1 + (lon * 4 / π - (2 * (⌊lon * 2 / π⌋ : ℝ) + 1)) * sigma lat, planeY lat) := by
  have h := sigma_planeY_spec lat hl1 hl2
  unfold projSpec
  simp only []
  by_cases he : |Real.sin lat| ≤ 2 / 3
  · simp only [he, if_true] at h ⊢
    obtain ⟨h1, h2⟩ := Prod.mk.inj h
    rw [← h1, ← h2]; congr 1; ring
  · simp only [he, if_false] at h ⊢
    obtain ⟨h1, h2⟩ := Prod.mk.inj h
    rw [← h1, ← h2]

/-- every sign quadrant: the crate copies the sign bit of `lon` onto `x` -/
theorem proj_eq_spec_sgn (lon lat : ℝ) (hlon : |lon| < 2 * π) (hlat0 : -(π / 2) ≤ lat) (hlat1 : lat ≤ π / 2) :
    proj (α := ℝ) lon lat = some (sgn lon (projSpec |lon| lat).1, (projSpec |lon| lat).2) := by
  obtain ⟨k, -, h1, h2, hP⟩ := proj_closed_turn lon lat hlon hlat0 hlat1
  have hfl : ⌊|lon| * 2 / π⌋ = (k : ℤ) := by
    rw [Int.floor_eq_iff, show |lon| * 2 / π = |lon| * (4 / π) / 2 by ring]
    push_cast; constructor <;> linarith only [h1, h2]
  rw [hP, projSpec_eq |lon| lat hlat0 hlat1, hfl]
  congr 3; push_cast; ring

/-- **`proj` is the Calabretta–Roukema projection** for `0 ≤ lon < 2π`, any latitude sign -/
theorem proj_eq_spec (lon lat : ℝ) (hlon0 : 0 ≤ lon) (hlon1 : lon < 2 * π) (hlat0 : -(π / 2) ≤ lat)
    (hlat1 : lat ≤ π / 2) : proj (α := ℝ) lon lat = some (projSpec lon lat) := by
  rw [proj_eq_spec_sgn lon lat (by rwa [abs_of_nonneg hlon0]) hlat0 hlat1, abs_of_nonneg hlon0, sgn_of_nonneg hlon0]

theorem projSpec_x_nonneg (lon lat : ℝ) (hlon0 : 0 ≤ lon) (hl1 : -(π / 2) ≤ lat) (hl2 : lat ≤ π / 2) :
    0 ≤ (projSpec lon lat).1 := by
  have hpi := pi_pos
  obtain ⟨s0, s1⟩ := sigma_bounds lat hl1 hl2
  have hf0 : (0 : ℝ) ≤ (⌊lon * 2 / π⌋ : ℝ) := by exact_mod_cast Int.floor_nonneg.mpr (by positivity : 0 ≤ lon * 2 / π)
  rw [projSpec_eq lon lat hl1 hl2, add_comm]
  refine le_trans (le_min (by linarith) ?_) (contract_between _ _ s0 s1).1
  rw [sub_add_cancel]; positivity

/-- `lon = 0` belongs to `proj_eq_spec`: over ℝ there is no `-0.0`; at `Float` the input `-0.0` has its sign bit set and
    `x` is negated -/
theorem proj_eq_spec_neg (lon lat : ℝ) (hlon0 : -(2 * π) < lon) (hlon1 : lon < 0) (hlat0 : -(π / 2) ≤ lat)
    (hlat1 : lat ≤ π / 2) :
    proj (α := ℝ) lon lat = some (-(projSpec (-lon) lat).1, (projSpec (-lon) lat).2) := by
  rw [proj_eq_spec_sgn lon lat (by rw [abs_of_neg hlon1]; linarith) hlat0 hlat1, abs_of_neg hlon1, sgn_of_neg hlon1,
    abs_of_nonneg (projSpec_x_nonneg _ lat (by linarith) hlat0 hlat1)]

/-- the hypotheses of `proj_eq_spec` and of `proj_eq_spec_neg` are satisfiable -/
example : (0 : ℝ) ≤ 1 ∧ (1 : ℝ) < 2 * π ∧ -(π / 2) ≤ (1 / 2 : ℝ) ∧ (1 / 2 : ℝ) ≤ π / 2 := by
  have := Real.two_le_pi
  refine ⟨by norm_num, by linarith, by linarith, by linarith⟩
example : -(2 * π) < (-1 : ℝ) ∧ (-1 : ℝ) < 0 ∧ -(π / 2) ≤ (-1 : ℝ) ∧ (-1 : ℝ) ≤ π / 2 := by
  have := Real.two_le_pi
  refine ⟨by linarith, by norm_num, by linarith, by linarith⟩

theorem unproj_proj_gen (lon lat : ℝ) (hlon : |lon| < 2 * π) (hlat0 : -(π / 2) ≤ lat) (hlat1 : lat ≤ π / 2) :
    ∃ X Y, proj (α := ℝ) lon lat = some (X, Y) ∧
      unproj (α := ℝ) X Y = some (if sig |lat| ≤ (Num.epsPole : ℝ) then X * (π / 4) else lon, lat) := by
  have hpi := pi_pos
  have hb0 := abs_nonneg lat
  have hb1 : |lat| ≤ π / 2 := abs_le.mpr ⟨hlat0, hlat1⟩
  obtain ⟨k, hk, h1, h2, hP⟩ := proj_closed_turn lon lat hlon hlat0 hlat1
  rw [← sigma_abs lat, ← sgn_planeY_abs lat hlat0] at hP
  obtain ⟨s0, s1, y0, -, ypos⟩ := sigma_planeY_pos |lat| hb0 hb1
  -- the projected abscissa lies between the facet centre and `|lon|·4/π`: it vanishes only with the longitude
  have hX := (contract_between (|lon| * (4 / π) - (2 * k + 1)) (2 * k + 1) s0 s1).1
  rw [sub_add_cancel] at hX
  have hX0 : 0 ≤ (|lon| * (4 / π) - (2 * k + 1)) * sigma |lat| + (2 * k + 1) :=
    le_trans (le_min (by positivity) (by positivity)) hX
  have hXpos : lon < 0 → 0 < (|lon| * (4 / π) - (2 * k + 1)) * sigma |lat| + (2 * k + 1) := fun h =>
    lt_of_lt_of_le (lt_min (by positivity) (mul_pos (abs_pos.mpr h.ne) (by positivity))) hX
  have hYpos : lat < 0 → 0 < planeY |lat| := fun h => ypos (abs_pos.mpr h.ne)
  have hQ := unproj_proj_pos k hk _ |lat| h1 h2 hb0 hb1
  refine ⟨_, _, hP, ?_⟩
  rw [sgn_lift _ unproj_sym lon lat _ _ _ _ hX0 y0 hQ hXpos hYpos, sgn_abs_self]
  by_cases hpole : sig |lat| ≤ (Num.epsPole : ℝ)
  · rw [if_pos hpole, if_pos hpole, sgn_mul_pos _ _ _ (by positivity)]
  · rw [if_neg hpole, if_neg hpole, show |lon| * (4 / π) * (π / 4) = |lon| by field_simp, sgn_abs_self]

theorem unproj_proj_full (lon lat : ℝ) (hlon : |lon| < 2 * π) (hlat0 : -(π / 2) ≤ lat) (hlat1 : lat ≤ π / 2)
    (hpole : (Num.epsPole : ℝ) < Real.sqrt 6 * Real.cos (|lat| / 2 + π / 4)) :
    ∃ X Y, proj (α := ℝ) lon lat = some (X, Y) ∧ unproj (α := ℝ) X Y = some (lon, lat) := by
  obtain ⟨X, Y, hp, hu⟩ := unproj_proj_gen lon lat hlon hlat0 hlat1
  rw [← sig_eq] at hpole
  exact ⟨X, Y, hp, by rw [hu, if_neg (not_le.mpr hpole)]⟩

/-- the hypotheses of `unproj_proj_full` on longitude and latitude are satisfiable, for both signs -/
example : |(1 : ℝ)| < 2 * π ∧ -(π / 2) ≤ (1 / 2 : ℝ) ∧ (1 / 2 : ℝ) ≤ π / 2 := by
  have := Real.two_le_pi
  refine ⟨by rw [abs_one]; linarith, by linarith, by linarith⟩
example : |(-1 : ℝ)| < 2 * π ∧ -(π / 2) ≤ (-1 : ℝ) ∧ (-1 : ℝ) ≤ π / 2 := by
  have := Real.two_le_pi
  refine ⟨by rw [abs_neg, abs_one]; linarith, by linarith, by linarith⟩

/-- **beyond the pole threshold, the poles `lat = ±π/2` included**: the latitude is recovered exactly, the longitude is the
    one of a point of the same facet quarter at distance `|pm1|·σ·π/4 ≤ EPS_POLE·π/4` of the facet centre (on the sphere:
    within `EPS_POLE` of the input) -/
theorem unproj_proj_pole (lon lat : ℝ) (hlon : |lon| < 2 * π) (hlat0 : -(π / 2) ≤ lat) (hlat1 : lat ≤ π / 2)
    (hpole : Real.sqrt 6 * Real.cos (|lat| / 2 + π / 4) ≤ (Num.epsPole : ℝ)) :
    ∃ X Y, proj (α := ℝ) lon lat = some (X, Y) ∧ unproj (α := ℝ) X Y = some (X * (π / 4), lat) := by
  obtain ⟨X, Y, hp, hu⟩ := unproj_proj_gen lon lat hlon hlat0 hlat1
  rw [← sig_eq] at hpole
  exact ⟨X, Y, hp, by rw [hu, if_pos hpole]⟩

/-- at the pole itself `unproj` returns the longitude of the facet centre: any longitude is the same point there -/
theorem unproj_proj_at_pole (lon lat : ℝ) (hlon : |lon| < 2 * π) (hlat : |lat| = π / 2) :
    ∃ k : ℕ, k < 4 ∧ (k : ℝ) ≤ |lon| * 2 / π ∧ |lon| * 2 / π < k + 1 ∧
      proj (α := ℝ) lon lat = some (sgn lon (2 * k + 1), sgn lat 2) ∧
      unproj (α := ℝ) (sgn lon (2 * k + 1)) (sgn lat 2) = some (sgn lon ((2 * k + 1) * (π / 4)), lat) := by
  have hpi := pi_pos
  obtain ⟨hl0, hl1⟩ := abs_le.mp (le_of_eq hlat)
  obtain ⟨k, hk, h1, h2, hP⟩ := proj_closed_turn lon lat hlon hl0 hl1
  have e : |lon| * 2 / π = |lon| * (4 / π) / 2 := by ring
  have hN := not_le.mp ((sig_lt_one_iff |lat| (by linarith) hlat.le).mp (by rw [hlat, sig_half_pi]; norm_num))
  rw [← sigma_abs lat, ← sgn_planeY_abs lat hl0, sigma_of_north hN, planeY_of_north hN, hlat, sig_half_pi, mul_zero,
    zero_add, sub_zero] at hP
  refine ⟨k, hk, by rw [e]; linarith, by rw [e]; linarith, hP, ?_⟩
  obtain ⟨X, Y, hp, hu⟩ := unproj_proj_pole lon lat hlon hl0 hl1 (by rw [← sig_eq, hlat, sig_half_pi]; exact epsPole_pos.le)
  rw [hP, Option.some.injEq, Prod.mk.injEq] at hp
  obtain ⟨rfl, rfl⟩ := hp
  rw [hu, sgn_mul_pos _ _ _ (by positivity)]

theorem unproj_proj_real (lon lat : ℝ) (hlon0 : 0 ≤ lon) (hlon1 : lon < 2 * π) (hlat0 : 0 ≤ lat) (hlat1 : lat ≤ π / 2)
    (hpole : (Num.epsPole : ℝ) < Real.sqrt 6 * Real.cos (1 / 2 * lat + π / 4)) :
    ∃ X Y, proj (α := ℝ) lon lat = some (X, Y) ∧ unproj (α := ℝ) X Y = some (lon, lat) :=
  unproj_proj_full lon lat (by rwa [abs_of_nonneg hlon0]) (by linarith [pi_pos]) hlat1
    (by rw [abs_of_nonneg hlat0, ← sig_eq]; exact hpole)

#print axioms unproj_proj_full
#print axioms unproj_proj_pole
#print axioms unproj_proj_at_pole
#print axioms proj_eq_spec
#print axioms proj_eq_spec_neg
#print axioms proj_eq_spec_sgn
#print axioms proj_sym
#print axioms unproj_sym
end Hpx.Proj
