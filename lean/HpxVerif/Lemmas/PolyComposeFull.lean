/-
C12, composition at `α := ℝ`: the structural theorems on the polygon descent (which hold for every numeric instance)
composed with the meaning of `Polygon::contains` over the reals, stated on the value returned by the top-level model
function `Sph.polygonCoverage` (`polygon_coverage(vertices, exact_solution)`, both modes).

WHAT THE CODE TESTS before it pushes a cell with the "fully covered" flag (`polygon_coverage_recur`, nested/mod.rs):
  1. `is_in_list` is false: no cell of the sorted list (cells of the polygon vertices, plus, in the exact mode, cells of the
     special points of the edges) lies under the cell;
  2. `n_vertices_in_poly == 4`: `Polygon::contains` answers true for the FOUR VERTICES of the cell (`vertices()`, each passed
     through `Coo3D::from_sph_coo`).
  The CENTRE of the cell is NOT tested (nor any other point).  `full_cells_inside_convex` proves 1. and 2. geometrically for
  convex polygons; `PolyComposeCentre.lean` shows what follows for the centre and for the other points of the cell.
In the C12 files T1 names this meaning of the flag (`full_cells_inside_convex`), T2 what follows for the rest of the cell
(`PolyComposeCentre.lean`, `PolyComposeBulge.lean`), T3 that the cells of the polygon vertices are kept.
-/
import HpxVerif.Lemmas.PolyLemmas
import HpxVerif.Lemmas.Atan2Vec
import HpxVerif.Lemmas.PolyRealBoundary
import HpxVerif.Lemmas.PolyCoverSpec

set_option autoImplicit false

namespace Hpx.PolyCompose
open Hpx Hpx.Cover Hpx.Bmoc Hpx.Sph Real Hpx.Proj

theorem ite_none_none {c1 c2 : Prop} [Decidable c1] [Decidable c2] {β : Type} (v ll : β)
    (h : (if c1 then none else if c2 then none else some v) = some ll) : v = ll := by
  split_ifs at h
  exact Option.some.inj h

theorem r_atan2 (y x : ℝ) : Num.atan2 y x = Complex.arg ⟨x, y⟩ := rfl

/-- the longitude is brought into `[0, 2π)` by a whole turn at most: same cosine and sine -/
theorem lonFix (a : ℝ) (h1 : -π < a) (h2 : a ≤ π) :
    let l := (if Num.lt a (Num.zero : ℝ) = true then a + Num.twicePi
      else if (Num.le a (Num.twicePi : ℝ) && Num.le (Num.twicePi : ℝ) a) = true then Num.zero else a)
    cos l = cos a ∧ sin l = sin a ∧ 0 ≤ l ∧ l < 2 * π := by
  have hpi := pi_pos
  simp only [r_lt, r_le, r_zero, r_twicePi]
  by_cases hn : a < 0
  · simp only [hn, decide_true, if_true]
    exact ⟨cos_add_two_pi a, sin_add_two_pi a, by linarith, by linarith⟩
  · have hc : ¬ (2 * π ≤ a) := by linarith
    simp only [hn, hc, decide_false, Bool.and_false, Bool.false_eq_true, if_false]
    exact ⟨trivial, trivial, by linarith, by linarith⟩

theorem lonlatOf_real (dbg : Bool) (x y z : ℝ) (ll : ℝ × ℝ) (h : lonlatOf dbg x y z = some ll) :
    ll.2 = Complex.arg ⟨Real.sqrt (x * x + y * y), z⟩ ∧
    cos ll.1 = cos (Complex.arg ⟨x, y⟩) ∧ sin ll.1 = sin (Complex.arg ⟨x, y⟩) ∧ 0 ≤ ll.1 ∧ ll.1 < 2 * π := by
  unfold lonlatOf at h
  have h' := ite_none_none _ _ h
  rw [← h']
  exact ⟨rfl, lonFix _ (Complex.neg_pi_lt_arg ⟨x, y⟩) (Complex.arg_le_pi ⟨x, y⟩)⟩

/-- `Coo3D::from_sph_coo` over the reals, every input: whatever the position `(lon, lat)` (in or out of the canonical
    ranges), the value returned is a consistent `Coo` (`Valid`) whose unit vector is that of `(lon, lat)`. -/
theorem fromSphCoo_valid (dbg : Bool) (lon lat : ℝ) (c : Coo ℝ) (h : fromSphCoo dbg lon lat = some c) :
    c.Valid ∧ c.x = cos lat * cos lon ∧ c.y = cos lat * sin lon ∧ c.z = sin lat := by
  have hpi := pi_pos
  unfold fromSphCoo vec3Of at h
  simp only [] at h
  split_ifs at h with hr
  · -- out of the canonical ranges: the position is recomputed from the vector
    cases hl : lonlatOf dbg (Num.cos lat * Num.cos lon) (Num.cos lat * Num.sin lon) (Num.sin lat) with
    | none => rw [hl] at h; simp at h
    | some ll =>
      rw [hl] at h
      simp only [Option.map_some] at h
      have hc := Option.some.inj h
      obtain ⟨e2, c1, s1, l0, l1⟩ := lonlatOf_real dbg _ _ _ ll hl
      simp only [r_cos, r_sin] at c1 s1 e2
      obtain ⟨vx, vy, vz⟩ := vec_of_atan2 lon lat
      have hlat : |ll.2| ≤ π / 2 := by
        rw [e2, Complex.abs_arg_le_pi_div_two_iff]; exact Real.sqrt_nonneg _
      rw [← hc]
      refine ⟨⟨?_, ?_, ?_, l0, l1, (abs_le.mp hlat).1, (abs_le.mp hlat).2⟩, rfl, rfl, rfl⟩
      · show cos lat * cos lon = cos ll.2 * cos ll.1
        rw [c1, e2, vx]
      · show cos lat * sin lon = cos ll.2 * sin ll.1
        rw [s1, e2, vy]
      · show sin lat = sin ll.2
        rw [e2, vz]
  · have hc := Option.some.inj h
    simp only [r_lt, r_le, r_zero, r_twicePi, r_hpi, Bool.or_eq_true, decide_eq_true_eq, not_or, not_lt, not_le] at hr
    obtain ⟨⟨⟨a1, a2⟩, a3⟩, a4⟩ := hr
    rw [← hc]
    exact ⟨⟨rfl, rfl, rfl, a1, a2, a3, a4⟩, rfl, rfl, rfl⟩


section Generic
variable {α : Type} [Num α]

theorem mapM_forall2 {β γ : Type} (f : β → Option γ) : ∀ (l : List β) (r : List γ), l.mapM f = some r →
    List.Forall₂ (fun a b => f a = some b) l r := by
  intro l
  induction l with
  | nil => intro r h; simp at h; subst h; exact List.Forall₂.nil
  | cons a l ih =>
    intro r h
    rw [List.mapM_cons] at h
    cases ha : f a with
    | none => simp [ha] at h
    | some b =>
      cases hl : l.mapM f with
      | none => simp [ha, hl] at h
      | some bs =>
        simp [ha, hl] at h
        subst h
        exact List.Forall₂.cons ha (ih bs hl)

theorem forall2_mem_left {β γ : Type} {R : β → γ → Prop} {l : List β} {r : List γ} (h : List.Forall₂ R l r) :
    ∀ a ∈ l, ∃ b ∈ r, R a b := by
  induction h with
  | nil => intro a ha; cases ha
  | cons hab _ ih =>
    intro a ha
    rcases List.mem_cons.mp ha with rfl | ha
    · exact ⟨_, List.mem_cons_self, hab⟩
    · obtain ⟨b, hb, hr⟩ := ih a ha
      exact ⟨b, List.mem_cons_of_mem _ hb, hr⟩

theorem forall2_mem_right {β γ : Type} {R : β → γ → Prop} {l : List β} {r : List γ} (h : List.Forall₂ R l r) :
    ∀ b ∈ r, ∃ a ∈ l, R a b :=
  forall2_mem_left h.flip

theorem vertices_four (cfg : Cfg) (d h : Nat) (vs : List (α × α)) (hv : Hash.vertices (α := α) cfg d h = some vs) :
    ∃ s e n w, vs = [s, e, n, w] := by
  unfold Hash.vertices at hv
  cases hc : Hash.centerOfProjectedCell (α := α) cfg d h with
  | none => simp [hc] at hv
  | some c =>
    simp only [hc, Option.bind_some] at hv
    have hl : vs.length = 4 := (mapM_forall2 id _ _ hv).length_eq.symm
    match vs, hl with
    | [s, e, n, w], _ => exact ⟨s, e, n, w, rfl⟩

end Generic


/-- `p` is strictly inside the half-space of every edge of the polygon of vertex list `vs` (winding `o = ±1`) -/
def InsideAll (o : ℝ) (vs : List (Coo ℝ)) (p : Coo ℝ) : Prop :=
  ∀ e ∈ edges vs, 0 < o * dot p (cross e.1 e.2)

/-- `p` is not on the boundary of the (closed, convex) polygon: if it is in all the closed half-spaces, it is in all the
    open ones.  (A point outside some closed half-space satisfies this trivially.) -/
def OffBoundary (o : ℝ) (vs : List (Coo ℝ)) (p : Coo ℝ) : Prop :=
  (∀ e ∈ edges vs, 0 ≤ o * dot p (cross e.1 e.2)) → ∀ e ∈ edges vs, 0 < o * dot p (cross e.1 e.2)

theorem offBoundary_of_ne (o : ℝ) (ho : o ≠ 0) (vs : List (Coo ℝ)) (p : Coo ℝ)
    (h : ∀ e ∈ edges vs, dot p (cross e.1 e.2) ≠ 0) : OffBoundary o vs p :=
  fun hall e he => lt_of_le_of_ne (hall e he) (Ne.symm (mul_ne_zero ho (h e he)))

theorem offBoundary_of_inside (o : ℝ) (vs : List (Coo ℝ)) (p : Coo ℝ) (h : InsideAll o vs p) : OffBoundary o vs p :=
  fun _ => h

theorem dot_congr (p q : Coo ℝ) (N : ℝ × ℝ × ℝ) (hx : p.x = q.x) (hy : p.y = q.y) (hz : p.z = q.z) : dot p N = dot q N := by
  unfold dot; rw [hx, hy, hz]

theorem contains_iff_insideAll (poly : Polygon ℝ) (hb : poly.Built) (o : ℝ) (hcv : ConvexNoPole o poly.vertices) (p : Coo ℝ)
    (hp : p.Valid) (hoff : OffBoundary o poly.vertices p) : poly.contains p = true ↔ InsideAll o poly.vertices p :=
  contains_convex_final poly hb o hcv p hp hoff

theorem offBoundary_of_outside (o : ℝ) (vs : List (Coo ℝ)) (p : Coo ℝ) (e : Coo ℝ × Coo ℝ) (he : e ∈ edges vs)
    (h : o * dot p (cross e.1 e.2) < 0) : OffBoundary o vs p ∧ ¬ InsideAll o vs p :=
  ⟨fun hall => absurd (hall e he) (not_le.mpr h), fun hall => absurd (hall e he) (not_lt.mpr h.le)⟩

theorem classifier_full_convex (cfg : Cfg) (target : Nat) (poly : Polygon ℝ) (hb : poly.Built) (o : ℝ)
    (hcv : ConvexNoPole o poly.vertices) (srt : List Nat) (d h l : Nat)
    (hk : polyClassifier cfg target poly srt d h l = some .full) :
    isInList d h target srt = false ∧
    ∃ s e n w : ℝ × ℝ, Hash.vertices (α := ℝ) cfg d h = some [s, e, n, w] ∧
      ∀ v ∈ [s, e, n, w], OffBoundary o poly.vertices (cooOf v) → InsideAll o poly.vertices (cooOf v) := by
  obtain ⟨h1, vs, cs, hvs, hcs, h4⟩ := classifier_full cfg target poly srt d h l hk
  obtain ⟨s, e, n, w, rfl⟩ := vertices_four cfg d h vs hvs
  have hf := mapM_forall2 _ _ _ hcs
  -- four corners, four of them inside
  have hall : ∀ c ∈ cs, poly.contains c = true :=
    List.length_filter_eq_length_iff.mp (by rw [h4, ← hf.length_eq]; rfl)
  refine ⟨h1, s, e, n, w, hvs, fun v hv hoff => ?_⟩
  obtain ⟨c, hc, hvc⟩ := forall2_mem_left hf v hv
  -- `c` is a consistent `Coo` with the unit vector of `v`
  obtain ⟨hval, ex, ey, ez⟩ := fromSphCoo_valid cfg.debug v.1 v.2 c hvc
  have hiff := contains_iff_insideAll poly hb o hcv c hval
  simp only [OffBoundary, InsideAll, fun N => dot_congr c (cooOf v) N ex ey ez] at hiff
  exact (hiff hoff).mp (hall c hc)

/-- T1 — what the "fully covered" flag of `polygon_coverage` means for a convex polygon (ℝ, both modes, every depth
    `≤ 29`, both profiles).  Polygon: positions `lls` in the canonical ranges, `ConvexNoPole o (lls.map cooOf)` (strictly
    convex, either winding, at least 3 vertices, inside an open hemisphere, no pole inside — the hypotheses of
    `contains_convex_final_new`).  If `polygon_coverage(depth, lls, exact)` returns `b`, then `b` is the encoded list `cells`, and
    for every cell `c` of it carrying the full flag:
    * `c.depth ≤ depth`;
    * no cell of a polygon vertex (`hs`), and in the exact mode of a special point (`ex`), lies under `c`;
    * `vertices(c.depth, c.hash)` returns four positions `S, E, N, W` and each of them that is not on the boundary of the polygon
      is strictly inside the half-spaces of ALL the edges.
    Nothing else is tested by the code: in particular NOT the centre of the cell (see `PolyComposeCentre.lean`). -/
theorem full_cells_inside_convex (cfg : Cfg) (depth : Nat) (lls : List (ℝ × ℝ)) (exact : Bool) (b : BMOC)
    (hr : ∀ ll ∈ lls, 0 ≤ ll.1 ∧ ll.1 < 2 * π ∧ -(π / 2) ≤ ll.2 ∧ ll.2 ≤ π / 2)
    (o : ℝ) (hcv : ConvexNoPole o (lls.map cooOf))
    (h : polygonCoverage cfg depth lls exact = some b) :
    depth ≤ 29 ∧ ∃ (poly : Polygon ℝ) (hs ex : List Nat) (cells : List Cell),
      Polygon.new cfg.debug lls = some poly ∧ poly.vertices = lls.map cooOf ∧
      poly.vertices.mapM (fun c => Hash.hashV2 cfg depth c.lon c.lat) = some hs ∧
      (if exact then specialHashes cfg depth poly else some []) = some ex ∧
      b = { dmax := depth, entries := cells.map (encode depth) } ∧
      ∀ c ∈ cells, c.full = true →
        c.depth ≤ depth ∧
        (∀ q ∈ hs ++ ex, q >>> ((depth - c.depth) <<< 1) ≠ c.hash) ∧
        ∃ s e n w : ℝ × ℝ, Hash.vertices (α := ℝ) cfg c.depth c.hash = some [s, e, n, w] ∧
          ∀ v ∈ [s, e, n, w], OffBoundary o (lls.map cooOf) (cooOf v) → InsideAll o (lls.map cooOf) (cooOf v) := by
  obtain ⟨hd, poly, hs, ex, ds, roots, cells, h1, h2, h3, _, hds, h5, h6⟩ := coverage_spec_start cfg depth lls exact b h
  have hne : lls ≠ [] := by
    intro h0; have := hcv.hn; rw [h0] at this; simp at this
  obtain ⟨poly', hnew, hvs, hb⟩ := polygon_new_real cfg.debug lls hne hr
  rw [h1] at hnew; cases hnew
  refine ⟨hd, poly, hs, ex, cells, h1, hvs, h2, h3, h6, ?_⟩
  intro c hc hfull
  obtain ⟨_, _, g2⟩ := foldlM_append_spec _ roots [] cells h5
  rcases g2 c hc with h0 | ⟨r, _, out, hout, hco⟩
  · simp at h0
  have hbelow := coverRec_below depth _ depth (Nat.le_refl _) (depth + 2) ds r 0 out hds hout
  obtain ⟨l, hl | ⟨_, hl⟩⟩ := coverRec_full_rule depth _ (depth + 2) ds r 0 out hout c hco hfull
  · rw [← hvs] at hcv ⊢
    obtain ⟨k1, k2⟩ := classifier_full_convex cfg depth poly hb o hcv _ c.depth c.hash l hl
    refine ⟨(hbelow.2 c hco).2.2.2, ?_, k2⟩
    intro q hq hanc
    have := isInList_complete c.depth c.hash depth _ (pairwise_dedup_sort (hs ++ ex)) q
      ((mem_dedup_sort q _).mpr hq) hanc
    rw [this] at k1; exact absurd k1 (by simp)
  · exact absurd (classifier_descend cfg depth poly _ _ _ l true hl) (by simp)

/-- the hypotheses on the polygon are satisfiable: the triangle `(0, 0)`, `(π/2, 0)`, `(π/4, π/4)` of `PolyRealBoundary`.  (A second
    polygon, with a cell that the classifier flags full, is in `PolyComposeBulge.lean`; the hypothesis
    `polygonCoverage … = some b` is an evaluation of the whole function over ℝ, which is not done here: on the `Float`
    instance `polygonCoverage {} 3 [(0, 0), (π/2, 0), (π/4, π/4)] false` returns 44 cells, 12 of them full.) -/
example : (∀ ll ∈ triLL, 0 ≤ ll.1 ∧ ll.1 < 2 * π ∧ -(π / 2) ≤ ll.2 ∧ ll.2 ≤ π / 2) ∧ ConvexNoPole 1 (triLL.map cooOf) :=
  ⟨triLL_range, triLL_map ▸ tri_convex⟩

#print axioms Hpx.PolyCompose.fromSphCoo_valid
#print axioms Hpx.PolyCompose.full_cells_inside_convex

end Hpx.PolyCompose
