import HpxVerif.Model.F64

/-! Bit-level lemmas: the exponent trick commutes with truncation (hierarchy of cell numbers, C02). -/

namespace Hpx.F64

theorem expAdd_nonneg (b : Nat) (k : Nat) : expAdd b (k : Int) = (b + k * 2 ^ 52) % 2 ^ 64 := by
  unfold expAdd
  omega

/-- patterns whose value is negative, NaN, zero/subnormal, or a positive number below 8 -/
def Small (b : Nat) : Prop := b < 2 ^ 64 ∧ (sgnF b = 1 ∨ (expF b = 2047 ∧ manF b ≠ 0) ∨ (sgnF b = 0 ∧ expF b ≤ 1025))

theorem fields_expAdd (b k : Nat) :
    sgnF (expAdd b k) * 2048 + expF (expAdd b k) = (sgnF b * 2048 + expF b + k) % 4096 ∧
    manF (expAdd b k) = manF b ∧ sgnF (expAdd b k) ≤ 1 ∧ expF (expAdd b k) < 2048 := by
  rw [expAdd_nonneg]
  unfold expF manF sgnF
  simp only [Nat.shiftRight_eq_div_pow]
  omega

theorem sig_shr_zero (m s : Nat) (hm : m < 2 ^ 52) (hs : 53 ≤ s) : (2 ^ 52 + m) >>> s = 0 := by
  apply Nat.shiftRight_eq_zero
  calc 2 ^ 52 + m < 2 ^ 53 := by omega
    _ ≤ 2 ^ s := Nat.pow_le_pow_right (by decide) hs

theorem sig_shr_lt (m s : Nat) (hm : m < 2 ^ 52) (hs : 22 ≤ s) : (2 ^ 52 + m) >>> s < 2 ^ 31 := by
  rw [Nat.shiftRight_eq_div_pow]
  have h1 : 2 ^ 22 ≤ 2 ^ s := Nat.pow_le_pow_right (by decide) hs
  have h2 : (2 ^ 52 + m) / 2 ^ s ≤ (2 ^ 52 + m) / 2 ^ 22 := Nat.div_le_div_left h1 (by decide)
  have h3 : (2 ^ 52 + m) / 2 ^ 22 < 2 ^ 31 := by omega
  omega

theorem manF_lt (b : Nat) : manF b < 2 ^ 52 := by unfold manF; omega

theorem truncU_of_fields {q : Nat} (hs : sgnF q = 0) (he : expF q ≤ 1053) :
    truncU 32 q = if expF q = 0 then 0 else (2 ^ 52 + manF q) >>> (1075 - expF q) := by
  unfold truncU floorPos
  have h1 : ¬ (sgnF q = 1) := by omega
  have h2 : ¬ (expF q = 2047) := by omega
  have h3 : ¬ (expF q ≥ 1075) := by omega
  simp only [h1, h2, h3, if_false]
  by_cases h0 : expF q = 0
  · simp [h0]
  · simp only [h0, if_false]
    have := sig_shr_lt (manF q) (1075 - expF q) (manF_lt q) (by omega)
    omega

theorem truncU_expAdd_small {b : Nat} (hb : Small b) (k : Nat) (hk : k ≤ 28) :
    truncU 32 (expAdd b k) =
      if sgnF b = 0 ∧ 1 ≤ expF b ∧ expF b ≤ 1025 then (2 ^ 52 + manF b) >>> (1075 - expF b - k) else 0 := by
  obtain ⟨-, hcase⟩ := hb
  obtain ⟨hT, hm, hs1, he1⟩ := fields_expAdd b k
  have hsb : sgnF b ≤ 1 := by unfold sgnF; omega
  have heb : expF b < 2048 := by unfold expF; omega
  generalize expAdd b k = q at *
  have key : (sgnF b = 0 ∧ 1 ≤ expF b ∧ expF b ≤ 1025) ∧ sgnF q = 0 ∧ expF q = expF b + k ∨
      ¬ (sgnF b = 0 ∧ 1 ≤ expF b ∧ expF b ≤ 1025) ∧
        (sgnF q = 1 ∨ sgnF q = 0 ∧ expF q = 2047 ∧ manF q ≠ 0 ∨ sgnF q = 0 ∧ expF q ≤ 28) := by omega
  rcases key with ⟨hp, hs, he⟩ | ⟨hp, hs | ⟨hs, he, hm0⟩ | ⟨hs, he⟩⟩
  · -- a positive normal number below 8: the exponent field takes the increment
    rw [if_pos hp, truncU_of_fields hs (by omega), hm, if_neg (by omega), he, Nat.sub_sub]
  · -- negative: `b` was, or was a NaN that the increment pushed into the sign bit
    rw [if_neg hp]; unfold truncU; simp [hs]
  · -- still a NaN (`k = 0`)
    rw [if_neg hp]; unfold truncU; simp [hs, he, hm0]
  · -- tiny: `b` was zero or subnormal, or negative and the increment wrapped round
    rw [if_neg hp, truncU_of_fields hs (by omega)]
    split
    · rfl
    · exact sig_shr_zero _ _ (manF_lt _) (by omega)

theorem truncU_expAdd_prefix {b : Nat} (hb : Small b) (k k' : Nat) (hkk : k ≤ k') (hk' : k' ≤ 28) :
    truncU 32 (expAdd b k') >>> (k' - k) = truncU 32 (expAdd b k) := by
  rw [truncU_expAdd_small hb k' hk', truncU_expAdd_small hb k (by omega)]
  split
  · rename_i h
    rw [← Nat.shiftRight_add]
    congr 1
    omega
  · simp

end Hpx.F64
