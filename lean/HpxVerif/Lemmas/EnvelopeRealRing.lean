import HpxVerif.Lemmas.EnvelopeRealEqr
import HpxVerif.Lemmas.EnvelopeRealCell
import HpxVerif.Lemmas.CapLat

/-!
# C16 — the limit of the equatorial envelope: cells centred ON the transition latitude

The cells of the transition ring (centre ordinate `±1`, centre latitude `tl`, north vertex in the polar cap) get the polar-cap
branch AT THEIR CENTRE, but their southern half lies below `tl`: there the function uses the equatorial line, whose value tends
to `dMax2` at `tl`, and `dMax2` (= distance centre → SOUTH vertex of such a cell) is strictly smaller than the distance
centre → NORTH vertex (`npc_gt_dMax2`).  Hence F23 (`c2v_below_true_on_transition_ring`; Float model, depth 1, cell 2: `0.3925`
against `0.4815`, −18 %; depth 6, cell 1365: `0.013891` against `0.016653`): "an upper limit on the distance between a cell
center around the given position and its furthest vertex" holds at cell centres and in cells whose vertices are in the
equatorial region, not at every position.
-/

namespace Hpx.EnvelopeReal
open Hpx Hpx.Hash Hpx.C2V Hpx.C2VReal Hpx.Proj Hpx.Cover Hpx.CellReal Real

/-! ## the distance to the north vertex of a transition-ring cell exceeds `dMax2` -/

/-- the algebra of `npc_gt_dMax2`: with `ca = cos tl`, `cb = cos(arcsin(2t/3))`, `sin(2·tl − b) < sin(capLat(2 − t))`, since
    `(1 − t²/3 + 2t/27)² − (4/3·ca·cb)² = (t − 1)²·(9t² + 14t + 1)/81` -/
theorem npc_gap_arith (t ca cb : ℝ) (ht0 : 0 ≤ t) (ht1 : t < 1) (hca2 : ca ^ 2 = 5 / 9)
    (hcb2 : cb ^ 2 = 1 - 4 * t ^ 2 / 9) : 4 / 3 * (ca * cb) - 2 * t / 27 < 1 - t ^ 2 / 3 := by
  have ht2 : t ^ 2 ≤ 1 := pow_le_one₀ ht0 ht1.le
  have hL : 0 ≤ 1 - t ^ 2 / 3 + 2 * t / 27 := by linarith
  have hgap : 0 < (t - 1) ^ 2 * (9 * t ^ 2 + 14 * t + 1) / 81 := by
    have : 0 < (t - 1) ^ 2 := sq_pos_of_neg (by linarith)
    positivity
  have hsq : (4 / 3 * (ca * cb)) ^ 2 < (1 - t ^ 2 / 3 + 2 * t / 27) ^ 2 := by
    rw [mul_pow, mul_pow, hca2, hcb2]
    linarith [show (1 - t ^ 2 / 3 + 2 * t / 27) ^ 2 - (4 / 3) ^ 2 * (5 / 9 * (1 - 4 * t ^ 2 / 9)) =
      (t - 1) ^ 2 * (9 * t ^ 2 + 14 * t + 1) / 81 by ring]
  linarith [lt_of_pow_lt_pow_left₀ 2 hL hsq]

/-- on the meridian of the centre of a transition-ring cell the north vertex is strictly farther than the south vertex -/
theorem npc_gt_dMax2 (δ : ℝ) (h0 : 0 < δ) (h1 : δ ≤ 1) : dMax2 δ < capLat (1 + δ) - tl := by
  have hpi := Real.pi_gt_three
  obtain ⟨_, hN0, hN1, _⟩ := capLat_props (1 + δ) (by linarith) (by linarith)
  have hsN : sin (capLat (1 + δ)) = 1 - (1 - δ) ^ 2 / 3 := by
    rw [sin_capLat' _ (by linarith) (by linarith)]; ring
  have ht0 : 0 ≤ 1 - δ := by linarith
  have hy0 : 0 ≤ (1 - δ) * (2 / 3) := mul_nonneg ht0 (by norm_num)
  have hb0 := Real.arcsin_nonneg.mpr hy0
  have hba : Real.arcsin ((1 - δ) * (2 / 3)) ≤ tl := Real.arcsin_le_arcsin (by linarith)
  have hsb : sin (Real.arcsin ((1 - δ) * (2 / 3))) = (1 - δ) * (2 / 3) := Real.sin_arcsin (by linarith) (by linarith)
  have hcb2 : cos (Real.arcsin ((1 - δ) * (2 / 3))) ^ 2 = 1 - 4 * (1 - δ) ^ 2 / 9 := by rw [Real.cos_sq', hsb]; ring
  have hlt := npc_gap_arith (1 - δ) (cos tl) _ ht0 (by linarith) cos_sq_tl hcb2
  have hsin : sin (2 * tl - Real.arcsin ((1 - δ) * (2 / 3))) < sin (capLat (1 + δ)) := by
    rw [hsN, Real.sin_sub, Real.sin_two_mul, Real.cos_two_mul_eq_one_sub, sin_tl, hsb]
    linarith
  have := (Real.strictMonoOn_sin.lt_iff_lt ⟨by linarith [tl_pos], by linarith [tl_le]⟩ ⟨by linarith, hN1⟩).mp hsin
  unfold dMax2
  linarith

/-! ## the cells of the north transition ring -/

theorem unproj_cap_lat (x y : ℝ) (hx0 : 0 ≤ x) (hx8 : x < 8) (hy1 : 1 < y) (hy2 : y ≤ 2) :
    ∃ p : ℝ × ℝ, unproj (α := ℝ) x y = some p ∧ p.2 = capLat y := by
  obtain ⟨k, hk, h1, h2⟩ := facet_exists x hx0 4 (by norm_num; linarith)
  have := unproj_pos x y k (by omega) h1 h2 (by linarith) hy2
  rw [if_neg (not_le.mpr hy1)] at this
  exact ⟨_, this, rfl⟩

theorem below_gap_near_transition (d : ℕ) :
    ∃ y0 : ℝ, 1 - 1 / 2 ^ d ≤ y0 ∧ y0 < 1 ∧ ∀ lon yp, y0 < yp → yp < 1 →
      c2v (Csts.new d) lon (latOf yp) < capLat (1 + 1 / 2 ^ d) - tl := by
  obtain ⟨hδ0, hδ1⟩ := distCw_range d
  obtain ⟨lat0, hl0, hl1, hnear⟩ := c2v_near_tl d _ (npc_gt_dMax2 _ hδ0 hδ1)
  refine ⟨max (1 - 1 / 2 ^ d) (1 - (tl - lat0)), le_max_left _ _, max_lt (by linarith) (by linarith),
    fun lon yp hy0 hy1 => ?_⟩
  have hyδ : 1 - 1 / 2 ^ d < yp := (le_max_left _ _).trans_lt hy0
  have hys : 1 - (tl - lat0) < yp := (le_max_right _ _).trans_lt hy0
  -- `tl − latOf yp = dMax2 (1 − yp) < 1 − yp`: the latitude is as close to `tl` as the ordinate to `1`
  have h := dMax2_lt (1 - yp) (by linarith) (by linarith)
  unfold dMax2 at h
  rw [sub_sub_cancel] at h
  exact hnear lon _ (by unfold latOf; linarith) (latOf_lt_tl yp (by linarith) hy1)

/-- **F23**: C16 `f23_below_true_on_transition_ring` -/
theorem c2v_below_true_on_transition_ring (cfg : Cfg) (d hash b i j : ℕ) (hd1 : 1 ≤ d) (hd2 : d ≤ 29)
    (hh : hash < Layer.nHash d) (hdec : Layer.decodeHash cfg d hash = some ⟨b, i, j⟩) (hb : b < 12) (hi : i < 2 ^ d)
    (hj : j < 2 ^ d) (hring : cellCy d b i j = 1) :
    ∃ (c n : ℝ × ℝ) (y0 : ℝ), center (α := ℝ) cfg d hash = some c ∧ vertex (α := ℝ) cfg d hash 2 = some n ∧
      c.2 = tl ∧ y0 < 1 ∧
      ∀ yp, y0 < yp → yp < 1 →
        |yp - cellCy d b i j| < 1 / 2 ^ d ∧
        ∃ (p : ℝ × ℝ) (v : ℝ), unproj (α := ℝ) (norm8 (cellCx d b i j)) yp = some p ∧ |p.2| < tl ∧
          largestC2V false d p.1 p.2 = some v ∧ v < adist c n := by
  obtain ⟨n0, n8⟩ := norm8_center_range d b i j hb hi hj
  obtain ⟨hδ0, hδ1⟩ := distCw_range d
  obtain ⟨y0, hy0δ, hy01, hbelow⟩ := below_gap_near_transition d
  rw [hring]
  set X := norm8 (cellCx d b i j) with hX
  -- the centre, by the equatorial formula on the transition line; the north vertex, of which only the latitude matters
  have uc := unproj_band X 1 n0 (by linarith) (by norm_num)
  rw [one_mul] at uc
  have ec : center (α := ℝ) cfg d hash = some ((if X < 8 then X else X - 8) * (π / 4), Real.arcsin (2 / 3)) := by
    rw [center_plane cfg d hash b i j hh hdec hb hi hj, hring, ← uc]
    exact (unproj_eq X 1 (by norm_num) (by norm_num)).symm
  obtain ⟨pn, un, hpn⟩ := unproj_cap_lat X (1 + 1 / 2 ^ d) n0 (by linarith) (by linarith) (by linarith)
  have en : vertex (α := ℝ) cfg d hash 2 = some pn := by
    rw [vertex_plane cfg d hash b i j 2 hh hdec hb hi hj (by decide), ← un]
    simp only [vtx, hring]
    exact (unproj_eq X (1 + 1 / 2 ^ d) (by linarith) (by linarith)).symm
  have hpi := Real.pi_pos
  clear_value X
  clear hX un hdec hring
  generalize (1 : ℝ) / 2 ^ d = δ at *
  obtain ⟨hreg, hN0, hN1, -⟩ := capLat_props (1 + δ) (by linarith) (by linarith)
  have hdist : capLat (1 + δ) - tl ≤ adist ((if X < 8 then X else X - 8) * (π / 4), Real.arcsin (2 / 3)) pn := by
    have h := adist_ge_lat_diff ((if X < 8 then X else X - 8) * (π / 4)) pn.1 (Real.arcsin (2 / 3)) pn.2
      (abs_le.mpr ⟨Real.neg_pi_div_two_le_arcsin _, Real.arcsin_le_pi_div_two _⟩)
      (by rw [hpn]; exact abs_le.mpr ⟨by linarith, hN1⟩)
    have e : |Real.arcsin (2 / 3) - pn.2| = capLat (1 + δ) - tl := by
      rw [hpn, abs_sub_comm]; exact abs_of_pos (sub_pos.mpr (not_le.mp hreg))
    rwa [e] at h
  refine ⟨_, pn, y0, ec, en, rfl, hy01, fun yp hy0 hy1 => ⟨by rw [abs_lt]; constructor <;> linarith, ?_⟩⟩
  have hyp0 : 0 ≤ yp := by linarith
  have hptl := latOf_lt_tl yp hyp0 hy1
  exact ⟨_, _, unproj_band X yp n0 (by linarith) (abs_le.mpr ⟨by linarith, hy1.le⟩),
    by show |latOf yp| < tl; rwa [abs_of_nonneg (latOf_nonneg yp hyp0)], largestC2V_eq d hd1 hd2 _ _,
    (hbelow _ yp hy0 hy1).trans_le hdist⟩

/-! ## example: such cells exist -/

/-- depth 1, cell 2 = base cell 0, `(i, j) = (0, 1)`: plane centre `(1/2, 1)` -/
example : ∃ (c n : ℝ × ℝ) (y0 : ℝ), center (α := ℝ) {} 1 2 = some c ∧ vertex (α := ℝ) {} 1 2 2 = some n ∧
      c.2 = tl ∧ y0 < 1 ∧
      ∀ yp, y0 < yp → yp < 1 →
        |yp - cellCy 1 0 0 1| < 1 / 2 ^ 1 ∧
        ∃ (p : ℝ × ℝ) (v : ℝ), unproj (α := ℝ) (norm8 (cellCx 1 0 0 1)) yp = some p ∧ |p.2| < tl ∧
          largestC2V false 1 p.1 p.2 = some v ∧ v < adist c n :=
  c2v_below_true_on_transition_ring {} 1 2 0 0 1 (by decide) (by decide) (by decide) (by decide +kernel) (by decide)
    (by decide) (by decide) (by unfold cellCy baseY; norm_num)

end Hpx.EnvelopeReal

#print axioms Hpx.EnvelopeReal.npc_gt_dMax2
#print axioms Hpx.EnvelopeReal.c2v_below_true_on_transition_ring
