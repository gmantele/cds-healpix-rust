/-
Real-valued soundness of the cone-coverage decision scheme (C05, C06): the model's classifier at `α := ℝ`,
the haversine `squared_half_segment`, and the triangle inequality on the sphere (Mathlib).

The cone classifier and the elliptical-cone classifier decide from a ball: the centre of the cell and the radius of its
level.  What a descent with such a classifier guarantees is proved once (`BallTests`), relative to the envelope hypothesis
`H1` (the ball contains the cell), asked only where it is used: of the positions of the region for `skip`, of the balls
that passed the test for `full`.
-/
import HpxVerif.Model.Cover
import HpxVerif.Lemmas.NumReal
import HpxVerif.Lemmas.CoverLemmas
import Mathlib.Geometry.Euclidean.Angle.Unoriented.TriangleInequality
import Mathlib.Analysis.InnerProductSpace.PiL2

namespace Hpx.Cover
open Real InnerProductGeometry
open scoped RealInnerProductSpace

noncomputable def vec (lon lat : ℝ) : EuclideanSpace ℝ (Fin 3) :=
  !₂[cos lat * cos lon, cos lat * sin lon, sin lat]

theorem inner_vec (l1 p1 l2 p2 : ℝ) :
    ⟪vec l1 p1, vec l2 p2⟫ = sin p1 * sin p2 + cos p1 * cos p2 * cos (l1 - l2) := by
  simp only [vec, PiLp.inner_apply, Fin.sum_univ_three]
  simp
  rw [cos_sub]; ring

theorem norm_vec (l p : ℝ) : ‖vec l p‖ = 1 := by
  rw [norm_eq_sqrt_real_inner, inner_vec, sub_self, cos_zero, mul_one, ← sq, ← sq, sin_sq_add_cos_sq, sqrt_one]

noncomputable def adist (p q : ℝ × ℝ) : ℝ := angle (vec p.1 p.2) (vec q.1 q.2)

theorem adist_comm (p q : ℝ × ℝ) : adist p q = adist q p := angle_comm _ _
theorem adist_nonneg (p q : ℝ × ℝ) : 0 ≤ adist p q := angle_nonneg _ _
theorem adist_le_pi (p q : ℝ × ℝ) : adist p q ≤ π := angle_le_pi _ _
theorem adist_triangle (p q s : ℝ × ℝ) : adist p s ≤ adist p q + adist q s := angle_le_angle_add_angle _ _ _

theorem adist_self (p : ℝ × ℝ) : adist p p = 0 := by
  unfold adist
  exact angle_self (norm_ne_zero_iff.mp (by rw [norm_vec]; norm_num))

theorem cos_adist (p q : ℝ × ℝ) :
    cos (adist p q) = sin p.2 * sin q.2 + cos p.2 * cos q.2 * cos (p.1 - q.1) := by
  unfold adist
  rw [cos_angle, norm_vec, norm_vec, inner_vec]; simp

theorem sin_sq_half (x : ℝ) : sin (x / 2) ^ 2 = (1 - cos x) / 2 := by
  rw [sin_sq_eq_half_sub, mul_div_cancel₀ x two_ne_zero]
  ring

theorem sin_sq_half_lt_iff (x y : ℝ) (hx : 0 ≤ x ∧ x ≤ π) (hy : 0 ≤ y ∧ y ≤ π) :
    sin (x / 2) ^ 2 < sin (y / 2) ^ 2 ↔ x < y := by
  -- `cos` is strictly decreasing on `[0, π]`
  rw [sin_sq_half, sin_sq_half, ← strictAntiOn_cos.lt_iff_gt ⟨hy.1, hy.2⟩ ⟨hx.1, hx.2⟩]
  constructor <;> intro h <;> linarith

theorem pow2_sin_half (x : ℝ) : C2V.pow2 (Num.sin (Num.half * x)) = (1 - cos x) / 2 := by
  unfold C2V.pow2
  rw [Proj.r_half]
  show sin (1 / 2 * x) * sin (1 / 2 * x) = _
  rw [← sin_sq_half]; ring_nf

theorem shs_real (coneLon coneLat : ℝ) (p : ℝ × ℝ) :
    shs (α := ℝ) coneLon coneLat (Num.cos coneLat) p = sin (adist (coneLon, coneLat) p / 2) ^ 2 := by
  unfold shs C2V.squaredHalfSegment
  rw [pow2_sin_half, pow2_sin_half, sin_sq_half, cos_adist]
  show (1 - cos (p.2 - coneLat)) / 2 + cos p.2 * cos coneLat * ((1 - cos (p.1 - coneLon)) / 2) = _
  rw [cos_sub p.2 coneLat, show coneLon - p.1 = -(p.1 - coneLon) by ring, cos_neg]
  ring

theorem toShs_real (d : ℝ) : C2V.toSquaredHalfSegment (α := ℝ) d = sin (d / 2) ^ 2 := by
  rw [sin_sq_half]; exact pow2_sin_half d

theorem shs_le_iff (coneLon coneLat x : ℝ) (c : ℝ × ℝ) (hx : 0 ≤ x ∧ x ≤ π) :
    Num.le (shs (α := ℝ) coneLon coneLat (Num.cos coneLat) c) (C2V.toSquaredHalfSegment x) = true ↔
      adist (coneLon, coneLat) c ≤ x := by
  rw [shs_real, toShs_real]
  show decide (_ ≤ _) = true ↔ _
  rw [decide_eq_true_eq, ← not_lt, ← not_lt, sin_sq_half_lt_iff _ _ hx ⟨adist_nonneg _ _, adist_le_pi _ _⟩]

theorem shs_lt_iff (coneLon coneLat x : ℝ) (c : ℝ × ℝ) (hx : 0 ≤ x ∧ x ≤ π) :
    Num.lt (shs (α := ℝ) coneLon coneLat (Num.cos coneLat) c) (C2V.toSquaredHalfSegment x) = true ↔
      adist (coneLon, coneLat) c < x := by
  rw [shs_real, toShs_real]
  show decide (_ < _) = true ↔ _
  rw [decide_eq_true_eq, sin_sq_half_lt_iff _ _ ⟨adist_nonneg _ _, adist_le_pi _ _⟩ hx]

theorem shs_le_max_iff (coneLon coneLat r D : ℝ) (c : ℝ × ℝ) (hrD : 0 ≤ r + D) :
    Num.le (shs (α := ℝ) coneLon coneLat (Num.cos coneLat) c) (toShsMinMax r D).max = true ↔
      adist (coneLon, coneLat) c ≤ min (r + D) π :=
  shs_le_iff coneLon coneLat (min (r + D) π) c ⟨le_min hrD pi_pos.le, min_le_right _ _⟩

theorem cone_skip_sound (coneLon coneLat r D : ℝ) (c : ℝ × ℝ) (hr : 0 ≤ r) (hD : 0 ≤ D)
    (hskip : Num.le (shs (α := ℝ) coneLon coneLat (Num.cos coneLat) c) (toShsMinMax r D).max = false)
    (q : ℝ × ℝ) (hq : adist c q ≤ D) : r < adist (coneLon, coneLat) q := by
  have hlt : min (r + D) π < adist (coneLon, coneLat) c :=
    not_le.mp (mt (shs_le_max_iff coneLon coneLat r D c (by linarith)).mpr (by rw [hskip]; simp))
  have hdpi := adist_le_pi (coneLon, coneLat) c
  have hmin : min (r + D) π = r + D := by
    rcases min_choice (r + D) π with h | h
    · exact h
    · rw [h] at hlt; linarith
  rw [hmin] at hlt
  have htri := adist_triangle (coneLon, coneLat) q c
  rw [adist_comm q c] at htri
  linarith

theorem cone_full_sound (coneLon coneLat r D : ℝ) (c : ℝ × ℝ) (hrpi : r ≤ π) (hD : 0 ≤ D)
    (hfull : Num.lt (shs (α := ℝ) coneLon coneLat (Num.cos coneLat) c) (toShsMinMax r D).min = true)
    (q : ℝ × ℝ) (hq : adist c q ≤ D) : adist (coneLon, coneLat) q < r := by
  unfold toShsMinMax at hfull
  simp only [Proj.r_lt r D, decide_eq_true_eq] at hfull
  by_cases hrD : r < D
  · -- the lower bound is `0`: the test cannot succeed
    rw [if_pos hrD, shs_real, Proj.r_lt, Proj.r_zero, decide_eq_true_eq] at hfull
    exact absurd hfull (not_lt.mpr (sq_nonneg _))
  · rw [if_neg hrD] at hfull
    have hlt := (shs_lt_iff coneLon coneLat (r - D) c ⟨by linarith, by linarith⟩).mp hfull
    have htri := adist_triangle (coneLon, coneLat) c q
    linarith

section
variable {α : Type} [Num α]

theorem coneClassifier_spec (cfg : Cfg) (lon lat cosl r : α) (dists : List α) (d h l : Nat) (v : Verdict)
    (hk : coneClassifier cfg lon lat cosl (dists.map (toShsMinMax r)) d h l = some v) :
    ∃ c D, Hash.center (α := α) cfg d h = some c ∧ dists[l]? = some D ∧
      match v with
      | .full => Num.lt (shs lon lat cosl c) (toShsMinMax r D).min = true
      | .descend fl => fl = false ∧ Num.le (shs lon lat cosl c) (toShsMinMax r D).max = true
      | .skip => Num.le (shs lon lat cosl c) (toShsMinMax r D).max = false := by
  unfold coneClassifier at hk
  split at hk
  · simp at hk
  · rename_i c hc
    rw [List.getElem?_map] at hk
    cases hdl : dists[l]? with
    | none => simp [hdl] at hk
    | some D =>
      simp only [hdl, Option.map_some] at hk
      refine ⟨c, D, hc, rfl, ?_⟩
      split_ifs at hk with h1 h2 <;> cases hk
      · exact h1
      · exact ⟨rfl, h2⟩
      · exact Bool.eq_false_iff.mpr h2

theorem coneClassifier_skip (cfg : Cfg) (lon lat cosl r : α) (dists : List α) (d h l : Nat)
    (hk : coneClassifier cfg lon lat cosl (dists.map (toShsMinMax r)) d h l = some .skip) :
    ∃ c D, Hash.center (α := α) cfg d h = some c ∧ dists[l]? = some D ∧
      Num.le (shs lon lat cosl c) (toShsMinMax r D).max = false :=
  coneClassifier_spec cfg lon lat cosl r dists d h l _ hk

theorem coneClassifier_full (cfg : Cfg) (lon lat cosl r : α) (dists : List α) (d h l : Nat)
    (hk : coneClassifier cfg lon lat cosl (dists.map (toShsMinMax r)) d h l = some .full) :
    ∃ c D, Hash.center (α := α) cfg d h = some c ∧ dists[l]? = some D ∧
      Num.lt (shs lon lat cosl c) (toShsMinMax r D).min = true :=
  coneClassifier_spec cfg lon lat cosl r dists d h l _ hk

theorem coneClassifier_descend (cfg : Cfg) (lon lat cosl r : α) (dists : List α) (d h l : Nat) (fl : Bool)
    (hk : coneClassifier cfg lon lat cosl (dists.map (toShsMinMax r)) d h l = some (.descend fl)) :
    fl = false ∧ ∃ c D, Hash.center (α := α) cfg d h = some c ∧ dists[l]? = some D ∧
      Num.le (shs lon lat cosl c) (toShsMinMax r D).max = true :=
  have ⟨c, D, hc, hD, hf, hle⟩ := coneClassifier_spec cfg lon lat cosl r dists d h l _ hk
  ⟨hf, c, D, hc, hD, hle⟩
end

structure BallTests (cfg : Cfg) (κ : Nat → Nat → Nat → Option Verdict) (dists : List ℝ)
    (Skip Full : ℝ × ℝ → ℝ → Prop) : Prop where
  skip : ∀ {d h l}, κ d h l = some .skip →
    ∃ c D, Hash.center (α := ℝ) cfg d h = some c ∧ dists[l]? = some D ∧ Skip c D
  full : ∀ {d h l}, κ d h l = some .full →
    ∃ c D, Hash.center (α := ℝ) cfg d h = some c ∧ dists[l]? = some D ∧ Full c D

section
variable {cfg : Cfg} {κ : Nat → Nat → Nat → Option Verdict} {dists : List ℝ} {Skip Full : ℝ × ℝ → ℝ → Prop}

theorem BallTests.no_miss (hκ : BallTests cfg κ dists Skip Full) (R : ℝ × ℝ → Prop)
    (hskip : ∀ c D q, D ∈ dists → Skip c D → adist c q ≤ D → ¬ R q)
    (inCell : Nat → Nat → ℝ × ℝ → Prop) (target ds : Nat)
    (hcover : ∀ d h q, d ≠ target → inCell d h q → inCell (d + 1) (h <<< 2) q ∨ inCell (d + 1) (h <<< 2 ||| 1) q ∨
      inCell (d + 1) (h <<< 2 ||| 2) q ∨ inCell (d + 1) (h <<< 2 ||| 3) q)
    (H1 : ∀ d h c D q, ds ≤ d → Hash.center (α := ℝ) cfg d h = some c → dists[d - ds]? = some D → inCell d h q → R q →
      adist c q ≤ D)
    (fuel root : Nat) (out : List Bmoc.Cell) (h : coverRec target κ fuel ds root 0 = some out)
    (q : ℝ × ℝ) (hq : inCell ds root q) (hR : R q) : ∃ c ∈ out, inCell c.depth c.hash q := by
  refine coverRec_no_miss_from inCell R target κ ds hcover ?_ fuel root out h q hq hR
  intro d hh hds hk q' hq' hR'
  obtain ⟨c, D, hc, hdl, hs⟩ := hκ.skip hk
  exact hskip c D q' (List.mem_of_getElem? hdl) hs (H1 d hh c D q' hds hc hdl hq' hR') hR'

theorem BallTests.full_cell (hκ : BallTests cfg κ dists Skip Full) (I : ℝ × ℝ → Prop)
    (hfull : ∀ c D q, D ∈ dists → Full c D → adist c q ≤ D → I q)
    (inCell : Nat → Nat → ℝ × ℝ → Prop) (target ds : Nat)
    (H1 : ∀ d h c D q, ds ≤ d → Hash.center (α := ℝ) cfg d h = some c → dists[d - ds]? = some D → Full c D →
      inCell d h q → adist c q ≤ D)
    (fuel root : Nat) (out : List Bmoc.Cell) (h : coverRec target κ fuel ds root 0 = some out)
    (c : Bmoc.Cell) (hc : c ∈ out) (hf : c.full = true) :
    (∀ q, inCell c.depth c.hash q → I q) ∨
      (c.depth = target ∧ κ c.depth c.hash (c.depth - ds) = some (.descend true)) := by
  obtain ⟨hds, ⟨hk, _⟩ | ⟨hdt, hk⟩⟩ := coverRec_emitted_from target κ fuel ds root out h c hc
  · obtain ⟨ctr, D, hctr, hdl, hF⟩ := hκ.full hk
    exact Or.inl fun q hq => hfull ctr D q (List.mem_of_getElem? hdl) hF (H1 _ _ ctr D q hds hctr hdl hF hq)
  · exact Or.inr ⟨hdt, hf ▸ hk⟩
end

theorem coneClassifier_ballTests (cfg : Cfg) (lon lat r : ℝ) (dists : List ℝ) :
    BallTests cfg (coneClassifier (α := ℝ) cfg lon lat (Num.cos lat) (dists.map (toShsMinMax r))) dists
      (fun c D => Num.le (shs (α := ℝ) lon lat (Num.cos lat) c) (toShsMinMax r D).max = false)
      (fun c D => Num.lt (shs (α := ℝ) lon lat (Num.cos lat) c) (toShsMinMax r D).min = true) :=
  ⟨fun hk => coneClassifier_skip cfg lon lat _ r dists _ _ _ hk, fun hk => coneClassifier_full cfg lon lat _ r dists _ _ _ hk⟩

theorem cone_scheme_no_miss (cfg : Cfg) (lon lat r : ℝ) (hr : 0 ≤ r) (dists : List ℝ) (hD : ∀ D ∈ dists, 0 ≤ D)
    (inCell : Nat → Nat → ℝ × ℝ → Prop) (target ds : Nat)
    (hcover : ∀ d h q, d ≠ target → inCell d h q → inCell (d + 1) (h <<< 2) q ∨ inCell (d + 1) (h <<< 2 ||| 1) q ∨
      inCell (d + 1) (h <<< 2 ||| 2) q ∨ inCell (d + 1) (h <<< 2 ||| 3) q)
    (H1 : ∀ d h c D q, ds ≤ d → Hash.center (α := ℝ) cfg d h = some c → dists[d - ds]? = some D → inCell d h q →
      adist c q ≤ D)
    (fuel root : Nat) (out : List Bmoc.Cell)
    (h : coverRec target (coneClassifier (α := ℝ) cfg lon lat (Num.cos lat) (dists.map (toShsMinMax r))) fuel ds root 0 = some out)
    (q : ℝ × ℝ) (hq : inCell ds root q) (hin : adist (lon, lat) q ≤ r) :
    ∃ c ∈ out, inCell c.depth c.hash q :=
  (coneClassifier_ballTests cfg lon lat r dists).no_miss (fun q => adist (lon, lat) q ≤ r)
    (fun c D q hDm hs hq => not_le.mpr (cone_skip_sound lon lat r D c hr (hD D hDm) hs q hq))
    inCell target ds hcover (fun d h c D q hd hc hD' hq _ => H1 d h c D q hd hc hD' hq) fuel root out h q hq hin

theorem cone_scheme_full_inside (cfg : Cfg) (lon lat r : ℝ) (hrpi : r ≤ π) (dists : List ℝ) (hD : ∀ D ∈ dists, 0 ≤ D)
    (inCell : Nat → Nat → ℝ × ℝ → Prop) (target ds : Nat)
    (H1 : ∀ d h c D q, ds ≤ d → Hash.center (α := ℝ) cfg d h = some c → dists[d - ds]? = some D → inCell d h q →
      adist c q ≤ D)
    (fuel root : Nat) (out : List Bmoc.Cell)
    (h : coverRec target (coneClassifier (α := ℝ) cfg lon lat (Num.cos lat) (dists.map (toShsMinMax r))) fuel ds root 0 = some out)
    (c : Bmoc.Cell) (hc : c ∈ out) (hf : c.full = true) (q : ℝ × ℝ) (hq : inCell c.depth c.hash q) :
    adist (lon, lat) q < r :=
  ((coneClassifier_ballTests cfg lon lat r dists).full_cell (fun q => adist (lon, lat) q < r)
    (fun c D q hDm hF hq => cone_full_sound lon lat r D c hrpi (hD D hDm) hF q hq)
    inCell target ds (fun d h c D q hd hc hD' _ hq => H1 d h c D q hd hc hD' hq) fuel root out h c hc hf).elim
    (fun hall => hall q hq)
    (fun hd => absurd (coneClassifier_descend cfg lon lat _ r dists _ _ _ true hd.2).1 (by simp))

end Hpx.Cover
