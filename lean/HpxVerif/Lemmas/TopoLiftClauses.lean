/-
C04 — the clauses of the property on cell numbers for `Layer::neighbours` / `Layer::neighbour` (every depth `≤ 29`, both
z-order builds; also the sorted start cells of the coverages, C09).  The neighbour function on numbers `nbG d hash w` is the
parts-level one read through the bijection `partsOf` / `numberOf`: `nbG_eq_some` is the one place where the two are exchanged,
and the lemmas `nbG_*` are the parts-level theorems read on numbers.  The map returned by `neighbours` is the association list
`keyed` of `nbG` (`neighbours_spec`, `nbList_eq`); every clause is a fact about `keyed` lists and a lemma `nbG_*`.
-/
import HpxVerif.Lemmas.TopoComplete
import HpxVerif.Lemmas.TopoLift
import HpxVerif.Lemmas.CoverLemmas

namespace Hpx.TopoLift
open Hpx Hpx.Topo Hpx.TopoSpec Hpx.TopoNeigh MW

/-! ## the neighbour function on cell numbers -/

theorem nbG_eq_some {d : Nat} (hd : d ≤ 29) {hash : Nat} (hh : hash < 12 * 4 ^ d) {w : MW} {v : Nat} :
    nbG d hash w = some v ↔ v < 12 * 4 ^ d ∧ neighbourParts (2 ^ d) (partsOf d hash) w = some (partsOf d v) := by
  unfold nbG
  rw [Option.map_eq_some_iff]
  constructor
  · rintro ⟨q, hq, rfl⟩
    have hv := neighbourParts_valid (2 ^ d) _ q w (one_le_pow d) (pow_le_u32 d hd) (partsOf_valid d hash hh) hq
    exact ⟨numberOf_lt d q hv, by rw [partsOf_numberOf d hd q hv]; exact hq⟩
  · rintro ⟨_, hq⟩
    exact ⟨_, hq, numberOf_partsOf d v hd⟩

theorem nbG_lt {d : Nat} (hd : d ≤ 29) {hash : Nat} (hh : hash < 12 * 4 ^ d) {w : MW} {v : Nat}
    (h : nbG d hash w = some v) : v < 12 * 4 ^ d := ((nbG_eq_some hd hh).1 h).1

theorem nbG_labelled {d : Nat} (hd : d ≤ 29) {hash : Nat} (hh : hash < 12 * 4 ^ d) {w : MW} {v : Nat}
    (h : nbG d hash w = some v) : shared (2 ^ d) (partsOf d hash) (partsOf d v) = edgeOf w :=
  neighbour_labelled (2 ^ d) _ _ w (one_le_pow d) (pow_le_u32 d hd) (partsOf_valid d hash hh) ((nbG_eq_some hd hh).1 h).2

theorem nbG_inj {d : Nat} (hd : d ≤ 29) {hash : Nat} (hh : hash < 12 * 4 ^ d) {w w' : MW} {v : Nat}
    (h : nbG d hash w = some v) (h' : nbG d hash w' = some v) : w = w' :=
  neighbours_distinct (2 ^ d) _ _ w w' (one_le_pow d) (pow_le_u32 d hd) (partsOf_valid d hash hh)
    ((nbG_eq_some hd hh).1 h).2 ((nbG_eq_some hd hh).1 h').2

theorem nbG_ne_self {d : Nat} (hd : d ≤ 29) {hash : Nat} (hh : hash < 12 * 4 ^ d) {w : MW} {v : Nat} (hw : w ≠ C)
    (h : nbG d hash w = some v) : v ≠ hash := by
  intro e
  rw [e] at h
  exact hw (nbG_inj hd hh h (nbG_center hd hh))

theorem nbG_touch {d : Nat} (hd : d ≤ 29) {hash : Nat} (hh : hash < 12 * 4 ^ d) {w : MW} {v : Nat}
    (h : nbG d hash w = some v) : Touch (2 ^ d) (partsOf d hash) (partsOf d v) :=
  neighbour_touch (2 ^ d) _ _ w (one_le_pow d) (pow_le_u32 d hd) (partsOf_valid d hash hh) ((nbG_eq_some hd hh).1 h).2

theorem nbG_complete {d : Nat} (hd : d ≤ 29) {hash : Nat} (hh : hash < 12 * 4 ^ d) {h' : Nat} (hh' : h' < 12 * 4 ^ d)
    (hne : h' ≠ hash) (ht : Touch (2 ^ d) (partsOf d hash) (partsOf d h')) : ∃ w, w ≠ C ∧ nbG d hash w = some h' := by
  obtain ⟨w, hw, hq⟩ := neighbours_complete (2 ^ d) _ _ (one_le_pow d) (pow_le_u32 d hd) (partsOf_valid d hash hh)
    (partsOf_valid d h' hh') (fun e => hne (partsOf_injective d hd _ _ e)) ht
  exact ⟨w, (mem_dirs8_iff w).1 hw, (nbG_eq_some hd hh).2 ⟨hh', hq⟩⟩

theorem nbG_ordinal (d hash : Nat) (hh : hash < 12 * 4 ^ d) {w : MW} (ho : w.isOrdinal = true) :
    ∃ v, nbG d hash w = some v := by
  cases hq : neighbourParts (2 ^ d) (partsOf d hash) w with
  | some q => exact ⟨_, by unfold nbG; rw [hq]; rfl⟩
  | none =>
    -- a neighbour is missing in a cardinal direction only
    rcases (neighbourParts_none_iff (2 ^ d) _ w (partsOf_valid d hash hh)).1 hq with
      ⟨_, ⟨rfl, _⟩ | ⟨rfl, _⟩⟩ | ⟨_, ⟨rfl, _⟩ | ⟨rfl, _⟩⟩ <;> cases ho

theorem nbG_count (d hash : Nat) :
    (dirs8.filter fun w => (nbG d hash w).isSome).length = count (2 ^ d) (partsOf d hash) := by
  unfold count nbG
  simp only [Option.isSome_map]

/-! ## the map returned by `neighbours` -/

theorem nbList_false (d hash : Nat) : nbList d hash false = keyed dirs8 (nbG d hash) := nbList_eq d hash false

theorem mem_nbList {d hash : Nat} {inc : Bool} {w : MW} {v : Nat} :
    (w, v) ∈ nbList d hash inc ↔ (w ≠ C ∨ inc = true) ∧ nbG d hash w = some v := by
  rw [nbList_eq, mem_keyed, List.mem_filter, decide_eq_true_eq]
  exact and_congr_left' (and_iff_right (mem_all w))

theorem mem_values {d hash : Nat} {inc : Bool} {v : Nat} :
    v ∈ (nbList d hash inc).map (·.2) ↔ ∃ w, (w ≠ C ∨ inc = true) ∧ nbG d hash w = some v := by
  rw [List.mem_map]
  constructor
  · rintro ⟨⟨w, v'⟩, hm, rfl⟩
    exact ⟨w, mem_nbList.1 hm⟩
  · rintro ⟨w, h⟩
    exact ⟨(w, v), mem_nbList.2 h, rfl⟩

theorem find_nbList (d hash : Nat) (inc : Bool) (w : MW) :
    (nbList d hash inc).find? (·.1 == w) =
      if w ≠ C ∨ inc = true then (nbG d hash w).map fun v => (w, v) else none := by
  rw [nbList_eq, keyed_find]
  simp only [List.mem_filter, mem_all, true_and, decide_eq_true_eq]

/-- `neighbours` returns only on a cell number of a depth `≤ 29`: the range check on the number, and `get_zoc` on both the
    border path and the fast path -/
theorem neighbours_some_valid {cfg : Cfg} {d hash : Nat} {inc : Bool} {l : List (MW × Nat)}
    (h : Topo.neighbours cfg d hash inc = some l) : d ≤ 29 ∧ hash < 12 * 4 ^ d := by
  unfold Topo.neighbours at h
  split at h
  · cases h
  · rename_i hlt
    refine ⟨?_, by rw [← nHash_eq]; omega⟩
    by_contra hd
    simp [Topo.edgeCellNeighbours, Topo.innerCellNeighbours, Layer.decodeHash,
      Layer.zoc_none_of_gt cfg (Nat.lt_of_not_le hd)] at h

theorem eq_nbList {cfg : Cfg} {d hash : Nat} {inc : Bool} {l : List (MW × Nat)}
    (h : Topo.neighbours cfg d hash inc = some l) : l = nbList d hash inc := by
  obtain ⟨hd, hh⟩ := neighbours_some_valid h
  rw [neighbours_spec cfg d hd hash hh inc] at h
  exact (Option.some.inj h).symm

theorem values_lt (d : Nat) (hd : d ≤ 29) (hash : Nat) (hh : hash < 12 * 4 ^ d) (inc : Bool) (v : Nat)
    (hv : v ∈ (nbList d hash inc).map (·.2)) : v < 12 * 4 ^ d := by
  obtain ⟨w, _, h⟩ := mem_values.1 hv
  exact nbG_lt hd hh h

/-! ## the values are pairwise distinct and differ from the cell -/

theorem all_pairwise_ne : MW.all.Pairwise (· ≠ ·) := by decide

theorem nbList_values_nodup (d : Nat) (hd : d ≤ 29) (hash : Nat) (hh : hash < 12 * 4 ^ d) (inc : Bool) :
    ((nbList d hash inc).map (·.2)).Nodup := by
  rw [nbList_eq, keyed_values]
  refine List.Pairwise.filterMap _ ?_ (all_pairwise_ne.filter _)
  intro a a' hne b hb b' hb' e
  subst e
  exact hne (nbG_inj hd hh hb hb')

/-- **C04 on cell numbers, `neighbours_distinct_hash`**: the values of the map returned by `neighbours(hash, false)`
    are pairwise distinct, differ from `hash`, and are cell numbers of the depth -/
theorem neighbours_distinct_hash (cfg : Cfg) (d : Nat) (hd : d ≤ 29) (hash : Nat) (hh : hash < 12 * 4 ^ d)
    (l : List (MW × Nat)) (h : Topo.neighbours cfg d hash false = some l) :
    (l.map (·.2)).Nodup ∧ hash ∉ l.map (·.2) ∧ ∀ v ∈ l.map (·.2), v < 12 * 4 ^ d := by
  rw [eq_nbList h]
  refine ⟨nbList_values_nodup d hd hash hh false, ?_, values_lt d hd hash hh false⟩
  intro hm
  obtain ⟨w, hw, e⟩ := mem_values.1 hm
  exact nbG_ne_self hd hh (hw.resolve_right (by decide)) e rfl

theorem neighbours_distinct_hash_center (cfg : Cfg) (d : Nat) (hd : d ≤ 29) (hash : Nat) (hh : hash < 12 * 4 ^ d)
    (inc : Bool) (l : List (MW × Nat)) (h : Topo.neighbours cfg d hash inc = some l) :
    (l.map (·.2)).Nodup ∧ ∀ v ∈ l.map (·.2), v < 12 * 4 ^ d := by
  rw [eq_nbList h]
  exact ⟨nbList_values_nodup d hd hash hh inc, values_lt d hd hash hh inc⟩

/-- **C04 on cell numbers, `ordinal_neighbours_exist`**: in the four ordinal directions `SE SW NE NW` a cell always
    has a neighbour: `neighbour` returns it, it is a cell number of the depth, and it is an entry of the map returned by
    `neighbours` (needed by the bilinear interpolation, which `unwrap`s these entries) -/
theorem ordinal_neighbours_exist (cfg : Cfg) (d : Nat) (hd : d ≤ 29) (hash : Nat) (hh : hash < 12 * 4 ^ d) (dir : MW)
    (ho : dir.isOrdinal = true) :
    ∃ h', Topo.neighbour cfg d hash dir = some (some h') ∧ h' < 12 * 4 ^ d ∧ h' ≠ hash ∧
      ∀ inc l, Topo.neighbours cfg d hash inc = some l → (dir, h') ∈ l ∧ l.find? (·.1 == dir) = some (dir, h') := by
  obtain ⟨v, hv⟩ := nbG_ordinal d hash hh ho
  have hdir : dir ≠ C := by rintro rfl; simp [isOrdinal] at ho
  refine ⟨v, (neighbour_spec cfg d hd hash hh dir).trans (congrArg some hv), nbG_lt hd hh hv,
    nbG_ne_self hd hh hdir hv, ?_⟩
  intro inc l hl
  rw [eq_nbList hl, find_nbList, if_pos (Or.inl hdir), hv]
  exact ⟨mem_nbList.2 ⟨Or.inl hdir, hv⟩, rfl⟩

/-- **C04 on cell numbers, `neighbours_values_sorted_distinct`**: the sorted list of the values of
    `neighbours(h0, true)` — the start cells of the coverages that begin at a starting depth — is strictly increasing
    (the hypothesis `roots.Pairwise (· < ·)` of `Cover.rootsFold`) -/
theorem neighbours_values_sorted_distinct (cfg : Cfg) (ds : Nat) (hd : ds ≤ 29) (h0 : Nat) (hh : h0 < 12 * 4 ^ ds)
    (inc : Bool) (nm : List (MW × Nat)) (h : Topo.neighbours cfg ds h0 inc = some nm) :
    (Bmoc.sortNat (nm.map (·.2))).Pairwise (· < ·) ∧
    (∀ v ∈ Bmoc.sortNat (nm.map (·.2)), v < 12 * 4 ^ ds) ∧
    (∀ v, v ∈ Bmoc.sortNat (nm.map (·.2)) ↔ v ∈ nm.map (·.2)) := by
  obtain ⟨h1, h2⟩ := neighbours_distinct_hash_center cfg ds hd h0 hh inc nm h
  exact ⟨Bmoc.sortNat_strict _ h1, fun v hv => h2 v ((Bmoc.mem_sortNat v _).1 hv), fun v => Bmoc.mem_sortNat v _⟩

open Hpx.Bmoc Hpx.Cover in
/-- **the coverage descent started from the neighbours of a cell at a starting depth is well formed** (C09, the case
    left open by `cone_coverage_base_start_wf`): `rootsFold` instantiated with `sortNat ((neighbours cfg ds h0 true).map
    (·.2))`, for any classifier and any fuel -/
theorem start_cells_fold_wf (cfg : Cfg) (ds : Nat) (hd : ds ≤ 29) (h0 : Nat) (hh : h0 < 12 * 4 ^ ds)
    (nm : List (MW × Nat)) (hnm : Topo.neighbours cfg ds h0 true = some nm)
    (target : Nat) (κ : Nat → Nat → Nat → Option Verdict) (D : Nat) (hD : target ≤ D) (fuel : Nat) (hds : ds ≤ target)
    (out : List Cell)
    (h : (sortNat (nm.map (·.2))).foldlM (fun acc r => (coverRec target κ fuel ds r 0).map (acc ++ ·)) [] = some out) :
    WF D out ∧
    (∀ c ∈ out, ∃ r ∈ sortNat (nm.map (·.2)), ∃ o, coverRec target κ fuel ds r 0 = some o ∧ c ∈ o) ∧
    (∀ r ∈ sortNat (nm.map (·.2)), ∃ o, coverRec target κ fuel ds r 0 = some o ∧ ∀ c ∈ o, c ∈ out) := by
  obtain ⟨hs, _, _⟩ := neighbours_values_sorted_distinct cfg ds hd h0 hh true nm hnm
  obtain ⟨g1, g2, g3, _⟩ := rootsFold target κ D hD fuel ds hds _ [] out hs trivial (by simp) h
  refine ⟨g1, ?_, g3⟩
  intro c hc
  rcases g2 c hc with h0 | h0
  · simp at h0
  · exact h0

/-- **C04 on cell numbers, `neighbours_labelled_hash`**: the entry `(dir, h')` of the map returned by `neighbours` is a
    cell number of the depth whose cell shares with the cell `hash` exactly the vertices of the side (ordinal `dir`) /
    the corner (cardinal `dir`) of `hash` in direction `dir` (all four for `C`) -/
theorem neighbours_labelled_hash (cfg : Cfg) (d : Nat) (hd : d ≤ 29) (hash : Nat) (hh : hash < 12 * 4 ^ d) (inc : Bool)
    (l : List (MW × Nat)) (h : Topo.neighbours cfg d hash inc = some l) (dir : MW) (h' : Nat) (hm : (dir, h') ∈ l) :
    h' < 12 * 4 ^ d ∧ shared (2 ^ d) (partsOf d hash) (partsOf d h') = edgeOf dir := by
  rw [eq_nbList h] at hm
  exact ⟨nbG_lt hd hh (mem_nbList.1 hm).2, nbG_labelled hd hh (mem_nbList.1 hm).2⟩

/-! ## number of neighbours -/

theorem filter_all_length (g : MW → Bool) :
    (MW.all.filter g).length = (dirs8.filter g).length + if g C = true then 1 else 0 := by
  have hC : (List.filter g [C]).length = if g C = true then 1 else 0 := by cases h : g C <;> simp [h]
  rw [show MW.all = [S, SE, E, SW] ++ ([C] ++ [NE, W, NW, N]) from rfl, show dirs8 = [S, SE, E, SW] ++ [NE, W, NW, N] from rfl,
    List.filter_append, List.filter_append, List.filter_append, List.length_append, List.length_append, List.length_append, hC]
  omega

theorem nbList_length (d hash : Nat) (hd : d ≤ 29) (hh : hash < 12 * 4 ^ d) (inc : Bool) :
    (nbList d hash inc).length = count (2 ^ d) (partsOf d hash) + if inc = true then 1 else 0 := by
  rw [nbList_eq, keyed_length]
  cases inc
  · rw [show (MW.all.filter fun w => w ≠ C ∨ false = true) = dirs8 by decide, nbG_count, if_neg Bool.false_ne_true,
      Nat.add_zero]
  · rw [show (MW.all.filter fun w => w ≠ C ∨ true = true) = MW.all by decide, filter_all_length, nbG_count,
      nbG_center hd hh]
    rfl

/-- **C04 on cell numbers, `neighbours_count_hash`**: at depth `d ≥ 1` the map returned by `neighbours(hash, false)` has
    8 entries, or 7 exactly for the 24 special cells (`Special`: the two cells of each base cell at a point where only
    three cells meet; listed by `specialCells`); one more with the centre -/
theorem neighbours_count_hash (cfg : Cfg) (d : Nat) (hd1 : 1 ≤ d) (hd : d ≤ 29) (hash : Nat) (hh : hash < 12 * 4 ^ d)
    (inc : Bool) (l : List (MW × Nat)) (h : Topo.neighbours cfg d hash inc = some l) :
    l.length = (if Special (2 ^ d) (partsOf d hash) then 7 else 8) + (if inc = true then 1 else 0) ∧
    (Special (2 ^ d) (partsOf d hash) ↔ partsOf d hash ∈ specialCells (2 ^ d)) := by
  have hp := partsOf_valid d hash hh
  refine ⟨?_, special_iff_mem (2 ^ d) _ (one_le_pow d) hp⟩
  rw [eq_nbList h, nbList_length d hash hd hh, neighbours_count (2 ^ d) _ (EdgeInternal.two_le_pow hd1) hp]

/-- at depth 0 every cell has 6 neighbours -/
theorem neighbours_count_hash_zero (cfg : Cfg) (hash : Nat) (hh : hash < 12) (inc : Bool) (l : List (MW × Nat))
    (h : Topo.neighbours cfg 0 hash inc = some l) : l.length = 6 + (if inc = true then 1 else 0) := by
  have hh' : hash < 12 * 4 ^ 0 := by simpa using hh
  rw [eq_nbList h, nbList_length 0 hash (by decide) hh']
  show count 1 (partsOf 0 hash) + _ = _
  rw [neighbours_count_one _ (partsOf_valid 0 hash hh')]

/-! ### the 24 cell numbers with 7 neighbours -/

theorem specialCells_valid (n : Nat) (hn : 1 ≤ n) (p : HashParts) (h : p ∈ specialCells n) : Valid n p := by
  unfold specialCells at h
  obtain ⟨b, hb, hp⟩ := List.mem_flatMap.1 h
  have hb' := List.mem_range.1 hb
  split at hp <;> simp only [List.mem_cons, List.not_mem_nil, or_false] at hp <;> rcases hp with rfl | rfl <;>
    exact ⟨hb', (by simp only; omega), (by simp only; omega)⟩

def specialHashes (d : Nat) : List Nat := (specialCells (2 ^ d)).map (numberOf d)

theorem specialHashes_length (d : Nat) : (specialHashes d).length = 24 := by
  unfold specialHashes; rw [List.length_map, specialCells_length]

theorem specialHashes_nodup (d : Nat) (hd1 : 1 ≤ d) (hd : d ≤ 29) : (specialHashes d).Nodup := by
  unfold specialHashes List.Nodup
  rw [List.pairwise_map]
  refine List.Pairwise.imp_of_mem ?_ (specialCells_nodup (2 ^ d) (EdgeInternal.two_le_pow hd1))
  intro a b ha hb hne e
  exact hne (numberOf_injective d hd a b (specialCells_valid _ (one_le_pow d) a ha)
    (specialCells_valid _ (one_le_pow d) b hb) e)

/-- a cell number of the depth is special iff it is one of the 24 numbers `specialHashes d` -/
theorem special_hash_iff (d : Nat) (hd : d ≤ 29) (hash : Nat) (hh : hash < 12 * 4 ^ d) :
    Special (2 ^ d) (partsOf d hash) ↔ hash ∈ specialHashes d := by
  have hp := partsOf_valid d hash hh
  rw [special_iff_mem (2 ^ d) _ (one_le_pow d) hp]
  unfold specialHashes
  rw [List.mem_map]
  constructor
  · intro h
    exact ⟨_, h, numberOf_partsOf d hash hd⟩
  · rintro ⟨q, hq, rfl⟩
    rw [partsOf_numberOf d hd q (specialCells_valid _ (one_le_pow d) q hq)]
    exact hq

/-- **C04 on cell numbers, `neighbours_complete_hash`**: a cell number `h'` of the depth is a value of the map returned
    by `neighbours(hash, false)` iff `h' ≠ hash` and the two cells have a vertex in common on the sphere -/
theorem neighbours_complete_hash (cfg : Cfg) (d : Nat) (hd : d ≤ 29) (hash : Nat) (hh : hash < 12 * 4 ^ d)
    (l : List (MW × Nat)) (h : Topo.neighbours cfg d hash false = some l) (h' : Nat) (hh' : h' < 12 * 4 ^ d) :
    h' ∈ l.map (·.2) ↔ (h' ≠ hash ∧ Touch (2 ^ d) (partsOf d hash) (partsOf d h')) := by
  rw [eq_nbList h, mem_values]
  constructor
  · rintro ⟨w, hw, e⟩
    exact ⟨nbG_ne_self hd hh (hw.resolve_right (by decide)) e, nbG_touch hd hh e⟩
  · rintro ⟨hne, ht⟩
    obtain ⟨w, hw, e⟩ := nbG_complete hd hh hh' hne ht
    exact ⟨w, Or.inl hw, e⟩

/-- **C04 on cell numbers, `neighbours_symmetric_hash`**: if `h'` is a neighbour of `hash` then `hash` is a neighbour of
    `h'` -/
theorem neighbours_symmetric_hash (cfg : Cfg) (d : Nat) (hd : d ≤ 29) (hash : Nat) (hh : hash < 12 * 4 ^ d)
    (l : List (MW × Nat)) (h : Topo.neighbours cfg d hash false = some l) (h' : Nat) (hm : h' ∈ l.map (·.2)) :
    h' < 12 * 4 ^ d ∧ ∃ l', Topo.neighbours cfg d h' false = some l' ∧ hash ∈ l'.map (·.2) := by
  have hlt : h' < 12 * 4 ^ d := by
    rw [eq_nbList h] at hm
    exact values_lt d hd hash hh false h' hm
  obtain ⟨hne, ht⟩ := (neighbours_complete_hash cfg d hd hash hh l h h' hlt).1 hm
  refine ⟨hlt, nbList d h' false, neighbours_spec cfg d hd h' hlt false, ?_⟩
  exact (neighbours_complete_hash cfg d hd h' hlt _ (neighbours_spec cfg d hd h' hlt false) hash hh).2
    ⟨fun e => hne e.symm, touch_symm ht⟩

/-! ## `neighbour` agrees with `neighbours` -/

/-- the way the bilinear interpolation reads the map (`find?` on the key): entry `w` is the number of the parts-level
    neighbour in direction `w` -/
theorem neighbours_find (cfg : Cfg) (d : Nat) (hd : d ≤ 29) (hash : Nat) (hh : hash < 12 * 4 ^ d) (inc : Bool)
    (l : List (MW × Nat)) (h : Topo.neighbours cfg d hash inc = some l) (w : MW) (hw : w ≠ C ∨ inc = true) :
    (l.find? (·.1 == w)).map (·.2) = (neighbourParts (2 ^ d) (partsOf d hash) w).map (numberOf d) := by
  rw [neighbours_spec cfg d hd hash hh inc] at h
  rw [← Option.some.inj h, find_nbList, if_pos hw, Option.map_map]
  unfold nbG
  cases neighbourParts (2 ^ d) (partsOf d hash) w <;> rfl

/-- **C04 on cell numbers, `neighbour_agrees`**: `neighbour(hash, dir)` is the entry `dir` of the map returned by
    `neighbours(hash, include_center)` (`none` when there is no such entry), for every direction other than `C`, and for
    `C` too when the centre is included -/
theorem neighbour_agrees (cfg : Cfg) (d : Nat) (hd : d ≤ 29) (hash : Nat) (hh : hash < 12 * 4 ^ d) (inc : Bool)
    (l : List (MW × Nat)) (h : Topo.neighbours cfg d hash inc = some l) (dir : MW) (hdir : dir ≠ C ∨ inc = true) :
    Topo.neighbour cfg d hash dir = some (l.lookup dir) := by
  rw [lookup_eq_find, neighbours_find cfg d hd hash hh inc l h dir hdir]
  exact neighbour_spec cfg d hd hash hh dir

/-- the entry of the centre is the cell itself -/
theorem neighbour_center (cfg : Cfg) (d : Nat) (hd : d ≤ 29) (hash : Nat) (hh : hash < 12 * 4 ^ d) :
    Topo.neighbour cfg d hash C = some (some hash) :=
  (neighbour_spec cfg d hd hash hh C).trans (congrArg some (nbG_center hd hh))

/-! ## non-vacuity and concrete instances -/

/-- depth 2, cell 5 = `(0, 3, 0)`: one of the 24 cells with 7 neighbours; its neighbour lists -/
example : Topo.neighbours {} 2 5 false = some [(S, 94), (SE, 95), (SW, 4), (NE, 26), (W, 6), (NW, 7), (N, 27)] ∧
    Special (2 ^ 2) (partsOf 2 5) := by decide +kernel

example : ∃ l, Topo.neighbours {} 2 5 false = some l ∧ l.length = 7 :=
  ⟨_, neighbours_spec {} 2 (by decide) 5 (by decide) false,
    ((neighbours_count_hash {} 2 (by decide) (by decide) 5 (by decide) false _
      (neighbours_spec {} 2 (by decide) 5 (by decide) false)).1).trans (by decide +kernel)⟩

example : (Bmoc.sortNat (((Topo.neighbours {} 2 5 true).getD []).map (·.2))) = [4, 5, 6, 7, 26, 27, 94, 95] := by
  decide +kernel

end Hpx.TopoLift

#print axioms Hpx.TopoLift.neighbours_labelled_hash
#print axioms Hpx.TopoLift.neighbours_distinct_hash
#print axioms Hpx.TopoLift.neighbours_count_hash
#print axioms Hpx.TopoLift.neighbours_count_hash_zero
#print axioms Hpx.TopoLift.neighbours_complete_hash
#print axioms Hpx.TopoLift.neighbours_symmetric_hash
#print axioms Hpx.TopoLift.neighbour_agrees
#print axioms Hpx.TopoLift.neighbours_find
#print axioms Hpx.TopoLift.special_hash_iff
#print axioms Hpx.TopoLift.specialHashes_nodup
#print axioms Hpx.TopoLift.ordinal_neighbours_exist
#print axioms Hpx.TopoLift.neighbours_values_sorted_distinct
#print axioms Hpx.TopoLift.start_cells_fold_wf
