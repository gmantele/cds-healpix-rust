/-
C01 over the reals: the front end of the NESTED `hash` (`xpm1_and_q`, `d0h_lh_in_d0c`, the two scaled truncations and
the clamp of `hash_v2`) returns parts `(d0h, i, j)` whose closed diamond in the HEALPix projection plane contains the
projected point.  All seam decisions are covered: `>` vs `≥` in `q01`/`q12`, strict `lat > transitionLat`, the
negative-longitude branch `3 − (q >>> 1)`, the clamp at `i = nside`.
-/
import HpxVerif.Model.Hash
import HpxVerif.Lemmas.ProjReal
import HpxVerif.Lemmas.PlaneChart
import HpxVerif.Lemmas.CenterXY
import Mathlib.Tactic.Positivity

namespace Hpx.HashReal
open Real Hpx.Proj Hpx.Hash

theorem r_gt (x y : ℝ) : Num.gt x y = decide (y < x) := rfl
theorem r_ge (x y : ℝ) : Num.ge x y = decide (y ≤ x) := rfl
theorem r_ofInt (n : ℤ) : (Num.ofInt n : ℝ) = (n : ℝ) := rfl
theorem r_truncU8 (x : ℝ) : Num.truncU8 x = min ⌊max x 0⌋₊ 255 := rfl
theorem r_truncScaleU32 (x : ℝ) (k : ℤ) : Num.truncScaleU32 x k = min ⌊max (x * (2 : ℝ) ^ k) 0⌋₊ (2 ^ 32 - 1) := rfl

theorem odd_and_seven_shr (k : ℕ) : ((2 * k + 1) &&& 7) >>> 1 = k % 4 := by
  rw [show (7 : ℕ) = 2 ^ 3 - 1 from rfl, Nat.and_two_pow_sub_one_eq_mod, Nat.shiftRight_eq_div_pow]; omega

theorem xpm1AndQ_real (lon : ℝ) (k : ℕ) (hk : k < 128) (h1 : (2 * k : ℝ) ≤ |lon| * (4 / π))
    (h2 : |lon| * (4 / π) < 2 * k + 2) :
    xpm1AndQ (α := ℝ) lon =
      (if lon < 0 then ((2 * k + 1 : ℝ) - |lon| * (4 / π), 3 - k % 4) else (|lon| * (4 / π) - (2 * k + 1 : ℝ), k % 4)) := by
  unfold xpm1AndQ
  simp only [r_abs, r_signBit, r_fourOverPi, oddFloor_eq _ k hk h1 h2, odd_and_seven_shr, r_ofNat]
  by_cases hneg : lon < 0
  · simp [hneg]
  · simp [hneg]

/-- the grid coordinate computed by `hash_v2` from `h ± l` -/
noncomputable def gridCoord (d : ℕ) (v : ℝ) : ℕ :=
  let i := Num.truncScaleU32 v (timeHalfNside d)
  if i == Layer.nside d then Layer.nside d - 1 else i

theorem nside_eq (d : ℕ) : Layer.nside d = 2 ^ d := Layer.nside_eq d

/-- the exponent increment `time_half_nside` multiplies by `nside / 2` (depth 0 included: `2^(-1)`) -/
theorem zpow_timeHalfNside (d : ℕ) : (2 : ℝ) ^ (timeHalfNside d) = (2 : ℝ) ^ d / 2 := by
  unfold timeHalfNside
  split
  · rw [zpow_sub_one₀ (by norm_num : (2 : ℝ) ≠ 0), zpow_natCast]; rfl
  · have : d = 0 := by omega
    subst this; norm_num

theorem gridCoord_floor (d : ℕ) (v : ℝ) (h0 : 0 ≤ v) :
    gridCoord d v = if min ⌊(2 : ℝ) ^ d / 2 * v⌋₊ (2 ^ 32 - 1) = 2 ^ d then 2 ^ d - 1
      else min ⌊(2 : ℝ) ^ d / 2 * v⌋₊ (2 ^ 32 - 1) := by
  unfold gridCoord
  simp only [r_truncScaleU32, zpow_timeHalfNside, nside_eq, beq_iff_eq]
  rw [max_eq_left (by positivity), mul_comm]

/-- on `[0, 2]`, for `d ≤ 32`, the clamp is a minimum with `nside − 1`: the floor is at most `nside`, and at `d = 32` the `u32`
    saturation sends `nside = 2^32` to `nside − 1` as the clamp would -/
theorem gridCoord_eq_min (d : ℕ) (hd : d ≤ 32) (v : ℝ) (h0 : 0 ≤ v) (h2 : v ≤ 2) :
    gridCoord d v = min ⌊(2 : ℝ) ^ d / 2 * v⌋₊ (2 ^ d - 1) := by
  have hfN : ⌊(2 : ℝ) ^ d / 2 * v⌋₊ ≤ 2 ^ d :=
    Nat.floor_le_of_le (by push_cast; linarith [mul_le_mul_of_nonneg_left h2 (by positivity : (0 : ℝ) ≤ 2 ^ d / 2)])
  have hN1 : 1 ≤ 2 ^ d := Nat.one_le_two_pow
  have hN32 : 2 ^ d ≤ 2 ^ 32 := Nat.pow_le_pow_right (by norm_num) hd
  rw [gridCoord_floor d v h0]
  generalize ⌊(2 : ℝ) ^ d / 2 * v⌋₊ = f at *
  generalize (2 : ℕ) ^ d = N at *
  split <;> omega

theorem gridCoord_spec (d : ℕ) (hd : d ≤ 32) (v : ℝ) (h0 : 0 ≤ v) (h2 : v ≤ 2) :
    gridCoord d v < 2 ^ d ∧ (gridCoord d v : ℝ) ≤ (2 : ℝ) ^ d / 2 * v ∧ (2 : ℝ) ^ d / 2 * v ≤ (gridCoord d v : ℝ) + 1 ∧
    (v < 2 → (2 : ℝ) ^ d / 2 * v < (gridCoord d v : ℝ) + 1) := by
  rw [gridCoord_eq_min d hd v h0 h2]
  have hpow : (0 : ℝ) < (2 : ℝ) ^ d := by positivity
  set w := (2 : ℝ) ^ d / 2 * v with hw
  have hw0 : 0 ≤ w := by positivity
  have hle : (⌊w⌋₊ : ℝ) ≤ w := Nat.floor_le hw0
  have hlt : w < (⌊w⌋₊ : ℝ) + 1 := Nat.lt_floor_add_one w
  have hN1 : 1 ≤ 2 ^ d := Nat.one_le_two_pow
  rcases Nat.lt_or_ge ⌊w⌋₊ (2 ^ d) with hf | hf
  · rw [min_eq_left (by omega)]
    exact ⟨hf, hle, hlt.le, fun _ => hlt⟩
  · -- `nside ≤ ⌊w⌋ ≤ w ≤ nside`: only at `v = 2`, where `w = nside` is the upper end of the last cell
    have hwN : ((2 ^ d : ℕ) : ℝ) ≤ w := le_trans (by exact_mod_cast hf) hle
    push_cast at hwN
    have hmul := mul_le_mul_of_nonneg_left h2 (half_pos hpow).le
    rw [min_eq_right (by omega), Nat.cast_sub hN1]
    push_cast
    refine ⟨by omega, by linarith, by linarith, fun h => ?_⟩
    linarith [mul_lt_mul_of_pos_left h (half_pos hpow)]

/-- the parts `(d0h, l, h)` of the point at offset `(X, Y)` from the centre `(2q + 1, 0)` of facet `q`: the two diagonals through
    that centre choose among the four base cells around it (east, south, north, west).  This is the equatorial branch of
    `d0h_lh_in_d0c` (`q01 = [Y < X]`, `q12 = [−Y ≤ X]`); the polar branches are its north and south case
    (`d0hLhInD0c_eq` in `HashRealContains`, where `σ` and the ordinate of the signed latitude are at hand). -/
noncomputable def partsAt (X : ℝ) (q : ℕ) (Y : ℝ) : ℕ × ℝ × ℝ :=
  if Y < X then
    if -Y ≤ X then (4 + (q + 1) % 4, X - 1, Y + 1) else (8 + q, X, Y + 2)
  else
    if -Y ≤ X then (q, X, Y) else (4 + q, X + 1, Y + 1)

theorem eqD0h_table : ∀ q, q < 4 → eqD0h q 1 1 = 4 + (q + 1) % 4 ∧ eqD0h q 1 0 = 8 + q ∧ eqD0h q 0 1 = q ∧ eqD0h q 0 0 = 4 + q := by
  decide

/-- centre of base cell `b` in the projection plane (Calabretta & Roukema, `H = 4`, `K = 3`, `x ∈ [0, 8)`) -/
def baseCentre (b : ℕ) : ℝ × ℝ :=
  if b / 4 = 0 then (2 * ((b % 4 : ℕ) : ℝ) + 1, 1)
  else if b / 4 = 1 then (2 * ((b % 4 : ℕ) : ℝ), 0)
  else (2 * ((b % 4 : ℕ) : ℝ) + 1, -1)

theorem baseCentre_table : ∀ q, q < 4 → baseCentre q = (2 * (q : ℝ) + 1, 1) ∧ baseCentre (4 + q) = (2 * (q : ℝ), 0) ∧
    baseCentre (8 + q) = (2 * (q : ℝ) + 1, -1) := by
  intro q hq
  interval_cases q <;> norm_num [baseCentre]

/-- with `(d0h, l, h) = partsAt X q Y` and `(Xb, Yb)` the centre of base cell `d0h`: `h ± l ∈ [0, 2]`, `h = Y − Yb + 1`,
    `l = X + (2q + 1) − Xb` modulo 8 -/
theorem partsAt_geom (X : ℝ) (q : ℕ) (Y : ℝ) (hq : q < 4) (h : |X| + |Y| ≤ 2) :
    (partsAt X q Y).1 < 12 ∧
    0 ≤ (partsAt X q Y).2.2 + (partsAt X q Y).2.1 ∧ (partsAt X q Y).2.2 + (partsAt X q Y).2.1 ≤ 2 ∧
    0 ≤ (partsAt X q Y).2.2 - (partsAt X q Y).2.1 ∧ (partsAt X q Y).2.2 - (partsAt X q Y).2.1 ≤ 2 ∧
    (partsAt X q Y).2.2 = Y - (baseCentre (partsAt X q Y).1).2 + 1 ∧
    ∃ m : ℤ, (partsAt X q Y).2.1 = X + (2 * (q : ℝ) + 1) + 8 * (m : ℝ) - (baseCentre (partsAt X q Y).1).1 := by
  obtain ⟨c0, c4, c8⟩ := baseCentre_table q hq
  obtain ⟨⟨b1, b2⟩, b3, b4⟩ := abs_add_abs_le_iff.mp h
  unfold partsAt
  by_cases h01 : Y < X <;> by_cases h12 : -Y ≤ X
  · -- east
    simp only [h01, h12, if_true]
    rw [(baseCentre_table _ (Nat.mod_lt _ (by norm_num))).2.1]
    refine ⟨by omega, by linarith only [h12], by linarith only [b2], by linarith only [b3], by linarith only [h01],
      by ring, ?_⟩
    by_cases h3 : q = 3
    · subst h3; exact ⟨-1, by norm_num; ring⟩
    · rw [show (q + 1) % 4 = q + 1 by omega]; exact ⟨0, by push_cast; ring⟩
  · -- south
    simp only [h01, h12, if_true, if_false, c8]
    exact ⟨by omega, by linarith only [b1], by linarith only [h12], by linarith only [b3], by linarith only [h01],
      by ring, 0, by push_cast; ring⟩
  · -- north
    simp only [h01, h12, if_true, if_false, c0]
    exact ⟨by omega, by linarith only [h12], by linarith only [b2], by linarith only [h01], by linarith only [b4],
      by ring, 0, by push_cast; ring⟩
  · -- west
    simp only [h01, h12, if_false, c4]
    exact ⟨by omega, by linarith only [b1], by linarith only [h12], by linarith only [h01], by linarith only [b4],
      by ring, 0, by push_cast; ring⟩

end Hpx.HashReal
