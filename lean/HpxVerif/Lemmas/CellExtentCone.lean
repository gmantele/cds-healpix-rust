import HpxVerif.Lemmas.CellExtentH1
import HpxVerif.Lemmas.EnvelopeRealRing

/-!
# The cone descent on the strictly equatorial cells, every starting depth

`H1_equatorial` needs `ds ≥ 2`: at depth 1 the value of `largest_center_to_vertex_distance_with_radius` does NOT bound the
extent of every equatorial cell for every cone (`EnvelopeReal.c2v_not_uniform_depth1`: the cells centred on the equator have
`dE = π/8 = 0.3927`, while the value tends to `dMax2(1/2) = 0.3899` when the latitude band of the cone lies above `lsc` and
approaches the transition latitude from below; but such a cone does not meet those cells).  The no-miss argument only uses
`H1` for the cells that contain a point of the cone, and for those the hypothesis holds at every depth `0 … 29`
(`H1_equatorial_meet`); so do no-miss and the full flags for every classifier that decides from the ball of the cell.
-/

namespace Hpx.CellExtent
open Hpx Hpx.Hash Hpx.C2V Hpx.C2VReal Hpx.Proj Hpx.Cover Hpx.CellReal Hpx.EnvelopeReal Hpx.TopoLift Real

/-- `arcsin(1/3) < LAT_OF_SQUARE_CELL` (`sin²(lsc) = 1 − 8/(3π) > 1/9` because `π > 3`): the depth-1 cells centred on the
    equator (latitudes up to `arcsin(1/3)`) lie below `lsc` -/
theorem arcsin_third_lt_lsc : Real.arcsin (1 / 3) < lsc := by
  have hpi := Real.pi_gt_three
  have h0 := lsc_pos
  have h1 := lsc_lt_tl
  have h2 := tl_le_pi3
  rw [Real.arcsin_lt_iff_lt_sin ⟨by norm_num, by norm_num⟩ ⟨by linarith, by linarith⟩]
  have hs0 : 0 < sin lsc := Real.sin_pos_of_pos_of_lt_pi h0 (by linarith)
  have hsq : sin lsc ^ 2 = 1 - 8 / (3 * π) := by
    rw [Real.sin_sq, cos_lsc, sq, cosLsc_sq]
  have h89 : 8 / (3 * π) < 8 / 9 := by
    rw [div_lt_div_iff₀ (by positivity) (by norm_num)]; linarith
  nlinarith

/-- `cos(latOf(1/2))·π/8 ≤ 0.964·π/8 ≤ 0.3786 ≤ 0.3837` -/
theorem dE_half_half_le : dE (1 / 2) (1 / 2) ≤ dMax2 (1 / 2) := by
  have hpi := Real.pi_lt_d2
  have hpi0 := Real.pi_pos
  have h1 := dE_le (1 / 2) (1 / 2) (by norm_num) (by norm_num)
  have h2 := dMax2_half_ge
  have h3 : cos (latOf (1 / 2)) * (1 / 2 * (π / 4)) ≤ 964 / 1000 * (1 / 2 * (π / 4)) :=
    mul_le_mul_of_nonneg_right (cos_latOf_le (1 / 2) (by norm_num)) (by positivity)
  nlinarith

theorem cellCy_depth1 (b i j : ℕ) (h : |cellCy 1 b i j| < 1) :
    cellCy 1 b i j = 0 ∨ cellCy 1 b i j = 1 / 2 ∨ cellCy 1 b i j = -(1 / 2) := by
  obtain ⟨Z, hy⟩ := cellCy_int 1 b i j
  rw [hy, pow_one, abs_div, abs_of_pos (by norm_num : (0 : ℝ) < 2), div_lt_one (by norm_num)] at h
  have h2 : |Z| < 2 := by exact_mod_cast h
  rw [hy]
  rcases (by rw [abs_lt] at h2; omega : Z = 0 ∨ Z = 1 ∨ Z = -1) with h | h | h <;> rw [h] <;> norm_num

theorem depth1_dE_le (lon lat r y y' : ℝ) (hA : |lat| + r < tl) (hy : y = 0 ∨ y = 1 / 2 ∨ y = -(1 / 2))
    (hyy : |y' - y| ≤ 1 / 2) (hq : |lat| - r ≤ |latOf y'|) : dE (1 / 2) y ≤ c2vR (Csts.new 1) lon lat r := by
  by_cases hB : |lat| - r < lsc
  · have h1 := c2vR_ge_dMin2 1 lon lat r hA hB
    rw [pow_one_half] at h1
    exact (dE_le_dMin2 _ y (by norm_num) (by norm_num)).trans h1
  · have hl : lsc ≤ latOf |y'| := by rw [← abs_latOf]; linarith
    have h1 := c2vR_ge_dMax2 1 lon lat r hA
    rw [pow_one_half] at h1
    rcases hy with rfl | rfl | rfl
    · exfalso
      rw [sub_zero] at hyy
      have : latOf |y'| ≤ Real.arcsin (1 / 3) := by
        unfold latOf; exact Real.arcsin_le_arcsin (by linarith)
      have := arcsin_third_lt_lsc
      linarith
    · exact dE_half_half_le.trans h1
    · rw [dE_neg]; exact dE_half_half_le.trans h1

/-! ## `H1` for the cells that meet the cone, every depth -/

theorem _root_.Hpx.EConeEq.H1_equatorial_meet_scalar (cfg : Cfg) (lon lat r : ℝ) (hA : |lat| + r < tl) (ds : ℕ)
    (hd : ds ≤ 29) (h : ℕ) (c q q' : ℝ × ℝ) (hc : Hash.center (α := ℝ) cfg ds h = some c) (hq : InCellEq ds h q)
    (hq' : InCellEq ds h q') (hcone : adist (lon, lat) q' ≤ r) : adist c q ≤ valR ds lon lat r := by
  refine (inCellEq_extent cfg ds h c q hc hq).trans ?_
  obtain ⟨_, _, hband, x', y', m, hin, rfl⟩ := hq'
  have hy := cellCy_band ds _ _ _ hband
  set cy := cellCy ds (partsOf ds h).d0h (partsOf ds h).i (partsOf ds h).j with hcy
  unfold valR
  obtain rfl | rfl | hd2 : ds = 0 ∨ ds = 1 ∨ 2 ≤ ds := by omega
  · rw [if_pos rfl]
    rw [pow_zero, div_one] at hy ⊢
    have : cy = 0 := by
      have := abs_nonneg cy
      exact abs_eq_zero.mp (by linarith)
    rw [this]
    exact base_cell_extent
  · rw [if_neg (by omega)]
    refine max_le_of_dE_le _ cy _ (by positivity) hy (c2vR_ge_dMax2 1 lon lat r hA) ?_
    rw [pow_one_half]
    -- a position of the cone has a latitude in the band of the cone
    have hlat : |lat| ≤ π / 2 := by
      have := tl_le_pi3
      have := Real.pi_pos
      have := (adist_nonneg _ _).trans hcone
      linarith
    have hdiff := adist_ge_lat_diff lon (x' * (π / 4) + 2 * π * m) lat (latOf y') hlat (latOf_abs_le y')
    have hq'' : |lat| - r ≤ |latOf y'| := by
      have := abs_sub_abs_le_abs_sub lat (latOf y')
      linarith
    unfold InDiamond at hin
    rw [pow_one_half] at hin
    exact depth1_dE_le lon lat r cy y' hA (cellCy_depth1 _ _ _ hband)
      (by linarith [abs_nonneg (x' - cellCx 1 (partsOf 1 h).d0h (partsOf 1 h).i (partsOf 1 h).j)]) hq''
  · rw [if_neg (by omega)]
    exact c2vR_dominates_eqr ds hd2 lon lat r hA cy hy

theorem H1_equatorial_meet (cfg : Cfg) (lon lat r : ℝ) (hA : |lat| + r < tl) (ds target : ℕ) (hdt : ds ≤ target)
    (ht : target ≤ 29) (dists : List ℝ)
    (hdists : largestC2VsWithRadius false ds (target + 1) lon lat r = some dists) :
    ∀ d h c D q q', ds ≤ d → Hash.center (α := ℝ) cfg d h = some c → dists[d - ds]? = some D →
      InCellEq d h q → InCellEq d h q' → adist (lon, lat) q' ≤ r → adist c q ≤ D := by
  intro d h c D q q' hd hc hD hq hq' hcone
  obtain ⟨_, rfl⟩ := dists_getElem ds target ht lon lat r dists hdists d hd D hD
  exact EConeEq.H1_equatorial_meet_scalar cfg lon lat r hA d hq.1 h c q q' hc hq hq' hcone

/-- `H1` of `Cover.cone_scheme_no_miss` with `inCell d h q := InCellEq d h q ∧ adist (lon, lat) q ≤ r` -/
theorem H1_equatorial_cone (cfg : Cfg) (lon lat r : ℝ) (hA : |lat| + r < tl) (ds target : ℕ) (hdt : ds ≤ target)
    (ht : target ≤ 29) (dists : List ℝ)
    (hdists : largestC2VsWithRadius false ds (target + 1) lon lat r = some dists) :
    ∀ d h c D q, ds ≤ d → Hash.center (α := ℝ) cfg d h = some c → dists[d - ds]? = some D →
      (InCellEq d h q ∧ adist (lon, lat) q ≤ r) → adist c q ≤ D :=
  fun d h c D q hd hc hD hq => H1_equatorial_meet cfg lon lat r hA ds target hdt ht dists hdists d h c D q q hd hc hD hq.1 hq.1 hq.2

/-! ## any ball classifier on the strictly equatorial cells

`inCell := InCellEq`, the radii are those of `largest_center_to_vertex_distances_with_radius(ds, target + 1, lon, lat, r)` for
a cone `|lat| + r < tl` that contains the region; `H1` is `H1_equatorial_meet` (the cell meets the cone), so no hypothesis on
the cells is left. -/

theorem _root_.Hpx.Cover.BallTests.no_miss_equatorial {cfg : Cfg} {κ : Nat → Nat → Nat → Option Verdict} {dists : List ℝ} {Skip Full : ℝ × ℝ → ℝ → Prop}
    (hκ : BallTests cfg κ dists Skip Full) (lon lat r : ℝ) (hA : |lat| + r < tl)
    (ds target : ℕ) (hdt : ds ≤ target) (ht : target ≤ 29)
    (hdists : largestC2VsWithRadius false ds (target + 1) lon lat r = some dists)
    (R : ℝ × ℝ → Prop) (hR : ∀ q, R q → adist (lon, lat) q ≤ r)
    (hskip : ∀ c D q, D ∈ dists → Skip c D → adist c q ≤ D → ¬ R q)
    (fuel root : ℕ) (out : List Bmoc.Cell) (h : coverRec target κ fuel ds root 0 = some out)
    (q : ℝ × ℝ) (hq : InCellEq ds root q) (hRq : R q) : ∃ c ∈ out, InCellEq c.depth c.hash q := by
  obtain ⟨c, hc, _, hcq⟩ := hκ.no_miss R hskip (fun d h q => d ≤ target ∧ InCellEq d h q) target ds
    (fun d h q hne ⟨hle, hq⟩ => by
      have hd1 : d + 1 ≤ target := by omega
      rcases inCellEq_children d h q (by omega) hq with h0 | h1 | h2 | h3
      · exact Or.inl ⟨hd1, h0⟩
      · exact Or.inr (Or.inl ⟨hd1, h1⟩)
      · exact Or.inr (Or.inr (Or.inl ⟨hd1, h2⟩))
      · exact Or.inr (Or.inr (Or.inr ⟨hd1, h3⟩)))
    (fun d h c D q hd hc hD ⟨_, hq⟩ hRq =>
      H1_equatorial_meet cfg lon lat r hA ds target hdt ht dists hdists d h c D q q hd hc hD hq hq (hR q hRq))
    fuel root out h q ⟨hdt, hq⟩ hRq
  exact ⟨c, hc, hcq⟩

/-- A cell flagged full by the verdict `full` has its centre in `I` and every position in `I`; the other cells flagged full
    were sent down with the flag at the target depth -/
theorem _root_.Hpx.Cover.BallTests.full_equatorial {cfg : Cfg} {κ : Nat → Nat → Nat → Option Verdict} {dists : List ℝ} {Skip Full : ℝ × ℝ → ℝ → Prop}
    (hκ : BallTests cfg κ dists Skip Full) (lon lat r : ℝ) (hA : |lat| + r < tl)
    (ds target : ℕ) (hdt : ds ≤ target) (ht : target ≤ 29)
    (hdists : largestC2VsWithRadius false ds (target + 1) lon lat r = some dists)
    (I : ℝ × ℝ → Prop) (hI : ∀ q, I q → adist (lon, lat) q ≤ r)
    (hfull : ∀ c D q, D ∈ dists → Full c D → adist c q ≤ D → I q)
    (fuel root : ℕ) (out : List Bmoc.Cell) (h : coverRec target κ fuel ds root 0 = some out)
    (c : Bmoc.Cell) (hc : c ∈ out) (hf : c.full = true) :
    ((∃ ctr, center (α := ℝ) cfg c.depth c.hash = some ctr ∧ I ctr) ∧ ∀ q, InCellEq c.depth c.hash q → I q) ∨
      (c.depth = target ∧ κ c.depth c.hash (c.depth - ds) = some (.descend true)) := by
  obtain ⟨hds, ⟨hk, _⟩ | ⟨hdt', hk⟩⟩ := coverRec_emitted_from target κ fuel ds root out h c hc
  · obtain ⟨ctr, D, hctr, hdl, hF⟩ := hκ.full hk
    have hDm := List.mem_of_getElem? hdl
    have hIc : I ctr := hfull ctr D ctr hDm hF
      (by rw [adist_self]; exact dists_nonneg ds target ht lon lat r hA dists hdists D hDm)
    refine Or.inl ⟨⟨ctr, hctr, hIc⟩, fun q hq => hfull ctr D q hDm hF ?_⟩
    obtain ⟨c', hc', hcin⟩ := center_inCellEq cfg c.depth c.hash hq.1 hq.2.1 hq.2.2.1
    rw [hctr] at hc'
    rw [← Option.some.inj hc'] at hcin
    exact H1_equatorial_meet cfg lon lat r hA ds target hdt ht dists hdists c.depth c.hash ctr D q ctr hds hctr hdl hq hcin
      (hI ctr hIc)
  · exact Or.inr ⟨hdt', hf ▸ hk⟩

/-- Over ℝ, release profile, every starting depth `ds ≤ target ≤ 29` (the large cones `ds = 0, 1` included), cone whose latitude
    band stays below the transition latitude, `dists` computed as in `cone_coverage_approx_internal`: every position of the
    cone that lies in a strictly equatorial start cell lies in a cell that the descent returns.  No envelope hypothesis. -/
theorem cone_no_miss_equatorial_gen (cfg : Cfg) (lon lat r : ℝ) (hr : 0 ≤ r) (hA : |lat| + r < tl) (ds target : ℕ)
    (hdt : ds ≤ target) (ht : target ≤ 29) (dists : List ℝ)
    (hdists : largestC2VsWithRadius false ds (target + 1) lon lat r = some dists) (fuel root : ℕ)
    (out : List Bmoc.Cell)
    (h : coverRec target (coneClassifier (α := ℝ) cfg lon lat (Num.cos lat) (dists.map (toShsMinMax r))) fuel ds root 0
      = some out)
    (q : ℝ × ℝ) (hq : InCellEq ds root q) (hin : adist (lon, lat) q ≤ r) :
    ∃ c ∈ out, InCellEq c.depth c.hash q :=
  (coneClassifier_ballTests cfg lon lat r dists).no_miss_equatorial lon lat r hA ds target hdt ht hdists
    (fun q => adist (lon, lat) q ≤ r) (fun _ hq => hq)
    (fun c D q hDm hs hq => not_le.mpr (cone_skip_sound lon lat r D c hr
      (dists_nonneg ds target ht lon lat r hA dists hdists D hDm) hs q hq)) fuel root out h q hq hin

/-- the case `2 ≤ ds` of `cone_no_miss_equatorial_gen` -/
theorem cone_no_miss_equatorial (cfg : Cfg) (lon lat r : ℝ) (hr : 0 ≤ r) (hA : |lat| + r < tl) (ds target : ℕ)
    (hds : 2 ≤ ds) (hdt : ds ≤ target) (ht : target ≤ 29) (dists : List ℝ)
    (hdists : largestC2VsWithRadius false ds (target + 1) lon lat r = some dists) (fuel root : ℕ)
    (out : List Bmoc.Cell)
    (h : coverRec target (coneClassifier (α := ℝ) cfg lon lat (Num.cos lat) (dists.map (toShsMinMax r))) fuel ds root 0
      = some out)
    (q : ℝ × ℝ) (hq : InCellEq ds root q) (hin : adist (lon, lat) q ≤ r) :
    ∃ c ∈ out, InCellEq c.depth c.hash q :=
  cone_no_miss_equatorial_gen cfg lon lat r hr hA ds target hdt ht dists hdists fuel root out h q hq hin

/-- depth 0: the four equatorial base cells are strictly equatorial (base cell 5: centre `(2, 0)`) -/
example : ∃ c, center (α := ℝ) {} 0 5 = some c ∧ InCellEq 0 5 c :=
  center_inCellEq {} 0 5 (by decide) (by decide) (by
    have e : partsOf 0 5 = ⟨5, 0, 0⟩ := by decide +kernel
    rw [e]; unfold cellCy baseY; norm_num)

/-- a large cone of the equatorial band: `lat = 0.1`, `r = 0.5`, `ds = 0` -/
example : (0 : ℝ) ≤ 1 / 2 ∧ |(1 / 10 : ℝ)| + 1 / 2 < tl := by
  have := tl_ge
  rw [abs_of_pos (by norm_num)]
  constructor <;> linarith

end Hpx.CellExtent

namespace Hpx.EConeEq
open Hpx Hpx.Hash Hpx.C2V Hpx.C2VReal Hpx.Proj Hpx.Cover Hpx.CellReal Hpx.EnvelopeReal Hpx.TopoLift Hpx.CellExtent
open Hpx.Bmoc Real

/-- `CellExtent.cone_full_inside_equatorial` (ℝ, release profile) for EVERY starting depth `ds ≤ target ≤ 29`: a `full` verdict
    of the cone classifier puts the centre of the cell inside the cone, so `H1_equatorial_meet` applies and `2 ≤ ds` is not
    needed. -/
theorem cone_full_inside_equatorial_gen (cfg : Cfg) (lon lat r : ℝ) (hA : |lat| + r < tl) (ds target : ℕ)
    (hdt : ds ≤ target) (ht : target ≤ 29) (dists : List ℝ)
    (hdists : largestC2VsWithRadius false ds (target + 1) lon lat r = some dists) (fuel root : ℕ)
    (out : List Cell)
    (h : coverRec target (coneClassifier (α := ℝ) cfg lon lat (Num.cos lat) (dists.map (toShsMinMax r))) fuel ds root 0
      = some out)
    (c : Cell) (hc : c ∈ out) (hf : c.full = true) (q : ℝ × ℝ) (hq : InCellEq c.depth c.hash q) :
    adist (lon, lat) q < r := by
  refine ((coneClassifier_ballTests cfg lon lat r dists).full_equatorial lon lat r hA ds target hdt ht hdists
    (fun q => adist (lon, lat) q < r) (fun q hq => le_of_lt hq)
    (fun ctr D q hDm hF hq => cone_full_sound lon lat r D ctr (r_lt_pi lat r hA).le
      (dists_nonneg ds target ht lon lat r hA dists hdists D hDm) hF q hq) fuel root out h c hc hf).elim
    (fun hall => hall.2 q hq)
    (fun hd => absurd (coneClassifier_descend cfg lon lat _ r dists _ _ _ true hd.2).1 (by simp))

end Hpx.EConeEq

#print axioms Hpx.CellExtent.arcsin_third_lt_lsc
#print axioms Hpx.CellExtent.H1_equatorial_cone
#print axioms Hpx.CellExtent.cone_no_miss_equatorial_gen
#print axioms Hpx.CellExtent.cone_no_miss_equatorial
#print axioms Hpx.EConeEq.cone_full_inside_equatorial_gen
