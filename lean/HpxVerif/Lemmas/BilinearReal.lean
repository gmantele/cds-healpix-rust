import HpxVerif.Model.Bilinear
import HpxVerif.Lemmas.NumReal
import HpxVerif.Lemmas.TopoLiftClauses

/-!
# C19 — bilinear interpolation: the weighted mean of the cell centres and the structure of the result

Axes.  `hashWithDxDy` returns `(h, dx, dy)` where `dx` is the fractional part of the first grid coordinate (the `i` axis
of the cell, the one incremented by `MW.offsetSe`) and `dy` that of the second one (the `j` axis, `MW.offsetSw`).  The
centre of the cell of in-base-cell coordinates `(i, j)` is `(i + ½, j + ½)`; the position is `(i + dx, j + dy)`.

With the corner neighbour present the weighted mean of the four centres is the position itself, on both axes; with the
corner missing its share goes half and half to the two adjacent ordinal neighbours, so the three-cell mean is displaced
and is *not* the position.
-/

namespace Hpx.BilinearReal
open Hpx Hpx.Bilinear MW

theorem c050_real : (c050 : ℝ) = 1 / 2 := lit_050
theorem c075_real : (c075 : ℝ) = 3 / 4 := lit_075
theorem c125_real : (c125 : ℝ) = 5 / 4 := lit_125
theorem c150_real : (c150 : ℝ) = 3 / 2 := lit_150
theorem zero_real : (Num.zero : ℝ) = 0 := Proj.r_zero

def wsum (ws : List ℝ) (sl : List MW) (f : MW → ℝ) : ℝ := (List.zipWith (fun w s => w * f s) ws sl).sum

/-- centre of the neighbour in direction `s` of the cell `(i, j)`, on the `offsetSe` and on the `offsetSw` axis -/
noncomputable def cenI (i : ℝ) (s : MW) : ℝ := i + (s.offsetSe : ℝ) + 1 / 2
noncomputable def cenJ (j : ℝ) (s : MW) : ℝ := j + (s.offsetSw : ℝ) + 1 / 2

/-- C19, corner present: the weighted mean of the four cell centres is the position `(i + dx, j + dy)`, for every quadrant
    and all real offsets (no range condition). -/
theorem bilinear_mean (q : Nat) (hq : q < 4) (i j dx dy : ℝ) :
    wsum (weights q true dx dy) (slots q) (cenI i) = i + dx ∧
    wsum (weights q true dx dy) (slots q) (cenJ j) = j + dy := by
  have h : q = 0 ∨ q = 1 ∨ q = 2 ∨ q = 3 := by omega
  rcases h with rfl | rfl | rfl | rfl <;>
    (simp only [wsum, weights, slots, cenI, cenJ, offsetSe, offsetSw, List.zipWith_cons_cons, List.zipWith_nil_right,
      List.sum_cons, List.sum_nil, c050_real, c150_real]
     constructor <;> (push_cast; ring))

/-- weight that the 4-cell formula gives to the slot of direction `s` -/
noncomputable def wOf (q : Nat) (dx dy : ℝ) (s : MW) : ℝ :=
  ((List.zip (slots q) (weights q true dx dy)).find? (·.1 == s)).elim 0 (·.2)

def adjacent : MW → MW → Bool
  | S, SE | S, SW | E, SE | E, NE | W, SW | W, NW | N, NE | N, NW => true
  | _, _ => false

theorem weights_missing_eq (q : Nat) (hq : q < 4) (dx dy : ℝ) :
    weights q false dx dy = (slots q).map fun s =>
      if s = corner q then 0
      else if adjacent (corner q) s then wOf q dx dy s + wOf q dx dy (corner q) / 2
      else wOf q dx dy s := by
  have h : q = 0 ∨ q = 1 ∨ q = 2 ∨ q = 3 := by omega
  rcases h with rfl | rfl | rfl | rfl <;>
    simp [weights, slots, corner, adjacent, wOf, c050_real, c075_real, c125_real, c150_real, zero_real] <;>
    refine ⟨?_, ?_⟩ <;> ring

/-- the 4-cell weights are the tensor product `[1 − s, s] ⊗ [1 − t, t]` of two linear interpolations, `s = dx + ½ − (q mod 2)`
    and `t = dy + ½ − (q / 2)` being the position relative to the centre of the southernmost of the four cells -/
theorem weights_true_eq (q : ℕ) (hq : q < 4) (dx dy : ℝ) :
    weights q true dx dy =
      [(1 - (dx + 1 / 2 - (q % 2 : ℕ))) * (1 - (dy + 1 / 2 - (q / 2 : ℕ))),
       (dx + 1 / 2 - (q % 2 : ℕ)) * (1 - (dy + 1 / 2 - (q / 2 : ℕ))),
       (1 - (dx + 1 / 2 - (q % 2 : ℕ))) * (dy + 1 / 2 - (q / 2 : ℕ)),
       (dx + 1 / 2 - (q % 2 : ℕ)) * (dy + 1 / 2 - (q / 2 : ℕ))] := by
  have h : q = 0 ∨ q = 1 ∨ q = 2 ∨ q = 3 := by omega
  rcases h with rfl | rfl | rfl | rfl <;>
    simp only [weights, c050_real, c150_real, List.cons.injEq, and_true, Nat.cast_zero, Nat.cast_one, Nat.reduceMod,
      Nat.reduceDiv] <;>
    refine ⟨?_, ?_, ?_, ?_⟩ <;> ring

/-- `b = 1`: the half `x > ½` of the unit interval; `x + ½ − b` is the position relative to the centre of the lower of the two cells -/
theorem axis_pos (b : ℕ) (hb : b < 2) (x : ℝ) (h0 : 0 ≤ x) (h1 : x ≤ 1) (h : if b = 1 then 1 / 2 < x else x ≤ 1 / 2) :
    0 ≤ x + 1 / 2 - (b : ℕ) ∧ x + 1 / 2 - (b : ℕ) ≤ 1 := by
  obtain rfl | rfl : b = 0 ∨ b = 1 := by omega
  · rw [if_neg (by decide)] at h
    rw [Nat.cast_zero]
    constructor <;> linarith only [h0, h]
  · rw [if_pos rfl] at h
    rw [Nat.cast_one]
    constructor <;> linarith only [h1, h]

/-- corner present: products of `s, 1 − s, t, 1 − t ∈ [0, 1]` -/
theorem weights_true_nonneg (q : ℕ) (hq : q < 4) (dx dy : ℝ)
    (hs : 0 ≤ dx + 1 / 2 - (q % 2 : ℕ) ∧ dx + 1 / 2 - (q % 2 : ℕ) ≤ 1)
    (ht : 0 ≤ dy + 1 / 2 - (q / 2 : ℕ) ∧ dy + 1 / 2 - (q / 2 : ℕ) ≤ 1) : ∀ w ∈ weights q true dx dy, 0 ≤ w := by
  rw [weights_true_eq q hq]
  simp only [List.forall_mem_cons, List.not_mem_nil, false_imp_iff, implies_true, and_true]
  exact ⟨mul_nonneg (sub_nonneg.mpr hs.2) (sub_nonneg.mpr ht.2), mul_nonneg hs.1 (sub_nonneg.mpr ht.2),
    mul_nonneg (sub_nonneg.mpr hs.2) ht.1, mul_nonneg hs.1 ht.1⟩

/-- corner missing: every weight is `0`, a 4-cell weight, or a 4-cell weight plus half the corner's (`weights_missing_eq`) -/
theorem weights_false_nonneg (q : ℕ) (hq : q < 4) (dx dy : ℝ) (h : ∀ w ∈ weights q true dx dy, 0 ≤ w) :
    ∀ w ∈ weights q false dx dy, 0 ≤ w := by
  have hw : ∀ s, 0 ≤ wOf q dx dy s := by
    intro s
    unfold wOf
    cases hf : (List.zip (slots q) (weights q true dx dy)).find? (·.1 == s) with
    | none => exact le_rfl
    | some p => exact h _ (List.of_mem_zip (List.mem_of_find?_eq_some hf)).2
  rw [weights_missing_eq q hq]
  intro w hm
  obtain ⟨s, -, rfl⟩ := List.mem_map.mp hm
  split_ifs
  · exact le_rfl
  · linarith only [hw s, hw (corner q)]
  · exact hw s

theorem wOf_corner (q : Nat) (hq : q < 4) (dx dy : ℝ) :
    wOf q dx dy (corner q) =
      (if q % 2 = 1 then dx - 1 / 2 else 1 / 2 - dx) * (if q / 2 = 1 then dy - 1 / 2 else 1 / 2 - dy) := by
  have h : q = 0 ∨ q = 1 ∨ q = 2 ∨ q = 3 := by omega
  rcases h with rfl | rfl | rfl | rfl <;>
    simp [weights, slots, corner, wOf, c050_real, c150_real]

/-- C19, corner missing (its slot carries the cell itself with weight 0): the weighted mean is
    the position displaced by minus half the corner's 4-cell weight times the corner's offset, on each axis. -/
theorem bilinear_mean_missing (q : Nat) (hq : q < 4) (i j dx dy : ℝ) :
    wsum (weights q false dx dy) (slots q) (fun s => if s = corner q then i + 1 / 2 else cenI i s)
      = i + dx - wOf q dx dy (corner q) / 2 * ((corner q).offsetSe : ℝ) ∧
    wsum (weights q false dx dy) (slots q) (fun s => if s = corner q then j + 1 / 2 else cenJ j s)
      = j + dy - wOf q dx dy (corner q) / 2 * ((corner q).offsetSw : ℝ) := by
  rw [wOf_corner q hq]
  have h : q = 0 ∨ q = 1 ∨ q = 2 ∨ q = 3 := by omega
  rcases h with rfl | rfl | rfl | rfl <;>
    (simp [wsum, weights, slots, corner, cenI, cenJ, offsetSe, offsetSw, c050_real, c075_real, c125_real,
      c150_real, zero_real]
     constructor <;> ring)

/-- the 3-cell mean is not the position: at the S vertex of the cell (`dx = dy = 0`, quadrant 0, corner S missing)
    the mean of the first coordinate is `i + 1/8`, not `i + 0`: half the corner's 4-cell weight `½·½`, times its offset `−1`,
    subtracted. -/
theorem bilinear_mean_missing_counterexample :
    wsum (weights 0 false (0 : ℝ) 0) (slots 0) (fun s => if s = corner 0 then (0 : ℝ) + 1 / 2 else cenI 0 s) = 1 / 8 := by
  rw [(bilinear_mean_missing 0 (by decide) 0 0 0 0).1, wOf_corner 0 (by decide)]
  norm_num [corner, offsetSe]

section Structure
variable {α : Type} [Num α]

/-- lookup in the neighbour map, as in the code (`neighbours.get(w)`) -/
def getN (nm : List (MW × Nat)) (w : MW) : Option Nat := (nm.find? (·.1 == w)).map (·.2)

def quad (dx dy : α) : Nat :=
  ((if Num.gt dy (c050 : α) then 1 else 0) <<< 1) + (if Num.gt dx (c050 : α) then 1 else 0)

theorem quad_lt (dx dy : α) : quad dx dy < 4 := by
  unfold quad; split <;> split <;> decide

def cornerPresent (nm : List (MW × Nat)) (q : Nat) : Bool := (getN nm (corner q)).isSome

def slotCell (nm : List (MW × Nat)) (h q : Nat) (w : MW) : Option Nat :=
  if w == corner q && !cornerPresent nm q then some h else getN nm w

/-- the last step of `bilinear` -/
def assemble (nm : List (MW × Nat)) (h : Nat) (dx dy : α) : Option (List (Nat × α)) :=
  let q := quad dx dy
  (List.zip (slots q) (weights q (cornerPresent nm q) dx dy)).mapM fun (w, wt) =>
    (slotCell nm h q w).map fun c => (c, wt)

theorem bilinear_eq (cfg : Cfg) (d : Nat) (lon lat : α) :
    bilinear cfg d lon lat =
      (Hash.hashWithDxDy cfg d lon lat).bind fun t =>
        (Topo.neighbours cfg d t.1 true).bind fun nm => assemble nm t.1 t.2.1 t.2.2 := by
  unfold bilinear
  cases Hash.hashWithDxDy cfg d lon lat with
  | none => rfl
  | some t =>
    obtain ⟨h, dx, dy⟩ := t
    dsimp only [Option.bind_some]
    cases Topo.neighbours cfg d h true with
    | none => rfl
    | some nm =>
      dsimp only [assemble, Option.bind_some]
      congr 1
      funext x
      obtain ⟨w, wt⟩ := x
      simp only [slotCell, cornerPresent, getN, quad, apply_ite (Option.map fun c => (c, wt)), Option.map_some]

omit [Num α] in
theorem mapM_slots (sc : MW → Option Nat) (h : Nat) (L : List (MW × α)) (l : List (Nat × α)) :
    L.mapM (fun x => (sc x.1).map fun c => (c, x.2)) = some l ↔
      (∀ x ∈ L, (sc x.1).isSome) ∧ l = L.map fun x => ((sc x.1).getD h, x.2) := by
  induction L generalizing l with
  | nil => simp only [List.mapM_nil, List.map_nil, List.not_mem_nil, false_imp_iff, implies_true, true_and]
           exact ⟨fun h => (Option.some.inj h).symm, fun h => h ▸ rfl⟩
  | cons a L ih =>
    rw [List.mapM_cons]
    cases hs : sc a.1 with
    | none => simp [hs]
    | some c =>
      cases hm : L.mapM (fun x => (sc x.1).map fun c => (c, x.2)) with
      | none =>
        have := (ih (L.map fun x => ((sc x.1).getD h, x.2))).not.mp (by simp [hm])
        simp only [Option.map_some, Option.bind_eq_bind, Option.bind_some, Option.bind_none, List.mem_cons,
          List.map_cons, hs, Option.getD_some, forall_eq_or_imp, Option.isSome_some, true_and]
        constructor
        · intro h'; cases h'
        · rintro ⟨h1, -⟩; exact absurd ⟨h1, rfl⟩ this
      | some r =>
        obtain ⟨h1, h2⟩ := (ih r).mp hm
        simp only [Option.map_some, Option.bind_eq_bind, Option.bind_some, List.mem_cons,
          List.map_cons, hs, Option.getD_some, forall_eq_or_imp, Option.isSome_some, true_and, ← h2]
        constructor
        · intro h'; cases h'; exact ⟨h1, rfl⟩
        · rintro ⟨-, rfl⟩; rfl

theorem slots_length (q : Nat) : (slots q).length = 4 := by unfold slots; split <;> rfl
theorem weights_length (q : Nat) (p : Bool) (dx dy : α) : (weights q p dx dy).length = 4 := by
  unfold weights; split <;> rfl

theorem assemble_eq_some_iff (nm : List (MW × Nat)) (h : Nat) (dx dy : α) (l : List (Nat × α)) :
    assemble nm h dx dy = some l ↔
      (∀ w ∈ slots (quad dx dy), (slotCell nm h (quad dx dy) w).isSome) ∧
      l = List.zipWith (fun w wt => ((slotCell nm h (quad dx dy) w).getD h, wt)) (slots (quad dx dy))
            (weights (quad dx dy) (cornerPresent nm (quad dx dy)) dx dy) := by
  unfold assemble
  simp only []
  rw [mapM_slots (slotCell nm h (quad dx dy)) h]
  have hl : (slots (quad dx dy)).length ≤ (weights (quad dx dy) (cornerPresent nm (quad dx dy)) dx dy).length := by
    rw [slots_length, weights_length]
  have hz : ∀ P : MW → Prop, (∀ x ∈ (slots (quad dx dy)).zip (weights (quad dx dy) (cornerPresent nm (quad dx dy)) dx dy),
      P x.1) ↔ ∀ w ∈ slots (quad dx dy), P w := by
    intro P
    conv => rhs; rw [← List.map_fst_zip hl]
    rw [List.forall_mem_map]
  rw [hz (fun w => (slotCell nm h (quad dx dy) w).isSome = true), List.map_zip_eq_zipWith]
  rfl

theorem getN_mem {nm : List (MW × Nat)} {w : MW} {c : Nat} (h : getN nm w = some c) : (w, c) ∈ nm := by
  unfold getN at h
  obtain ⟨x, hx, rfl⟩ := Option.map_eq_some_iff.mp h
  have h1 := List.mem_of_find?_eq_some hx
  have h2 : x.1 = w := by simpa using List.find?_some hx
  rw [← h2]; exact h1

theorem neighbours_center (cfg : Cfg) (d h : Nat) (nm : List (MW × Nat))
    (hN : Topo.neighbours cfg d h true = some nm) : getN nm C = some h := by
  obtain ⟨hd, hh⟩ := TopoLift.neighbours_some_valid hN
  exact (TopoLift.neighbours_find cfg d hd h hh true nm hN C (Or.inr rfl)).trans (TopoLift.nbG_center hd hh)

theorem corner_ne_C (q : Nat) : corner q ≠ C := by unfold corner; split <;> (intro h; cases h)
theorem corner_cardinal (q : Nat) : (corner q).isCardinal = true := by unfold corner; split <;> rfl

theorem slots_kinds : ∀ q, q < 4 → ∀ w ∈ slots q, w = C ∨ w = corner q ∨ w.isOrdinal = true := by decide

theorem C_mem_slots : ∀ q, q < 4 → C ∈ slots q := by decide
theorem corner_mem_slots : ∀ q, q < 4 → corner q ∈ slots q := by decide

omit [Num α] in
theorem zipWith_pair (c : MW → Nat) (ws : List MW) (wts : List α) :
    List.zipWith (fun w wt => (c w, wt)) ws wts = (ws.map c).zip wts := List.zipWith_map_left.symm

theorem slotCell_C (nm : List (MW × Nat)) (h q : Nat) (hC : getN nm C = some h) : slotCell nm h q C = some h := by
  unfold slotCell
  have : (C == corner q) = false := beq_false_of_ne (Ne.symm (corner_ne_C q))
  simp [this, hC]

theorem slotCell_corner (nm : List (MW × Nat)) (h q : Nat) : (slotCell nm h q (corner q)).isSome = true := by
  unfold slotCell cornerPresent
  cases hg : getN nm (corner q) <;> simp

theorem slotCell_ordinal (nm : List (MW × Nat)) (h q : Nat) (w : MW) (hw : w.isOrdinal = true) :
    slotCell nm h q w = getN nm w := by
  unfold slotCell
  have : (w == corner q) = false := by
    apply beq_false_of_ne
    intro hc
    have := corner_cardinal q
    rw [← hc] at this
    cases w <;> simp_all [MW.isOrdinal, MW.isCardinal]
  simp [this]

/-- what `bilinear` returns, for every `Num` instance: the cells of `slots q` with `weights q present dx dy`, where the corner
    slot carries `h` itself when the corner neighbour is missing; the slot `C` is always one of the four, so `h` occurs in
    the result -/
theorem bilinear_structure (cfg : Cfg) (d : Nat) (lon lat : α) (l : List (Nat × α))
    (hb : bilinear cfg d lon lat = some l) :
    ∃ h dx dy nm, Hash.hashWithDxDy cfg d lon lat = some (h, dx, dy) ∧ Topo.neighbours cfg d h true = some nm ∧
      ∃ cell : MW → Nat,
        l = List.zipWith (fun w wt => (cell w, wt)) (slots (quad dx dy))
              (weights (quad dx dy) (cornerPresent nm (quad dx dy)) dx dy) ∧
        l.length = 4 ∧
        l.map (·.2) = weights (quad dx dy) (cornerPresent nm (quad dx dy)) dx dy ∧
        l.map (·.1) = (slots (quad dx dy)).map cell ∧
        C ∈ slots (quad dx dy) ∧ cell C = h ∧ h ∈ l.map (·.1) ∧
        ∀ w ∈ slots (quad dx dy),
          (w = corner (quad dx dy) ∧ cornerPresent nm (quad dx dy) = false ∧ cell w = h) ∨
          (getN nm w = some (cell w) ∧ (w, cell w) ∈ nm) := by
  simp only [bilinear_eq, Option.bind_eq_some_iff] at hb
  obtain ⟨⟨h, dx, dy⟩, hH, nm, hN, hb⟩ := hb
  obtain ⟨hall, hl⟩ := (assemble_eq_some_iff nm h dx dy l).mp hb
  have hC := neighbours_center cfg d h nm hN
  have hq := quad_lt dx dy
  have hlen : (slots (quad dx dy)).length =
      (weights (quad dx dy) (cornerPresent nm (quad dx dy)) dx dy).length := by
    rw [slots_length, weights_length]
  have hcellC : (slotCell nm h (quad dx dy) C).getD h = h := by rw [slotCell_C nm h _ hC]; rfl
  have hfst : l.map (·.1) = (slots (quad dx dy)).map fun w => (slotCell nm h (quad dx dy) w).getD h := by
    rw [hl, zipWith_pair]; exact List.map_fst_zip (by rw [List.length_map, hlen])
  refine ⟨h, dx, dy, nm, hH, hN, fun w => (slotCell nm h (quad dx dy) w).getD h, hl, ?_, ?_, hfst,
    C_mem_slots _ hq, hcellC, ?_, ?_⟩
  · rw [hl, List.length_zipWith, ← hlen, slots_length]; rfl
  · rw [hl, zipWith_pair]; exact List.map_snd_zip (by rw [List.length_map, hlen])
  · rw [hfst]
    exact List.mem_map.mpr ⟨C, C_mem_slots _ hq, hcellC⟩
  · intro w hw
    have hs := hall w hw
    by_cases hc : (w == corner (quad dx dy) && !cornerPresent nm (quad dx dy)) = true
    · left
      simp only [Bool.and_eq_true, beq_iff_eq, Bool.not_eq_true'] at hc
      refine ⟨hc.1, hc.2, ?_⟩
      show (slotCell nm h (quad dx dy) w).getD h = h
      unfold slotCell; simp [hc.1, hc.2]
    · right
      have hsc : slotCell nm h (quad dx dy) w = getN nm w := by unfold slotCell; rw [if_neg hc]
      rw [hsc] at hs
      obtain ⟨c, hc'⟩ := Option.isSome_iff_exists.mp hs
      have : (slotCell nm h (quad dx dy) w).getD h = c := by rw [hsc, hc']; rfl
      show getN nm w = some ((slotCell nm h (quad dx dy) w).getD h) ∧
        (w, (slotCell nm h (quad dx dy) w).getD h) ∈ nm
      rw [this]
      exact ⟨hc', getN_mem hc'⟩

/-- when `bilinear` panics (every `Num` instance): exactly when `hashWithDxDy` does, or `neighbours` does, or one of
    the ORDINAL (SE/SW/NE/NW) slots of the quadrant has no neighbour (the `unwrap`s of the code). -/
theorem bilinear_none_iff (cfg : Cfg) (d : Nat) (lon lat : α) :
    bilinear cfg d lon lat = none ↔
      Hash.hashWithDxDy cfg d lon lat = none ∨
      ∃ h dx dy, Hash.hashWithDxDy cfg d lon lat = some (h, dx, dy) ∧
        (Topo.neighbours cfg d h true = none ∨
         ∃ nm, Topo.neighbours cfg d h true = some nm ∧
           ∃ w ∈ slots (quad dx dy), w.isOrdinal = true ∧ getN nm w = none) := by
  rw [bilinear_eq]
  cases hH : Hash.hashWithDxDy cfg d lon lat with
  | none => simp
  | some t =>
    obtain ⟨h, dx, dy⟩ := t
    dsimp only [Option.bind_some]
    cases hN : Topo.neighbours cfg d h true with
    | none => simp [hN]
    | some nm =>
      dsimp only [Option.bind_some]
      have hC := neighbours_center cfg d h nm hN
      have hq := quad_lt dx dy
      have key : assemble nm h dx dy = none ↔
          ∃ w ∈ slots (quad dx dy), w.isOrdinal = true ∧ getN nm w = none := by
        constructor
        · intro hn
          by_contra hcon
          have hall : ∀ w ∈ slots (quad dx dy), (slotCell nm h (quad dx dy) w).isSome := by
            intro w hw
            rcases slots_kinds _ hq w hw with rfl | rfl | ho
            · rw [slotCell_C nm h _ hC]; rfl
            · exact slotCell_corner nm h _
            · rw [slotCell_ordinal nm h _ w ho]
              cases hg : getN nm w with
              | none => exact absurd ⟨w, hw, ho, hg⟩ hcon
              | some c => rfl
          have := (assemble_eq_some_iff nm h dx dy _).mpr ⟨hall, rfl⟩
          rw [hn] at this; cases this
        · rintro ⟨w, hw, ho, hg⟩
          cases ha : assemble nm h dx dy with
          | none => rfl
          | some l =>
            have := ((assemble_eq_some_iff nm h dx dy l).mp ha).1 w hw
            rw [slotCell_ordinal nm h _ w ho, hg] at this
            cases this
      rw [key]
      constructor
      · intro hk; exact Or.inr ⟨h, dx, dy, rfl, Or.inr ⟨nm, hN, hk⟩⟩
      · rintro (hk | ⟨h', dx', dy', he, hk | ⟨nm', he', hk⟩⟩)
        · cases hk
        · cases he; rw [hN] at hk; cases hk
        · cases he; rw [hN] at he'; cases he'; exact hk

end Structure

/-! ### satisfiability: concrete neighbour maps over ℝ, at `(dx, dy) = (¼, ¼)` (quadrant 0, slots `S SE SW C`) -/

theorem quad_quarter : quad (1 / 4 : ℝ) (1 / 4) = 0 := by
  have : Num.gt (1 / 4 : ℝ) (c050 : ℝ) = false := by
    show decide ((c050 : ℝ) < 1 / 4) = false
    rw [c050_real]; norm_num
  unfold quad; rw [this]; rfl

/-- all four cells there: `assemble` succeeds -/
example : ∃ l, assemble (α := ℝ) [(S, 1), (SE, 2), (SW, 3), (C, 0)] 0 (1 / 4) (1 / 4) = some l ∧ l.map (·.1) = [1, 2, 3, 0] := by
  refine ⟨_, (assemble_eq_some_iff _ _ _ _ _).mpr ⟨?_, rfl⟩, ?_⟩
  · rw [quad_quarter]; decide
  · rw [quad_quarter]; rfl

/-- the corner `S` missing: still succeeds, the cell itself stands in the corner slot -/
example : ∃ l, assemble (α := ℝ) [(SE, 2), (SW, 3), (C, 0)] 0 (1 / 4) (1 / 4) = some l ∧ l.map (·.1) = [0, 2, 3, 0] := by
  refine ⟨_, (assemble_eq_some_iff _ _ _ _ _).mpr ⟨?_, rfl⟩, ?_⟩
  · rw [quad_quarter]; decide
  · rw [quad_quarter]; rfl

/-- an ordinal neighbour (`SE`) missing: panic -/
example : assemble (α := ℝ) [(S, 1), (SW, 3), (C, 0)] 0 (1 / 4) (1 / 4) = none := by
  cases ha : assemble (α := ℝ) [(S, 1), (SW, 3), (C, 0)] 0 (1 / 4) (1 / 4) with
  | none => rfl
  | some l =>
    have := ((assemble_eq_some_iff _ _ _ _ l).mp ha).1 SE (by rw [quad_quarter]; decide)
    rw [quad_quarter] at this
    exact absurd this (by decide)

/-- the weighted mean at a concrete point of quadrant 1 (`dx = 0.85`, `dy = 0.34`, cell `(i, j) = (3, 0)`) -/
example : wsum (weights 1 true (17 / 20 : ℝ) (17 / 50)) (slots 1) (cenI 3) = 3 + 17 / 20 :=
  (bilinear_mean 1 (by decide) 3 0 _ _).1

end Hpx.BilinearReal

#print axioms Hpx.BilinearReal.bilinear_mean
#print axioms Hpx.BilinearReal.weights_missing_eq
#print axioms Hpx.BilinearReal.bilinear_mean_missing
#print axioms Hpx.BilinearReal.bilinear_mean_missing_counterexample
#print axioms Hpx.BilinearReal.bilinear_structure
#print axioms Hpx.BilinearReal.bilinear_none_iff
#print axioms Hpx.BilinearReal.neighbours_center
