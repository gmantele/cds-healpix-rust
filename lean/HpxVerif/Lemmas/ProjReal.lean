/-
The two HEALPix projections over the reals (C17): the model functions of `Model/Proj.lean` at `α := ℝ`.

`proj` and `unproj` commute with the sign transfer (`proj_sym`, `unproj_sym`), so both are put in closed form on
non-negative arguments only (`proj_pos`, `unproj_pos`), `proj` in terms of `sigma` and `planeY`, Collignon factor and
ordinate as functions of the signed latitude; `proj_closed` is `proj` on its whole domain, from which everything else
about it is derived.
-/
import HpxVerif.Model.Proj
import HpxVerif.Lemmas.NumReal
import Mathlib.Tactic.FieldSimp
import Mathlib.Tactic.IntervalCases
import Mathlib.Tactic.Positivity

namespace Hpx.Proj
open Real

theorem epsPole_eq : (Num.epsPole : ℝ) = (2 ^ 52 + 0xC25C268497682) * (2 : ℝ) ^ ((979 : ℤ) - 1075) := by
  show ((F64.toRat 0x3D3C25C268497682 : ℚ) : ℝ) = _
  rw [toRat_of_fields _ 979 0xC25C268497682 (by decide) (by decide) (by decide) (by decide)]
  push_cast; rfl

theorem epsPole_pos : 0 < (Num.epsPole : ℝ) := by rw [epsPole_eq]; positivity

theorem epsPole_lt_small : (Num.epsPole : ℝ) < 1 / 1000 := by rw [epsPole_eq]; norm_num

theorem ensuresXIsPositive_of_nonneg {X : ℝ} (h : 0 ≤ X) : ensuresXIsPositive X = X := by
  unfold ensuresXIsPositive
  rw [if_neg (by rw [r_lt, r_zero]; simpa using h)]

theorem ensuresXIsPositive_of_neg {X : ℝ} (h : X < 0) : ensuresXIsPositive X = X + 8 := by
  unfold ensuresXIsPositive
  rw [if_pos (by rw [r_lt, r_zero]; simpa using h), r_ofNat]; norm_num

theorem deprojCea_projCea (x lat : ℝ) (h1 : -(π / 2) ≤ lat) (h2 : lat ≤ π / 2) :
    deprojCea (α := ℝ) (projCea (x, lat)) = (x, lat) := by
  unfold deprojCea projCea
  show (x, Real.arcsin (Real.sin lat * (3 / 2) * (2 / 3))) = (x, lat)
  rw [show Real.sin lat * (3 / 2) * (2 / 3) = Real.sin lat by ring, Real.arcsin_sin h1 h2]

/-- the sign transfer `from_bits(to_bits(v) | sign_bit(s))` over ℝ -/
noncomputable def sgn (s v : ℝ) : ℝ := if s < 0 then -|v| else v

theorem sgn_of_nonneg {s : ℝ} (h : 0 ≤ s) (v : ℝ) : sgn s v = v := if_neg (not_lt.mpr h)
theorem sgn_of_neg {s : ℝ} (h : s < 0) (v : ℝ) : sgn s v = -|v| := if_pos h
theorem abs_sgn (s v : ℝ) : |sgn s v| = |v| := by unfold sgn; split <;> simp
theorem sgn_abs_self (s : ℝ) : sgn s |s| = s := by
  unfold sgn; split
  · next h => rw [abs_abs, abs_of_neg h, neg_neg]
  · next h => exact abs_of_nonneg (not_lt.mp h)
theorem sgn_mul_pos (s v c : ℝ) (hc : 0 < c) : sgn s (v * c) = sgn s v * c := by
  unfold sgn; split
  · rw [abs_mul, abs_of_pos hc, neg_mul]
  · rfl

theorem r_orSign_sgn (s x : ℝ) : Num.orSign x (Num.signBit s) = sgn s x := by
  rw [r_orSign, r_signBit, sgn]; simp

theorem checkLat_iff (lat : ℝ) : checkLat (α := ℝ) lat = true ↔ -(π / 2) ≤ lat ∧ lat ≤ π / 2 := by
  unfold checkLat; rw [r_le, r_le, r_hpi]; simp
theorem checkY_iff (y : ℝ) : checkY (α := ℝ) y = true ↔ -2 ≤ y ∧ y ≤ 2 := by
  unfold checkY; rw [r_le, r_le, r_two]; simp

theorem neg_le_abs_le_iff {c x : ℝ} (hc : 0 ≤ c) : (-c ≤ |x| ∧ |x| ≤ c) ↔ (-c ≤ x ∧ x ≤ c) := by
  rw [and_iff_right ((neg_nonpos.mpr hc).trans (abs_nonneg x)), abs_le]

theorem checkLat_abs (lat : ℝ) : checkLat (α := ℝ) |lat| = checkLat (α := ℝ) lat := by
  rw [Bool.eq_iff_iff, checkLat_iff, checkLat_iff, neg_le_abs_le_iff (by positivity)]

theorem checkY_abs (y : ℝ) : checkY (α := ℝ) |y| = checkY (α := ℝ) y := by
  rw [Bool.eq_iff_iff, checkY_iff, checkY_iff, neg_le_abs_le_iff (by norm_num)]

theorem signBit_abs (x : ℝ) : Num.signBit |x| = false := by
  rw [r_signBit]; simp

theorem proj_sym (lon lat : ℝ) :
    proj (α := ℝ) lon lat = (proj (α := ℝ) |lon| |lat|).map (fun p => (sgn lon p.1, sgn lat p.2)) := by
  unfold proj
  simp only [checkLat_abs, r_abs, abs_abs, signBit_abs]
  cases checkLat (α := ℝ) lat
  · simp
  · simp only [Bool.not_true, Bool.false_eq_true, if_false, Option.map_some, applyOffsetAndSigns, r_orSign_false,
      r_orSign_sgn]

theorem unproj_sym (x y : ℝ) :
    unproj (α := ℝ) x y = (unproj (α := ℝ) |x| |y|).map (fun p => (sgn x p.1, sgn y p.2)) := by
  unfold unproj
  simp only [checkY_abs, r_abs, abs_abs, signBit_abs]
  cases checkY (α := ℝ) y
  · simp
  · simp only [Bool.not_true, Bool.false_eq_true, if_false, Option.map_some, applyOffsetAndSigns, r_orSign_false,
      r_orSign_sgn, r_pi4, sgn_mul_pos _ _ _ (by positivity : (0 : ℝ) < π / 4)]

/-- `hX'`, `hY'`: an argument of negative sign sent to zero would lose the sign -/
theorem sgn_lift (f : ℝ → ℝ → Option (ℝ × ℝ))
    (hsym : ∀ x y, f x y = (f |x| |y|).map (fun p => (sgn x p.1, sgn y p.2)))
    (s₁ s₂ X Y L B : ℝ) (hX : 0 ≤ X) (hY : 0 ≤ Y) (h : f X Y = some (L, B))
    (hX' : s₁ < 0 → 0 < X) (hY' : s₂ < 0 → 0 < Y) : f (sgn s₁ X) (sgn s₂ Y) = some (sgn s₁ L, sgn s₂ B) := by
  have key : ∀ s Z v : ℝ, 0 ≤ Z → (s < 0 → 0 < Z) → sgn (sgn s Z) v = sgn s v := by
    intro s Z v hZ hZ'
    by_cases hs : s < 0
    · rw [sgn_of_neg (show sgn s Z < 0 by rw [sgn_of_neg hs, abs_of_nonneg hZ]; linarith [hZ' hs]), sgn_of_neg hs]
    · rw [sgn_of_nonneg (show 0 ≤ sgn s Z by rwa [sgn_of_nonneg (not_lt.mp hs)]), sgn_of_nonneg (not_lt.mp hs)]
  rw [hsym, abs_sgn, abs_sgn, abs_of_nonneg hX, abs_of_nonneg hY, h, Option.map_some, key _ _ _ hX hX',
    key _ _ _ hY hY']

theorem or_one_eq (n : ℕ) : (n ||| 1) = 2 * (n / 2) + 1 := by
  have h1 : (n ||| 1) / 2 = n / 2 := by rw [Nat.or_div_two]; simp
  have h2 : (n ||| 1) % 2 = 1 := by rw [Nat.or_mod_two_eq_one]; right; rfl
  omega

theorem oddFloor_eq (x : ℝ) (k : ℕ) (hk : k < 128) (h1 : (2 * k : ℝ) ≤ x) (h2 : x < 2 * k + 2) :
    Num.truncU8 x ||| 1 = 2 * k + 1 := by
  have h0 : 0 ≤ x := le_trans (by positivity) h1
  show min ⌊max x 0⌋₊ 255 ||| 1 = 2 * k + 1
  rw [max_eq_left h0]
  have ha : 2 * k < ⌊x⌋₊ + 1 := by
    exact_mod_cast (by push_cast; linarith [Nat.lt_floor_add_one x] : ((2 * k : ℕ) : ℝ) < ((⌊x⌋₊ + 1 : ℕ) : ℝ))
  have hb : ⌊x⌋₊ < 2 * k + 2 := (Nat.floor_lt h0).mpr (by push_cast; linarith)
  generalize ⌊x⌋₊ = n at *
  have := or_one_eq n
  rw [min_eq_left (by omega)]; omega

/-- from 256 on the conversion `as u8` saturates: the odd floor is 255 -/
theorem oddFloor_saturated (x : ℝ) (h : 256 ≤ x) : Num.truncU8 x ||| 1 = 255 := by
  show min ⌊max x 0⌋₊ 255 ||| 1 = 255
  rw [max_eq_left (by linarith), min_eq_right (Nat.le_floor (by push_cast; linarith))]
  rfl

theorem pm1Dec (x : ℝ) (k : ℕ) (hk : k < 128) (h1 : (2 * k : ℝ) ≤ x) (h2 : x < 2 * k + 2) :
    pm1OffsetDecompose (α := ℝ) x = ((2 * k + 1) % 8, x - (2 * k + 1)) := by
  unfold pm1OffsetDecompose
  simp only [oddFloor_eq x k hk h1 h2, r_ofNat]
  rw [show (7 : ℕ) = 2 ^ 3 - 1 by norm_num, Nat.and_two_pow_sub_one_eq_mod]
  norm_num

theorem facet_exists (x : ℝ) (h0 : 0 ≤ x) (n : ℕ) (h8 : x < 2 * n) : ∃ k : ℕ, k < n ∧ (2 * k : ℝ) ≤ x ∧ x < 2 * k + 2 := by
  refine ⟨⌊x / 2⌋₊, ?_, ?_, ?_⟩
  · rw [Nat.floor_lt (by positivity)]; linarith
  · have := Nat.floor_le (show 0 ≤ x / 2 by positivity); linarith
  · have := Nat.lt_floor_add_one (x / 2); linarith

theorem lon_scaled_bounds (lon : ℝ) (h0 : 0 ≤ lon) (h1 : lon < 2 * π) :
    0 ≤ lon * (4 / π) ∧ lon * (4 / π) < 2 * (4 : ℕ) := by
  have hpi := pi_pos
  refine ⟨mul_nonneg h0 (by positivity), ?_⟩
  rw [← sub_pos]
  have : ((2 * (4 : ℕ) : ℝ)) - lon * (4 / π) = (2 * π - lon) * (4 / π) := by field_simp; ring
  rw [this]; exact mul_pos (by linarith) (by positivity)

theorem pm1OffsetDecompose_real (x : ℝ) (h0 : 0 ≤ x) (h8 : x < 8) :
    ∃ k : ℕ, k < 4 ∧ pm1OffsetDecompose (α := ℝ) x = (2 * k + 1, x - ((2 * k + 1 : ℕ) : ℝ)) ∧
      -1 ≤ x - ((2 * k + 1 : ℕ) : ℝ) ∧ x - ((2 * k + 1 : ℕ) : ℝ) < 1 := by
  obtain ⟨k, hk, h1, h2⟩ := facet_exists x h0 4 (by push_cast; linarith)
  refine ⟨k, hk, ?_, by push_cast; linarith, by push_cast; linarith⟩
  rw [pm1Dec x k (by omega) h1 h2, Nat.mod_eq_of_lt (by omega)]
  push_cast; rfl

/-- the Collignon factor of `proj_collignon` -/
noncomputable def sig (lat : ℝ) : ℝ := Real.sqrt 6 * Real.cos (1 / 2 * lat + π / 4)

/-- `deal_with_numerical_approx_in_edges` -/
noncomputable def clamp1 (l : ℝ) : ℝ := if 1 < l then 1 else if l < -1 then -1 else l

theorem clamp1_of_mem {l : ℝ} (h1 : -1 ≤ l) (h2 : l ≤ 1) : clamp1 l = l := by
  unfold clamp1; rw [if_neg (not_lt.mpr h2), if_neg (not_lt.mpr h1)]

theorem scaled_back (x : ℝ) : x * (π / 4) * (4 / π) = x := by
  have := pi_pos; field_simp

theorem sig_nonneg (lat : ℝ) (h1 : -(3 * π / 2) ≤ lat) (h2 : lat ≤ π / 2) : 0 ≤ sig lat :=
  mul_nonneg (Real.sqrt_nonneg 6)
    (Real.cos_nonneg_of_neg_pi_div_two_le_of_le (by linarith) (by linarith))

theorem sig_sq (lat : ℝ) : sig lat ^ 2 = 3 * (1 - Real.sin lat) := by
  unfold sig
  rw [mul_pow, Real.sq_sqrt (by norm_num : (0 : ℝ) ≤ 6), Real.cos_sq,
    show 2 * (1 / 2 * lat + π / 4) = lat + π / 2 by ring, Real.cos_add_pi_div_two]
  ring

theorem sig_eq_sqrt (lat : ℝ) (h1 : -(3 * π / 2) ≤ lat) (h2 : lat ≤ π / 2) :
    sig lat = Real.sqrt (3 * (1 - Real.sin lat)) := by
  rw [← sig_sq lat, Real.sqrt_sq (sig_nonneg lat h1 h2)]

theorem sig_eq (lat : ℝ) : sig lat = Real.sqrt 6 * Real.cos (lat / 2 + π / 4) := by
  rw [sig, show 1 / 2 * lat = lat / 2 by ring]

theorem sin_of_sig (lat : ℝ) : Real.sin lat = 1 - sig lat ^ 2 / 3 := by rw [sig_sq]; ring

theorem sin_arcsin_two_thirds : Real.sin (Real.arcsin (2 / 3)) = 2 / 3 :=
  Real.sin_arcsin (by norm_num) (by norm_num)

theorem le_transition_iff (lat : ℝ) (h1 : -(π / 2) ≤ lat) (h2 : lat ≤ π / 2) :
    lat ≤ Real.arcsin (2 / 3) ↔ Real.sin lat ≤ 2 / 3 :=
  Real.le_arcsin_iff_sin_le ⟨h1, h2⟩ ⟨by norm_num, by norm_num⟩

theorem sig_lt_one_iff (lat : ℝ) (h1 : -(π / 2) ≤ lat) (h2 : lat ≤ π / 2) :
    sig lat < 1 ↔ ¬ lat ≤ Real.arcsin (2 / 3) := by
  rw [le_transition_iff lat h1 h2, sin_of_sig, ← sq_lt_one_iff₀ (sig_nonneg lat (by linarith [pi_pos]) h2)]
  constructor <;> intro h <;> [skip; by_contra h'] <;> linarith

theorem sig_le_sqrt3 (lat : ℝ) (h0 : 0 ≤ lat) (h2 : lat ≤ π / 2) : sig lat ^ 2 ≤ 3 := by
  rw [sig_sq]; have := Real.sin_nonneg_of_nonneg_of_le_pi h0 (by linarith); linarith

theorem sig_half_pi : sig (π / 2) = 0 := by
  unfold sig; rw [show 1 / 2 * (π / 2) + π / 4 = π / 2 by ring, Real.cos_pi_div_two, mul_zero]

theorem arccos_sig (lat : ℝ) (h1 : -(π / 2) ≤ lat) (h2 : lat ≤ π / 2) :
    2 * Real.arccos (sig lat * (1 / Real.sqrt 6)) - π / 2 = lat := by
  have h6 : 0 < Real.sqrt 6 := Real.sqrt_pos.mpr (by norm_num)
  rw [show sig lat * (1 / Real.sqrt 6) = Real.cos (1 / 2 * lat + π / 4) by unfold sig; field_simp,
    Real.arccos_cos (by linarith) (by linarith)]
  ring

theorem collignon_y_lt_one (lat : ℝ) (h1 : Real.arcsin (2 / 3) < lat) (h2 : lat ≤ π / 2) :
    0 ≤ Real.sqrt 6 * Real.cos (1 / 2 * lat + π / 4) ∧ Real.sqrt 6 * Real.cos (1 / 2 * lat + π / 4) < 1 := by
  have h0 : -(π / 2) ≤ lat := by linarith [pi_pos, Real.arcsin_nonneg.mpr (show (0 : ℝ) ≤ 2 / 3 by norm_num)]
  exact ⟨sig_nonneg lat (by linarith [pi_pos]) h2, (sig_lt_one_iff lat h0 h2).mpr (not_le.mpr h1)⟩

theorem collignon_south (lat : ℝ) (h1 : -(π / 2) ≤ lat) (h2 : lat < -Real.arcsin (2 / 3)) :
    0 ≤ Real.sqrt 6 * Real.cos (lat / 2 - π / 4) ∧ Real.sqrt 6 * Real.cos (lat / 2 - π / 4) < 1 := by
  have := collignon_y_lt_one (-lat) (by linarith) (by linarith)
  rwa [show 1 / 2 * -lat + π / 4 = -(lat / 2 - π / 4) by ring, Real.cos_neg] at this

theorem asin23_nonneg : 0 ≤ Real.arcsin (2 / 3) := Real.arcsin_nonneg.mpr (by norm_num)

/-- `hpole`: the projected `2 − y` exceeds `EPS_POLE`, true for every latitude below `π/2 − 1e-12` -/
theorem deprojCollignon_projCollignon (x lat : ℝ) (hx1 : -1 ≤ x) (hx2 : x ≤ 1) (h1 : -(π / 2) ≤ lat) (h2 : lat ≤ π / 2)
    (hpole : (Num.epsPole : ℝ) < Real.sqrt 6 * Real.cos (1 / 2 * lat + π / 4)) :
    deprojCollignon (α := ℝ) (projCollignon (x, lat)) = (x, lat) := by
  change (Num.epsPole : ℝ) < sig lat at hpole
  unfold deprojCollignon projCollignon
  simp only [r_two, r_half, r_one, r_sqrt6, r_oos6, r_pi4, r_hpi, r_cos, r_acos, Num.gt, r_lt, decide_eq_true_eq]
  rw [show Real.sqrt 6 * Real.cos (1 / 2 * lat + π / 4) = sig lat from rfl, sub_sub_cancel, if_pos hpole, mul_div_assoc,
    div_self (epsPole_pos.trans hpole).ne', mul_one, if_neg (not_lt.mpr hx2), if_neg (not_lt.mpr hx1), arccos_sig lat h1 h2]

/-- the Collignon factor as a function of the signed latitude -/
noncomputable def sigma (lat : ℝ) : ℝ :=
  if Real.arcsin (2 / 3) < lat then Real.sqrt 6 * Real.cos (lat / 2 + π / 4)
  else if lat < -Real.arcsin (2 / 3) then Real.sqrt 6 * Real.cos (lat / 2 - π / 4)
  else 1

noncomputable def planeY (lat : ℝ) : ℝ :=
  if Real.arcsin (2 / 3) < lat then 2 - Real.sqrt 6 * Real.cos (lat / 2 + π / 4)
  else if lat < -Real.arcsin (2 / 3) then -(2 - Real.sqrt 6 * Real.cos (lat / 2 - π / 4))
  else Real.sin lat * (3 / 2)

theorem sigma_of_north {lat : ℝ} (h : Real.arcsin (2 / 3) < lat) : sigma lat = sig lat := by
  rw [sigma, if_pos h, sig_eq]

theorem planeY_of_north {lat : ℝ} (h : Real.arcsin (2 / 3) < lat) : planeY lat = 2 - sig lat := by
  rw [planeY, if_pos h, sig_eq]

theorem sigma_of_equatorial {lat : ℝ} (h1 : -Real.arcsin (2 / 3) ≤ lat) (h2 : lat ≤ Real.arcsin (2 / 3)) :
    sigma lat = 1 := by
  rw [sigma, if_neg (not_lt.mpr h2), if_neg (not_lt.mpr h1)]

theorem planeY_of_equatorial {lat : ℝ} (h1 : -Real.arcsin (2 / 3) ≤ lat) (h2 : lat ≤ Real.arcsin (2 / 3)) :
    planeY lat = Real.sin lat * (3 / 2) := by
  rw [planeY, if_neg (not_lt.mpr h2), if_neg (not_lt.mpr h1)]

theorem sigma_planeY_neg (lat : ℝ) : sigma (-lat) = sigma lat ∧ planeY (-lat) = -planeY lat := by
  have hA := asin23_nonneg
  unfold sigma planeY
  rw [show -lat / 2 + π / 4 = -(lat / 2 - π / 4) by ring, show -lat / 2 - π / 4 = -(lat / 2 + π / 4) by ring,
    Real.cos_neg, Real.cos_neg]
  by_cases hN : Real.arcsin (2 / 3) < lat
  · have h1 : ¬ Real.arcsin (2 / 3) < -lat := by linarith
    have h2 : -lat < -Real.arcsin (2 / 3) := by linarith
    rw [if_neg h1, if_pos h2, if_pos hN, if_neg h1, if_pos h2, if_pos hN]
    exact ⟨rfl, rfl⟩
  · rw [if_neg hN, if_neg hN]
    by_cases hS : lat < -Real.arcsin (2 / 3)
    · have h1 : Real.arcsin (2 / 3) < -lat := by linarith
      rw [if_pos h1, if_pos hS, if_pos h1, if_pos hS, neg_neg]
      exact ⟨rfl, rfl⟩
    · have h1 : ¬ Real.arcsin (2 / 3) < -lat := by linarith
      have h2 : ¬ -lat < -Real.arcsin (2 / 3) := by linarith
      rw [if_neg h1, if_neg h2, if_neg hS, if_neg h1, if_neg h2, if_neg hS, Real.sin_neg, neg_mul]
      exact ⟨rfl, rfl⟩

theorem sigma_abs (lat : ℝ) : sigma |lat| = sigma lat := by
  rcases abs_choice lat with h | h
  · rw [h]
  · rw [h, (sigma_planeY_neg lat).1]

theorem sigma_planeY_pos (lat : ℝ) (h0 : 0 ≤ lat) (h1 : lat ≤ π / 2) :
    0 ≤ sigma lat ∧ sigma lat ≤ 1 ∧ 0 ≤ planeY lat ∧ sigma lat = min 1 (2 - planeY lat) ∧ (0 < lat → 0 < planeY lat) := by
  have hA := asin23_nonneg
  have hpi := pi_pos
  by_cases h : lat ≤ Real.arcsin (2 / 3)
  · have hs0 := Real.sin_nonneg_of_nonneg_of_le_pi h0 (by linarith)
    have hs1 := (le_transition_iff lat (by linarith) h1).mp h
    rw [sigma_of_equatorial (by linarith) h, planeY_of_equatorial (by linarith) h]
    exact ⟨zero_le_one, le_rfl, by positivity, (min_eq_left (by linarith)).symm,
      fun hp => mul_pos (Real.sin_pos_of_pos_of_lt_pi hp (by linarith)) (by norm_num)⟩
  · have hs0 := sig_nonneg lat (by linarith) h1
    have hs1 := (sig_lt_one_iff lat (by linarith) h1).mpr h
    rw [sigma_of_north (not_le.mp h), planeY_of_north (not_le.mp h)]
    rw [sub_sub_cancel]
    exact ⟨hs0, hs1.le, by linarith, (min_eq_right hs1.le).symm, fun _ => by linarith⟩

/-- the Collignon factor is exactly 1 at the transition latitude: the two branches of `proj` agree there -/
theorem sig_transition : sig (Real.arcsin (2 / 3)) = 1 := by
  have h0 := sig_nonneg (Real.arcsin (2 / 3)) (by linarith [Real.pi_pos, asin23_nonneg]) (Real.arcsin_le_pi_div_two _)
  have hsq : sig (Real.arcsin (2 / 3)) ^ 2 = 1 := by rw [sig_sq, sin_arcsin_two_thirds]; norm_num
  nlinarith

/-- on the CLOSED north cap: also at the transition latitude, where the code takes its equatorial branch -/
theorem sigma_planeY_north {lat : ℝ} (h1 : Real.arcsin (2 / 3) ≤ lat) :
    sigma lat = sig lat ∧ planeY lat = 2 - sig lat := by
  rcases lt_or_eq_of_le h1 with h | h
  · exact ⟨sigma_of_north h, planeY_of_north h⟩
  · rw [← h, sigma_of_equatorial (by linarith only [asin23_nonneg]) le_rfl,
      planeY_of_equatorial (by linarith only [asin23_nonneg]) le_rfl, sig_transition, sin_arcsin_two_thirds]
    norm_num

theorem sigma_pos_north {lat : ℝ} (h1 : Real.arcsin (2 / 3) ≤ lat) (h2 : lat < π / 2) : 0 < sigma lat := by
  rw [(sigma_planeY_north h1).1]
  exact mul_pos (Real.sqrt_pos.mpr (by norm_num))
    (Real.cos_pos_of_mem_Ioo ⟨by linarith only [h1, asin23_nonneg, pi_pos], by linarith only [h2]⟩)

theorem planeY_lt_one {lat : ℝ} (h0 : -(π / 2) ≤ lat) (h : lat < Real.arcsin (2 / 3)) : planeY lat < 1 := by
  rcases le_or_gt (-Real.arcsin (2 / 3)) lat with hS | hS
  · have := Real.sin_lt_sin_of_lt_of_le_pi_div_two (by linarith only [h0]) (Real.arcsin_le_pi_div_two _) h
    rw [sin_arcsin_two_thirds] at this
    rw [planeY_of_equatorial hS h.le]
    linarith only [this]
  · have := (sigma_planeY_pos (-lat) (by linarith only [hS, asin23_nonneg]) (by linarith only [h0])).2.2.1
    rw [(sigma_planeY_neg lat).2] at this
    linarith only [this]

theorem sgn_planeY_abs (lat : ℝ) (hl1 : -(π / 2) ≤ lat) : sgn lat (planeY |lat|) = planeY lat := by
  rcases lt_or_ge lat 0 with h | h
  · rw [sgn_of_neg h, abs_of_neg h, abs_of_nonneg (sigma_planeY_pos (-lat) (by linarith) (by linarith)).2.2.1,
      (sigma_planeY_neg lat).2, neg_neg]
  · rw [sgn_of_nonneg h, abs_of_nonneg h]

theorem sigma_bounds (lat : ℝ) (hl1 : -(π / 2) ≤ lat) (hl2 : lat ≤ π / 2) : 0 ≤ sigma lat ∧ sigma lat ≤ 1 := by
  obtain ⟨a, b, -⟩ := sigma_planeY_pos |lat| (abs_nonneg lat) (abs_le.mpr ⟨hl1, hl2⟩)
  rw [sigma_abs] at a b
  exact ⟨a, b⟩

/-- `2 − |y|` is the half-width of the Collignon triangle at height `y` -/
theorem sigma_eq_min (lat : ℝ) (hl1 : -(π / 2) ≤ lat) (hl2 : lat ≤ π / 2) : sigma lat = min 1 (2 - |planeY lat|) := by
  obtain ⟨-, -, a, b, -⟩ := sigma_planeY_pos |lat| (abs_nonneg lat) (abs_le.mpr ⟨hl1, hl2⟩)
  rwa [← sgn_planeY_abs lat hl1, abs_sgn, abs_of_nonneg a, ← sigma_abs lat]

/-- with `|x − xc| ≤ σ` this puts the projected point in the `L¹` ball of radius 2 around `(xc, 0)` -/
theorem planeY_abs_le (lat : ℝ) (hl1 : -(π / 2) ≤ lat) (hl2 : lat ≤ π / 2) : |planeY lat| ≤ 2 - sigma lat := by
  have := min_le_right 1 (2 - |planeY lat|)
  rw [← sigma_eq_min lat hl1 hl2] at this
  linarith

theorem cea_y_bounds (lat : ℝ) (h1 : -Real.arcsin (2 / 3) ≤ lat) (h2 : lat ≤ Real.arcsin (2 / 3)) :
    -1 ≤ Real.sin lat * (3 / 2) ∧ Real.sin lat * (3 / 2) ≤ 1 := by
  have hu := Real.arcsin_le_pi_div_two (2 / 3)
  have := planeY_abs_le lat (by linarith) (by linarith)
  rw [planeY_of_equatorial h1 h2, sigma_of_equatorial h1 h2] at this
  exact abs_le.mp (by linarith)

theorem contract_between {σ : ℝ} (t c : ℝ) (hσ0 : 0 ≤ σ) (hσ1 : σ ≤ 1) :
    min c (t + c) ≤ t * σ + c ∧ t * σ + c ≤ max c (t + c) := by
  rcases le_total t 0 with h | h
  · have a := mul_le_mul_of_nonpos_left hσ1 h
    have b := mul_nonpos_of_nonpos_of_nonneg h hσ0
    rw [min_eq_right (by linarith), max_eq_left (by linarith)]
    constructor <;> linarith
  · have a := mul_le_mul_of_nonneg_left hσ1 h
    have b := mul_nonneg h hσ0
    rw [min_eq_left (by linarith), max_eq_right (by linarith)]
    constructor <;> linarith

theorem proj_of_decompose (lon lat : ℝ) (off : ℕ) (pm1 : ℝ) (hlon : 0 ≤ lon)
    (hd : pm1OffsetDecompose (α := ℝ) (lon * (4 / π)) = (off, pm1)) (hlat0 : 0 ≤ lat) (hlat1 : lat ≤ π / 2) :
    proj (α := ℝ) lon lat = some (pm1 * sigma lat + off, planeY lat) := by
  have hA := asin23_nonneg
  have hchk : checkLat (α := ℝ) lat = true := by rw [checkLat_iff]; constructor <;> linarith [pi_pos]
  have hs_lon : Num.signBit lon = false := by rw [r_signBit]; simpa using hlon
  have hs_lat : Num.signBit lat = false := by rw [r_signBit]; simpa using hlat0
  unfold proj
  simp only [hchk, Bool.not_true, Bool.false_eq_true, if_false, r_abs, abs_of_nonneg hlon, abs_of_nonneg hlat0,
    hs_lon, hs_lat, r_fourOverPi, hd, isInEquatorialRegion, r_le, r_transitionLat,
    applyOffsetAndSigns, r_orSign_false, r_ofNat]
  by_cases h : lat ≤ Real.arcsin (2 / 3)
  · rw [sigma_of_equatorial (by linarith) h, planeY_of_equatorial (by linarith) h, mul_one]
    simp only [h, decide_true, if_true, projCea, r_sin, r_ootz]
  · rw [sigma_of_north (not_le.mp h), planeY_of_north (not_le.mp h)]
    simp only [h, decide_false, Bool.false_eq_true, if_false, projCollignon, r_sqrt6, r_cos, r_half, r_pi4, r_two, sig]

theorem proj_pos (lon lat : ℝ) (k : ℕ) (hk : k < 128) (hlon : 0 ≤ lon) (h1 : (2 * k : ℝ) ≤ lon * (4 / π))
    (h2 : lon * (4 / π) < 2 * k + 2) (hlat0 : 0 ≤ lat) (hlat1 : lat ≤ π / 2) :
    proj (α := ℝ) lon lat =
      some ((lon * (4 / π) - (2 * k + 1)) * sigma lat + ((2 * k + 1) % 8 : ℕ), planeY lat) :=
  proj_of_decompose lon lat _ _ hlon (pm1Dec _ k hk h1 h2) hlat0 hlat1

theorem unproj_pos (x y : ℝ) (k : ℕ) (hk : k < 128) (h1 : (2 * k : ℝ) ≤ x) (h2 : x < 2 * k + 2) (hy0 : 0 ≤ y) (hy2 : y ≤ 2) :
    unproj (α := ℝ) x y = some
      (if y ≤ 1 then ((x - (2 * k + 1) + ((2 * k + 1) % 8 : ℕ)) * (π / 4), Real.arcsin (y * (2 / 3)))
       else (((if (Num.epsPole : ℝ) < 2 - y then clamp1 ((x - (2 * k + 1)) / (2 - y)) else x - (2 * k + 1))
                + ((2 * k + 1) % 8 : ℕ)) * (π / 4),
             2 * Real.arccos ((2 - y) * (1 / Real.sqrt 6)) - π / 2)) := by
  have hx : 0 ≤ x := le_trans (by positivity) h1
  have hchk : checkY (α := ℝ) y = true := by rw [checkY_iff]; constructor <;> linarith
  have hs_x : Num.signBit x = false := by rw [r_signBit]; simpa using hx
  have hs_y : Num.signBit y = false := by rw [r_signBit]; simpa using hy0
  unfold unproj
  simp only [hchk, Bool.not_true, Bool.false_eq_true, if_false, r_abs, abs_of_nonneg hx, abs_of_nonneg hy0,
    hs_x, hs_y, pm1Dec _ k hk h1 h2, r_le, r_one,
    applyOffsetAndSigns, r_orSign_false, r_ofNat, r_pi4]
  by_cases h : y ≤ 1
  · simp only [h, decide_true, if_true, deprojCea, r_asin, r_tz]
  · simp only [h, decide_false, Bool.false_eq_true, if_false, deprojCollignon, r_two, r_one, r_oos6, r_acos, r_hpi,
      Num.gt, r_lt, clamp1, decide_eq_true_eq]

theorem unproj_eq_pos (k : ℕ) (hk : k < 4) (x y : ℝ) (h1 : (2 * k : ℝ) ≤ x) (h2 : x < 2 * k + 2) (hy0 : 0 ≤ y) (hy1 : y ≤ 1) :
    unproj (α := ℝ) x y = some (x * (π / 4), Real.arcsin (y * (2 / 3))) := by
  rw [unproj_pos x y k (by omega) h1 h2 hy0 (by linarith), if_pos hy1, Nat.mod_eq_of_lt (by omega)]
  congr 3; push_cast; ring

/-- `proj` in closed form in every sign quadrant, up to where `as u8` saturates (`oddFloor_saturated`) -/
theorem proj_closed (lon lat : ℝ) (hlon : |lon| * (4 / π) < 256) (hl1 : -(π / 2) ≤ lat) (hl2 : lat ≤ π / 2) :
    ∃ k : ℕ, k < 128 ∧ (2 * k : ℝ) ≤ |lon| * (4 / π) ∧ |lon| * (4 / π) < 2 * k + 2 ∧
      proj (α := ℝ) lon lat =
        some (sgn lon ((|lon| * (4 / π) - (2 * k + 1)) * sigma lat + ((2 * k + 1) % 8 : ℕ)), planeY lat) := by
  have hpi := pi_pos
  obtain ⟨k, hk, h1, h2⟩ := facet_exists _ (by positivity : 0 ≤ |lon| * (4 / π)) 128 (by push_cast; linarith only [hlon])
  refine ⟨k, hk, h1, h2, ?_⟩
  rw [proj_sym, proj_pos |lon| |lat| k hk (abs_nonneg lon) h1 h2 (abs_nonneg lat) (abs_le.mpr ⟨hl1, hl2⟩),
    Option.map_some, sigma_abs, sgn_planeY_abs lat hl1]

theorem proj_closed_turn (lon lat : ℝ) (hlon : |lon| < 2 * π) (hl1 : -(π / 2) ≤ lat) (hl2 : lat ≤ π / 2) :
    ∃ k : ℕ, k < 4 ∧ (2 * k : ℝ) ≤ |lon| * (4 / π) ∧ |lon| * (4 / π) < 2 * k + 2 ∧
      proj (α := ℝ) lon lat =
        some (sgn lon ((|lon| * (4 / π) - (2 * k + 1)) * sigma lat + (2 * k + 1)), planeY lat) := by
  obtain ⟨-, hx8⟩ := lon_scaled_bounds |lon| (abs_nonneg lon) hlon
  push_cast at hx8
  obtain ⟨k, -, h1, h2, hP⟩ := proj_closed lon lat (by linarith only [hx8]) hl1 hl2
  have hk : k < 4 := by exact_mod_cast (by linarith only [h1, hx8] : (k : ℝ) < 4)
  refine ⟨k, hk, h1, h2, ?_⟩
  rw [hP, Nat.mod_eq_of_lt (by omega)]
  push_cast; rfl

/-- beyond the pole threshold (`σ ≤ EPS_POLE`, the pole included) `unproj` does not divide by `σ` and returns the
    projected abscissa unchanged -/
theorem unproj_proj_pos (k : ℕ) (hk : k < 4) (x lat : ℝ) (h1 : (2 * k : ℝ) ≤ x) (h2 : x < 2 * k + 2) (hlat0 : 0 ≤ lat)
    (hlat1 : lat ≤ π / 2) :
    unproj (α := ℝ) ((x - (2 * k + 1)) * sigma lat + (2 * k + 1)) (planeY lat) =
      some ((if sig lat ≤ (Num.epsPole : ℝ) then (x - (2 * k + 1)) * sigma lat + (2 * k + 1) else x) * (π / 4), lat) := by
  have hpi := pi_pos
  have hA := asin23_nonneg
  have hlt := sig_lt_one_iff lat (by linarith) hlat1
  by_cases hreg : lat ≤ Real.arcsin (2 / 3)
  · have hs0 : 0 ≤ Real.sin lat := Real.sin_nonneg_of_nonneg_of_le_pi hlat0 (by linarith)
    have hs : Real.sin lat ≤ 2 / 3 := (le_transition_iff lat (by linarith) hlat1).mp hreg
    have hpole : ¬ sig lat ≤ (Num.epsPole : ℝ) := fun h => hlt.mp (by linarith [epsPole_lt_small]) hreg
    rw [sigma_of_equatorial (by linarith) hreg, planeY_of_equatorial (by linarith) hreg, mul_one, sub_add_cancel, if_neg hpole,
      unproj_eq_pos k hk x _ h1 h2 (by positivity) (by linarith),
      show Real.sin lat * (3 / 2) * (2 / 3) = Real.sin lat by ring, Real.arcsin_sin (by linarith) hlat1]
  · have hs0 := sig_nonneg lat (by linarith) hlat1
    have hs1 := hlt.mpr hreg
    obtain ⟨c1, c2⟩ := contract_between (x - (2 * k + 1)) (2 * k + 1) hs0 hs1.le
    rw [sub_add_cancel] at c1 c2
    rw [sigma_of_north (not_le.mp hreg), planeY_of_north (not_le.mp hreg),
      unproj_pos _ _ k (by omega) (le_trans (le_min (by linarith) h1) c1) (lt_of_le_of_lt c2 (max_lt (by linarith) h2))
        (by linarith) (by linarith), Nat.mod_eq_of_lt (by omega), if_neg (by linarith), sub_sub_cancel,
      arccos_sig lat (by linarith) hlat1]
    by_cases hpole : sig lat ≤ (Num.epsPole : ℝ)
    · rw [if_neg (not_lt.mpr hpole), if_pos hpole]
      push_cast; ring_nf
    · rw [if_pos (not_le.mp hpole), if_neg hpole, add_sub_cancel_right, mul_div_assoc,
        div_self (epsPole_pos.trans (not_le.mp hpole)).ne', mul_one, clamp1_of_mem (by linarith) (by linarith)]
      push_cast; ring_nf

end Hpx.Proj
