/-
C17 over the reals: `base_cell_from_proj_coo` returns a base cell whose closed diamond contains the point; border
convention.
-/
import HpxVerif.Lemmas.ProjRealInverse
import HpxVerif.Lemmas.PlaneChart
namespace Hpx.Proj
open Real

theorem truncU8_eq (v : ℝ) (n : ℕ) (hn : n ≤ 255) (h1 : (n : ℝ) ≤ v) (h2 : v < n + 1) : Num.truncU8 v = n := by
  show min ⌊max v 0⌋₊ 255 = n
  have h0 : 0 ≤ v := le_trans (Nat.cast_nonneg n) h1
  rw [max_eq_left h0, (Nat.floor_eq_iff h0).mpr ⟨h1, h2⟩, min_eq_left hn]

/-- `(i, jj)` is the unit square of the half-scale grid containing `(x/2, (y+3)/2)` -/
theorem baseCell_explicit (x y : ℝ) (i jj : ℕ) (hi : i < 4) (hjj : jj < 3) (hi1 : (2 * i : ℝ) ≤ x) (hi2 : x < 2 * i + 2)
    (hj1 : (2 * jj : ℝ) ≤ y + 3) (hj2 : y + 3 < 2 * jj + 2) :
    baseCellFromProjCoo (α := ℝ) false x y = some (baseCellFinish i (2 * jj)
      (if x / 2 - i ≤ (y + 3) / 2 - jj then 1 else 0) (if 1 - ((y + 3) / 2 - jj) ≤ x / 2 - i then 1 else 0)) := by
  have hx : 0 ≤ x := by have := Nat.cast_nonneg (α := ℝ) i; linarith
  have hens : ensuresXIsPositive (α := ℝ) x = x := ensuresXIsPositive_of_nonneg hx
  have hti : Num.truncU8 ((1 / 2 : ℝ) * x) = i := truncU8_eq _ i (by omega) (by linarith) (by linarith)
  have htj : Num.truncU8 ((1 / 2 : ℝ) * (y + ((3 : ℕ) : ℝ))) = jj :=
    truncU8_eq _ jj (by omega) (by push_cast; linarith) (by push_cast; linarith)
  have hsh : (jj <<< 1) % 256 = 2 * jj := by rw [Nat.shiftLeft_eq]; omega
  have hshr : (2 * jj) >>> 1 = jj := by rw [Nat.shiftRight_eq_div_pow]; omega
  unfold baseCellFromProjCoo
  simp only [Bool.false_and, Bool.false_eq_true, if_false, hens, r_half, r_ofNat, hti, htj, hsh, hshr, r_le, Num.ge, r_one,
    decide_eq_true_eq]
  rw [show (1 / 2 : ℝ) * x = x / 2 by ring, show (1 / 2 : ℝ) * (y + ((3 : ℕ) : ℝ)) = (y + 3) / 2 by push_cast; ring]

/-- centre `(cellCx b, cellCy b)` of base cell `b` (row `b/4`, column `b%4`) in the projection plane -/
noncomputable def cellCx (b : ℕ) : ℝ := if b / 4 = 1 then 2 * ((b % 4 : ℕ) : ℝ) else 2 * ((b % 4 : ℕ) : ℝ) + 1
noncomputable def cellCy (b : ℕ) : ℝ := 1 - ((b / 4 : ℕ) : ℝ)

/-- the closed diamond of base cell `b`, abscissas modulo 8 -/
def InCell (b : ℕ) (x y : ℝ) : Prop := ∃ m : ℤ, |x - 8 * m - cellCx b| + |y - cellCy b| ≤ 1

theorem finish_eq (i j nw se row : ℕ) (hnw : nw ≤ 1) (hse : se ≤ 1) (hj : j ≤ 4)
    (hrow : row + max 2 (min 4 (j + nw + se)) = 4) : baseCellFinish i j nw se = 4 * row + (i + se >>> nw) % 4 := by
  unfold baseCellFinish
  have hs : se >>> nw ≤ 1 := le_trans (Nat.shiftRight_le _ _) hse
  generalize se >>> nw = s at *
  simp only
  rw [show (3 : ℕ) = 2 ^ 2 - 1 by norm_num, Nat.and_two_pow_sub_one_eq_mod, Nat.shiftLeft_eq]
  have e1 : (j + nw + se) % 256 = j + nw + se := Nat.mod_eq_of_lt (by omega)
  have e2 : (i + s) % 256 % 2 ^ 2 = (i + s) % 4 := by omega
  rw [e1, e2]
  split
  · omega
  · split <;> omega

theorem cell_facts (i s row : ℕ) (hrow : row ≤ 2) :
    4 * row + (i + s) % 4 < 12 ∧ (4 * row + (i + s) % 4 < 4 ↔ row = 0) ∧
    cellCy (4 * row + (i + s) % 4) = 1 - row ∧
    cellCx (4 * row + (i + s) % 4) =
      2 * ((i : ℝ) + s) + (if row = 1 then 0 else 1) - 8 * (((i + s) / 4 : ℕ) : ℝ) := by
  have hd : (4 * row + (i + s) % 4) / 4 = row := by omega
  have hm : (4 * row + (i + s) % 4) % 4 = (i + s) % 4 := by omega
  have hc := cast_mod4 (i + s)
  push_cast at hc
  refine ⟨by omega, by omega, by unfold cellCy; rw [hd], ?_⟩
  unfold cellCx; rw [hd, hm, hc]
  split <;> ring

theorem abs_add_lt_one {a b : ℝ} (h1 : a + b < 1) (h3 : -a + b < 1) : |a| + b < 1 := by
  rcases abs_cases a with ⟨ha, _⟩ | ⟨ha, _⟩ <;> rw [ha] <;> linarith

theorem diamond_rot {a b s t : ℝ} (hs : 0 ≤ s ∧ s < 1) (ht : 0 ≤ t ∧ t < 1) (h1 : a + b = 2 * s - 1)
    (h2 : b - a = 2 * t - 1) : |a| + |b| ≤ 1 ∧ |a| + b < 1 :=
  ⟨abs_add_abs_le_iff.mpr ⟨⟨by linarith, by linarith⟩, by linarith, by linarith⟩,
    abs_add_lt_one (by linarith) (by linarith)⟩

theorem ind_le_one (p : Prop) [Decidable p] : (if p then 1 else 0 : ℕ) ≤ 1 := by split <;> decide

/-- the code works in rotated coordinates: for `(u, v)` in the square `(i, jj)` of the half-scale grid, `se = ⌊u+v⌋` and
    `nw = ⌊v−u+1⌋` select the diamond of centre `(2i + 1 + se − nw, 2jj + nw + se − 3)`, and the offset `(a, b)` of the
    point from it has `a + b = 2(u+v−se) − 1`, `b − a = 2(v−u+1−nw) − 1`, both in `[−1, 1)`.  Here `2jj + nw + se` is not
    clamped. -/
theorem cell_unclamped (i jj nw se : ℕ) (x y u v : ℝ) (hx : x = 2 * (i + u)) (hy : y = 2 * (jj + v) - 3)
    (hi1 : (2 * i : ℝ) ≤ x) (hi2 : x < 2 * i + 2) (hj1 : (2 * jj : ℝ) ≤ y + 3) (hj2 : y + 3 < 2 * jj + 2)
    (hnw : nw = if u ≤ v then 1 else 0) (hse : se = if 1 - v ≤ u then 1 else 0)
    (hj : 2 ≤ 2 * jj + nw + se) (hjj : jj ≤ 1) :
    ∃ b, baseCellFinish i (2 * jj) nw se = b ∧ b < 12 ∧ ∃ m : ℤ, |x - 8 * m - cellCx b| + |y - cellCy b| ≤ 1 ∧
      (|x - 8 * m - cellCx b| + (y - cellCy b) < 1 ∨ (b < 4 ∧ 1 ≤ y)) := by
  subst hx hy
  have hs : 0 ≤ u + v - se ∧ u + v - se < 1 := by
    rw [hse]; split_ifs with h <;> push_cast <;> constructor <;> linarith only [h, hi1, hi2, hj1, hj2]
  have hn : 0 ≤ v - u + 1 - nw ∧ v - u + 1 - nw < 1 := by
    rw [hnw]; split_ifs with h <;> push_cast <;> constructor <;> linarith only [h, hi1, hi2, hj1, hj2]
  have hnw1 : nw ≤ 1 := hnw ▸ ind_le_one _
  have hse1 : se ≤ 1 := hse ▸ ind_le_one _
  obtain ⟨row, hrow⟩ : ∃ row, row + (2 * jj + nw + se) = 4 := ⟨4 - _, Nat.sub_add_cancel (by omega)⟩
  have hr : (row : ℝ) + (2 * jj + nw + se) = 4 := by exact_mod_cast hrow
  have hc : 2 * ((se >>> nw : ℕ) : ℝ) + (if row = 1 then 0 else 1) = 1 + se - nw := by
    rw [if_congr (show row = 1 ↔ nw + se = 1 by omega) rfl rfl]
    interval_cases nw <;> interval_cases se <;> norm_num
  obtain ⟨f1, -, f3, f4⟩ := cell_facts i (se >>> nw) row (by omega)
  refine ⟨_, finish_eq i _ nw se row hnw1 hse1 (by omega) (by omega), f1, (((i + se >>> nw) / 4 : ℕ) : ℤ), ?_⟩
  rw [f3, f4, Int.cast_natCast]
  exact (diamond_rot hs hn (by linear_combination hr - hc) (by linear_combination hr + hc)).imp_right .inl

/-- the top row of squares `jj = 2`, where the ordinate is clamped to 4: row 0, and for a point of the domain the column is
    not shifted -/
theorem cell_top (i jj nw se : ℕ) (x y u v : ℝ) (hx : x = 2 * (i + u)) (hy : y = 2 * (jj + v) - 3) (hjj : jj = 2)
    (hi2 : x < 2 * i + 2) (hy1 : 1 ≤ y) (hnw : nw = if u ≤ v then 1 else 0) (hse : se = if 1 - v ≤ u then 1 else 0)
    (h : |x - (2 * i + 1)| ≤ 2 - y) (hne : 1 < y → y < 2 → x - (2 * i + 1) ≠ 2 - y) :
    ∃ b, baseCellFinish i (2 * jj) nw se = b ∧ b < 12 ∧ ∃ m : ℤ, |x - 8 * m - cellCx b| + |y - cellCy b| ≤ 1 ∧
      (|x - 8 * m - cellCx b| + (y - cellCy b) < 1 ∨ (b < 4 ∧ 1 ≤ y)) := by
  have hnw1 : nw ≤ 1 := hnw ▸ ind_le_one _
  have hse1 : se ≤ 1 := hse ▸ ind_le_one _
  have hs : se >>> nw = 0 := by
    by_cases h1 : u ≤ v
    · rw [hnw, if_pos h1]; exact Nat.shiftRight_eq_zero _ _ (by omega)
    · rw [hse, if_neg, Nat.zero_shiftRight]
      have h3 := le_abs_self (x - (2 * i + 1))
      have hjr : (jj : ℝ) = 2 := mod_cast hjj
      intro h2
      exact hne (by linarith only [hx, hy, hjr, hi2, h2]) (by linarith only [hx, hy, hjr, h, h1, h3])
        (by linarith only [hx, hy, hjr, h, h2, h3])
  obtain ⟨-, f2, f3, f4⟩ := cell_facts i 0 0 (by norm_num)
  norm_num at f2 f3 f4
  refine ⟨i % 4, by rw [finish_eq i _ nw se 0 hnw1 hse1 (by omega) (by omega), hs]; omega, by omega, ((i / 4 : ℕ) : ℤ), ?_⟩
  rw [f3, f4, Int.cast_natCast, sub_sub_sub_cancel_right, abs_of_nonneg (sub_nonneg.mpr hy1)]
  exact ⟨by linarith only [h], .inr ⟨f2, hy1⟩⟩

theorem nat_eq_of_real_window (k i : ℕ) (x : ℝ) (h1 : (2 * k : ℝ) < x) (h2 : x < 2 * k + 2) (h3 : (2 * i : ℝ) ≤ x)
    (h4 : x < 2 * i + 2) : k = i := by
  have a : (k : ℝ) < i + 1 := by linarith
  have b : (i : ℝ) < k + 1 := by linarith
  have a' : k < i + 1 := by exact_mod_cast a
  have b' : i < k + 1 := by exact_mod_cast b
  omega

/-- **`base_cell_from_proj_coo`, specification and border convention in one statement.**  For `(x, y)` in the projected
    domain with `0 ≤ x < 8` (closed Collignon triangles in the caps, minus the open right edge of the *north* triangles,
    see `base_cell_north_east_edge`), the returned cell contains the point in its closed diamond, and the point is **not on
    a northern edge of `b`** (`|dx| + dy < 1`) unless that edge is an outer edge of a north polar triangle (`b < 4 ∧ 1 ≤ y`,
    no neighbour across it in the plane).  Since a border shared by two diamonds is a northern (NE/NW) edge of one and a
    southern (SW/SE) edge of the other, this is the border convention: **a shared border, and a shared vertex, belongs to
    the cell north of it.** -/
theorem base_cell_from_proj_coo_spec_border (x y : ℝ) (hx0 : 0 ≤ x) (hx8 : x < 8) (hy : |y| ≤ 2)
    (hcap : 1 < |y| → ∃ k : ℕ, k < 4 ∧ |x - (2 * k + 1)| ≤ 2 - |y|)
    (hne : 1 < y → y < 2 → ∀ k : ℕ, k < 4 → x - (2 * k + 1) ≠ 2 - y) :
    ∃ b, baseCellFromProjCoo (α := ℝ) false x y = some b ∧ b < 12 ∧ ∃ m : ℤ,
      |x - 8 * m - cellCx b| + |y - cellCy b| ≤ 1 ∧
      (|x - 8 * m - cellCx b| + (y - cellCy b) < 1 ∨ (b < 4 ∧ 1 ≤ y)) := by
  obtain ⟨hyl, hyu⟩ := abs_le.mp hy
  obtain ⟨i, hi, hi1, hi2⟩ := facet_exists x hx0 4 (by push_cast; linarith)
  obtain ⟨jj, hjj, hj1, hj2⟩ := facet_exists (y + 3) (by linarith) 3 (by push_cast; linarith)
  rw [baseCell_explicit x y i jj hi hjj hi1 hi2 hj1 hj2]
  simp only [Option.some.injEq]
  -- in a cap the facet index of the domain hypothesis is the square index
  have hkey : 1 ≤ |y| → |x - (2 * i + 1)| ≤ 2 - |y| := by
    intro h
    rcases eq_or_lt_of_le h with h | h
    · rw [← h]; exact abs_le.mpr ⟨by linarith, by linarith⟩
    obtain ⟨k, hk, hk1⟩ := hcap h
    obtain ⟨hk2, hk3⟩ := abs_le.mp hk1
    rwa [← nat_eq_of_real_window k i x (by linarith) (by linarith) hi1 hi2]
  rcases Nat.lt_or_ge jj 2 with h2 | h2
  · refine cell_unclamped i jj _ _ x y (x / 2 - i) ((y + 3) / 2 - jj) (by ring) (by ring) hi1 hi2 hj1 hj2 rfl rfl ?_
      (by omega)
    rcases Nat.eq_zero_or_pos jj with h0 | h0
    · have hjr : (jj : ℝ) = 0 := mod_cast h0
      have habs : |y| = -y := abs_of_neg (by linarith)
      have := hkey (by linarith)
      rw [habs] at this
      obtain ⟨t1, t2⟩ := abs_le.mp this
      rw [if_pos (by linarith), if_pos (by linarith)]; omega
    · omega
  · have hjr : (2 : ℝ) ≤ jj := mod_cast h2
    have habs : |y| = y := abs_of_pos (by linarith)
    have := hkey (by linarith)
    rw [habs] at this
    exact cell_top i jj _ _ x y (x / 2 - i) ((y + 3) / 2 - jj) (by ring) (by ring) (by omega) hi2 (by linarith) rfl rfl this
      fun a b => hne a b i hi

theorem base_cell_from_proj_coo_spec (x y : ℝ) (hx0 : 0 ≤ x) (hx8 : x < 8) (hy : |y| ≤ 2)
    (hcap : 1 < |y| → ∃ k : ℕ, k < 4 ∧ |x - (2 * k + 1)| ≤ 2 - |y|)
    (hne : 1 < y → y < 2 → ∀ k : ℕ, k < 4 → x - (2 * k + 1) ≠ 2 - y) :
    ∃ b, baseCellFromProjCoo (α := ℝ) false x y = some b ∧ b < 12 ∧ InCell b x y := by
  obtain ⟨b, h1, h2, m, h3, _⟩ := base_cell_from_proj_coo_spec_border x y hx0 hx8 hy hcap hne
  exact ⟨b, h1, h2, m, h3⟩

/-- the hypotheses hold on the image of `proj` for non-negative longitudes (`InProjDomain`, half-open triangles) -/
theorem base_cell_of_inProjDomain (x y : ℝ) (hx0 : 0 ≤ x) (hd : InProjDomain x y) :
    ∃ b, baseCellFromProjCoo (α := ℝ) false x y = some b ∧ b < 12 ∧ InCell b x y := by
  obtain ⟨h8, h2, hc⟩ := hd
  rw [abs_of_nonneg hx0] at h8 hc
  apply base_cell_from_proj_coo_spec x y hx0 h8 h2
  · intro h
    obtain ⟨k, hk, t1, t2⟩ := hc h
    exact ⟨k, hk, abs_le.mpr ⟨t1, le_of_lt t2⟩⟩
  · intro h1 h2' k hk he
    have habs : |y| = y := abs_of_pos (by linarith)
    obtain ⟨k', hk', t1, t2⟩ := hc (by rw [habs]; exact h1)
    rw [habs] at t1 t2
    have hk0 : (0 : ℝ) ≤ k := Nat.cast_nonneg k
    have : k' = k := nat_eq_of_real_window k' k x (by linarith) (by linarith) (by linarith) (by linarith)
    subst this; linarith

/-- the hypotheses of `base_cell_of_inProjDomain` are satisfiable (a point of a north cap) -/
example : (0 : ℝ) ≤ 5 / 2 ∧ InProjDomain (5 / 2) (3 / 2) := by
  have e1 : |(5 / 2 : ℝ)| = 5 / 2 := abs_of_pos (by norm_num)
  have e2 : |(3 / 2 : ℝ)| = 3 / 2 := abs_of_pos (by norm_num)
  refine ⟨by norm_num, ?_⟩
  rw [InProjDomain, e1, e2]
  exact ⟨by norm_num, by norm_num, fun _ => ⟨1, by norm_num, by norm_num, by norm_num⟩⟩

/-- **the open right (north-east) edge of a north polar triangle**: the code returns the *east* neighbour `(k+1) % 4`,
    whose diamond contains the point of its own left edge `(x + 2(y-1), y)` that is the same point of the sphere
    (consistent with the convention: the NE edge of a cell belongs to its NE neighbour) -/
theorem base_cell_north_east_edge (k : ℕ) (hk : k < 4) (x y : ℝ) (hy1 : 1 < y) (hy2 : y < 2)
    (hx : x = 2 * k + 1 + (2 - y)) :
    baseCellFromProjCoo (α := ℝ) false x y = some ((k + 1) % 4) ∧ InCell ((k + 1) % 4) (x + 2 * (y - 1)) y ∧
      ¬ InCell ((k + 1) % 4) x y := by
  have hk0 : (0 : ℝ) ≤ k := Nat.cast_nonneg k
  obtain ⟨f1, f2, f3, f4⟩ := cell_facts k 1 0 (by norm_num)
  rw [Nat.mul_zero, Nat.zero_add] at f1 f2 f3 f4
  rw [if_neg (by norm_num)] at f4
  push_cast at f3 f4
  refine ⟨?_, ?_, ?_⟩
  · rw [baseCell_explicit x y k 2 hk (by norm_num) (by rw [hx]; linarith) (by rw [hx]; linarith)
      (by push_cast; linarith) (by push_cast; linarith),
      if_neg (by rw [hx]; push_cast; linarith), if_pos (by rw [hx]; push_cast; linarith),
      finish_eq _ _ _ _ 0 (by norm_num) (by norm_num) (by norm_num) (by norm_num)]
    norm_num [Nat.shiftRight_eq_div_pow]
  · refine ⟨(((k + 1) / 4 : ℕ) : ℤ), ?_⟩
    rw [f3, f4, Int.cast_natCast, hx]
    refine abs_add_abs_le_iff.mpr ⟨⟨?_, ?_⟩, ?_, ?_⟩ <;> linarith
  · rintro ⟨m, hm⟩
    rw [f3, f4, hx] at hm
    have hy' : |y - (1 - 0)| = y - 1 := by rw [abs_of_pos (by linarith)]; ring
    rw [hy'] at hm
    set n : ℤ := (((k + 1) / 4 : ℕ) : ℤ) - m with hn
    have e : 2 * (k : ℝ) + 1 + (2 - y) - 8 * (m : ℝ) - (2 * ((k : ℝ) + 1) + 1 - 8 * (((k + 1) / 4 : ℕ) : ℝ)) =
        -y + 8 * (n : ℝ) := by rw [hn, Int.cast_sub, Int.cast_natCast]; ring
    rw [e] at hm
    rcases le_or_gt n 0 with h0 | h0
    · have : (n : ℝ) ≤ 0 := by exact_mod_cast h0
      rw [abs_of_neg (by linarith)] at hm; linarith
    · have : (1 : ℝ) ≤ n := by exact_mod_cast h0
      rw [abs_of_pos (by linarith)] at hm; linarith

theorem base_cell_neg_x (x y : ℝ) (hx : x < 0) (hx8 : -8 ≤ x) :
    baseCellFromProjCoo (α := ℝ) false x y = baseCellFromProjCoo (α := ℝ) false (x + 8) y := by
  unfold baseCellFromProjCoo
  rw [ensuresXIsPositive_of_neg hx, ensuresXIsPositive_of_nonneg (by linarith : (0 : ℝ) ≤ x + 8)]

theorem inCell_shift (b : ℕ) (x y : ℝ) : InCell b (x + 8) y ↔ InCell b x y := by
  constructor
  · rintro ⟨m, hm⟩; exact ⟨m - 1, by push_cast; rw [show x - 8 * ((m : ℝ) - 1) = x + 8 - 8 * m by ring]; exact hm⟩
  · rintro ⟨m, hm⟩; exact ⟨m + 1, by push_cast; rw [show x + 8 - 8 * ((m : ℝ) + 1) = x - 8 * m by ring]; exact hm⟩

/-- negative abscissas `-8 ≤ x < 0` go through `ensures_x_is_positive`: same statement, hypotheses on `x + 8` -/
theorem base_cell_from_proj_coo_spec_neg (x y : ℝ) (hx0 : x < 0) (hx8 : -8 ≤ x) (hy : |y| ≤ 2)
    (hcap : 1 < |y| → ∃ k : ℕ, k < 4 ∧ |x + 8 - (2 * k + 1)| ≤ 2 - |y|)
    (hne : 1 < y → y < 2 → ∀ k : ℕ, k < 4 → x + 8 - (2 * k + 1) ≠ 2 - y) :
    ∃ b, baseCellFromProjCoo (α := ℝ) false x y = some b ∧ b < 12 ∧ InCell b x y := by
  obtain ⟨b, h1, h2, h3⟩ := base_cell_from_proj_coo_spec (x + 8) y (by linarith) (by linarith) hy hcap hne
  exact ⟨b, by rw [base_cell_neg_x x y hx0 hx8]; exact h1, h2, (inCell_shift b x y).mp h3⟩

/-- the hypotheses of `base_cell_from_proj_coo_spec_neg` are satisfiable (a point of a south cap) -/
example : ((-5 / 2 : ℝ) < 0) ∧ (-8 : ℝ) ≤ -5 / 2 ∧ |(-3 / 2 : ℝ)| ≤ 2 ∧
    (1 < |(-3 / 2 : ℝ)| → ∃ k : ℕ, k < 4 ∧ |(-5 / 2 : ℝ) + 8 - (2 * k + 1)| ≤ 2 - |(-3 / 2 : ℝ)|) := by
  have e2 : |(-3 / 2 : ℝ)| = 3 / 2 := by rw [abs_of_neg (by norm_num)]; norm_num
  rw [e2]
  refine ⟨by norm_num, by norm_num, by norm_num, fun _ => ⟨2, by norm_num, ?_⟩⟩
  rw [abs_le]; constructor <;> norm_num

/-- end to end, poles included: `proj` never lands on the open right edge that `base_cell_from_proj_coo_spec` excludes -/
theorem base_cell_of_proj (lon lat : ℝ) (hlon0 : 0 ≤ lon) (hlon1 : lon < 2 * π) (hlat0 : -(π / 2) ≤ lat)
    (hlat1 : lat ≤ π / 2) :
    ∃ X Y b, proj (α := ℝ) lon lat = some (X, Y) ∧ baseCellFromProjCoo (α := ℝ) false X Y = some b ∧ b < 12 ∧
      InCell b X Y := by
  have hpi := pi_pos
  obtain ⟨k, hk, h1, h2, hP⟩ := proj_closed_turn lon lat (by rwa [abs_of_nonneg hlon0]) hlat0 hlat1
  rw [abs_of_nonneg hlon0] at h1 h2 hP
  rw [sgn_of_nonneg hlon0] at hP
  obtain ⟨s0, s1⟩ := sigma_bounds lat hlat0 hlat1
  have hY := planeY_abs_le lat hlat0 hlat1
  have ht1 : -1 ≤ lon * (4 / π) - (2 * k + 1) := by linarith only [h1]
  have ht2 : lon * (4 / π) - (2 * k + 1) < 1 := by linarith only [h2]
  have hk3 : (k : ℝ) ≤ 3 := by exact_mod_cast (by omega : k ≤ 3)
  obtain ⟨c1, c2⟩ := contract_between (lon * (4 / π) - (2 * k + 1)) (2 * k + 1) s0 s1
  rw [sub_add_cancel] at c1 c2
  obtain ⟨b, e⟩ := base_cell_from_proj_coo_spec _ (planeY lat) (le_trans (le_min (by positivity) (by positivity)) c1)
    (lt_of_le_of_lt c2 (max_lt (by linarith only [hk3]) (by linarith only [h2, hk3]))) (by linarith only [hY, s0])
    (fun _ => ⟨k, hk, by
      rw [add_sub_cancel_right, abs_mul, abs_of_nonneg s0]
      exact le_trans (mul_le_of_le_one_left s0 (abs_le.mpr ⟨ht1, ht2.le⟩)) (by linarith only [hY])⟩)
    (by
      intro hy1 hy2 k' hk' he
      -- above 1 the ordinate determines `σ = 2 − y`
      have hσ : sigma lat = 2 - planeY lat := by
        rw [sigma_eq_min lat hlat0 hlat1, abs_of_pos (by linarith only [hy1]), min_eq_right (by linarith only [hy1])]
      -- `(x - (2k+1) - 1)·σ = 2(k' - k)` with the left side in `(-2, 0)`
      have e : (lon * (4 / π) - (2 * k + 1) - 1) * sigma lat = 2 * ((k' : ℝ) - k) := by linarith only [he, hσ]
      have l1 := mul_neg_of_neg_of_pos (by linarith only [ht2] : lon * (4 / π) - (2 * k + 1) - 1 < 0)
        (by linarith only [hy2, hσ] : 0 < sigma lat)
      have l2 := mul_le_mul_of_nonneg_right (by linarith only [ht1] : -2 ≤ lon * (4 / π) - (2 * k + 1) - 1) s0
      have l1' : k' < k := by exact_mod_cast (by linarith only [e, l1] : (k' : ℝ) < k)
      have l2' : k < k' + 1 := by exact_mod_cast (by linarith only [e, l2, hy1, hσ] : (k : ℝ) < k' + 1)
      omega)
  exact ⟨_, _, b, hP, e⟩

#print axioms base_cell_from_proj_coo_spec_border
#print axioms base_cell_from_proj_coo_spec
#print axioms base_cell_north_east_edge
#print axioms base_cell_from_proj_coo_spec_neg
#print axioms base_cell_of_proj
end Hpx.Proj
