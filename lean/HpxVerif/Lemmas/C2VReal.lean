import HpxVerif.Model.C2V
import HpxVerif.Lemmas.NumReal
import Mathlib.Tactic.Positivity
import Mathlib.Analysis.Real.Pi.Bounds
import Mathlib.Analysis.SpecialFunctions.Trigonometric.Bounds
import Mathlib.Analysis.Convex.SpecificFunctions.Deriv

/-!
# C16 — the `largest_center_to_vertex_distance*` helpers over ℝ (release profile: `debug = false`)

Each public function evaluates one of three envelopes of `ConstantsC2V::new(depth)`: a line in the folded longitude (polar
caps), a line in `|lat|` on `[lsc, tl)`, a parabola in `|lat|` below `lsc`.  With constants of the signs the helpers presuppose
(`0 ≤ slopeNpc`, `0 ≤ slopeEqr`, `coeffX2Eqr ≤ 0`) each `_with_radius` variant is the maximum of its envelope over a band; in
the polar caps a band of longitudes, not a cone (F12).  For the actual constants `slope_eqr < 0` at every depth
(`new_slopeEqr_neg`): for a band inside `[lsc, tl)` the value with radius is BELOW the one without.  In the dev profile the
single-depth and the multi-depth functions differ (F7).
-/

namespace Hpx.C2VReal
open Hpx Hpx.C2V Hpx.Proj Real

theorem r_ge (x y : ℝ) : Num.ge x y = decide (y ≤ x) := rfl
theorem r_fmin (x y : ℝ) : Num.fmin x y = min x y := rfl
theorem r_fmax (x y : ℝ) : Num.fmax x y = max x y := rfl
theorem r_rem (x y : ℝ) :
    Num.rem x y = x - y * (if 0 ≤ x / y then (⌊x / y⌋ : ℝ) else (⌈x / y⌉ : ℝ)) := rfl

/-- `TRANSITION_LATITUDE` -/
noncomputable abbrev tl : ℝ := (Num.transitionLat : ℝ)
/-- `LAT_OF_SQUARE_CELL` -/
noncomputable abbrev lsc : ℝ := (Num.latOfSquareCell : ℝ)

/-- `(PI_OVER_FOUR - (lon % HALF_PI)).abs()` of `largest_c2v_dist_in_npc`: the longitude folded on the half base cell -/
noncomputable def fold (lon : ℝ) : ℝ := |π / 4 - Num.rem lon (π / 2)|

noncomputable def npcEnv (c : Csts ℝ) (l : ℝ) : ℝ := c.slopeNpc * l + c.interceptNpc
noncomputable def topEnv (c : Csts ℝ) (x : ℝ) : ℝ := c.slopeEqr * x + c.interceptEqr
noncomputable def botEnv (c : Csts ℝ) (x : ℝ) : ℝ := c.coeffX2Eqr * (x * x) + c.coeffCstEqr

theorem npcEnv_mono (c : Csts ℝ) (hs : 0 ≤ c.slopeNpc) {x y : ℝ} (h : x ≤ y) : npcEnv c x ≤ npcEnv c y :=
  add_le_add_left (mul_le_mul_of_nonneg_left h hs) _

theorem topEnv_mono (c : Csts ℝ) (hs : 0 ≤ c.slopeEqr) {x y : ℝ} (h : x ≤ y) : topEnv c x ≤ topEnv c y :=
  add_le_add_left (mul_le_mul_of_nonneg_left h hs) _

theorem topEnv_anti (c : Csts ℝ) (hs : c.slopeEqr ≤ 0) {x y : ℝ} (h : x ≤ y) : topEnv c y ≤ topEnv c x :=
  add_le_add_left (mul_le_mul_of_nonpos_left h hs) _

theorem topEnv_strictAnti (c : Csts ℝ) (hs : c.slopeEqr < 0) {x y : ℝ} (h : x < y) : topEnv c y < topEnv c x :=
  add_lt_add_left (mul_lt_mul_of_neg_left h hs) _

theorem botEnv_anti (c : Csts ℝ) (hs : c.coeffX2Eqr ≤ 0) {x y : ℝ} (h0 : 0 ≤ x) (h : x ≤ y) : botEnv c y ≤ botEnv c x :=
  add_le_add_left (mul_le_mul_of_nonpos_left (mul_le_mul h h h0 (h0.trans h)) hs) _

/-! ## closed forms of the six private helpers (release) -/

theorem npc_false (lon : ℝ) (c : Csts ℝ) : npc false lon c = some (npcEnv c (fold lon)) := rfl
theorem npcWithRadius_false (lon r : ℝ) (c : Csts ℝ) :
    npcWithRadius false lon r c = some (npcEnv c (min (fold lon + r) (π / 4))) := rfl
theorem eqrTop_false (x : ℝ) (c : Csts ℝ) : eqrTop false x c = some (topEnv c x) := rfl
theorem eqrTopWithRadius_false (x r : ℝ) (c : Csts ℝ) :
    eqrTopWithRadius false x r c = some (topEnv c (min (x + r) tl)) := rfl
theorem eqrBottom_false (x : ℝ) (c : Csts ℝ) : eqrBottom false x c = some (botEnv c x) := rfl
theorem eqrBottomWithRadius_false (x r : ℝ) (c : Csts ℝ) :
    eqrBottomWithRadius false x r c = some (botEnv c (max (x - r) 0)) := by
  show some (botEnv c (max (x - r) (Num.zero : ℝ))) = _
  rw [r_zero]

/-! ## which envelope `largestC2V` uses -/

/-- the value of `largest_center_to_vertex_distance` for constants `c` -/
noncomputable def c2v (c : Csts ℝ) (lon lat : ℝ) : ℝ :=
  if tl ≤ |lat| then npcEnv c (fold lon)
  else if lsc ≤ |lat| then topEnv c |lat|
  else botEnv c |lat|

/-- **`c2v_region_choice`** (C16; ℝ, release): depth 0 gives `π/2 − tl`, a depth above 29 panics (`get_or_create` indexes a
    30-entry table), otherwise the envelope of the region of `|lat|` at `ConstantsC2V::new(depth)` -/
theorem c2v_region_choice (depth : Nat) (lon lat : ℝ) :
    largestC2V false depth lon lat =
      if depth = 0 then some (π / 2 - tl) else if 29 < depth then none
      else some (c2v (Csts.new depth) lon lat) := by
  unfold largestC2V c2v
  by_cases h0 : depth = 0
  · simp [h0]; rfl
  · by_cases h29 : 29 < depth
    · simp [h0, h29]
    · simp only [beq_iff_eq, h0, if_false, gt_iff_lt, h29, r_ge, r_abs, decide_eq_true_eq, npc_false, eqrTop_false,
        eqrBottom_false]
      split
      · rfl
      · split <;> rfl

theorem largestC2V_eq (d : Nat) (h1 : 1 ≤ d) (h2 : d ≤ 29) (lon lat : ℝ) :
    largestC2V false d lon lat = some (c2v (Csts.new d) lon lat) := by
  rw [c2v_region_choice, if_neg (by omega), if_neg (by omega)]

theorem c2v_polar (depth : Nat) (h1 : 1 ≤ depth) (h2 : depth ≤ 29) (lon lat : ℝ) (h : tl ≤ |lat|) :
    largestC2V false depth lon lat =
      some ((Csts.new depth : Csts ℝ).slopeNpc * |π / 4 - Num.rem lon (π / 2)| + (Csts.new depth : Csts ℝ).interceptNpc) := by
  rw [largestC2V_eq depth h1 h2, c2v, if_pos h]; rfl

theorem c2v_eqr_top (depth : Nat) (h1 : 1 ≤ depth) (h2 : depth ≤ 29) (lon lat : ℝ) (h : |lat| < tl) (h' : lsc ≤ |lat|) :
    largestC2V false depth lon lat =
      some ((Csts.new depth : Csts ℝ).slopeEqr * |lat| + (Csts.new depth : Csts ℝ).interceptEqr) := by
  rw [largestC2V_eq depth h1 h2, c2v, if_neg (not_le.mpr h), if_pos h']; rfl

theorem c2v_eqr_bottom (depth : Nat) (h1 : 1 ≤ depth) (h2 : depth ≤ 29) (lon lat : ℝ) (h : |lat| < tl) (h' : |lat| < lsc) :
    largestC2V false depth lon lat =
      some ((Csts.new depth : Csts ℝ).coeffX2Eqr * (|lat| * |lat|) + (Csts.new depth : Csts ℝ).coeffCstEqr) := by
  rw [largestC2V_eq depth h1 h2, c2v, if_neg (not_le.mpr h), if_neg (not_le.mpr h')]; rfl

/-! ## the folded longitude -/

theorem fold_nonneg (lon : ℝ) : 0 ≤ fold lon := abs_nonneg _

theorem fold_of_mem_int (x : ℝ) (hx : 0 ≤ x) (n : ℤ) (h1 : π / 2 * n ≤ x) (h2 : x < π / 2 * (n + 1)) :
    fold x = |x - (π / 4 + π / 2 * n)| := by
  have hy : 0 < π / 2 := by positivity
  have hfl : ⌊x / (π / 2)⌋ = n := by
    rw [Int.floor_eq_iff]
    exact ⟨by rw [le_div_iff₀ hy, mul_comm]; exact h1, by rw [div_lt_iff₀ hy, mul_comm]; exact h2⟩
  unfold fold
  rw [r_rem, if_pos (div_nonneg hx hy.le), hfl, abs_sub_comm]
  congr 1; ring

theorem fold_eq (x : ℝ) (hx : 0 ≤ x) :
    ∃ n : ℤ, π / 2 * n ≤ x ∧ x < π / 2 * (n + 1) ∧ fold x = |x - (π / 4 + π / 2 * n)| := by
  have hy : 0 < π / 2 := by positivity
  have h1 : π / 2 * ⌊x / (π / 2)⌋ ≤ x := by rw [mul_comm, ← le_div_iff₀ hy]; exact Int.floor_le _
  have h2 : x < π / 2 * (⌊x / (π / 2)⌋ + 1) := by rw [mul_comm, ← div_lt_iff₀ hy]; exact Int.lt_floor_add_one _
  exact ⟨_, h1, h2, fold_of_mem_int x hx _ h1 h2⟩

/-- the `debug_assert!` of `largest_c2v_dist_in_npc` holds for a non-negative longitude -/
theorem fold_le (lon : ℝ) (h : 0 ≤ lon) : fold lon ≤ π / 4 := by
  obtain ⟨n, h1, h2, e⟩ := fold_eq lon h
  rw [e, abs_le]; constructor <;> linarith

theorem fold_of_mem (x : ℝ) (n : ℕ) (h1 : π / 2 * n ≤ x) (h2 : x < π / 2 * (n + 1)) : fold x = |π / 4 + π / 2 * n - x| := by
  have hx : 0 ≤ x := (mul_nonneg (by positivity) n.cast_nonneg).trans h1
  rw [abs_sub_comm]
  exact fold_of_mem_int x hx n (by exact_mod_cast h1) (by exact_mod_cast h2)

theorem fold_small (x : ℝ) (h0 : 0 ≤ x) (h1 : x < π / 2) : fold x = |π / 4 - x| := by
  rw [fold_of_mem x 0 (by simpa using h0) (by simpa using h1), Nat.cast_zero, mul_zero, add_zero]

/-- a negative longitude can fold outside `[0, π/4]` (finding F7: the `debug_assert!` fails; in release the linear
    envelope is evaluated beyond its range) -/
theorem fold_neg_example : fold (-(π / 4)) = π / 2 := by
  have hy : 0 < π / 2 := by positivity
  have hq : (-(π / 4)) / (π / 2) = -(1 / 2) := by field_simp; ring
  have hc : ⌈(-(1 / 2) : ℝ)⌉ = 0 := by
    rw [Int.ceil_eq_iff]; constructor <;> norm_num
  unfold fold
  rw [r_rem, hq, if_neg (by norm_num), hc]
  rw [show π / 4 - (-(π / 4) - π / 2 * ((0 : ℤ) : ℝ)) = π / 2 by push_cast; ring]
  exact abs_of_pos hy

theorem fold_le_dist (x : ℝ) (hx : 0 ≤ x) (k : ℤ) : fold x ≤ |x - (π / 4 + π / 2 * (k : ℝ))| := by
  obtain ⟨n, h1, h2, e⟩ := fold_eq x hx
  have hy : 0 ≤ π / 2 := by positivity
  have hf : fold x ≤ π / 4 := fold_le x hx
  rcases lt_trichotomy n k with hlt | rfl | hgt
  · have := mul_le_mul_of_nonneg_left (by exact_mod_cast hlt : (n : ℝ) + 1 ≤ k) hy
    exact hf.trans (by rw [le_abs]; right; linarith)
  · exact e.le
  · have := mul_le_mul_of_nonneg_left (by exact_mod_cast hgt : (k : ℝ) + 1 ≤ n) hy
    exact hf.trans (by rw [le_abs]; left; linarith)

theorem fold_le_add (x x' : ℝ) (hx : 0 ≤ x) (hx' : 0 ≤ x') : fold x' ≤ fold x + |x' - x| := by
  obtain ⟨n, -, -, e⟩ := fold_eq x hx
  rw [e]
  calc fold x' ≤ |x' - (π / 4 + π / 2 * (n : ℝ))| := fold_le_dist x' hx' n
    _ = |(x - (π / 4 + π / 2 * (n : ℝ))) + (x' - x)| := by congr 1; ring
    _ ≤ _ := abs_add_le _ _

/-! ## the `_with_radius` helpers are the maxima of the pointwise envelopes over a band

The sign hypotheses on the constants (`0 ≤ slopeNpc`, `0 ≤ slopeEqr`, `coeffX2Eqr ≤ 0`) are the ones the design of the
helpers presupposes; here the constants are arbitrary reals.  For `ConstantsC2V::new(depth)` the first and the third
hold (`new_slopeNpc_nonneg`, `new_coeffX2Eqr_neg`) but the second does NOT (`new_slopeEqr_neg`). -/

/-- **polar caps** (`largest_c2v_dist_in_npc_with_radius`): the value is the maximum of the pointwise envelope over the
    longitudes whose FOLDED value is at most `fold lon + r` and `π/4` (attained at `lon' = π/4 − min (fold lon + r) (π/4)`).
    A band of *longitudes* of half-width `r`, not of angular distances: `npc_with_radius_not_cone_bound`. -/
theorem npc_with_radius_is_sup (c : Csts ℝ) (hs : 0 ≤ c.slopeNpc) (lon r : ℝ) :
    npcWithRadius false lon r c = some (npcEnv c (min (fold lon + r) (π / 4))) ∧
    (∀ lon', fold lon' ≤ fold lon + r → fold lon' ≤ π / 4 →
      ∀ w, npc false lon' c = some w → w ≤ npcEnv c (min (fold lon + r) (π / 4))) ∧
    (0 ≤ r → fold lon ≤ π / 4 →
      ∃ lon', 0 ≤ lon' ∧ |fold lon' - fold lon| ≤ r ∧ fold lon' ≤ π / 4 ∧
        npc false lon' c = some (npcEnv c (min (fold lon + r) (π / 4)))) := by
  refine ⟨npcWithRadius_false lon r c, ?_, ?_⟩
  · intro lon' h1 h2 w hw
    rw [npc_false] at hw
    cases hw
    exact npcEnv_mono c hs (le_min h1 h2)
  · intro hr hl
    have hpi := Real.pi_pos
    have h0 := fold_nonneg lon
    set m := min (fold lon + r) (π / 4) with hm
    have hm0 : 0 ≤ m := le_min (by linarith) (by linarith)
    have hm1 : m ≤ π / 4 := min_le_right _ _
    have hf : fold (π / 4 - m) = m := by
      rw [fold_small _ (by linarith) (by linarith)]
      rw [show π / 4 - (π / 4 - m) = m by ring]; exact abs_of_nonneg hm0
    refine ⟨π / 4 - m, by linarith, ?_, ?_, ?_⟩
    · rw [hf, abs_le]
      have : m ≤ fold lon + r := min_le_left _ _
      have : fold lon ≤ m := le_min (by linarith) hl
      constructor <;> linarith
    · rw [hf]; exact hm1
    · rw [npc_false, hf]

/-- in terms of longitudes: for non-negative longitudes at most `r` apart (as *longitudes*), the value with radius
    dominates the pointwise one -/
theorem npc_with_radius_lon_band (c : Csts ℝ) (hs : 0 ≤ c.slopeNpc) (lon lon' r : ℝ) (h0 : 0 ≤ lon) (h0' : 0 ≤ lon')
    (hd : |lon' - lon| ≤ r) :
    npcEnv c (fold lon') ≤ npcEnv c (min (fold lon + r) (π / 4)) := by
  have h1 : fold lon' ≤ fold lon + r := (fold_le_add lon lon' h0 h0').trans (by linarith)
  exact npcEnv_mono c hs (le_min h1 (fold_le lon' h0'))

/-- **equatorial region, upper part** (`largest_c2v_dist_in_eqr_top_with_radius`), IF `0 ≤ slopeEqr`: the value
    `topEnv (min (|lat| + r) tl)` is the supremum of `topEnv` over the band `[|lat| − r, |lat| + r] ∩ [lsc, tl)`; a maximum
    unless the band reaches the open end `tl`. -/
theorem eqr_top_with_radius_is_sup (c : Csts ℝ) (hs : 0 ≤ c.slopeEqr) (x r : ℝ) :
    eqrTopWithRadius false x r c = some (topEnv c (min (x + r) tl)) ∧
    (∀ x', x' ≤ x + r → x' ≤ tl → ∀ w, eqrTop false x' c = some w → w ≤ topEnv c (min (x + r) tl)) ∧
    (0 ≤ r → x ≤ tl → |min (x + r) tl - x| ≤ r ∧ min (x + r) tl ≤ tl ∧
      eqrTop false (min (x + r) tl) c = some (topEnv c (min (x + r) tl))) := by
  refine ⟨eqrTopWithRadius_false x r c, ?_, ?_⟩
  · intro x' h1 h2 w hw
    rw [eqrTop_false] at hw; cases hw
    exact topEnv_mono c hs (le_min h1 h2)
  · intro hr hx
    refine ⟨?_, min_le_right _ _, eqrTop_false _ _⟩
    have h1 : min (x + r) tl ≤ x + r := min_le_left _ _
    have h2 : x ≤ min (x + r) tl := le_min (by linarith) hx
    rw [abs_le]; constructor <;> linarith

/-- **equatorial region, lower part** (`largest_c2v_dist_in_eqr_bottom_with_radius`): the value is the maximum of `botEnv`
    over the band `[|lat| − r, |lat| + r] ∩ [0, lsc]`, attained at `max (|lat| − r) 0`. -/
theorem eqr_bottom_with_radius_is_sup (c : Csts ℝ) (hs : c.coeffX2Eqr ≤ 0) (x r : ℝ) :
    eqrBottomWithRadius false x r c = some (botEnv c (max (x - r) 0)) ∧
    (∀ x', max (x - r) 0 ≤ x' → ∀ w, eqrBottom false x' c = some w → w ≤ botEnv c (max (x - r) 0)) ∧
    (0 ≤ r → 0 ≤ x → |max (x - r) 0 - x| ≤ r ∧ 0 ≤ max (x - r) 0 ∧
      eqrBottom false (max (x - r) 0) c = some (botEnv c (max (x - r) 0))) := by
  refine ⟨eqrBottomWithRadius_false x r c, ?_, ?_⟩
  · intro x' h1 w hw
    rw [eqrBottom_false] at hw; cases hw
    exact botEnv_anti c hs (le_max_right _ _) h1
  · intro hr hx
    refine ⟨?_, le_max_right _ _, eqrBottom_false _ _⟩
    have h1 : x - r ≤ max (x - r) 0 := le_max_left _ _
    have h2 : max (x - r) 0 ≤ x := max_le (by linarith) hx
    rw [abs_le]; constructor <;> linarith

/-! ### the public function with radius -/

/-- the value of `largest_center_to_vertex_distance_with_radius` for constants `c` -/
noncomputable def c2vR (c : Csts ℝ) (lon lat r : ℝ) : ℝ :=
  if tl ≤ |lat| + r then npcEnv c (min (fold lon + r) (π / 4))
  else if lsc ≤ |lat| - r then topEnv c (min (|lat| + r) tl)
  else if |lat| + r ≤ lsc then botEnv c (max (|lat| - r) 0)
  else max (topEnv c (min (|lat| + r) tl)) (botEnv c (max (|lat| - r) 0))

theorem c2v_with_radius_region_choice (depth : Nat) (lon lat r : ℝ) :
    largestC2VWithRadius false depth lon lat r =
      if depth = 0 then some (π / 2 - tl) else if 29 < depth then none
      else some (c2vR (Csts.new depth) lon lat r) := by
  unfold largestC2VWithRadius c2vR
  by_cases h0 : depth = 0
  · simp [h0]; rfl
  · by_cases h29 : 29 < depth
    · simp [h0, h29]
    · simp only [beq_iff_eq, h0, if_false, gt_iff_lt, h29, r_ge, r_le, r_abs, decide_eq_true_eq, npcWithRadius_false,
        eqrTopWithRadius_false, eqrBottomWithRadius_false, r_fmax]
      split
      · rfl
      · split
        · rfl
        · split <;> rfl

theorem largestC2VWithRadius_eq (d : Nat) (h1 : 1 ≤ d) (h2 : d ≤ 29) (lon lat r : ℝ) :
    largestC2VWithRadius false d lon lat r = some (c2vR (Csts.new d) lon lat r) := by
  rw [c2v_with_radius_region_choice, if_neg (by omega), if_neg (by omega)]

theorem c2vR_of_lt_tl (c : Csts ℝ) (lon lat r : ℝ) (hA : |lat| + r < tl) :
    c2vR c lon lat r = if lsc ≤ |lat| - r then topEnv c (|lat| + r)
      else if |lat| + r ≤ lsc then botEnv c (max (|lat| - r) 0)
      else max (topEnv c (|lat| + r)) (botEnv c (max (|lat| - r) 0)) := by
  unfold c2vR; rw [if_neg (not_le.mpr hA), min_eq_left hA.le]

theorem top_le_c2vR (c : Csts ℝ) (lon lat r : ℝ) (hA : |lat| + r < tl) (h : lsc ≤ |lat| - r ∨ lsc < |lat| + r) :
    topEnv c (|lat| + r) ≤ c2vR c lon lat r := by
  rw [c2vR_of_lt_tl c lon lat r hA]
  split_ifs with hB hC
  · exact le_rfl
  · exact absurd hC (not_le.mpr (h.resolve_left hB))
  · exact le_max_left _ _

theorem bot_le_c2vR (c : Csts ℝ) (lon lat r : ℝ) (hA : |lat| + r < tl) (hB : |lat| - r < lsc) :
    botEnv c (max (|lat| - r) 0) ≤ c2vR c lon lat r := by
  rw [c2vR_of_lt_tl c lon lat r hA, if_neg (not_le.mpr hB)]
  split_ifs
  · exact le_rfl
  · exact le_max_right _ _

/-- **`c2v_with_radius_is_sup`** (C16; constants arbitrary reals with the three ASSUMED signs and the continuity at `lsc`).
    Over the latitude band `| |lat'| − |lat| | ≤ r` (true whenever `|lat' − lat| ≤ r`) the value with radius dominates the
    pointwise value, whatever the longitudes, if the band stays below `tl`; if the polar-cap branch is taken, **only** at the
    polar-cap positions whose folded longitude is at most `fold lon + r` and `π/4`. -/
theorem c2v_with_radius_is_sup (c : Csts ℝ) (h1 : 0 ≤ c.slopeNpc) (h2 : 0 ≤ c.slopeEqr) (h3 : c.coeffX2Eqr ≤ 0)
    (hcont : topEnv c lsc = botEnv c lsc) (lon lat r lon' lat' : ℝ) (hband : |(|lat'| - |lat|)| ≤ r) :
    (|lat| + r < tl → c2v c lon' lat' ≤ c2vR c lon lat r) ∧
    (tl ≤ |lat| + r → tl ≤ |lat'| → fold lon' ≤ fold lon + r → fold lon' ≤ π / 4 →
      c2v c lon' lat' ≤ c2vR c lon lat r) := by
  obtain ⟨hb1, hb2⟩ := abs_le.mp hband
  have ha' := abs_nonneg lat'
  constructor
  · intro hlt
    have hmx : max (|lat| - r) 0 ≤ |lat'| := max_le (by linarith) ha'
    have hbot := botEnv_anti c h3 (le_max_right _ _) hmx
    unfold c2v
    rw [if_neg (not_le.mpr (by linarith))]
    split_ifs with hl
    · by_cases hT : lsc ≤ |lat| - r ∨ lsc < |lat| + r
      · exact (topEnv_mono c h2 (by linarith)).trans (top_le_c2vR c lon lat r hlt hT)
      · -- the band ends at `lsc`: there the line and the parabola agree
        rw [not_or, not_le, not_lt] at hT
        have e : |lat'| = lsc := le_antisymm (by linarith) hl
        rw [e, hcont]; exact (e ▸ hbot).trans (bot_le_c2vR c lon lat r hlt hT.1)
    · exact hbot.trans (bot_le_c2vR c lon lat r hlt (by linarith))
  · intro hge hpol hf1 hf2
    unfold c2v c2vR
    rw [if_pos hpol, if_pos hge]
    exact npcEnv_mono c h1 (le_min hf1 hf2)

/-- the same for the model functions at `ConstantsC2V::new(depth)`, `1 ≤ depth ≤ 29`; `h2` is false at every depth
    (`new_slopeEqr_neg`) -/
theorem largestC2VWithRadius_is_upper_bound (depth : Nat) (hd1 : 1 ≤ depth) (hd2 : depth ≤ 29)
    (h1 : 0 ≤ (Csts.new depth : Csts ℝ).slopeNpc) (h2 : 0 ≤ (Csts.new depth : Csts ℝ).slopeEqr)
    (h3 : (Csts.new depth : Csts ℝ).coeffX2Eqr ≤ 0)
    (hcont : topEnv (Csts.new depth) lsc = botEnv (Csts.new depth) lsc)
    (lon lat r lon' lat' : ℝ) (hband : |(|lat'| - |lat|)| ≤ r)
    (hreg : |lat| + r < tl ∨ (tl ≤ |lat'| ∧ fold lon' ≤ fold lon + r ∧ fold lon' ≤ π / 4)) :
    ∃ v w, largestC2VWithRadius false depth lon lat r = some v ∧ largestC2V false depth lon' lat' = some w ∧ w ≤ v := by
  refine ⟨_, _, largestC2VWithRadius_eq depth hd1 hd2 _ _ _, largestC2V_eq depth hd1 hd2 _ _, ?_⟩
  have := c2v_with_radius_is_sup _ h1 h2 h3 hcont lon lat r lon' lat' hband
  rcases hreg with h | ⟨ha, hb, hc⟩
  · exact this.1 h
  · rcases lt_or_ge (|lat| + r) tl with h | h
    · exact this.1 h
    · exact this.2 h ha hb hc

theorem r_lsc : lsc = Real.arccos (Real.sqrt (2 / 3 * (4 / π))) := rfl

theorem tl_pos : 0 < tl := Real.arcsin_pos.mpr (by norm_num)

theorem lsc_arg_lt_one : Real.sqrt (2 / 3 * (4 / π)) < 1 := by
  have hpi := Real.pi_gt_three
  rw [Real.sqrt_lt' (by norm_num)]
  rw [show (2 : ℝ) / 3 * (4 / π) = 8 / (3 * π) by field_simp; ring, div_lt_iff₀ (by positivity)]
  nlinarith

theorem lsc_pos : 0 < lsc := Real.arccos_pos.mpr lsc_arg_lt_one

/-- `cos² lsc = 8/(3π) > 5/9 = cos² tl` -/
theorem lsc_lt_tl : lsc < tl := by
  have hpi := Real.pi_lt_d2
  have hpi0 := Real.pi_pos
  show Real.arccos (Real.sqrt (2 / 3 * (4 / π))) < Real.arcsin (2 / 3)
  rw [Real.arcsin_eq_arccos (by norm_num)]
  apply Real.strictAntiOn_arccos
  · constructor
    · linarith [Real.sqrt_nonneg (1 - (2 / 3 : ℝ) ^ 2)]
    · rw [Real.sqrt_le_iff]; norm_num
  · exact ⟨by linarith [Real.sqrt_nonneg (2 / 3 * (4 / π))], lsc_arg_lt_one.le⟩
  · apply Real.sqrt_lt_sqrt (by norm_num)
    rw [show (2 : ℝ) / 3 * (4 / π) = 8 / (3 * π) by field_simp; ring, lt_div_iff₀ (by positivity)]
    norm_num at hpi ⊢
    nlinarith

/-! ### finding F12: the polar-cap branch is not a bound over the cone

The cone of centre `(lon, lat)` and angular radius `r` contains positions whose longitude differs from `lon` by about
`r / cos lat > r`; `largest_c2v_dist_in_npc_with_radius` widens the folded longitude by `r` only.  Concretely, for
any constants with `slopeNpc > 0`: centre `(π/4, π/3)`, `r = 2·asin(sin(π/8)/2) ≈ 0.385 < π/4`; the position
`(π/2, π/3)` is at angular distance exactly `r` from the centre, in the same polar cap, and its pointwise value
`npcEnv (π/4)` exceeds the value with radius `npcEnv r`. -/

noncomputable def cexR : ℝ := 2 * Real.arcsin (Real.sin (π / 8) / 2)

theorem sin_pi8_pos : 0 < Real.sin (π / 8) :=
  Real.sin_pos_of_pos_of_lt_pi (by positivity) (by linarith [Real.pi_pos])

theorem cexR_pos : 0 < cexR := by
  unfold cexR
  have := Real.arcsin_pos.mpr (show 0 < Real.sin (π / 8) / 2 by linarith [sin_pi8_pos])
  linarith

theorem cexR_lt : cexR < π / 4 := by
  unfold cexR
  have hpi := Real.pi_pos
  have h1 := Real.sin_le_one (π / 8)
  have : Real.arcsin (Real.sin (π / 8) / 2) < π / 8 := by
    rw [Real.arcsin_lt_iff_lt_sin ⟨by linarith [sin_pi8_pos], by linarith⟩ ⟨by linarith, by linarith⟩]
    linarith [sin_pi8_pos]
  linarith

theorem tl_le_pi3 : tl ≤ π / 3 := by
  have hpi := Real.pi_pos
  show Real.arcsin (2 / 3) ≤ π / 3
  rw [Real.arcsin_le_iff_le_sin ⟨by norm_num, by norm_num⟩ ⟨by linarith, by linarith⟩, Real.sin_pi_div_three]
  have : (4 / 3 : ℝ) ≤ Real.sqrt 3 := Real.le_sqrt_of_sq_le (by norm_num)
  linarith

theorem fold_pi4 : fold (π / 4) = 0 := by
  have hpi := Real.pi_pos
  rw [fold_small _ (by linarith) (by linarith)]; simp

theorem fold_pi2 : fold (π / 2) = π / 4 := by
  have hpi := Real.pi_pos
  rw [fold_of_mem (π / 2) 1 (by simp) (by norm_num; linarith), Nat.cast_one, mul_one,
    show π / 4 + π / 2 - π / 2 = π / 4 by ring]
  exact abs_of_pos (by positivity)

/-- the angular distance (haversine formula of the crate) between `(π/4, π/3)` and `(π/2, π/3)` is `cexR` -/
theorem cex_distance :
    spheDist (squaredHalfSegment (π / 2 - π / 4 : ℝ) (π / 3 - π / 3) (Num.cos (π / 3 : ℝ)) (Num.cos (π / 3 : ℝ))) = cexR := by
  unfold spheDist squaredHalfSegment pow2 cexR
  rw [r_two, r_half, r_cos, r_sin, r_sin, r_asin, Real.cos_pi_div_three]
  show 2 * Real.arcsin (Real.sqrt _) = _
  congr 2
  rw [show (1 : ℝ) / 2 * (π / 3 - π / 3) = 0 by ring, Real.sin_zero,
    show (1 : ℝ) / 2 * (π / 2 - π / 4) = π / 8 by ring]
  rw [show (0 : ℝ) * 0 + 1 / 2 * (1 / 2) * (Real.sin (π / 8) * Real.sin (π / 8)) = (Real.sin (π / 8) / 2) ^ 2 by ring]
  exact Real.sqrt_sq (by linarith [sin_pi8_pos])

/-- **F12**, for any constants with `slopeNpc > 0`; that `(π/2, π/3)` is in the cone is `cex_distance` -/
theorem npc_with_radius_not_cone_bound (c : Csts ℝ) (hs : 0 < c.slopeNpc) :
    tl ≤ |(π / 3 : ℝ)| ∧ c2vR c (π / 4) (π / 3) cexR = npcEnv c cexR ∧ c2v c (π / 2) (π / 3) = npcEnv c (π / 4) ∧
    c2vR c (π / 4) (π / 3) cexR < c2v c (π / 2) (π / 3) := by
  have hpi := Real.pi_pos
  have habs : |(π / 3 : ℝ)| = π / 3 := abs_of_pos (by positivity)
  have h1 : tl ≤ |(π / 3 : ℝ)| := by rw [habs]; exact tl_le_pi3
  have h2 : c2vR c (π / 4) (π / 3) cexR = npcEnv c cexR := by
    unfold c2vR
    rw [if_pos (by linarith [cexR_pos]), fold_pi4, zero_add, min_eq_left cexR_lt.le]
  have h3 : c2v c (π / 2) (π / 3) = npcEnv c (π / 4) := by
    unfold c2v; rw [if_pos h1, fold_pi2]
  refine ⟨h1, h2, h3, ?_⟩
  rw [h2, h3]; unfold npcEnv
  nlinarith [cexR_lt]

/-! ## the multi-depth function agrees with the single-depth one (ℝ, release) -/

theorem mapM_some_eq {β : Type} (g : Nat → β) (l : List Nat) : l.mapM (fun d => some (g d)) = some (l.map g) := by
  induction l with
  | nil => rfl
  | cons a l ih => rw [List.mapM_cons, ih]; rfl

theorem mapM_congr' {β : Type} (f f' : Nat → Option β) (l : List Nat) (h : ∀ d ∈ l, f d = f' d) :
    l.mapM f = l.mapM f' := by
  induction l with
  | nil => rfl
  | cons a l ih =>
    rw [List.mapM_cons, List.mapM_cons, h a List.mem_cons_self, ih fun d hd => h d (List.mem_cons_of_mem _ hd)]

/-- the depths handled by `largest_center_to_vertex_distances_with_radius(from, to, …)`: `from, …, to − 1`, except
    that `from = 0` always yields the depth-0 value first (even when `to = 0`) -/
def depthsOf (f t : Nat) : List Nat :=
  if f = 0 then 0 :: (List.range t).filter (· ≥ 1) else (List.range t).filter (· ≥ f)

theorem filter_ge_range (f : Nat) : ∀ t, (List.range t).filter (· ≥ f) = List.range' f (t - f)
  | 0 => by simp
  | t + 1 => by
    rw [List.range_succ, List.filter_append, filter_ge_range f t]
    by_cases h : f ≤ t
    · have h1 : t + 1 - f = (t - f) + 1 := by omega
      have h2 : f + (t - f) = t := by omega
      rw [h1, List.range'_concat, Nat.one_mul, h2]
      simp [h]
    · have h1 : t + 1 - f = 0 := by omega
      have h2 : t - f = 0 := by omega
      rw [h1, h2]; simp [h]

theorem depthsOf_eq_range' (f t : Nat) (h : f < t) : depthsOf f t = List.range' f (t - f) := by
  unfold depthsOf
  split
  · subst f
    rw [filter_ge_range 1 t, show t - 0 = (t - 1) + 1 by omega, List.range'_succ]
  · exact filter_ge_range f t

theorem mapM_largestC2VWithRadius (lon lat r : ℝ) : ∀ l : List Nat, (∀ d ∈ l, 1 ≤ d) →
    l.mapM (fun d => largestC2VWithRadius false d lon lat r) =
      if l.any (· > 29) then none else some (l.map fun d => c2vR (Csts.new d) lon lat r)
  | [], _ => rfl
  | a :: l, h => by
    rw [List.mapM_cons, mapM_largestC2VWithRadius lon lat r l fun d hd => h d (List.mem_cons_of_mem _ hd),
      c2v_with_radius_region_choice, if_neg (by have := h a List.mem_cons_self; omega), List.any_cons]
    by_cases h29 : 29 < a
    · rw [if_pos h29, decide_eq_true h29]; rfl
    · rw [if_neg h29, decide_eq_false h29, Bool.false_or]
      split <;> rfl

/-- **`c2vs_with_radius_agree`** (ℝ, release): `largest_center_to_vertex_distances_with_radius(from, to, lon, lat, r)`
    returns, depth by depth (`depthsOf from to`: the half-open range `[from, to)`, plus depth 0 when `from = to = 0`),
    exactly the values of `largest_center_to_vertex_distance_with_radius(depth, lon, lat, r)`, and panics exactly when
    one of them does (a depth above 29). -/
theorem c2vs_with_radius_agree (f t : Nat) (lon lat r : ℝ) :
    largestC2VsWithRadius false f t lon lat r =
      (depthsOf f t).mapM fun d => largestC2VWithRadius false d lon lat r := by
  set ds := (List.range t).filter (· ≥ (if (f == 0) = true then 1 else f)) with hds
  have hpos : ∀ d ∈ ds, 1 ≤ d := by
    intro d hd
    have := (List.mem_filter.mp hd).2
    by_cases hf : f = 0
    · simpa [hf] using this
    · have h2 : f ≤ d := by simpa [hf] using this
      omega
  have hsplit : (depthsOf f t).mapM (fun d => largestC2VWithRadius false d lon lat r) =
      (ds.mapM fun d => largestC2VWithRadius false d lon lat r).map
        ((if (f == 0) = true then [(Num.halfPi : ℝ) - Num.transitionLat] else []) ++ ·) := by
    unfold depthsOf
    by_cases hf : f = 0
    · subst hf
      simp only [if_true, beq_self_eq_true, List.mapM_cons] at hds ⊢
      rw [← hds]
      have : largestC2VWithRadius false 0 lon lat r = some ((Num.halfPi : ℝ) - Num.transitionLat) := by
        simp [largestC2VWithRadius]
      rw [this]
      cases ds.mapM fun d => largestC2VWithRadius false d lon lat r <;> rfl
    · have hb : (f == 0) = false := beq_false_of_ne hf
      simp only [hf, hb, if_false, Bool.false_eq_true] at hds ⊢
      rw [← hds]
      cases ds.mapM fun d => largestC2VWithRadius false d lon lat r <;> simp
  rw [hsplit, mapM_largestC2VWithRadius lon lat r ds hpos]
  unfold largestC2VsWithRadius
  simp only [Bool.false_and, Bool.false_eq_true, if_false]
  rw [← hds]
  split
  · rfl
  · congr 1
    -- the list-valued branches are those of `c2vR`, depth by depth
    simp only [r_ge, r_le, r_abs, decide_eq_true_eq, eqrTop_false, eqrBottom_false, mapM_some_eq, r_fmin, r_fmax, r_zero]
    unfold c2vR
    by_cases hA : tl ≤ |lat| + r
    · simp only [if_pos hA]; rfl
    · simp only [if_neg hA]
      have hmin : min (|lat| + r) tl = |lat| + r := min_eq_left (not_le.mp hA).le
      by_cases hB : lsc ≤ |lat| - r
      · simp only [if_pos hB, hmin]
      · simp only [if_neg hB]
        by_cases hC : |lat| + r ≤ lsc
        · simp only [if_pos hC]
        · simp only [if_neg hC, hmin]
/-! ### the dev profile (`debug = true`): the two functions do NOT agree (finding F7)

When the band `[|lat| − r, |lat| + r]` straddles `lsc` without reaching `tl`, the single-depth function calls both
`…_eqr_top_with_radius` and `…_eqr_bottom_with_radius` with the same `|lat|`; their `debug_assert!`s
(`lsc ≤ |lat|` resp. `|lat| ≤ lsc`) exclude each other unless `|lat| = lsc`: it panics.  The multi-depth function
calls the helpers without radius on the clamped ends of the band, whose assertions hold: it returns the release values. -/

theorem with_radius_debug_straddle_panics (depth : Nat) (hd1 : 1 ≤ depth) (hd2 : depth ≤ 29) (lon lat r : ℝ)
    (hA : |lat| + r < tl) (hB : |lat| - r < lsc) (hC : lsc < |lat| + r) (hne : |lat| ≠ lsc) :
    largestC2VWithRadius true depth lon lat r = none := by
  unfold largestC2VWithRadius
  have h0 : (depth == 0) = false := beq_false_of_ne (by omega)
  simp only [h0, Bool.false_eq_true, if_false, gt_iff_lt, not_lt.mpr hd2, r_ge, r_le, r_abs, decide_eq_true_eq,
    not_le.mpr hA, not_le.mpr hB, not_le.mpr hC]
  rcases lt_or_gt_of_ne hne with h | h
  · have : eqrTopWithRadius true |lat| r (Csts.new depth : Csts ℝ) = none := by
      unfold eqrTopWithRadius
      simp [r_le, r_lt, not_le.mpr h]
    rw [this]
  · have : eqrBottomWithRadius true |lat| r (Csts.new depth : Csts ℝ) = none := by
      unfold eqrBottomWithRadius
      simp [r_le, r_lt, not_le.mpr h]
    rw [this]
    cases eqrTopWithRadius true |lat| r (Csts.new depth : Csts ℝ) <;> rfl

theorem c2vs_debug_straddle (f t : Nat) (hft : f ≤ t) (lon lat r : ℝ)
    (hA : |lat| + r < tl) (hB : |lat| - r < lsc) (hC : lsc < |lat| + r) :
    largestC2VsWithRadius true f t lon lat r = largestC2VsWithRadius false f t lon lat r := by
  unfold largestC2VsWithRadius
  have hmin : min (|lat| + r) tl = |lat| + r := min_eq_left hA.le
  have hmax : max (|lat| - r) 0 ≤ lsc := max_le hB.le lsc_pos.le
  have htop : ∀ c : Csts ℝ, eqrTop true (|lat| + r) c = eqrTop false (|lat| + r) c := by
    intro c; unfold eqrTop; simp [r_le, r_lt, hC.le, hA]
  have hbot : ∀ c : Csts ℝ, eqrBottom true (max (|lat| - r) 0) c = eqrBottom false (max (|lat| - r) 0) c := by
    intro c; unfold eqrBottom; simp [r_le, r_zero, hmax]
  simp only [Bool.true_and, Bool.false_and, decide_eq_true_eq, not_lt.mpr hft, Bool.false_eq_true, if_false, r_ge, r_le,
    r_abs, not_le.mpr hA, not_le.mpr hB, not_le.mpr hC, r_fmin, r_fmax, r_zero, hmin, htop, hbot]

/-! ### the sign of `slope_eqr`: with the constants of the crate it is NEGATIVE

`ConstantsC2V::new` computes the value of the upper equatorial envelope at `lsc` as `4/π · cos(lsc) / nside`
(≈ 1.173/nside, as the source comment says; the true centre-to-east distance there is `π/4 · cos(lsc) / nside` ≈ 0.724/nside
to first order) and at `tl` as `tl − asin((1 − 1/nside)·2/3)`
(≈ 0.894/nside): the line goes DOWN with the latitude (`slope_eqr = −0.595, −0.264, …` at depths 1, 2, …; evaluated at
`Float` in the model).  `largest_c2v_dist_in_eqr_top_with_radius` evaluates the line at the TOP of the latitude band
`min (|lat| + r) tl`: with a negative slope that is the *minimum* of the pointwise envelope over the band, so
`…_with_radius(lat, r) < …(lat)` (e.g. `Float`, depth 6, lat 0.45, r 0.04: 0.017111 < 0.017648). -/

/-- with a non-positive slope the value with radius is a LOWER bound of the pointwise envelope on the band -/
theorem eqr_top_with_radius_is_inf (c : Csts ℝ) (hs : c.slopeEqr ≤ 0) (x r : ℝ) :
    ∀ x', x' ≤ x + r → x' ≤ tl → topEnv c (min (x + r) tl) ≤ topEnv c x' := by
  intro x' h1 h2
  exact topEnv_anti c hs (le_min h1 h2)

/-- with a negative slope and a positive radius, the value with radius is strictly below the pointwise value at the
    centre of the band itself -/
theorem eqr_top_with_radius_not_bound (c : Csts ℝ) (hs : c.slopeEqr < 0) (x r : ℝ) (hr : 0 < r) (hx : x < tl) :
    ∃ v w, eqrTopWithRadius false x r c = some v ∧ eqrTop false x c = some w ∧ v < w := by
  refine ⟨_, _, eqrTopWithRadius_false x r c, eqrTop_false x c, ?_⟩
  exact topEnv_strictAnti c hs (lt_min (by linarith) hx)

/-- with a non-positive slope the maximum of the pointwise envelope over the band `[max (x − r) lsc, …]` is at its
    BOTTOM `max (x − r) lsc`, which the code does not evaluate -/
theorem eqr_top_true_sup_neg_slope (c : Csts ℝ) (hs : c.slopeEqr ≤ 0) (x r : ℝ) :
    ∀ x', max (x - r) lsc ≤ x' → topEnv c x' ≤ topEnv c (max (x - r) lsc) :=
  fun _ h => topEnv_anti c hs h

theorem r_nside (d : Nat) : (Num.ofNat (1 <<< d) : ℝ) = 2 ^ d := by
  rw [r_ofNat, Nat.one_shiftLeft]; push_cast; rfl

theorem cos_le_quartic (x : ℝ) (h0 : 0 ≤ x) (h1 : x ≤ 1) : cos x ≤ 1 - x ^ 2 / 2 + x ^ 4 * (5 / 96) := by
  have hb := Real.cos_bound (x := x) (by rw [abs_of_nonneg h0]; exact h1)
  rw [abs_of_nonneg h0] at hb
  linarith [(abs_le.mp hb).2]

theorem pi_bounds : 31415 / 10000 < π ∧ π < 31416 / 10000 := by
  have h1 := Real.pi_gt_d4
  have h2 := Real.pi_lt_d4
  constructor <;> norm_num at h1 h2 ⊢ <;> linarith

theorem pi_sq_le : π ^ 2 ≤ 99225 / 10000 :=
  (pow_le_pow_left₀ Real.pi_pos.le (by linarith [pi_bounds.2] : π ≤ 315 / 100) 2).trans_eq (by norm_num)

theorem step_le {k d : ℕ} (h : k ≤ d) : (1 : ℝ) / 2 ^ d ≤ 1 / 2 ^ k :=
  one_div_le_one_div_of_le (by positivity) (pow_le_pow_right₀ one_le_two h)

theorem distCw_range (d : Nat) : 0 < (1 : ℝ) / 2 ^ d ∧ (1 : ℝ) / 2 ^ d ≤ 1 :=
  ⟨by positivity, (step_le d.zero_le).trans_eq (by norm_num)⟩

theorem half_pow_range (d : Nat) (hd : 1 ≤ d) : 0 < (1 : ℝ) / 2 ^ d ∧ (1 : ℝ) / 2 ^ d ≤ 1 / 2 :=
  ⟨by positivity, (step_le hd).trans_eq (by norm_num)⟩

theorem quarter_pow_range (d : Nat) (hd : 2 ≤ d) : 0 < (1 : ℝ) / 2 ^ d ∧ (1 : ℝ) / 2 ^ d ≤ 1 / 4 :=
  ⟨by positivity, (step_le hd).trans_eq (by norm_num)⟩

theorem eighth_pow_range (d : ℕ) (hd : 3 ≤ d) : 0 < (1 : ℝ) / 2 ^ d ∧ (1 : ℝ) / 2 ^ d ≤ 1 / 8 :=
  ⟨by positivity, (step_le hd).trans_eq (by norm_num)⟩

/-! ### mean-value inequalities for the concave `sin` on `[0, π]` -/

theorem sin_sub_ge (A B : ℝ) (hA : 0 ≤ A) (hAB : A ≤ B) (hB : B ≤ π) : (B - A) * cos B ≤ sin B - sin A := by
  rcases eq_or_lt_of_le hAB with rfl | hlt
  · simp
  have h := strictConcaveOn_sin_Icc.concaveOn.le_slope_of_hasDerivAt (x := A) (y := B) ⟨hA, by linarith⟩
    ⟨by linarith, hB⟩ hlt (Real.hasDerivAt_sin B)
  rw [slope_def_field, le_div_iff₀ (by linarith)] at h
  linarith

theorem sin_sub_le (A B : ℝ) (hA : 0 ≤ A) (hAB : A ≤ B) (hB : B ≤ π) : sin B - sin A ≤ (B - A) * cos A := by
  rcases eq_or_lt_of_le hAB with rfl | hlt
  · simp
  have h := strictConcaveOn_sin_Icc.concaveOn.slope_le_of_hasDerivAt (x := A) (y := B) ⟨hA, by linarith⟩
    ⟨by linarith, hB⟩ hlt (Real.hasDerivAt_sin A)
  rw [slope_def_field, div_le_iff₀ (by linarith)] at h
  linarith

theorem sin_sub_le_mid (A B : ℝ) (hAB : A ≤ B) (hm : -π ≤ A + B) (hm' : A + B ≤ π) :
    sin B - sin A ≤ (B - A) * cos ((B + A) / 2) := by
  rw [Real.sin_sub_sin, mul_assoc]
  have hs : sin ((B - A) / 2) ≤ (B - A) / 2 := Real.sin_le (by linarith)
  have hc : 0 ≤ cos ((B + A) / 2) := Real.cos_nonneg_of_neg_pi_div_two_le_of_le (by linarith) (by linarith)
  linarith [mul_le_mul_of_nonneg_right hs hc]

/-- the three at `A = arcsin a`, `B = arcsin b` -/
theorem arcsin_sub_bounds (a b : ℝ) (h0 : 0 ≤ a) (hab : a ≤ b) (h1 : b ≤ 1) :
    (Real.arcsin b - Real.arcsin a) * cos (Real.arcsin b) ≤ b - a ∧
      b - a ≤ (Real.arcsin b - Real.arcsin a) * cos ((Real.arcsin b + Real.arcsin a) / 2) ∧
      b - a ≤ (Real.arcsin b - Real.arcsin a) * cos (Real.arcsin a) := by
  have hpi := Real.pi_pos
  have hA := Real.arcsin_nonneg.mpr h0
  have hAB := Real.arcsin_le_arcsin hab
  have hA2 := Real.arcsin_le_pi_div_two a
  have hB2 := Real.arcsin_le_pi_div_two b
  have hge := sin_sub_ge _ _ hA hAB (by linarith)
  have hmid := sin_sub_le_mid _ _ hAB (by linarith) (by linarith)
  have hle := sin_sub_le _ _ hA hAB (by linarith)
  rw [Real.sin_arcsin (by linarith) h1, Real.sin_arcsin (by linarith) (by linarith)] at hge hmid hle
  exact ⟨hge, hmid, hle⟩

theorem sin_tl : sin tl = 2 / 3 := Real.sin_arcsin (by norm_num) (by norm_num)

theorem cos_sq_tl : cos tl ^ 2 = 5 / 9 := by rw [Real.cos_sq', sin_tl]; norm_num

theorem cos_tl_nonneg : 0 ≤ cos tl := Real.cos_arcsin_nonneg _

/-- `cos tl = √5/3 ≥ 0.745` -/
theorem cos_tl_ge : 745 / 1000 ≤ cos tl :=
  le_of_sq_le_sq (by rw [cos_sq_tl]; norm_num) cos_tl_nonneg

end Hpx.C2VReal

/-! ## the equatorial constants of `ConstantsC2V::new(d)` over ℝ: three anchors

`δ = 1/2^d`.  The constants are those of the parabola through `(0, dMax3 δ)` and `(lsc, dMin2 δ)` and of the line through
`(lsc, dMin2 δ)` and `(tl, dMax2 δ)`, with `dMax3 = 4/π·δ`, `dMin2 = 4/π·δ·cos(lsc)` and
`dMax2 = tl − arcsin((1 − δ)·2/3)` (the distance centre → north vertex of the highest cell whose north vertex is still in the
equatorial region).  `dMin2` and `dMax3` have the factor `4/π` where the true centre-to-east distances have `π/4`; hence
`dMax2 < dMin2 < dMax3`: both envelopes go DOWN with the latitude.  The signs of the constants and the continuity at `lsc` are
read off this form. -/

namespace Hpx.EnvelopeReal
open Hpx Hpx.C2V Hpx.C2VReal Hpx.Proj Real

/-- `cos(lsc) = √(8/(3π))` written as in the crate (`Num.cosLatOfSquareCell` over ℝ); a name, so that `linarith` sees a
    single atom -/
noncomputable def cosLsc : ℝ := Real.sqrt (2 / 3 * (4 / π))

theorem cosLsc_sq : cosLsc * cosLsc = 8 / (3 * π) := by
  have hpi := Real.pi_pos
  unfold cosLsc
  rw [Real.mul_self_sqrt (by positivity)]; field_simp; ring

theorem cosLsc_ge : 92 / 100 ≤ cosLsc := by
  have hpi := Real.pi_pos
  have hpi2 := Real.pi_lt_d2
  apply Real.le_sqrt_of_sq_le
  rw [show (2 : ℝ) / 3 * (4 / π) = 8 / (3 * π) by field_simp; ring, le_div_iff₀ (by positivity)]
  norm_num at hpi2 ⊢
  linarith

theorem cosLsc_pos : 0 < cosLsc := by linarith [cosLsc_ge]
theorem cosLsc_lt_one : cosLsc < 1 := lsc_arg_lt_one

theorem cos_lsc : cos lsc = cosLsc := Real.cos_arccos (x := cosLsc) (by linarith [cosLsc_pos]) cosLsc_lt_one.le

/-- anchor at `lsc` -/
noncomputable def dMin2 (δ : ℝ) : ℝ := 4 / π * δ * cosLsc
/-- anchor at `tl` -/
noncomputable def dMax2 (δ : ℝ) : ℝ := tl - Real.arcsin ((1 - δ) * (2 / 3))
/-- anchor on the equator -/
noncomputable def dMax3 (δ : ℝ) : ℝ := 4 / π * δ

/-- `dMax2 δ ≤ 2δ/√5 ≈ 0.894·δ`: the tangent of `sin` at `tl` -/
theorem dMax2_lt (δ : ℝ) (h0 : 0 < δ) (h1 : δ ≤ 1) : dMax2 δ < 97 / 100 * δ := by
  have hy1 : (1 - δ) * (2 / 3) ≤ 2 / 3 := by linarith
  have hkey : dMax2 δ * cos tl ≤ 2 / 3 - (1 - δ) * (2 / 3) :=
    (arcsin_sub_bounds _ _ (mul_nonneg (by linarith) (by norm_num)) hy1 (by norm_num)).1
  have h2 : 0 ≤ dMax2 δ := sub_nonneg.mpr (Real.arcsin_le_arcsin hy1)
  have hc := mul_le_mul_of_nonneg_left cos_tl_ge h2
  linarith

theorem dMin2_gt (δ : ℝ) (h0 : 0 < δ) : 116 / 100 * δ < dMin2 δ := by
  have hpi := Real.pi_pos
  have hpi2 := Real.pi_lt_d2
  have h1 : 1269 / 1000 < 4 / π := by rw [lt_div_iff₀ hpi]; norm_num at hpi2 ⊢; linarith
  have h2 := mul_le_mul h1.le cosLsc_ge (by norm_num) (by positivity)
  have := mul_lt_mul_of_pos_right (show 116 / 100 < 4 / π * cosLsc by linarith) h0
  unfold dMin2
  linarith

theorem dMax2_lt_dMin2 (δ : ℝ) (h0 : 0 < δ) (h1 : δ ≤ 1) : dMax2 δ < dMin2 δ := by
  linarith [dMax2_lt δ h0 h1, dMin2_gt δ h0]

theorem dMax2_le_dMin2 (δ : ℝ) (h0 : 0 < δ) (h1 : δ ≤ 1) : dMax2 δ ≤ dMin2 δ := (dMax2_lt_dMin2 δ h0 h1).le

theorem dMin2_lt_dMax3 (δ : ℝ) (h0 : 0 < δ) : dMin2 δ < dMax3 δ :=
  mul_lt_of_lt_one_right (show 0 < 4 / π * δ by positivity) cosLsc_lt_one

theorem r_cosLsc : (Num.cosLatOfSquareCell : ℝ) = cosLsc := rfl

theorem new_slopeEqr_eq (d : Nat) :
    (Csts.new d : Csts ℝ).slopeEqr = (dMax2 (1 / 2 ^ d) - dMin2 (1 / 2 ^ d)) / (tl - lsc) := by
  show (((Num.transitionLat : ℝ) - Num.asin ((Num.one - Num.one / Num.ofNat (1 <<< d)) * Num.transitionZ)) -
    (Num.fourOverPi : ℝ) * (Num.one / Num.ofNat (1 <<< d)) * Num.cosLatOfSquareCell) /
      ((Num.transitionLat : ℝ) - Num.latOfSquareCell) = _
  rw [r_nside, r_one, r_tz, r_fourOverPi, r_cosLsc, r_asin]; rfl

theorem new_interceptEqr_eq (d : Nat) :
    (Csts.new d : Csts ℝ).interceptEqr = dMin2 (1 / 2 ^ d) - (Csts.new d : Csts ℝ).slopeEqr * lsc := by
  show (Num.fourOverPi : ℝ) * (Num.one / Num.ofNat (1 <<< d)) * Num.cosLatOfSquareCell -
      (Csts.new d : Csts ℝ).slopeEqr * Num.latOfSquareCell = _
  rw [r_nside, r_one, r_fourOverPi, r_cosLsc]; rfl

theorem new_coeffX2Eqr_eq (d : Nat) :
    (Csts.new d : Csts ℝ).coeffX2Eqr = (dMin2 (1 / 2 ^ d) - dMax3 (1 / 2 ^ d)) / (lsc * lsc) := by
  show ((Num.fourOverPi : ℝ) * (Num.one / Num.ofNat (1 <<< d)) * Num.cosLatOfSquareCell -
    (Num.fourOverPi : ℝ) * (Num.one / Num.ofNat (1 <<< d))) / pow2 (Num.latOfSquareCell : ℝ) = _
  rw [r_nside, r_one, r_fourOverPi, r_cosLsc]; rfl

theorem new_coeffCstEqr_eq (d : Nat) : (Csts.new d : Csts ℝ).coeffCstEqr = dMax3 (1 / 2 ^ d) := by
  show (Num.fourOverPi : ℝ) * (Num.one / Num.ofNat (1 <<< d)) = _
  rw [r_nside, r_one, r_fourOverPi]; rfl

theorem new_topEnv_bary (d : Nat) (x : ℝ) :
    topEnv (Csts.new d : Csts ℝ) x =
      dMax2 (1 / 2 ^ d) + (dMin2 (1 / 2 ^ d) - dMax2 (1 / 2 ^ d)) * ((tl - x) / (tl - lsc)) := by
  have h : tl - lsc ≠ 0 := by linarith [lsc_lt_tl]
  unfold topEnv
  rw [new_interceptEqr_eq, new_slopeEqr_eq]
  field_simp
  ring

theorem new_topEnv_lsc (d : Nat) : topEnv (Csts.new d : Csts ℝ) lsc = dMin2 (1 / 2 ^ d) := by
  unfold topEnv; rw [new_interceptEqr_eq]; ring

theorem new_topEnv_tl (d : Nat) : topEnv (Csts.new d : Csts ℝ) tl = dMax2 (1 / 2 ^ d) := by
  rw [new_topEnv_bary, sub_self, zero_div, mul_zero, add_zero]

theorem new_botEnv_zero (d : Nat) : botEnv (Csts.new d : Csts ℝ) 0 = dMax3 (1 / 2 ^ d) := by
  unfold botEnv; rw [new_coeffCstEqr_eq]; ring

theorem new_botEnv_lsc (d : Nat) : botEnv (Csts.new d : Csts ℝ) lsc = dMin2 (1 / 2 ^ d) := by
  unfold botEnv
  rw [new_coeffX2Eqr_eq, new_coeffCstEqr_eq, div_mul_cancel₀ _ (mul_self_ne_zero.mpr lsc_pos.ne')]; ring

end Hpx.EnvelopeReal

namespace Hpx.C2VReal
open Hpx Hpx.C2V Hpx.EnvelopeReal Real

theorem new_coeffX2Eqr_neg (d : Nat) : (Csts.new d : Csts ℝ).coeffX2Eqr < 0 := by
  rw [new_coeffX2Eqr_eq]
  exact div_neg_of_neg_of_pos (sub_neg.mpr (dMin2_lt_dMax3 _ (distCw_range d).1)) (mul_pos lsc_pos lsc_pos)

/-- the upper equatorial line of the crate DEcreases with the latitude, at every depth: not the sign that
    `largest_c2v_dist_in_eqr_top_with_radius` presupposes -/
theorem new_slopeEqr_neg (d : Nat) : (Csts.new d : Csts ℝ).slopeEqr < 0 := by
  rw [new_slopeEqr_eq]
  exact div_neg_of_neg_of_pos (sub_neg.mpr (dMax2_lt_dMin2 _ (distCw_range d).1 (distCw_range d).2))
    (sub_pos.mpr lsc_lt_tl)

theorem new_continuous_at_lsc (depth : Nat) :
    topEnv (Csts.new depth : Csts ℝ) lsc = botEnv (Csts.new depth : Csts ℝ) lsc :=
  (new_topEnv_lsc depth).trans (new_botEnv_lsc depth).symm

theorem largestC2VWithRadius_lt_at_centre' (depth : Nat) (hd1 : 1 ≤ depth) (hd2 : depth ≤ 29) (lon lat r : ℝ)
    (hr : 0 < r) (hlo : lsc ≤ |lat| - r) (hhi : |lat| + r < tl) :
    ∃ v w, largestC2VWithRadius false depth lon lat r = some v ∧ largestC2V false depth lon lat = some w ∧ v < w := by
  refine ⟨_, _, largestC2VWithRadius_eq depth hd1 hd2 _ _ _, largestC2V_eq depth hd1 hd2 _ _, ?_⟩
  unfold c2vR c2v
  rw [if_neg (not_le.mpr hhi), if_pos hlo, if_neg (not_le.mpr (by linarith)), if_pos (by linarith),
    min_eq_left hhi.le]
  exact topEnv_strictAnti _ (new_slopeEqr_neg depth) (by linarith)

/-! ### what the function with radius does bound, with the ACTUAL signs (`slopeEqr ≤ 0`)

With a decreasing upper equatorial envelope the value with radius is an upper bound of the pointwise value over the
latitude band exactly when the band reaches below `lsc` (`|lat| − r < lsc`) and does not reach `tl`: then the maximum
of the pointwise value over the band is the parabola at the bottom of the band, which the code does evaluate.  When the
band lies inside `[lsc, tl)` it is not (`largestC2VWithRadius_lt_at_centre'`). -/

theorem c2v_with_radius_upper_neg_slope (c : Csts ℝ) (h2 : c.slopeEqr ≤ 0) (h3 : c.coeffX2Eqr ≤ 0)
    (hcont : topEnv c lsc = botEnv c lsc) (lon lat r lon' lat' : ℝ) (hband : |(|lat'| - |lat|)| ≤ r)
    (hA : |lat| + r < tl) (hB : |lat| - r < lsc) :
    c2v c lon' lat' ≤ c2vR c lon lat r := by
  obtain ⟨hb1, hb2⟩ := abs_le.mp hband
  have hbot : ∀ x, max (|lat| - r) 0 ≤ x → botEnv c x ≤ c2vR c lon lat r := fun x hx =>
    (botEnv_anti c h3 (le_max_right _ _) hx).trans (bot_le_c2vR c lon lat r hA hB)
  unfold c2v
  rw [if_neg (not_le.mpr (by linarith))]
  split_ifs with hl
  · exact (topEnv_anti c h2 hl).trans (hcont ▸ hbot _ (max_le hB.le lsc_pos.le))
  · exact hbot _ (max_le (by linarith) (abs_nonneg lat'))

theorem largestC2VWithRadius_upper_bound_eqr (depth : Nat) (hd1 : 1 ≤ depth) (hd2 : depth ≤ 29)
    (lon lat r lon' lat' : ℝ) (hband : |(|lat'| - |lat|)| ≤ r) (hA : |lat| + r < tl) (hB : |lat| - r < lsc) :
    ∃ v w, largestC2VWithRadius false depth lon lat r = some v ∧ largestC2V false depth lon' lat' = some w ∧ w ≤ v := by
  refine ⟨_, _, largestC2VWithRadius_eq depth hd1 hd2 _ _ _, largestC2V_eq depth hd1 hd2 _ _, ?_⟩
  exact c2v_with_radius_upper_neg_slope _ (new_slopeEqr_neg depth).le (new_coeffX2Eqr_neg depth).le
    (new_continuous_at_lsc depth) lon lat r lon' lat' hband hA hB

/-! ### satisfiability of the hypotheses -/

/-- constants with the three ASSUMED signs and the continuity at `lsc` -/
noncomputable def exC : Csts ℝ :=
  { slopeNpc := 1, interceptNpc := 0, slopeEqr := 1, interceptEqr := 0, coeffX2Eqr := -1, coeffCstEqr := lsc + lsc * lsc }

example : 0 ≤ exC.slopeNpc ∧ 0 ≤ exC.slopeEqr ∧ exC.coeffX2Eqr ≤ 0 ∧ topEnv exC lsc = botEnv exC lsc := by
  refine ⟨by simp [exC], by simp [exC], by simp [exC], ?_⟩
  simp only [topEnv, botEnv, exC]; ring

/-- a band straddling `lsc`, below `tl` -/
example : |(|lsc + (tl - lsc) / 4| - |lsc|)| ≤ (tl - lsc) / 2 ∧ |lsc| + (tl - lsc) / 2 < tl ∧ |lsc| - (tl - lsc) / 2 < lsc := by
  have h1 := lsc_pos
  have h2 := lsc_lt_tl
  rw [abs_of_pos h1, abs_of_pos (by linarith : 0 < lsc + (tl - lsc) / 4)]
  refine ⟨?_, by linarith, by linarith⟩
  rw [abs_le]; constructor <;> linarith

/-- a band inside `[lsc, tl)` -/
example : (0 : ℝ) < (tl - lsc) / 4 ∧ lsc ≤ |(lsc + tl) / 2| - (tl - lsc) / 4 ∧ |(lsc + tl) / 2| + (tl - lsc) / 4 < tl := by
  have h1 := lsc_pos
  have h2 := lsc_lt_tl
  rw [abs_of_pos (by linarith)]
  refine ⟨by linarith, by linarith, by linarith⟩

end Hpx.C2VReal

#print axioms Hpx.C2VReal.c2v_region_choice
#print axioms Hpx.C2VReal.c2v_with_radius_region_choice
#print axioms Hpx.C2VReal.npc_with_radius_is_sup
#print axioms Hpx.C2VReal.npc_with_radius_lon_band
#print axioms Hpx.C2VReal.eqr_top_with_radius_is_sup
#print axioms Hpx.C2VReal.eqr_bottom_with_radius_is_sup
#print axioms Hpx.C2VReal.c2v_with_radius_is_sup
#print axioms Hpx.C2VReal.largestC2VWithRadius_is_upper_bound
#print axioms Hpx.C2VReal.cex_distance
#print axioms Hpx.C2VReal.c2vs_with_radius_agree
#print axioms Hpx.C2VReal.depthsOf_eq_range'
#print axioms Hpx.C2VReal.with_radius_debug_straddle_panics
#print axioms Hpx.C2VReal.c2vs_debug_straddle
#print axioms Hpx.C2VReal.new_slopeEqr_neg
#print axioms Hpx.C2VReal.new_coeffX2Eqr_neg
#print axioms Hpx.C2VReal.largestC2VWithRadius_lt_at_centre'
#print axioms Hpx.C2VReal.largestC2VWithRadius_upper_bound_eqr
