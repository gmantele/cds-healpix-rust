/-
Real-valued meaning of the ellipse tests of the elliptical-cone coverage (C13), in the projection plane: the model functions
of `Model/SphGeom.lean` instantiated at `α := ℝ`.  `contains` is the canonical ellipse inequality (`ellipse_contains_real`),
so the ellipse lies between the discs of radii `b` and `a` (`fromOriented_between`); it holds as soon as the quadratic form of the
covariance matrix dominates the square of the point (`cov_contains_of_form`); the ellipse of `extended_geom` contains the
points that `overlap_cone` tests when the first ellipse contains a disc that meets the second along its minor axis
(`extended_contains_of_inner`).
-/
import HpxVerif.Model.SphGeom
import HpxVerif.Lemmas.NumReal
import Mathlib.Tactic.FieldSimp
import Mathlib.Tactic.LinearCombination
import Mathlib.Tactic.Positivity

namespace Hpx.Sph
open Hpx

theorem fromOriented_det (a b s c : ℝ) (hsc : s * s + c * c = 1) :
    (a * a * (c * c) + b * b * (s * s)) * (a * a * (s * s) + b * b * (c * c)) - (c * s * (a * a - b * b)) * (c * s * (a * a - b * b))
      = (a * b) * (a * b) := by
  linear_combination (a * a * (b * b) * (s * s + c * c + 1)) * hsc

/-- **the covariance-form test is the canonical ellipse inequality**: semi-axes `a, b ≠ 0`, major-axis direction the
    unit vector `(c, s)` -/
theorem ellipse_contains_real (a b s c x y : ℝ) (ha : a ≠ 0) (hb : b ≠ 0) (hsc : s * s + c * c = 1) :
    (Ellipse.fromOriented (α := ℝ) a b s c).contains x y = true ↔
      ((x * c + y * s) / a) ^ 2 + ((x * s - y * c) / b) ^ 2 ≤ 1 := by
  unfold Ellipse.contains Ellipse.fromOriented Ellipse.fromCov pow2
  have hdet := fromOriented_det a b s c hsc
  rw [Proj.r_le, decide_eq_true_eq, Proj.r_one, Proj.r_two]
  simp only
  rw [hdet]
  have hab : a * b * (a * b) ≠ 0 := by positivity
  have key : 1 / (a * b * (a * b)) *
      (x * x * (a * a * (s * s) + b * b * (c * c)) - 2 * (c * s * (a * a - b * b) * x * y) + y * y * (a * a * (c * c) + b * b * (s * s)))
      = ((x * c + y * s) / a) ^ 2 + ((x * s - y * c) / b) ^ 2 := by
    field_simp
    ring
  rw [key]

theorem num_sin (x : ℝ) : Num.sin x = Real.sin x := rfl
theorem num_cos (x : ℝ) : Num.cos x = Real.cos x := rfl
theorem num_sqrt (x : ℝ) : Num.sqrt x = Real.sqrt x := rfl
theorem num_abs (x : ℝ) : Num.abs x = |x| := rfl
theorem num_atan2 (y x : ℝ) : Num.atan2 y x = Complex.arg ⟨x, y⟩ := rfl

theorem ellipse_form_circle (S s c x y : ℝ) (hS : S ≠ 0) (hsc : s * s + c * c = 1) :
    ((x * c + y * s) / S) ^ 2 + ((x * s - y * c) / S) ^ 2 = (x ^ 2 + y ^ 2) / S ^ 2 := by
  field_simp
  linear_combination (x ^ 2 + y ^ 2) * hsc

theorem fromOriented_between (a b s c x y : ℝ) (hb : 0 < b) (hba : b ≤ a) (hsc : s * s + c * c = 1) :
    (x ^ 2 + y ^ 2 ≤ b ^ 2 → (Ellipse.fromOriented a b s c).contains x y = true) ∧
    ((Ellipse.fromOriented a b s c).contains x y = true → x ^ 2 + y ^ 2 ≤ a ^ 2) := by
  have ha := hb.trans_le hba
  have mono : ∀ t : ℝ, (t / a) ^ 2 ≤ (t / b) ^ 2 := fun t => by
    rw [div_pow, div_pow]
    exact div_le_div_of_nonneg_left (sq_nonneg _) (by positivity) (pow_le_pow_left₀ hb.le hba 2)
  rw [ellipse_contains_real a b s c x y ha.ne' hb.ne' hsc, ← div_le_one (pow_pos hb 2), ← div_le_one (pow_pos ha 2),
    ← ellipse_form_circle a s c x y ha.ne' hsc, ← ellipse_form_circle b s c x y hb.ne' hsc]
  exact ⟨fun h => by linarith [mono (x * c + y * s)], fun h => by linarith [mono (x * s - y * c)]⟩

/-- sufficient condition for the covariance-form test: `det ≥ 0` and `pᵀ adj(M) p ≤ det M` -/
theorem cov_contains_of (Sx Sy ρ X Y : ℝ) (hdet : 0 ≤ Sx * Sy - ρ * ρ)
    (h : X * X * Sy - 2 * (ρ * X * Y) + Y * Y * Sx ≤ Sx * Sy - ρ * ρ) :
    (Ellipse.fromCov (α := ℝ) Sx Sy ρ).contains X Y = true := by
  unfold Ellipse.contains Ellipse.fromCov pow2
  rw [Proj.r_le, Proj.r_one, Proj.r_two, decide_eq_true_eq]
  simp only
  rcases eq_or_lt_of_le hdet with h0 | hpos
  · rw [← h0]; simp
  · rw [one_div, inv_mul_le_iff₀ hpos]; linarith

/-- the same condition on the quadratic form: it dominates the square of the linear form `(X, Y)`, i.e. `M − p pᵀ` is
    positive semi-definite (both determinants are discriminants of the form at `y = 1`) -/
theorem cov_contains_of_form (Sx Sy ρ X Y : ℝ)
    (h : ∀ x y : ℝ, (X * x + Y * y) ^ 2 ≤ Sx * x ^ 2 + 2 * ρ * x * y + Sy * y ^ 2) :
    (Ellipse.fromCov (α := ℝ) Sx Sy ρ).contains X Y = true := by
  have h1 := discrim_le_zero (a := Sx) (b := 2 * ρ) (c := Sy) fun x => by linarith [h x 1, sq_nonneg (X * x + Y * 1)]
  have h2 := discrim_le_zero (a := Sx - X * X) (b := 2 * (ρ - X * Y)) (c := Sy - Y * Y) fun x => by linarith [h x 1]
  unfold discrim at h1 h2
  exact cov_contains_of Sx Sy ρ X Y (by linarith) (by linarith)

theorem fromOriented_neg (a b s c : ℝ) :
    Ellipse.fromOriented (α := ℝ) a b (-s) (-c) = Ellipse.fromOriented a b s c := by
  unfold Ellipse.fromOriented pow2
  simp only [neg_mul_neg]

theorem fromOriented_form (a b s c x y : ℝ) :
    (Ellipse.fromOriented (α := ℝ) a b s c).sigx2 * x ^ 2 + 2 * (Ellipse.fromOriented (α := ℝ) a b s c).rho * x * y +
      (Ellipse.fromOriented (α := ℝ) a b s c).sigy2 * y ^ 2 = a ^ 2 * (c * x + s * y) ^ 2 + b ^ 2 * (s * x - c * y) ^ 2 := by
  simp only [Ellipse.fromOriented, Ellipse.fromCov, pow2]
  ring

theorem fromOriented_inner (a b s c : ℝ) (hb : 0 ≤ b) (hba : b ≤ a) (hsc : s * s + c * c = 1) (x y : ℝ) :
    b ^ 2 * (x ^ 2 + y ^ 2) ≤ (Ellipse.fromOriented (α := ℝ) a b s c).sigx2 * x ^ 2 +
      2 * (Ellipse.fromOriented (α := ℝ) a b s c).rho * x * y + (Ellipse.fromOriented (α := ℝ) a b s c).sigy2 * y ^ 2 := by
  rw [fromOriented_form]
  have h := mul_nonneg (sub_nonneg.mpr (pow_le_pow_left₀ hb hba 2)) (sq_nonneg (c * x + s * y))
  linear_combination h - b ^ 2 * (x ^ 2 + y ^ 2) * hsc

/-- **the algebraic core of `overlap`**: `e` any covariance form that dominates the disc of radius `S`, the other ellipse with
    its minor semi-axis `B` along the unit vector `(u, v)`: the extended ellipse contains `D·(u, v)` as soon as `|D| ≤ S + B`.
    The form of `extended_geom` is the sum of the two forms and of `2 √σx₁² √σx₂² x² + 2 √σy₁² √σy₂² y²`, where each square
    root is at least `S`, resp. `B`; the sum dominates `(S + B)² (u x + v y)²`. -/
theorem extended_contains_of_inner (e : Ellipse ℝ) (S A B u v D : ℝ) (hS : 0 ≤ S)
    (he : ∀ x y : ℝ, S ^ 2 * (x ^ 2 + y ^ 2) ≤ e.sigx2 * x ^ 2 + 2 * e.rho * x * y + e.sigy2 * y ^ 2)
    (hB : 0 ≤ B) (hBA : B ≤ A) (huv : u * u + v * v = 1) (hD : D ^ 2 ≤ (S + B) ^ 2) :
    (e.extendedGeom (Ellipse.fromOriented A B (-u) v)).contains (D * u) (D * v) = true := by
  have ho := fromOriented_inner A B (-u) v hB hBA (by linarith)
  have hform := fromOriented_form A B (-u) v
  generalize Ellipse.fromOriented A B (-u) v = o at ho hform ⊢
  have hsx : S ^ 2 ≤ e.sigx2 := by linarith [he 1 0]
  have hsy : S ^ 2 ≤ e.sigy2 := by linarith [he 0 1]
  have hσx : B ^ 2 ≤ o.sigx2 := by linarith [ho 1 0]
  have hσy : B ^ 2 ≤ o.sigy2 := by linarith [ho 0 1]
  have e1 := Real.sq_sqrt ((sq_nonneg S).trans hsx)
  have e2 := Real.sq_sqrt ((sq_nonneg S).trans hsy)
  have e3 := Real.sq_sqrt ((sq_nonneg B).trans hσx)
  have e4 := Real.sq_sqrt ((sq_nonneg B).trans hσy)
  unfold Ellipse.extendedGeom
  apply cov_contains_of_form
  intro x y
  simp only [pow2, num_sqrt]
  have kx := mul_le_mul_of_nonneg_right
    (mul_le_mul (Real.le_sqrt_of_sq_le hsx) (Real.le_sqrt_of_sq_le hσx) hB (Real.sqrt_nonneg _)) (sq_nonneg x)
  have ky := mul_le_mul_of_nonneg_right
    (mul_le_mul (Real.le_sqrt_of_sq_le hsy) (Real.le_sqrt_of_sq_le hσy) hB (Real.sqrt_nonneg _)) (sq_nonneg y)
  have kD := mul_le_mul_of_nonneg_right hD (sq_nonneg (u * x + v * y))
  have kA := mul_nonneg (sq_nonneg A) (sq_nonneg (v * x - u * y))
  have kS := mul_nonneg (mul_nonneg hS (add_nonneg hS (add_nonneg hB hB))) (sq_nonneg (v * x - u * y))
  linear_combination he x y + 2 * kx + 2 * ky + kD + kA + kS - e1 * x ^ 2 - e2 * y ^ 2 - e3 * x ^ 2 - e4 * y ^ 2 -
    hform x y + S * (S + (B + B)) * (x ^ 2 + y ^ 2) * huv

end Hpx.Sph
