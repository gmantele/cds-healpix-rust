import HpxVerif.Model.Num
import Mathlib.Analysis.SpecialFunctions.Trigonometric.Inverse
import Mathlib.Analysis.SpecialFunctions.Complex.Arg
import Mathlib.Analysis.SpecialFunctions.Sqrt
import Mathlib.Tactic.Ring
import Mathlib.Tactic.Linarith
import Mathlib.Tactic.NormNum

/-!
The exact instance of the numeric interface: `α := ℝ` with the mathematical constants and functions.
The theorems "over the reals" are statements about the model functions instantiated here; the `r_*` lemmas evaluate its
fields.
-/

namespace Hpx

/-- exact value of a (finite) double given by its bit pattern -/
def F64.toRat (b : Nat) : ℚ :=
  let e := F64.expF b
  let m := F64.manF b
  let s : ℚ := if F64.sgnF b = 1 then -1 else 1
  if e = 0 then s * m * (2 : ℚ) ^ (-1074 : ℤ) else s * (2 ^ 52 + m) * (2 : ℚ) ^ ((e : ℤ) - 1075)

open Classical in
noncomputable instance : Num ℝ where
  lt a b := decide (a < b)
  le a b := decide (a ≤ b)
  ofNat n := n
  ofInt n := n
  lit b := ((F64.toRat b : ℚ) : ℝ)
  pi := Real.pi
  halfPi := Real.pi / 2
  twicePi := 2 * Real.pi
  piOverFour := Real.pi / 4
  fourOverPi := 4 / Real.pi
  sqrt6 := Real.sqrt 6
  oneOverSqrt6 := 1 / Real.sqrt 6
  transitionLat := Real.arcsin (2 / 3)
  transitionZ := 2 / 3
  oneOverTransitionZ := 3 / 2
  epsPole := ((F64.toRat Gen.cEpsPole : ℚ) : ℝ)
  latOfSquareCell := Real.arccos (Real.sqrt (2 / 3 * (4 / Real.pi)))
  cosLatOfSquareCell := Real.sqrt (2 / 3 * (4 / Real.pi))
  sin := Real.sin
  cos := Real.cos
  asin := Real.arcsin
  acos := Real.arccos
  sqrt := Real.sqrt
  atan2 y x := Complex.arg ⟨x, y⟩
  abs x := |x|
  signBit x := decide (x < 0)
  orSign x s := if s then -|x| else x
  truncU8 x := min ⌊max x 0⌋₊ 255
  truncU32 x := min ⌊max x 0⌋₊ (2 ^ 32 - 1)
  truncU64 x := min ⌊max x 0⌋₊ (2 ^ 64 - 1)
  scale2 x k := x * (2 : ℝ) ^ k
  truncScaleU32 x k := min ⌊max (x * (2 : ℝ) ^ k) 0⌋₊ (2 ^ 32 - 1)
  fmax := max
  fmin := min
  rem x y := x - y * (if 0 ≤ x / y then (⌊x / y⌋ : ℝ) else (⌈x / y⌉ : ℝ))
  isNaN _ := false
  toBits _ := 0

theorem toRat_of_fields (b e m : Nat) (he : F64.expF b = e) (hm : F64.manF b = m) (hs : F64.sgnF b = 0) (he0 : e ≠ 0) :
    F64.toRat b = (2 ^ 52 + m) * (2 : ℚ) ^ ((e : ℤ) - 1075) := by
  unfold F64.toRat
  simp [he, hm, hs, he0]

theorem lit_050 : (Num.lit (α := ℝ) 0x3FE0000000000000) = 1 / 2 := by
  show ((F64.toRat 0x3FE0000000000000 : ℚ) : ℝ) = 1 / 2
  rw [toRat_of_fields _ 1022 0 (by decide) (by decide) (by decide) (by decide)]
  norm_num
theorem lit_075 : (Num.lit (α := ℝ) 0x3FE8000000000000) = 3 / 4 := by
  show ((F64.toRat 0x3FE8000000000000 : ℚ) : ℝ) = 3 / 4
  rw [toRat_of_fields _ 1022 0x8000000000000 (by decide) (by decide) (by decide) (by decide)]
  norm_num
theorem lit_125 : (Num.lit (α := ℝ) 0x3FF4000000000000) = 5 / 4 := by
  show ((F64.toRat 0x3FF4000000000000 : ℚ) : ℝ) = 5 / 4
  rw [toRat_of_fields _ 1023 0x4000000000000 (by decide) (by decide) (by decide) (by decide)]
  norm_num
theorem lit_150 : (Num.lit (α := ℝ) 0x3FF8000000000000) = 3 / 2 := by
  show ((F64.toRat 0x3FF8000000000000 : ℚ) : ℝ) = 3 / 2
  rw [toRat_of_fields _ 1023 0x8000000000000 (by decide) (by decide) (by decide) (by decide)]
  norm_num

end Hpx

namespace Hpx.Proj
open Real

theorem r_two : (Num.two : ℝ) = 2 := by show ((2 : ℕ) : ℝ) = 2; norm_num
theorem r_one : (Num.one : ℝ) = 1 := by show ((1 : ℕ) : ℝ) = 1; norm_num
theorem r_half : (Num.half : ℝ) = 1 / 2 := lit_050
theorem r_sqrt6 : (Num.sqrt6 : ℝ) = Real.sqrt 6 := rfl
theorem r_oos6 : (Num.oneOverSqrt6 : ℝ) = 1 / Real.sqrt 6 := rfl
theorem r_pi4 : (Num.piOverFour : ℝ) = π / 4 := rfl
theorem r_hpi : (Num.halfPi : ℝ) = π / 2 := rfl
theorem r_cos (x : ℝ) : Num.cos x = Real.cos x := rfl
theorem r_sin (x : ℝ) : Num.sin x = Real.sin x := rfl
theorem r_acos (x : ℝ) : Num.acos x = Real.arccos x := rfl
theorem r_asin (x : ℝ) : Num.asin x = Real.arcsin x := rfl
theorem r_abs (x : ℝ) : Num.abs x = |x| := rfl
theorem r_signBit (x : ℝ) : Num.signBit x = decide (x < 0) := rfl
theorem r_orSign (x : ℝ) (b : Bool) : Num.orSign x b = if b = true then -|x| else x := rfl
theorem r_orSign_false (x : ℝ) : Num.orSign x false = x := by rw [r_orSign]; simp
theorem r_le (x y : ℝ) : Num.le x y = decide (x ≤ y) := rfl
theorem r_lt (x y : ℝ) : Num.lt x y = decide (x < y) := rfl
theorem r_fourOverPi : (Num.fourOverPi : ℝ) = 4 / π := rfl
theorem r_transitionLat : (Num.transitionLat : ℝ) = Real.arcsin (2 / 3) := rfl
theorem r_ofNat (n : ℕ) : (Num.ofNat n : ℝ) = (n : ℝ) := rfl
theorem r_ootz : (Num.oneOverTransitionZ : ℝ) = 3 / 2 := rfl
theorem r_tz : (Num.transitionZ : ℝ) = 2 / 3 := rfl
theorem r_zero : (Num.zero : ℝ) = 0 := by show ((0 : ℕ) : ℝ) = 0; norm_num
theorem r_truncU64 (x : ℝ) : Num.truncU64 x = min ⌊max x 0⌋₊ (2 ^ 64 - 1) := rfl

end Hpx.Proj

namespace Hpx.Sph
open Real

theorem r_pi : (Num.pi : ℝ) = π := rfl
theorem r_twicePi : (Num.twicePi : ℝ) = 2 * π := rfl
theorem r_gt (x y : ℝ) : Num.gt x y = decide (y < x) := rfl
theorem r_ge (x y : ℝ) : Num.ge x y = decide (y ≤ x) := rfl

end Hpx.Sph
