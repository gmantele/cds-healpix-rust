import HpxVerif.Lemmas.GoodCells
import HpxVerif.Lemmas.TightnessCone
import HpxVerif.Lemmas.EConeEqInternal
import HpxVerif.Lemmas.CoverInternal
import HpxVerif.Lemmas.SearchTree

/-!
From the tests of a shape to the BMOC returned for it, once for the cone and the elliptical cone (C05, C06, C13).
The list of a `*_internal` function has two shapes (`Split`, from the relation `Internal`).  If the classifier is a ball
classifier whose `skip` and `full` verdicts are sound for a region inside a cone of the equatorial band, the list satisfies
the contract `Covered`: it is a good list and it keeps every position of the region that lies in a strictly equatorial start
cell.  Everything said of the BMOC built from the list by `to_bmoc_packing` and `to_lower_depth` follows from the contract.
-/

namespace Hpx.ConeBmoc
open Hpx Hpx.C2V

/-- **the start cells** of `cone_coverage_approx_internal`, at depth `ds`: the twelve base cells (`ds = 0`) when the radius
    has no starting depth, else the cell of the cone centre at `ds = best_starting_depth(r)` and its neighbours (the
    "nine cells") -/
def IsStartCell (cfg : Cfg) (lon lat r : ℝ) (ds root : ℕ) : Prop :=
  (hasBestStartingDepth r = false ∧ ds = 0 ∧ root < 12) ∨
  (hasBestStartingDepth r = true ∧ bestStartingDepth r = some ds ∧ ∃ h0 nm, Hash.hashV2 cfg ds lon lat = some h0 ∧
    Topo.neighbours cfg ds h0 true = some nm ∧ root ∈ nm.map (·.2))

end Hpx.ConeBmoc

namespace Hpx.Cover
open Hpx Hpx.Hash Hpx.Bmoc Hpx.CoverAll Hpx.C2V Hpx.C2VReal Hpx.EnvelopeReal Hpx.Tightness Hpx.ConeBmoc Hpx.CellExtent
open Hpx.EConeEq Real

/-- the two shapes of the list of a `*_internal` function (both profiles; the radii are those of the release profile):
    * the cells come from the descents below the start cells of depth `ds ≤ depth`, and every such descent is in the list;
    * (`depth ≤ ds = best_starting_depth(r)`) the cells are partial cells of depth `depth`: the ancestors of the start cells
      that pass the test `keep ds (valR ds …)`. -/
def Split (cfg : Cfg) (depth : ℕ) (lon lat r : ℝ) (κ : List ℝ → Nat → Nat → Nat → Option Verdict)
    (keep : Nat → ℝ → MW × Nat → Option Bool) (cells : List Cell) : Prop :=
  (∃ ds dists, ds ≤ depth ∧ (hasBestStartingDepth r = true → bestStartingDepth r = some ds ∧ ds < depth) ∧
    largestC2VsWithRadius false ds (depth + 1) lon lat r = some dists ∧
    (∀ c ∈ cells, ∃ root o, coverRec depth (κ dists) (depth + 2) ds root 0 = some o ∧ c ∈ o) ∧
    (∀ ds' root, IsStartCell cfg lon lat r ds' root → ds' = ds ∧
      ∃ o, coverRec depth (κ dists) (depth + 2) ds root 0 = some o ∧ ∀ c ∈ o, c ∈ cells)) ∨
  (∃ ds, hasBestStartingDepth r = true ∧ bestStartingDepth r = some ds ∧ depth ≤ ds ∧ ds ≤ 29 ∧
    (∀ c ∈ cells, c.full = false ∧ c.depth = depth ∧
      ∃ en, keep ds (valR ds lon lat r) en = some true ∧ c.hash = en.2 >>> ((ds - depth) <<< 1)) ∧
    (∀ ds' root, IsStartCell cfg lon lat r ds' root → ds' = ds ∧
      ∃ (en : MW × ℕ) (k : Bool), en.2 = root ∧ keep ds (valR ds lon lat r) en = some k ∧
        (k = true → ({ depth := depth, hash := root / 4 ^ (ds - depth), full := false } : Cell) ∈ cells)))

section
variable {cfg : Cfg} {depth : ℕ} {lon lat r : ℝ} {κ : List ℝ → Nat → Nat → Nat → Option Verdict}
  {keep : Nat → ℝ → MW × Nat → Option Bool} {cells : List Cell}

theorem Internal.split (h : Internal cfg depth lon lat r κ keep cells) : Split cfg depth lon lat r κ keep cells := by
  have start : ∀ {ds h0 nm}, hasBestStartingDepth r = true → bestStartingDepth r = some ds →
      Hash.hashV2 cfg ds lon lat = some h0 → Topo.neighbours cfg ds h0 true = some nm →
      ∀ ds' root, IsStartCell cfg lon lat r ds' root → ds' = ds ∧ root ∈ nm.map (·.2) := by
    intro ds h0 nm hnb hds hh0 hnm ds' root hst
    rcases hst with ⟨hb, _⟩ | ⟨_, hds', h0', nm', hh0', hnm', hroot⟩
    · rw [hnb] at hb; cases hb
    · obtain rfl : ds = ds' := Option.some.inj (hds.symm.trans hds')
      obtain rfl : h0 = h0' := Option.some.inj (hh0.symm.trans hh0')
      obtain rfl : nm = nm' := Option.some.inj (hnm.symm.trans hnm')
      exact ⟨rfl, hroot⟩
  have descents : ∀ {roots : List ℕ} {ds : ℕ} {dists : List ℝ},
      roots.foldlM (fun acc h => (coverRec depth (κ dists) (depth + 2) ds h 0).map (acc ++ ·)) [] = some cells →
      (∀ c ∈ cells, ∃ root o, coverRec depth (κ dists) (depth + 2) ds root 0 = some o ∧ c ∈ o) ∧
      ∀ root ∈ roots, ∃ o, coverRec depth (κ dists) (depth + 2) ds root 0 = some o ∧ ∀ c ∈ o, c ∈ cells := by
    intro roots ds dists hfold
    obtain ⟨_, g2, g3⟩ := foldlM_append_spec _ _ _ _ hfold
    refine ⟨fun c hc => ?_, g2⟩
    rcases g3 c hc with h1 | ⟨root, _, o, ho, hco⟩
    · simp at h1
    · exact ⟨root, o, ho, hco⟩
  cases h with
  | @base dists _ hnb hdists hfold =>
    obtain ⟨g1, g2⟩ := descents hfold
    refine Or.inl ⟨0, dists, Nat.zero_le _, fun hb => absurd (hnb.symm.trans hb) (by simp),
      largestC2VsWithRadius_release _ _ _ _ _ _ _ hdists, g1, fun ds' root hst => ?_⟩
    rcases hst with ⟨_, h0, hlt⟩ | ⟨hb, _⟩
    · exact ⟨h0, g2 root (List.mem_range.mpr hlt)⟩
    · rw [hnb] at hb; cases hb
  | @deep ds h0 nm dists _ hnb hds hlt hh0 hnm hdists hfold =>
    obtain ⟨g1, g2⟩ := descents hfold
    refine Or.inl ⟨ds, dists, hlt.le, fun _ => ⟨hds, hlt⟩, largestC2VsWithRadius_release _ _ _ _ _ _ _ hdists, g1,
      fun ds' root hst => ?_⟩
    obtain ⟨e, hroot⟩ := start hnb hds hh0 hnm ds' root hst
    exact ⟨e, g2 root ((Hpx.Bmoc.mem_sortNat _ _).mpr hroot)⟩
  | @small ds h0 nm dist l hnb hds hge hh0 hnm hdist hl =>
    have hd29 := bestDepth_le r ds hds
    obtain rfl : dist = valR ds lon lat r :=
      Option.some.inj ((largestC2VWithRadius_release _ _ _ _ _ _ hdist).symm.trans (valR_spec ds hd29 lon lat r))
    refine Or.inr ⟨ds, hnb, hds, hge, hd29, fun c hc => ?_, fun ds' root hst => ?_⟩
    · obtain ⟨v, hv, rfl⟩ := List.mem_map.mp hc
      rw [Hpx.Bmoc.mem_dedup_sort] at hv
      rcases (filter_fold_spec _ _ _ _ _ hl).2.2 v hv with h1 | ⟨e, _, rfl, hk⟩
      · simp at h1
      · exact ⟨rfl, rfl, e, hk, rfl⟩
    · obtain ⟨e, hroot⟩ := start hnb hds hh0 hnm ds' root hst
      obtain ⟨en, hen, rfl⟩ := List.mem_map.mp hroot
      obtain ⟨k, hk, hkl⟩ := (filter_fold_spec _ _ _ _ _ hl).2.1 en hen
      refine ⟨e, en, k, rfl, hk, fun hkt => ?_⟩
      have := hkl hkt
      rw [shr_eq_div] at this
      exact List.mem_map.mpr ⟨_, (Hpx.Bmoc.mem_dedup_sort _ _).mpr this, rfl⟩

/-- `Near d ctr`: "the centre `ctr` of a cell of depth `d` is near the region" -/
theorem Split.tight (hs : Split cfg depth lon lat r κ keep cells) (Near : ℕ → ℝ × ℝ → Prop)
    (hrec : ∀ ds dists root o, ds ≤ depth → largestC2VsWithRadius false ds (depth + 1) lon lat r = some dists →
      coverRec depth (κ dists) (depth + 2) ds root 0 = some o → ∀ c ∈ o,
      ∃ ctr, center (α := ℝ) cfg c.depth c.hash = some ctr ∧ Near c.depth ctr)
    (hkeep : ∀ ds e, ds ≤ 29 → keep ds (valR ds lon lat r) e = some true →
      ∃ ctr, center (α := ℝ) cfg ds e.2 = some ctr ∧ Near ds ctr)
    (c : Cell) (hc : c ∈ cells) :
    (∃ ctr, center (α := ℝ) cfg c.depth c.hash = some ctr ∧ Near c.depth ctr) ∨
    (∃ ds e ctr, C2V.bestStartingDepth r = some ds ∧ depth < ds ∧ c.depth = depth ∧ c.full = false ∧
      c.hash = e >>> ((ds - depth) <<< 1) ∧ center (α := ℝ) cfg ds e = some ctr ∧ Near ds ctr) := by
  rcases hs with ⟨ds, dists, hds, _, hdists, hmem, _⟩ | ⟨ds, _, hbest, hge, hd29, hall, _⟩
  · obtain ⟨root, o, ho, hco⟩ := hmem c hc
    exact Or.inl (hrec ds dists root o hds hdists ho c hco)
  · obtain ⟨hf, hdep, en, hk, hh⟩ := hall c hc
    obtain ⟨ctr, hctr, hn⟩ := hkeep ds en hd29 hk
    rcases Nat.lt_or_ge depth ds with hlt | hle
    · exact Or.inr ⟨ds, en.2, ctr, hbest, hlt, hdep, hf, hh, hctr, hn⟩
    · obtain rfl : ds = depth := Nat.le_antisymm hle hge
      refine Or.inl ⟨ctr, ?_, hdep ▸ hn⟩
      rw [hdep, hh, Nat.sub_self, Nat.zero_shiftLeft, Nat.shiftRight_zero]
      exact hctr
end

/-- what the BMOC layer needs to know of the list `cells` (depth `D`) of a coverage of the region `R`: it is a good list, and
    every position of `R` in a strictly equatorial start cell is kept — by a cell of the list when the start depth is at most
    `D`, by the ancestor at `D` of the start cell otherwise -/
structure Covered (cfg : Cfg) (lon lat r : ℝ) (R : ℝ × ℝ → Prop) (P : ℝ × ℝ → Prop) (V : ℕ → Prop) (D : ℕ)
    (cells : List Cell) : Prop where
  wf : WF D cells
  range : ∀ c ∈ cells, InRange c
  good : ∀ c ∈ cells, GoodCellG P V D D c
  deep : ∀ ds root, IsStartCell cfg lon lat r ds root → ds ≤ D → ∀ q, InCellEq ds root q → R q →
    ∃ c ∈ cells, InCellEq c.depth c.hash q
  small : ∀ ds root, IsStartCell cfg lon lat r ds root → D ≤ ds → ∀ q, InCellEq ds root q → R q →
    ({ depth := D, hash := root / 4 ^ (ds - D), full := false } : Cell) ∈ cells

section
variable {cfg : Cfg} {depth : ℕ} {lon lat r : ℝ} {κ : List ℝ → Nat → Nat → Nat → Option Verdict}
  {keep : Nat → ℝ → MW × Nat → Option Bool} {Skip Full : ℝ × ℝ → ℝ → Prop} {cells : List Cell}

theorem Split.good (hs : Split cfg depth lon lat r κ keep cells) (hd : depth ≤ 29) (hA : |lat| + r < tl)
    (hwf : WF depth cells ∧ ∀ c ∈ cells, InRange c) (hκ : ∀ dists, BallTests cfg (κ dists) dists Skip Full)
    (P : ℝ × ℝ → Prop) (hP : ∀ q, P q → adist (lon, lat) q ≤ r)
    (hfull : ∀ c D q, 0 ≤ D → Full c D → adist c q ≤ D → P q) (V : ℕ → Prop)
    (hflag : ∀ dists h l, κ dists depth h l = some (.descend true) → h < 12 * 4 ^ depth → |pcy depth h| ≠ 1 ∧ V h) :
    ∀ c ∈ cells, GoodCellG P V depth depth c := by
  intro c hc
  rcases hs with ⟨ds, dists, hds, _, hdists, hmem, _⟩ | ⟨ds, _, _, _, _, hall, _⟩
  · obtain ⟨root, o, ho, hco⟩ := hmem c hc
    have hD0 := dists_nonneg ds depth hd lon lat r hA dists hdists
    refine ⟨fun hf => ?_, fun hf => (coverRec_partial_depth depth _ _ ds root 0 o ho c hco).resolve_left (by simp [hf])⟩
    rcases (hκ dists).full_equatorial lon lat r hA ds depth hds hd hdists P hP
      (fun c D q hDm => hfull c D q (hD0 D hDm)) _ root o ho c hco hf with ⟨⟨ctr, hctr, hPc⟩, hall⟩ | ⟨hdt, hk⟩
    · refine ⟨fun hedge => ?_, fun q hq => Or.inl (hall q hq)⟩
      -- the centre of the cell is in the cone; it would not be if the cell were centred on the transition latitude
      have := band_edge_not_in_cone cfg lon lat r hA c.depth c.hash (by have := hwf.1.depth_le c hc; omega) (hwf.2 c hc)
        hedge ctr hctr
      exact absurd (hP ctr hPc) (not_le.mpr this)
    · obtain ⟨h1, h2⟩ := hflag dists c.hash _ (hdt ▸ hk) (hdt ▸ hwf.2 c hc)
      exact ⟨hdt ▸ h1, fun q hq => Or.inr ⟨c.hash, by rw [hdt]; simp, hdt ▸ hq, h2⟩⟩
  · obtain ⟨h1, h2, _⟩ := hall c hc
    exact ⟨fun hf => (by rw [h1] at hf; cases hf), fun _ => h2⟩

theorem Split.covered (hs : Split cfg depth lon lat r κ keep cells) (hd : depth ≤ 29) (hr : 0 ≤ r) (hA : |lat| + r < tl)
    (hwf : WF depth cells ∧ ∀ c ∈ cells, InRange c) (hκ : ∀ dists, BallTests cfg (κ dists) dists Skip Full)
    (hkeep : ∀ ds e k, keep ds (valR ds lon lat r) e = some k →
      ∃ ctr, Hash.center (α := ℝ) cfg ds e.2 = some ctr ∧ (¬ Skip ctr (valR ds lon lat r) → k = true))
    (R : ℝ × ℝ → Prop) (hR : ∀ q, R q → adist (lon, lat) q ≤ r)
    (hskip : ∀ c D q, 0 ≤ D → D ≤ 86 / 100 → Skip c D → adist c q ≤ D → ¬ R q)
    {P : ℝ × ℝ → Prop} {V : ℕ → Prop} (hgood : ∀ c ∈ cells, GoodCellG P V depth depth c) :
    Covered cfg lon lat r R P V depth cells := by
  have pass : ∀ ds (en : MW × ℕ) k q, ds ≤ 29 → keep ds (valR ds lon lat r) en = some k → InCellEq ds en.2 q → R q →
      k = true := by
    intro ds en k q hd29 hk hq hRq
    obtain ⟨ctr, hctr, hp⟩ := hkeep ds en k hk
    exact hp fun hsk => hskip ctr _ q (valR_nonneg ds lon lat r hA) (valR_le ds lon lat r hr hA) hsk
      (H1_equatorial_meet_scalar cfg lon lat r hA ds hd29 en.2 ctr q q hctr hq hq (hR q hRq)) hRq
  refine ⟨hwf.1, hwf.2, hgood, fun ds root hst hds q hq hRq => ?_, fun ds root hst hds q hq hRq => ?_⟩
  · rcases hs with ⟨ds0, dists, hds0, _, hdists, _, hroots⟩ | ⟨ds0, _, _, hge, hd29, _, hroots⟩
    · obtain ⟨rfl, o, ho, hsub⟩ := hroots ds root hst
      obtain ⟨c, hc, hcq⟩ := (hκ dists).no_miss_equatorial lon lat r hA ds depth hds0 hd hdists R hR
        (fun c D q hDm => by
          obtain ⟨k1, k2⟩ := dists_bounds ds depth hds0 hd lon lat r hr hA dists hdists D hDm
          exact hskip c D q k1 k2) _ root o ho q hq hRq
      exact ⟨c, hsub c hc, hcq⟩
    · obtain ⟨rfl, en, k, rfl, hk, hin⟩ := hroots ds root hst
      obtain rfl : ds = depth := by omega
      refine ⟨_, hin (pass ds en k q hd29 hk hq hRq), ?_⟩
      simpa only [Nat.sub_self, Nat.pow_zero, Nat.div_one] using hq
  · rcases hs with ⟨ds0, dists, hds0, hb, _, _, hroots⟩ | ⟨ds0, _, _, hge, hd29, _, hroots⟩
    · obtain ⟨rfl, _⟩ := hroots ds root hst
      have := (hb (band_has_start_depth lat r hA).1).2
      omega
    · obtain ⟨rfl, en, k, rfl, hk, hin⟩ := hroots ds root hst
      exact hin (pass ds en k q hd29 hk hq hRq)
end

/-! ### what the contract gives on the BMOC built from the list -/

section
variable {cfg : Cfg} {lon lat r : ℝ} {R P : ℝ × ℝ → Prop} {V : ℕ → Prop} {D : ℕ} {cells : List Cell}

theorem Covered.number (h : Covered cfg lon lat r R P V D cells) (hD : D ≤ 29) (ds root : ℕ)
    (hst : IsStartCell cfg lon lat r ds root) (q : ℝ × ℝ) (hq : InCellEq ds root q) (hRq : R q) :
    ∃ c ∈ cells, ∃ x, x / 4 ^ (D - c.depth) = c.hash ∧ InCellPlane D x q ∧ (ds ≤ D → InCellEq D x q) := by
  rcases Nat.lt_or_ge D ds with hlt | hge
  · refine ⟨_, h.small ds root hst hlt.le q hq hRq, root / 4 ^ (ds - D), by simp, ?_, fun h' => by omega⟩
    exact inCellPlane_ancestor ds D root _ (by omega) rfl q (inCellEq_plane ds root q hq)
  · obtain ⟨c, hc, hcq⟩ := h.deep ds root hst hge q hq hRq
    obtain ⟨x, hx, hxq⟩ := inCellEq_descendant D c.depth c.hash q (h.wf.depth_le c hc) hD hcq
    exact ⟨c, hc, x, hx, inCellEq_plane D x q hxq, fun _ => hxq⟩

theorem Covered.packed_no_miss (h : Covered cfg lon lat r R P V D cells) (hD : D ≤ 29) (ds root : ℕ)
    (hst : IsStartCell cfg lon lat r ds root) (hds : ds ≤ D) (q : ℝ × ℝ) (hq : InCellEq ds root q) (hRq : R q) :
    ∃ e ∈ pack D (cells.map (encode D)), InCellEq (decode e D).depth (decode e D).hash q := by
  obtain ⟨c, hc, x, hx, _, hxq⟩ := h.number hD ds root hst q hq hRq
  obtain ⟨e, he, k1, k2, _⟩ := packed_covers D hD cells h.wf h.range c hc x hx
  exact ⟨e, he, goodCellG_contains P V D _ (packedG_good P V D hD cells h.wf h.range h.good e he) k1 x k2 q (hxq hds)⟩

theorem Covered.packed_small (h : Covered cfg lon lat r R P V D cells) (hD : D ≤ 29) (ds root : ℕ)
    (hst : IsStartCell cfg lon lat r ds root) (hds : D < ds) (q : ℝ × ℝ) (hq : InCellEq ds root q) (hRq : R q) :
    ∃ e ∈ pack D (cells.map (encode D)), (decode e D).depth = D ∧ (decode e D).hash = root >>> ((ds - D) <<< 1) ∧
      (decode e D).full = false ∧ InCellPlane D (root >>> ((ds - D) <<< 1)) q ∧
      (|pcy D (root >>> ((ds - D) <<< 1))| < 1 → InCellEq D (root >>> ((ds - D) <<< 1)) q) := by
  obtain ⟨e, he, k1, k2, k3⟩ := packed_partial_kept P V D hD cells h.wf h.range h.good _
    (h.small ds root hst hds.le q hq hRq)
  have hpl := inCellPlane_ancestor ds D root _ (by omega) rfl q (inCellEq_plane ds root q hq)
  rw [shr_eq_div]
  exact ⟨e, he, k1, k2, k3, hpl, fun hband => inCellPlane_eq _ _ q hpl hband⟩

theorem Covered.packed_plane (h : Covered cfg lon lat r R P V D cells) (hD : D ≤ 29) (ds root : ℕ)
    (hst : IsStartCell cfg lon lat r ds root) (q : ℝ × ℝ) (hq : InCellEq ds root q) (hRq : R q) :
    ∃ e ∈ pack D (cells.map (encode D)), InCellPlane (decode e D).depth (decode e D).hash q := by
  obtain ⟨c, hc, x, hx, hpl, _⟩ := h.number hD ds root hst q hq hRq
  obtain ⟨e, he, k1, k2, _⟩ := packed_covers D hD cells h.wf h.range c hc x hx
  exact ⟨e, he, inCellPlane_ancestor D _ x _ k1 k2 q hpl⟩

theorem Covered.packed_state (h : Covered cfg lon lat r R P V D cells) (hD : D ≤ 29) (ds root : ℕ)
    (hst : IsStartCell cfg lon lat r ds root) (q : ℝ × ℝ) (hq : InCellEq ds root q) (hRq : R q) :
    ∃ x, InCellPlane D x q ∧ (ds ≤ D → InCellEq D x q) ∧ stOf D (cellsOf D (pack D (cells.map (encode D)))) x ≠ .abs := by
  obtain ⟨c, hc, x, hx, hpl, heq⟩ := h.number hD ds root hst q hq hRq
  exact ⟨x, hpl, heq, ConeBmoc.packed_state D hD cells h.wf h.range c hc x hx⟩

theorem Covered.lowered_no_miss (h : Covered cfg lon lat r R P V D cells) (hD : D ≤ 29) (depth : ℕ) (hlt : depth < D)
    (ds root : ℕ) (hst : IsStartCell cfg lon lat r ds root) (q : ℝ × ℝ) (hq : InCellEq ds root q) (hRq : R q) :
    ∃ e ∈ toLowerLoop D depth (pack D (cells.map (encode D))) none,
      InCellPlane (decode e depth).depth (decode e depth).hash q ∧
      (|pcy (decode e depth).depth (decode e depth).hash| < 1 →
        InCellEq (decode e depth).depth (decode e depth).hash q) ∧
      (ds ≤ D → (decode e depth).full = true → InCellEq (decode e depth).depth (decode e depth).hash q) ∧
      ∃ x, InCellPlane D x q ∧ (ds ≤ D → InCellEq D x q) ∧
        x / 4 ^ (D - (decode e depth).depth) = (decode e depth).hash := by
  obtain ⟨c, hc, x, hx, hpl, heq⟩ := h.number hD ds root hst q hq hRq
  obtain ⟨e, he, hcd, hcov⟩ := lowered_covers D depth hD hlt cells h.wf h.range c hc x hx
  have hpl' := inCellPlane_ancestor D _ x _ (by omega) hcov q hpl
  refine ⟨e, he, hpl', fun hband => inCellPlane_eq _ _ q hpl' hband, fun hds hf => ?_, x, hpl, heq, hcov⟩
  exact inCellEq_ancestor D _ x _ (by omega) hcov q (heq hds)
    ((lowered_good P V D depth hD hlt cells h.wf h.range h.good e he).1 hf).1
end

end Hpx.Cover

#print axioms Hpx.Cover.Internal.split
#print axioms Hpx.Cover.Split.covered
