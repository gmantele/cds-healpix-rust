/-
Real-valued meaning of the elliptical-cone tests of `elliptical_cone_coverage` (C13), on the sphere:
the orthographic (`SIN`) projection, `forced_proj_and_distance`; `contains` is "visible and projected into the ellipse"
(`econe_contains_real`), so `contains` and `contains_cone` lie between the discs of radii `b` and `a`
(`econe_contains_between`, `econe_containsCone_between`), exact in the circular case; `overlap_cone` over ℝ
(`overlapCone_real`): it never rejects a cone that meets the inscribed circular cone of radius `b`
(`overlap_cone_inner_sound`, by `extended_contains_of_inner`), and the test `contains ∨ overlap_cone` of the descent keeps
such a cone in the special case of the code too (`inner_cone_kept`); the circular case `a = b` and the cones that contain
the centre are instances.
All statements are about the model functions of `Model/SphGeom.lean` instantiated at `α := ℝ`.
-/
import HpxVerif.Lemmas.EllipseReal
import HpxVerif.Lemmas.ConeReal
import Mathlib.Analysis.Real.Pi.Bounds
import Mathlib.Analysis.SpecialFunctions.Trigonometric.Bounds

namespace Hpx.Sph
open Hpx Hpx.Cover Real

/-- the literal `f64::INFINITY` of `is_finite` evaluates to `2^1024` at `ℝ` -/
theorem lit_inf : (Num.lit (α := ℝ) 0x7FF0000000000000) = 2 ^ 1024 := by
  show ((F64.toRat 0x7FF0000000000000 : ℚ) : ℝ) = 2 ^ 1024
  rw [toRat_of_fields _ 2047 0 (by decide) (by decide) (by decide) (by decide)]
  norm_num
  rw [show (4503599627370496 : ℝ) = 2 ^ 52 by norm_num, ← pow_add]

theorem isFinite_real (x : ℝ) : isFinite x = decide (|x| < 2 ^ 1024) := by
  unfold isFinite
  rw [lit_inf]
  show (!false && decide (|x| < 2 ^ 1024)) = _
  simp

def ProjSIN.Coherent (p : ProjSIN ℝ) : Prop :=
  p.cosCenterLat = cos p.centerLat ∧ p.sinCenterLat = sin p.centerLat

def ProjSIN.c0 (p : ProjSIN ℝ) : ℝ × ℝ := (p.centerLon, p.centerLat)

theorem ProjSIN.new_coherent (lon lat : ℝ) : (ProjSIN.new lon lat).Coherent := by
  unfold ProjSIN.new
  split
  exact ⟨rfl, rfl⟩

theorem ProjSIN.new_c0 (lon lat : ℝ) (hlon : 0 ≤ lon ∧ lon < 2 * π) (hlat : -(π / 2) ≤ lat ∧ lat ≤ π / 2) :
    (ProjSIN.new lon lat).c0 = (lon, lat) := by
  unfold ProjSIN.new ProjSIN.c0
  have h1 : Num.lt lon (Num.zero : ℝ) = false := by rw [Proj.r_lt, Proj.r_zero]; simpa using hlon.1
  have h2 : Num.le (Num.twicePi : ℝ) lon = false := by rw [Proj.r_le, r_twicePi]; simpa using hlon.2
  have h3 : Num.lt lat (-(Num.halfPi : ℝ)) = false := by rw [Proj.r_lt, Proj.r_hpi]; simpa using hlat.1
  have h4 : Num.lt (Num.halfPi : ℝ) lat = false := by rw [Proj.r_lt, Proj.r_hpi]; simpa using hlat.2
  simp only [h1, h2, h3, h4, Bool.or_self, Bool.false_eq_true, if_false]

theorem ProjSIN.new_c0_zero : (ProjSIN.new (α := ℝ) 0 0).c0 = (0, 0) :=
  ProjSIN.new_c0 0 0 ⟨le_refl _, by positivity⟩ ⟨by linarith [pi_pos], by linarith [pi_pos]⟩

/-- orthographic projection of `q` on the plane tangent at `c`: abscissa (towards the east) -/
noncomputable def sinX (c q : ℝ × ℝ) : ℝ := cos q.2 * sin (q.1 - c.1)
/-- orthographic projection of `q` on the plane tangent at `c`: ordinate (towards the north) -/
noncomputable def sinY (c q : ℝ × ℝ) : ℝ := cos c.2 * sin q.2 - sin c.2 * cos q.2 * cos (q.1 - c.1)

theorem cos_adist' (c q : ℝ × ℝ) :
    cos (adist q c) = sin c.2 * sin q.2 + cos c.2 * cos q.2 * cos (q.1 - c.1) := by
  rw [cos_adist]; ring

theorem sin_adist_nonneg (p q : ℝ × ℝ) : 0 ≤ sin (adist p q) :=
  sin_nonneg_of_nonneg_of_le_pi (adist_nonneg _ _) (adist_le_pi _ _)

theorem sinXY_norm (c q : ℝ × ℝ) : sinX c q ^ 2 + sinY c q ^ 2 = sin (adist q c) ^ 2 := by
  rw [sin_sq, cos_adist']
  unfold sinX sinY
  linear_combination (sin q.2 ^ 2 + cos q.2 ^ 2 * cos (q.1 - c.1) ^ 2) * sin_sq_add_cos_sq c.2 + sin_sq_add_cos_sq q.2 +
    cos q.2 ^ 2 * sin_sq_add_cos_sq (q.1 - c.1)

theorem sqrt_sinXY (c q : ℝ × ℝ) : Real.sqrt (sinX c q * sinX c q + sinY c q * sinY c q) = sin (adist q c) := by
  rw [show sinX c q * sinX c q + sinY c q * sinY c q = sin (adist q c) ^ 2 by rw [← sinXY_norm]; ring]
  exact Real.sqrt_sq (sin_adist_nonneg _ _)

/-- **`ProjSIN::proj` is the orthographic projection**, defined exactly on the open visible hemisphere
    (`cos(angular distance) > 0`, the great circle at `π/2` excluded) -/
theorem proj_sin_spec (p : ProjSIN ℝ) (hp : p.Coherent) (l φ : ℝ) :
    p.proj l φ = if 0 < cos (adist (l, φ) p.c0) then some (sinX p.c0 (l, φ), sinY p.c0 (l, φ)) else none := by
  unfold ProjSIN.proj
  simp only [num_sin, num_cos, hp.1, hp.2, r_gt, Proj.r_zero, cos_adist', ProjSIN.c0, sinX, sinY, decide_eq_true_eq]

theorem cos_adist_pos_iff (p q : ℝ × ℝ) : 0 < cos (adist p q) ↔ adist p q < π / 2 := by
  constructor
  · intro hc
    by_contra hge
    exact absurd hc (not_lt.mpr (cos_nonpos_of_pi_div_two_le_of_le (not_lt.mp hge) (by linarith [adist_le_pi p q])))
  · intro h
    exact cos_pos_of_mem_Ioo ⟨by linarith [adist_nonneg p q, pi_pos], h⟩

theorem proj_isSome_iff (p : ProjSIN ℝ) (hp : p.Coherent) (l φ : ℝ) :
    (p.proj l φ).isSome = true ↔ adist (l, φ) p.c0 < π / 2 := by
  rw [proj_sin_spec p hp, ← cos_adist_pos_iff]
  split <;> simp [*]

theorem proj_norm (p : ProjSIN ℝ) (hp : p.Coherent) (l φ x y : ℝ) (h : p.proj l φ = some (x, y)) :
    x ^ 2 + y ^ 2 = sin (adist (l, φ) p.c0) ^ 2 ∧ adist (l, φ) p.c0 < π / 2 := by
  refine ⟨?_, (proj_isSome_iff p hp l φ).mp (by rw [h]; rfl)⟩
  rw [proj_sin_spec p hp] at h
  split at h
  · cases h; exact sinXY_norm _ _
  · simp at h

theorem arg_cos_sin (d : ℝ) (h0 : 0 ≤ d) (hpi : d ≤ π) : Complex.arg ⟨cos d, sin d⟩ = d := by
  have := Complex.arg_cos_add_sin_mul_I (θ := d) ⟨by linarith [pi_pos], hpi⟩
  calc Complex.arg ⟨cos d, sin d⟩ = Complex.arg (Complex.cos d + Complex.sin d * Complex.I) := by
        congr 1
        apply Complex.ext <;> simp [Complex.cos_ofReal_re, Complex.sin_ofReal_re]
    _ = d := this

/-- **`forced_proj_and_distance`** (with the `atan2(sin d, cos d)` of finding F18): for *every* point of the sphere, the same
    `(x, y)` as the orthographic projection (mirror image for the points of the far hemisphere) together with the
    exact angular distance to the centre, in `[0, π]` -/
theorem forcedProjAndDistance_spec (p : ProjSIN ℝ) (hp : p.Coherent) (l φ : ℝ) :
    p.forcedProjAndDistance l φ = ((sinX p.c0 (l, φ), sinY p.c0 (l, φ)), adist (l, φ) p.c0) := by
  unfold ProjSIN.forcedProjAndDistance
  simp only [num_sin, num_cos, hp.1, hp.2, num_atan2, num_sqrt]
  have hs := sqrt_sinXY p.c0 (l, φ)
  have hc := cos_adist' p.c0 (l, φ)
  unfold sinX sinY ProjSIN.c0 at hs
  unfold ProjSIN.c0 at hc
  simp only at hs hc
  rw [hs, ← hc, arg_cos_sin _ (adist_nonneg _ _) (adist_le_pi _ _)]
  rfl

theorem sin_sq_le_iff (d t : ℝ) (hd : 0 ≤ d ∧ d ≤ π / 2) (ht : 0 ≤ t ∧ t ≤ π / 2) :
    sin d ^ 2 ≤ sin t ^ 2 ↔ d ≤ t := by
  have h1 : 0 ≤ sin d := sin_nonneg_of_nonneg_of_le_pi hd.1 (by linarith [pi_pos])
  have h2 : 0 ≤ sin t := sin_nonneg_of_nonneg_of_le_pi ht.1 (by linarith [pi_pos])
  rw [sq_le_sq₀ h1 h2]
  exact strictMonoOn_sin.le_iff_le ⟨by linarith [pi_pos], hd.2⟩ ⟨by linarith [pi_pos], ht.2⟩

theorem theta_unit (pa : ℝ) : sin ((Num.halfPi : ℝ) - pa) * sin ((Num.halfPi : ℝ) - pa) +
    cos ((Num.halfPi : ℝ) - pa) * cos ((Num.halfPi : ℝ) - pa) = 1 := by
  have := sin_sq_add_cos_sq ((Num.halfPi : ℝ) - pa); nlinarith [this]

theorem econe_contains_real (e : ECone ℝ) (he : e.center.Coherent) (l φ : ℝ) :
    e.contains l φ = true ↔ adist (l, φ) e.center.c0 < π / 2 ∧
      e.ellipse.contains (sinX e.center.c0 (l, φ)) (sinY e.center.c0 (l, φ)) = true := by
  unfold ECone.contains
  rw [proj_sin_spec _ he, ← cos_adist_pos_iff]
  split_ifs with h <;> simp [h]

/-- **`EllipticalCone::contains`, `0 < b ≤ a < π/2`, any centre and position angle**: the positions within `b` of the
    centre are inside, the positions inside are within `a` of the centre (the norm of the projection is the sine of the
    angular distance, and the ellipse of semi-axes `sin b ≤ sin a` lies between two discs) -/
theorem econe_contains_between (lon lat a b pa l φ : ℝ) (hb : 0 < b) (hba : b ≤ a) (ha : a < π / 2) :
    (adist (l, φ) (ProjSIN.new lon lat).c0 ≤ b → (ECone.new (α := ℝ) lon lat a b pa).contains l φ = true) ∧
    ((ECone.new (α := ℝ) lon lat a b pa).contains l φ = true → adist (l, φ) (ProjSIN.new lon lat).c0 ≤ a) := by
  have h0 := adist_nonneg (l, φ) (ProjSIN.new lon lat).c0
  obtain ⟨k1, k2⟩ := fromOriented_between (sin a) (sin b) _ _ (sinX (ProjSIN.new lon lat).c0 (l, φ))
    (sinY (ProjSIN.new lon lat).c0 (l, φ)) (sin_pos_of_pos_of_lt_pi hb (by linarith [pi_pos]))
    (sin_le_sin_of_le_of_le_pi_div_two (by linarith) ha.le hba) (theta_unit pa)
  rw [sinXY_norm] at k1 k2
  rw [econe_contains_real _ (ProjSIN.new_coherent lon lat)]
  simp only [ECone.new, num_sin, num_cos]
  constructor
  · intro h
    exact ⟨by linarith, k1 ((sin_sq_le_iff _ _ ⟨h0, by linarith⟩ ⟨hb.le, by linarith⟩).mpr h)⟩
  · rintro ⟨hd, h⟩
    exact (sin_sq_le_iff _ _ ⟨h0, hd.le⟩ ⟨by linarith, ha.le⟩).mp (k2 h)

theorem containsCone_eq_contains (lon lat a b pa l φ r : ℝ) :
    (ECone.new (α := ℝ) lon lat a b pa).containsCone l φ r =
      (decide (r < b) && (ECone.new (α := ℝ) lon lat (a - r) (b - r) pa).contains l φ) := by
  unfold ECone.containsCone ECone.contains ECone.new
  simp only [r_ge]
  by_cases hrb : b ≤ r
  · simp [hrb, not_lt.mpr hrb]
  · simp [hrb, not_le.mp hrb]

/-- **`contains_cone`, `0 < b ≤ a < π/2`, radius `0 ≤ r`**: it answers `true` when the cone of radius `r < b` around
    `(l, φ)` lies within `b` of the centre, and only when `r < b` and that cone lies within `a` of the centre -/
theorem econe_containsCone_between (lon lat a b pa l φ r : ℝ) (hba : b ≤ a) (ha : a < π / 2) (hr : 0 ≤ r) :
    (r < b ∧ adist (l, φ) (ProjSIN.new lon lat).c0 + r ≤ b →
      (ECone.new (α := ℝ) lon lat a b pa).containsCone l φ r = true) ∧
    ((ECone.new (α := ℝ) lon lat a b pa).containsCone l φ r = true →
      r < b ∧ adist (l, φ) (ProjSIN.new lon lat).c0 + r ≤ a) := by
  rw [containsCone_eq_contains, Bool.and_eq_true, decide_eq_true_eq]
  have k := fun hrb : r < b =>
    econe_contains_between lon lat (a - r) (b - r) pa l φ (by linarith) (by linarith) (by linarith)
  exact ⟨fun h => ⟨h.1, (k h.1).1 (by linarith [h.2])⟩, fun h => ⟨h.1, by linarith [(k h.1).2 h.2]⟩⟩

theorem econe_contains_circular' (lon lat a pa l φ : ℝ) (ha : 0 < a ∧ a < π / 2) :
    (ECone.new (α := ℝ) lon lat a a pa).contains l φ = true ↔ adist (l, φ) (ProjSIN.new lon lat).c0 ≤ a :=
  ⟨(econe_contains_between lon lat a a pa l φ ha.1 le_rfl ha.2).2, (econe_contains_between lon lat a a pa l φ ha.1 le_rfl ha.2).1⟩

/-- **circular case, `contains_cone`**: for `a = b < π/2` and a radius `r ≥ 0`, the test answers `true` exactly when
    the whole cone of radius `r` around `(l, φ)` lies within `a` of the centre, with `r < a`.  (Sound *and* complete in
    the circular case.) -/
theorem contains_cone_circular (lon lat a pa l φ r : ℝ) (ha : 0 < a ∧ a < π / 2) (hr : 0 ≤ r) :
    (ECone.new (α := ℝ) lon lat a a pa).containsCone l φ r = true ↔
      r < a ∧ adist (l, φ) (ProjSIN.new lon lat).c0 + r ≤ a :=
  ⟨(econe_containsCone_between lon lat a a pa l φ r le_rfl ha.2 hr).2,
    (econe_containsCone_between lon lat a a pa l φ r le_rfl ha.2 hr).1⟩

theorem containsCone_ball_inside (lon lat a b pa l φ r : ℝ) (hba : b ≤ a) (ha : a < π / 2) (hr : 0 ≤ r)
    (h : (ECone.new (α := ℝ) lon lat a b pa).containsCone l φ r = true) (q : ℝ × ℝ) (hq : adist (l, φ) q ≤ r) :
    adist q (ProjSIN.new lon lat).c0 ≤ a := by
  have h1 := ((econe_containsCone_between lon lat a b pa l φ r hba ha hr).2 h).2
  have h2 := adist_triangle q (l, φ) (ProjSIN.new lon lat).c0
  rw [adist_comm q (l, φ)] at h2
  linarith

/-- **`contains_cone` is sound in the circular case**: if it answers `true`, every point within `r` of `(l, φ)` is within
    `a` of the centre (so belongs to the cone, `econe_contains_circular'`) -/
theorem contains_cone_circular_sound (lon lat a pa l φ r : ℝ) (ha : 0 < a ∧ a < π / 2) (hr : 0 ≤ r)
    (h : (ECone.new (α := ℝ) lon lat a a pa).containsCone l φ r = true) (q : ℝ × ℝ) (hq : adist (l, φ) q ≤ r) :
    adist q (ProjSIN.new lon lat).c0 ≤ a ∧ (ECone.new (α := ℝ) lon lat a a pa).contains q.1 q.2 = true := by
  have h3 := containsCone_ball_inside lon lat a a pa l φ r le_rfl ha.2 hr h q hq
  exact ⟨h3, (econe_contains_circular' lon lat a pa q.1 q.2 ha).mpr h3⟩

theorem sin_add_sub (d r : ℝ) : sin (d + r) - sin (d - r) = 2 * (cos d * sin r) := by rw [sin_add, sin_sub]; ring
theorem sin_add_add (d r : ℝ) : sin (d + r) + sin (d - r) = 2 * (sin d * cos r) := by rw [sin_add, sin_sub]; ring

/-- **`overlap_cone` unfolded over the reals**: `d` the angular distance between the cone centre `(l, φ)` and the
    centre of the ellipse, `(u, v)` the direction of the projected cone centre, with the trigonometric forms of the radial
    semi-axis `½|sin(d + r) − sin(d − r)| = |cos d·sin r|` and of the distance `½(sin(d + r) + sin(d − r)) = sin d·cos r` of the
    projected cone.  The special case "the cell centre is the ellipse centre" (`1 / norm` not finite) is, at `ℝ`,
    `0 < sin d ≤ 2^-1024` (the inverse overflows `f64`); with exact division `1 / 0 = 0` is finite, whereas in `f64` it is
    `+∞`: see `overlap_cone_special_case` -/
theorem overlapCone_real (e : ECone ℝ) (he : e.center.Coherent) (l φ r d : ℝ) (hr : 0 < r)
    (hd : adist (l, φ) e.center.c0 = d) :
    (e.a + r < d → e.overlapCone l φ r = some false) ∧
    (¬ e.a + r < d → ¬ |1 / sin d| < 2 ^ 1024 → e.overlapCone l φ r = some (decide (r ≤ e.b))) ∧
    (¬ e.a + r < d → |1 / sin d| < 2 ^ 1024 → e.overlapCone l φ r =
      some ((e.ellipse.extendedGeom (Ellipse.fromOriented (sin r) |cos d * sin r|
          (-(sinX e.center.c0 (l, φ) * (1 / sin d))) (sinY e.center.c0 (l, φ) * (1 / sin d)))).contains
        (sin d * cos r * (sinX e.center.c0 (l, φ) * (1 / sin d)))
        (sin d * cos r * (sinY e.center.c0 (l, φ) * (1 / sin d))))) := by
  subst hd
  have hr' : Num.gt r (Num.zero : ℝ) = true := by rw [r_gt, Proj.r_zero]; simpa using hr
  have hB : 1 / 2 * |sin (adist (l, φ) e.center.c0 + r) - sin (adist (l, φ) e.center.c0 - r)|
      = |cos (adist (l, φ) e.center.c0) * sin r| := by
    rw [sin_add_sub, abs_mul, abs_two]; ring
  have hDD : 1 / 2 * (sin (adist (l, φ) e.center.c0 + r) + sin (adist (l, φ) e.center.c0 - r))
      = sin (adist (l, φ) e.center.c0) * cos r := by
    rw [sin_add_add]; ring
  generalize hov : e.overlapCone l φ r = ov
  unfold ECone.overlapCone at hov
  rw [forcedProjAndDistance_spec _ he] at hov
  simp only [hr', Bool.not_true, Bool.false_eq_true, if_false] at hov
  simp only [Proj.r_lt, num_sin, Proj.r_half, num_abs, Proj.r_one, num_sqrt,
    pow2, sqrt_sinXY, isFinite_real, r_ge, Proj.r_zero, Proj.r_le, hB, hDD] at hov
  subst hov
  refine ⟨fun h1 => ?_, fun h1 h2 => ?_, fun h1 h2 => ?_⟩
  · simp only [h1, decide_true, if_true]
  · simp only [h1, h2, decide_false, Bool.false_eq_true, if_false, Bool.not_false, if_true]
  · simp only [h1, h2, decide_false, Bool.false_eq_true, if_false, decide_true, Bool.not_true]
    by_cases h3 : 0 ≤ sinY e.center.c0 (l, φ) * (1 / sin (adist (l, φ) e.center.c0))
    · simp only [h3, decide_true, if_true]
    · simp only [h3, decide_false, Bool.false_eq_true, if_false]
      rw [← fromOriented_neg, neg_neg]

theorem overlapCone_far (e : ECone ℝ) (he : e.center.Coherent) (l φ r : ℝ) (hr : 0 < r)
    (h : e.a + r < adist (l, φ) e.center.c0) : e.overlapCone l φ r = some false :=
  (overlapCone_real e he l φ r _ hr rfl).1 h

theorem inv_finite_iff (n : ℝ) (hn : 0 < n) : |1 / n| < 2 ^ 1024 ↔ 1 / 2 ^ 1024 < n := by
  rw [abs_of_pos (by positivity)]
  exact one_div_lt hn (by positivity)

/-- **`overlap_cone` never rejects a cone that meets the inscribed circular cone** (`0 ≤ b ≤ a ≤ π/2`, any position angle,
    `0 < r ≤ π/2`): if the cone of radius `r` around `(l, φ)` meets the cone of radius `b` around the centre
    (`angular distance ≤ b + r`) the test answers `true` — for every position of the cone centre, far hemisphere included —
    *outside the special case of the code*, i.e. when the norm `sin d` of the projected cone centre exceeds `2^-1024`.
    The near edge of the projected cone is within `sin b` of the projection centre: `sin d cos r − cos d sin r = sin(d − r) ≤ sin b`. -/
theorem overlap_cone_inner_sound (lon lat a b pa l φ r : ℝ) (hb : 0 ≤ b) (hba : b ≤ a) (ha : a ≤ π / 2)
    (hr : 0 < r ∧ r ≤ π / 2) (hfin : 1 / 2 ^ 1024 < sin (adist (l, φ) (ProjSIN.new lon lat).c0))
    (hd : adist (l, φ) (ProjSIN.new lon lat).c0 ≤ b + r) :
    (ECone.new (α := ℝ) lon lat a b pa).overlapCone l φ r = some true := by
  have hn : 0 < sin (adist (l, φ) (ProjSIN.new lon lat).c0) := lt_trans (by positivity) hfin
  have hd0 := adist_nonneg (l, φ) (ProjSIN.new lon lat).c0
  have hsr : 0 ≤ sin r := sin_nonneg_of_nonneg_of_le_pi hr.1.le (by linarith [pi_pos])
  have hcr : 0 ≤ cos r := cos_nonneg_of_mem_Icc ⟨by linarith [pi_pos], hr.2⟩
  have h1 : ¬ a + r < adist (l, φ) (ProjSIN.new lon lat).c0 := not_lt.mpr (by linarith)
  rw [(overlapCone_real (ECone.new lon lat a b pa) (ProjSIN.new_coherent lon lat) l φ r
    (adist (l, φ) (ProjSIN.new lon lat).c0) hr.1 rfl).2.2 h1 ((inv_finite_iff _ hn).mpr hfin)]
  simp only [ECone.new, num_sin, num_cos]
  congr 1
  refine extended_contains_of_inner _ (sin b) _ _ _ _ _ (sin_nonneg_of_nonneg_of_le_pi hb (by linarith [pi_pos]))
    (fromOriented_inner _ _ _ _ (sin_nonneg_of_nonneg_of_le_pi hb (by linarith [pi_pos]))
      (sin_le_sin_of_le_of_le_pi_div_two (by linarith [pi_pos]) ha hba) (theta_unit pa))
    (abs_nonneg _) ?_ ?_ ?_
  · rw [abs_mul, abs_of_nonneg hsr]
    exact mul_le_of_le_one_left hsr (abs_cos_le_one _)
  · have := sinXY_norm (ProjSIN.new lon lat).c0 (l, φ)
    field_simp
    linarith
  · have h1 : sin (adist (l, φ) (ProjSIN.new lon lat).c0 - r) ≤ sin b :=
      sin_le_sin_of_le_of_le_pi_div_two (by linarith) (by linarith) (by linarith)
    rw [sin_sub] at h1
    exact pow_le_pow_left₀ (mul_nonneg hn.le hcr)
      (by linarith [le_abs_self (cos (adist (l, φ) (ProjSIN.new lon lat).c0) * sin r)]) 2

/-- **`overlap_cone` is sound in the circular case** (`a = b < π/2`, `0 < r ≤ π/2`): if the cone of radius `r` around
    `(l, φ)` meets the cone of radius `a` around the centre (`angular distance ≤ a + r`) the test answers `true`, far
    hemisphere included, *outside the special case of the code* (`hfin`: `1 / norm` finite in `f64`).  In the special case
    the code answers `r ≤ b`: see `overlap_cone_special_case`. -/
theorem overlap_cone_circular_sound (lon lat a pa l φ r : ℝ) (ha : 0 < a ∧ a < π / 2) (hr : 0 < r ∧ r ≤ π / 2)
    (hfin : 1 / 2 ^ 1024 < sin (adist (l, φ) (ProjSIN.new lon lat).c0))
    (hd : adist (l, φ) (ProjSIN.new lon lat).c0 ≤ a + r) :
    (ECone.new (α := ℝ) lon lat a a pa).overlapCone l φ r = some true :=
  overlap_cone_inner_sound lon lat a a pa l φ r ha.1.le le_rfl ha.2.le hr hfin hd

/-- **the special case of the code is not sound on its own**: when `0 < sin d ≤ 2^-1024` (in `f64`: whenever the
    projected cone centre has norm `0`, e.g. the cell centre *is* the ellipse centre) `overlap_cone` answers `r ≤ b`
    whatever the geometry -/
theorem overlap_cone_special_case (lon lat a b pa l φ r : ℝ) (hr : 0 < r)
    (hpos : 0 < sin (adist (l, φ) (ProjSIN.new lon lat).c0))
    (hsmall : sin (adist (l, φ) (ProjSIN.new lon lat).c0) ≤ 1 / 2 ^ 1024)
    (hd : adist (l, φ) (ProjSIN.new lon lat).c0 ≤ a + r) :
    (ECone.new (α := ℝ) lon lat a b pa).overlapCone l φ r = some (decide (r ≤ b)) :=
  (overlapCone_real (ECone.new lon lat a b pa) (ProjSIN.new_coherent lon lat) l φ r (adist (l, φ) (ProjSIN.new lon lat).c0) hr rfl).2.1 (not_lt.mpr hd)
    (by rw [inv_finite_iff _ hpos]; exact not_lt.mpr hsmall)

theorem adist_same_lon (l φ : ℝ) (h0 : 0 ≤ φ) (hpi : φ ≤ π) : adist (l, φ) (l, 0) = φ := by
  have h := cos_adist (l, φ) (l, 0)
  simp at h
  exact injOn_cos ⟨adist_nonneg _ _, adist_le_pi _ _⟩ ⟨h0, hpi⟩ h

theorem tiny_lt_milli : (1 : ℝ) / 2 ^ 1024 < 1 / 1000 := by
  have : (2 : ℝ) ^ 10 ≤ 2 ^ 1024 := pow_le_pow_right₀ (by norm_num) (by norm_num)
  calc (1 : ℝ) / 2 ^ 1024 ≤ 1 / 2 ^ 10 := one_div_le_one_div_of_le (by positivity) this
    _ < 1 / 1000 := by norm_num

theorem tiny_lt_sin (x : ℝ) (h0 : 1 / 100 ≤ x) (h1 : x ≤ π / 2) : 1 / 2 ^ 1024 < sin x := by
  have hj := mul_le_sin (x := x) (by linarith) h1
  have h2 : (1 : ℝ) / 2 ≤ 2 / π := by rw [div_le_div_iff₀ (by norm_num) pi_pos]; linarith [pi_lt_four]
  have h3 : (1 : ℝ) / 2 * (1 / 100) ≤ 2 / π * x := mul_le_mul h2 h0 (by norm_num) (by positivity)
  have h4 : (1 : ℝ) / 1000 < sin x := by linarith
  exact lt_trans tiny_lt_milli h4

/-- **the test `contains ∨ overlap_cone` of the descent never rejects a cone that meets the inscribed circular cone**:
    `0 < b ≤ a < π/2` with `2^-1024 < sin b`, `0 < r ≤ π/2`, the cone centre at most at `3` of the centre: if the cone
    `(l, φ), r` meets the cone of radius `b` around the centre, then either `overlap_cone` answers `true` or, in the special
    case of the code (`sin d ≤ 2^-1024 < sin b`, and `d` is not near `π`), `(l, φ)` is within `b` of the centre, so in the
    elliptical cone — the cell is not skipped -/
theorem inner_cone_kept (lon lat a b pa l φ r : ℝ) (hb : 0 < b) (hba : b ≤ a) (ha : a < π / 2)
    (hmin : 1 / 2 ^ 1024 < sin b) (hr : 0 < r ∧ r ≤ π / 2)
    (hd : adist (l, φ) (ProjSIN.new lon lat).c0 ≤ b + r) (hd3 : adist (l, φ) (ProjSIN.new lon lat).c0 ≤ 3) :
    (ECone.new (α := ℝ) lon lat a b pa).contains l φ = true ∨
      (ECone.new (α := ℝ) lon lat a b pa).overlapCone l φ r = some true := by
  by_cases hfin : 1 / 2 ^ 1024 < sin (adist (l, φ) (ProjSIN.new lon lat).c0)
  · exact Or.inr (overlap_cone_inner_sound lon lat a b pa l φ r hb.le hba ha.le hr hfin hd)
  · left
    apply (econe_contains_between lon lat a b pa l φ hb hba ha).1
    have hlt : sin (adist (l, φ) (ProjSIN.new lon lat).c0) < sin b := lt_of_le_of_lt (not_lt.mp hfin) hmin
    by_contra hgt
    by_cases hhalf : adist (l, φ) (ProjSIN.new lon lat).c0 ≤ π / 2
    · have := sin_le_sin_of_le_of_le_pi_div_two (x := b) (y := adist (l, φ) (ProjSIN.new lon lat).c0)
        (by linarith only [hb, pi_pos]) hhalf (not_le.mp hgt).le
      linarith only [this, hlt]
    · have := tiny_lt_sin (π - adist (l, φ) (ProjSIN.new lon lat).c0) (by linarith only [hd3, pi_gt_d2])
        (by linarith only [hhalf])
      rw [sin_pi_sub] at this
      exact hfin this

/-- **the test `contains ∨ overlap_cone` of the descent never rejects a cone that contains the centre of the ellipse**:
    general `0 < b ≤ a < π/2` with `2^-1024 < sin b`, `0 < r ≤ π/2` -/
theorem centre_cone_kept (lon lat a b pa l φ r : ℝ) (hb : 0 < b) (hba : b ≤ a) (ha : a < π / 2)
    (hmin : 1 / 2 ^ 1024 < sin b) (hr : 0 < r ∧ r ≤ π / 2)
    (hd : adist (l, φ) (ProjSIN.new lon lat).c0 ≤ r) :
    (ECone.new (α := ℝ) lon lat a b pa).contains l φ = true ∨
      (ECone.new (α := ℝ) lon lat a b pa).overlapCone l φ r = some true :=
  inner_cone_kept lon lat a b pa l φ r hb hba ha hmin hr (by linarith) (by linarith [pi_lt_four])

/-- a concrete instance of the special case: ellipse centre `(0, 0)`, `a = b = 1/10`; the cone of radius `1/5` around
    `(0, 2^-1024)` contains the centre, yet `overlap_cone` answers `false`; the point is inside the ellipse, which is
    what keeps the cell in the coverage -/
theorem overlap_cone_special_case_counterexample :
    adist (0, 1 / 2 ^ 1024) (ProjSIN.new (α := ℝ) 0 0).c0 ≤ 1 / 5 ∧
    (ECone.new (α := ℝ) 0 0 (1 / 10) (1 / 10) 0).overlapCone 0 (1 / 2 ^ 1024) (1 / 5) = some false ∧
    (ECone.new (α := ℝ) 0 0 (1 / 10) (1 / 10) 0).contains 0 (1 / 2 ^ 1024) = true := by
  have hpos : (0 : ℝ) < 1 / 2 ^ 1024 := by positivity
  have hd : adist (0, 1 / 2 ^ 1024) (ProjSIN.new (α := ℝ) 0 0).c0 = 1 / 2 ^ 1024 := by
    rw [ProjSIN.new_c0_zero]; exact adist_same_lon 0 _ hpos.le (le_trans tiny_lt_milli.le (by linarith only [pi_gt_three]))
  have ha : (0 : ℝ) < 1 / 10 ∧ (1 : ℝ) / 10 < π / 2 := ⟨by norm_num, by linarith [pi_gt_three]⟩
  have t5 : (1 : ℝ) / 2 ^ 1024 ≤ 1 / 5 := le_trans tiny_lt_milli.le (by norm_num)
  have t10 : (1 : ℝ) / 2 ^ 1024 ≤ 1 / 10 := le_trans tiny_lt_milli.le (by norm_num)
  have tpi : (1 : ℝ) / 2 ^ 1024 < π := lt_trans tiny_lt_milli (by linarith only [pi_gt_three])
  refine ⟨by rw [hd]; exact t5, ?_, ?_⟩
  · rw [overlap_cone_special_case 0 0 (1 / 10) (1 / 10) 0 0 (1 / 2 ^ 1024) (1 / 5) (by norm_num)
      (by rw [hd]; exact sin_pos_of_pos_of_lt_pi hpos tpi)
      (by rw [hd]; exact sin_le hpos.le) (by rw [hd]; exact le_trans t5 (by norm_num))]
    norm_num
  · rw [econe_contains_circular' 0 0 (1 / 10) 0 0 _ ha, hd]; exact t10

end Hpx.Sph

#print axioms Hpx.Sph.econe_contains_between
#print axioms Hpx.Sph.econe_containsCone_between
