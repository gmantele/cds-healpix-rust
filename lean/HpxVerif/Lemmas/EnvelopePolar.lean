import HpxVerif.Lemmas.EnvelopeReal
import HpxVerif.Lemmas.C2VReal
import HpxVerif.Lemmas.CapLat
import HpxVerif.Lemmas.CellReal

/-!
# C16 — polar caps over ℝ: the closed forms of the distances, the two constants, and what is below `intercept_npc`

North polar cap, base-cell quarter `k < 4` (facet centre abscissa `2k + 1`).  A plane point `(x, y)`, `1 ≤ y ≤ 2`, is
described by `σ = 2 − y ∈ [0, 1]` (distance to the pole line) and `t = x − (2k + 1)`, `|t| ≤ σ` (Collignon triangle);
`unproj` sends it to the longitude `(t/σ + 2k + 1)·π/4` and the latitude `capLat y = π/2 − 2·arcsin(σ/√6)`,
`sin(capLat y) = 1 − σ²/3` (`unproj_cap`).  `dNc`, `dSc`, `dEc` are the four centre-to-vertex distances of a plane cell of
half-diagonal `δ` (`CapChart.true_c2v_cap`).

In a polar cap `largest_center_to_vertex_distance(d, lon, lat)` is `slope_npc·|π/4 − lon % (π/2)| + intercept_npc`, a
function of the longitude only.  Over ℝ, with `δ = 1/nside`: `intercept_npc = capLat(1 + δ) − tl =: dMinP δ`
(`new_interceptNpc_eq`) and `slope_npc = (dMaxP δ − dMinP δ)/(π/4·(1 − δ))` (`new_slopeNpc_eq`), `dMaxP δ` being the distance
centre → north vertex of the transition-ring cell next to the seam.  At the position `(t, σ)` of a cap the function therefore returns
`capVal δ (t/σ) = dMinP δ + rise δ·|t/σ|`, `rise δ = (dMaxP δ − dMinP δ)/(1 − δ)` (`c2v_cap_eq`): everything downstream is about the three
real functions `dMinP`, `dMaxP`, `capVal`.

Below `intercept_npc`: `dEc` of every cell (`dEc_le_dMinP`), `dNc` and `dSc` on the central meridian (`dNc_central_le`,
`dSc_central_le`); above it: `dNc` of the cell next to the pole cell along a seam (`intercept_lt_dN_next_to_pole`).
-/

namespace Hpx.EnvelopePolar
open Hpx Hpx.Proj Hpx.Cover Hpx.C2V Hpx.C2VReal Hpx.EnvelopeReal Real

/-! ## the latitude of the ordinate `y` in the north cap -/

theorem sqrt6_pos : 0 < Real.sqrt 6 := Real.sqrt_pos.mpr (by norm_num)

theorem inv_sqrt6_nonneg : 0 ≤ 1 / Real.sqrt 6 := by have := sqrt6_pos; positivity

theorem sqrt6_gt_two : 2 < Real.sqrt 6 := by
  rw [show (2 : ℝ) = Real.sqrt 4 by
    rw [show (4 : ℝ) = 2 ^ 2 by norm_num, Real.sqrt_sq (by norm_num)]]
  exact Real.sqrt_lt_sqrt (by norm_num) (by norm_num)

theorem arg_range (σ : ℝ) (h0 : 0 ≤ σ) (h1 : σ ≤ 1) : 0 ≤ σ * (1 / Real.sqrt 6) ∧ σ * (1 / Real.sqrt 6) < 1 / 2 := by
  have h6 := sqrt6_pos
  have h2 := sqrt6_gt_two
  refine ⟨by positivity, ?_⟩
  rw [mul_one_div, div_lt_iff₀ h6]; linarith

theorem arg_sq (σ : ℝ) : (σ * (1 / Real.sqrt 6)) ^ 2 = σ ^ 2 / 6 := by
  rw [mul_pow, one_div, inv_pow, Real.sq_sqrt (by norm_num : (0 : ℝ) ≤ 6)]; ring

/-- `θ(σ) = arcsin(σ/√6)`, the half-angle form of the cap latitude: `capLat(2 − σ) = π/2 − 2θ(σ)` -/
noncomputable def theta (σ : ℝ) : ℝ := Real.arcsin (σ * (1 / Real.sqrt 6))

theorem capLat_theta (y : ℝ) : capLat y = π / 2 - 2 * theta (2 - y) := by
  unfold capLat theta; rw [Real.arccos_eq_pi_div_two_sub_arcsin]; ring

theorem theta_mono (σ₁ σ₂ : ℝ) (h : σ₁ ≤ σ₂) : theta σ₁ ≤ theta σ₂ := by
  have h6 := sqrt6_pos
  exact Real.arcsin_le_arcsin (mul_le_mul_of_nonneg_right h (by positivity))

theorem theta_nonneg (σ : ℝ) (h : 0 ≤ σ) : 0 ≤ theta σ := by
  have h6 := sqrt6_pos
  exact Real.arcsin_nonneg.mpr (by positivity)

theorem theta_le (σ : ℝ) : theta σ ≤ π / 2 := Real.arcsin_le_pi_div_two _

theorem sin_theta (σ : ℝ) (h0 : 0 ≤ σ) (h1 : σ ≤ 1) : sin (theta σ) = σ * (1 / Real.sqrt 6) := by
  obtain ⟨a0, a1⟩ := arg_range σ h0 h1
  exact Real.sin_arcsin (by linarith) (by linarith)

theorem cos_sq_theta (σ : ℝ) (h0 : 0 ≤ σ) (h1 : σ ≤ 1) : cos (theta σ) ^ 2 = 1 - σ ^ 2 / 6 := by
  rw [Real.cos_sq', sin_theta σ h0 h1, arg_sq]

theorem cos_theta_nonneg (σ : ℝ) : 0 ≤ cos (theta σ) := Real.cos_arcsin_nonneg _

/-- mean-value bounds of `θ` on `[σ₀, σ₁] ⊆ [0, 1]`: `(σ₁ − σ₀)/√6 = sin θ₁ − sin θ₀` lies between `(θ₁ − θ₀)·cos θ₁` and `(θ₁ − θ₀)·cos θ₀` -/
theorem theta_sub_bounds (σ₀ σ₁ : ℝ) (h0 : 0 ≤ σ₀) (h01 : σ₀ ≤ σ₁) (h1 : σ₁ ≤ 1) :
    (theta σ₁ - theta σ₀) * cos (theta σ₁) ≤ (σ₁ - σ₀) * (1 / Real.sqrt 6) ∧
      (σ₁ - σ₀) * (1 / Real.sqrt 6) ≤ (theta σ₁ - theta σ₀) * cos (theta σ₀) := by
  have hA := theta_nonneg σ₀ h0
  have hAB := theta_mono σ₀ σ₁ h01
  have hB : theta σ₁ ≤ π := (theta_le σ₁).trans (by linarith [Real.pi_pos])
  have hge := sin_sub_ge _ _ hA hAB hB
  have hle := sin_sub_le _ _ hA hAB hB
  rw [sin_theta σ₁ (h0.trans h01) h1, sin_theta σ₀ h0 (h01.trans h1), ← sub_mul] at hge hle
  exact ⟨hge, hle⟩

theorem capLat_mono (y₁ y₂ : ℝ) (h : y₁ ≤ y₂) : capLat y₁ ≤ capLat y₂ := by
  rw [capLat_theta, capLat_theta]; linarith [theta_mono (2 - y₂) (2 - y₁) (by linarith)]

theorem capLat_two : capLat 2 = π / 2 := by
  rw [capLat_theta]; simp [theta]

theorem capLat_eq_arcsin_sin (y : ℝ) (hy1 : 1 ≤ y) (hy2 : y ≤ 2) : capLat y = Real.arcsin (1 - (2 - y) ^ 2 / 3) := by
  rw [← sin_capLat' y hy1 hy2, Real.arcsin_sin (neg_le_capLat y) (capLat_le y hy2)]

theorem capLat_one : capLat 1 = tl := by
  rw [capLat_eq_arcsin_sin 1 le_rfl (by norm_num)]
  show Real.arcsin _ = Real.arcsin (2 / 3)
  norm_num

theorem capLat_range (y : ℝ) (hy1 : 1 ≤ y) (hy2 : y ≤ 2) : tl ≤ capLat y ∧ capLat y ≤ π / 2 :=
  ⟨capLat_one ▸ capLat_mono 1 y hy1, capLat_le y hy2⟩

theorem capLat_abs_le (y : ℝ) (hy1 : 1 ≤ y) (hy2 : y ≤ 2) : |capLat y| ≤ π / 2 := by
  obtain ⟨h1, h2⟩ := capLat_range y hy1 hy2
  have := tl_pos
  rw [abs_of_nonneg (by linarith)]; exact h2

theorem cos_sq_capLat (y : ℝ) (hy1 : 1 ≤ y) (hy2 : y ≤ 2) :
    cos (capLat y) ^ 2 = (2 - y) ^ 2 * (6 - (2 - y) ^ 2) / 9 := by
  rw [Real.cos_sq', sin_capLat' y hy1 hy2]; ring

theorem cos_capLat_nonneg (y : ℝ) (hy1 : 1 ≤ y) (hy2 : y ≤ 2) : 0 ≤ cos (capLat y) := by
  obtain ⟨h1, h2⟩ := capLat_range y hy1 hy2
  have := tl_pos
  exact Real.cos_nonneg_of_neg_pi_div_two_le_of_le (by linarith) h2

theorem cos_sq_capLat_le (σ : ℝ) (h0 : 0 ≤ σ) (h1 : σ ≤ 1) : cos (capLat (2 - σ)) ^ 2 ≤ 2 / 3 * σ ^ 2 := by
  rw [cos_sq_capLat _ (by linarith) (by linarith), show 2 - (2 - σ) = σ by ring]
  nlinarith [sq_nonneg σ, sq_nonneg (σ ^ 2)]

theorem cos_mul_cos_capLat_le (σ₁ σ₂ : ℝ) (h1 : 0 ≤ σ₁) (h1' : σ₁ ≤ 1) (h2 : 0 ≤ σ₂) (h2' : σ₂ ≤ 1) :
    cos (capLat (2 - σ₁)) * cos (capLat (2 - σ₂)) ≤ 2 / 3 * (σ₁ * σ₂) := by
  apply le_of_sq_le_sq _ (by positivity)
  calc (cos (capLat (2 - σ₁)) * cos (capLat (2 - σ₂))) ^ 2
      = cos (capLat (2 - σ₁)) ^ 2 * cos (capLat (2 - σ₂)) ^ 2 := by ring
    _ ≤ 2 / 3 * σ₁ ^ 2 * (2 / 3 * σ₂ ^ 2) :=
      mul_le_mul (cos_sq_capLat_le σ₁ h1 h1') (cos_sq_capLat_le σ₂ h2 h2') (by positivity) (by positivity)
    _ = (2 / 3 * (σ₁ * σ₂)) ^ 2 := by ring

/-! ## `unproj` on the closed Collignon triangle -/

/-- longitude of the plane point of offset `t` at distance `σ` from the pole line, facet `k` -/
noncomputable def capLon (k : ℕ) (t σ : ℝ) : ℝ := (t / σ + (2 * k + 1)) * (π / 4)

/-- The east seam of the last row (`t = 1`) is excluded; `σ` is either above the pole threshold of the code or `0`, the pole itself,
    where `0/0 = 0` gives the facet centre meridian. -/
theorem unproj_cap (k : ℕ) (hk : k < 4) (t σ : ℝ) (hσ1 : σ ≤ 1) (ht : |t| ≤ σ) (ht1 : t < 1)
    (hp : (Num.epsPole : ℝ) < σ ∨ σ = 0) :
    unproj (α := ℝ) (2 * k + 1 + t) (2 - σ) = some (capLon k t σ, capLat (2 - σ)) := by
  obtain ⟨t1, t2⟩ := abs_le.mp ht
  have hx1 : (2 * k : ℝ) ≤ 2 * k + 1 + t := by linarith
  have hx2 : 2 * k + 1 + t < 2 * k + 2 := by linarith
  unfold capLon
  rcases eq_or_lt_of_le hσ1 with rfl | hσ1'
  · -- on the transition latitude: the equatorial formula
    rw [show (2 : ℝ) - 1 = 1 by norm_num, unproj_eq_pos k hk _ 1 hx1 hx2 zero_le_one le_rfl, capLat_one, div_one, one_mul]
    congr 2
    ring
  · rcases hp with hp | rfl
    · have hσ : 0 < σ := epsPole_pos.trans hp
      rw [unproj_cap_pos k hk _ _ hx1 hx2 (by linarith) (by linarith) (by rwa [sub_sub_cancel]), add_sub_cancel_left,
        sub_sub_cancel]
      congr 3
      unfold clamp1
      rw [if_neg (by rw [not_lt, div_le_one hσ]; exact t2), if_neg (by rw [not_lt, le_div_iff₀ hσ]; linarith)]
    · obtain rfl : t = 0 := by linarith
      rw [sub_zero, unproj_pos _ 2 k (by omega) hx1 hx2 (by norm_num) le_rfl, if_neg (by norm_num),
        if_neg (by rw [sub_self]; exact not_lt.mpr epsPole_pos.le), Nat.mod_eq_of_lt (by omega)]
      congr 2
      push_cast; simp

/-- the south cap is the mirror image: `unproj (x, −y)` is `unproj (x, y)` with the sign bit of `y` copied on the latitude -/
theorem unproj_mirror (x y : ℝ) (hx : 0 ≤ x) (hy : 0 < y) :
    unproj (α := ℝ) x (-y) = (unproj (α := ℝ) x y).map fun p => (p.1, -|p.2|) := by
  rw [unproj_sym x (-y), unproj_sym x y, abs_neg, Option.map_map]
  congr 1
  funext p
  simp only [Function.comp, sgn_of_nonneg hx, sgn_of_neg (neg_neg_of_pos hy), sgn_of_nonneg hy.le]

/-! ## the angular distance as an `arccos` -/

/-- great-circle distance between two positions of latitudes `φ₁`, `φ₂` whose longitudes differ by `Δ` -/
noncomputable def gcDist (φ₁ φ₂ Δ : ℝ) : ℝ := Real.arccos (sin φ₁ * sin φ₂ + cos φ₁ * cos φ₂ * cos Δ)

theorem adist_eq_gcDist (l₁ φ₁ l₂ φ₂ : ℝ) : adist (l₁, φ₁) (l₂, φ₂) = gcDist φ₁ φ₂ (l₁ - l₂) := by
  unfold gcDist
  rw [← cos_adist (l₁, φ₁) (l₂, φ₂), Real.arccos_cos (adist_nonneg _ _) (adist_le_pi _ _)]

theorem gcDist_neg (φ₁ φ₂ Δ : ℝ) : gcDist φ₁ φ₂ (-Δ) = gcDist φ₁ φ₂ Δ := by unfold gcDist; rw [Real.cos_neg]

theorem gcDist_comm (φ₁ φ₂ Δ : ℝ) : gcDist φ₁ φ₂ Δ = gcDist φ₂ φ₁ Δ := by
  unfold gcDist; congr 1; ring

theorem gcDist_neg_lat (φ₁ φ₂ Δ : ℝ) : gcDist (-φ₁) (-φ₂) Δ = gcDist φ₁ φ₂ Δ := by
  unfold gcDist; rw [Real.sin_neg, Real.sin_neg, Real.cos_neg, Real.cos_neg, neg_mul_neg]

theorem gcDist_zero (φ₁ φ₂ : ℝ) (h1 : |φ₁| ≤ π / 2) (h2 : |φ₂| ≤ π / 2) : gcDist φ₁ φ₂ 0 = |φ₁ - φ₂| := by
  rw [← adist_same_lon 0 0 φ₁ φ₂ 0 (by simp) h1 h2, adist_eq_gcDist, sub_zero]

theorem cos_gcDist (φ₁ φ₂ Δ : ℝ) : cos (gcDist φ₁ φ₂ Δ) = sin φ₁ * sin φ₂ + cos φ₁ * cos φ₂ * cos Δ := by
  have := cos_adist (Δ, φ₁) (0, φ₂)
  rw [adist_eq_gcDist, sub_zero] at this
  exact this

theorem gcDist_nonneg (φ₁ φ₂ Δ : ℝ) : 0 ≤ gcDist φ₁ φ₂ Δ := Real.arccos_nonneg _
theorem gcDist_le_pi (φ₁ φ₂ Δ : ℝ) : gcDist φ₁ φ₂ Δ ≤ π := Real.arccos_le_pi _

theorem le_of_cos_le {x T : ℝ} (hx : x ≤ π) (hT : 0 ≤ T) (h : cos T ≤ cos x) : x ≤ T :=
  le_of_not_gt fun hcon => (Real.cos_lt_cos_of_nonneg_of_le_pi hT hx hcon).not_ge h

theorem lt_of_cos_lt {x g : ℝ} (hx : 0 ≤ x) (hg : g ≤ π) (h : cos x < cos g) : g < x :=
  lt_of_not_ge fun hcon => (Real.cos_le_cos_of_nonneg_of_le_pi hx hg hcon).not_gt h

/-! ## the closed forms -/

/-- centre `(t, σ)` → north vertex `(t, σ − δ)` -/
noncomputable def dNc (δ t σ : ℝ) : ℝ := gcDist (capLat (2 - σ)) (capLat (2 - σ + δ)) ((t / (σ - δ) - t / σ) * (π / 4))
/-- centre `(t, σ)` → south vertex `(t, σ + δ)` -/
noncomputable def dSc (δ t σ : ℝ) : ℝ := gcDist (capLat (2 - σ)) (capLat (2 - σ - δ)) ((t / σ - t / (σ + δ)) * (π / 4))
/-- centre → east (or west) vertex: same parallel, longitudes `(δ/σ)·π/4` apart -/
noncomputable def dEc (δ σ : ℝ) : ℝ := 2 * Real.arcsin (cos (capLat (2 - σ)) * sin (δ / σ * (π / 8)))

theorem dNc_neg (δ t σ : ℝ) : dNc δ (-t) σ = dNc δ t σ := by
  unfold dNc
  rw [← gcDist_neg]
  congr 1; ring

/-- the south vertex of the plane cell centred at `(t, σ)` is the centre of the cell of which `(t, σ)` is the north vertex -/
theorem dSc_eq_dNc (δ t σ : ℝ) : dSc δ t σ = dNc δ t (σ + δ) := by
  unfold dSc dNc
  rw [gcDist_comm, show 2 - (σ + δ) + δ = 2 - σ by ring, show σ + δ - δ = σ by ring, show 2 - σ - δ = 2 - (σ + δ) by ring]

theorem dNc_central (δ σ : ℝ) (hδ : 0 ≤ δ) (h0 : δ ≤ σ) (h1 : σ ≤ 1) :
    dNc δ 0 σ = capLat (2 - σ + δ) - capLat (2 - σ) := by
  unfold dNc
  rw [zero_div, zero_div, sub_zero, zero_mul,
    gcDist_zero _ _ (capLat_abs_le _ (by linarith) (by linarith)) (capLat_abs_le _ (by linarith) (by linarith)),
    abs_sub_comm, abs_of_nonneg (sub_nonneg.mpr (capLat_mono _ _ (by linarith)))]

theorem dSc_central (δ σ : ℝ) (hδ : 0 ≤ δ) (h0 : 0 ≤ σ) (h1 : σ + δ ≤ 1) :
    dSc δ 0 σ = capLat (2 - σ) - capLat (2 - σ - δ) := by
  rw [dSc_eq_dNc, dNc_central δ (σ + δ) hδ (by linarith) h1, show 2 - (σ + δ) + δ = 2 - σ by ring, sub_sub]

/-- the pole cell (`σ = δ`, `t = 0`): the north vertex is the pole, at `π/2 − lat` from the centre -/
theorem dNc_pole (δ : ℝ) (hδ : 0 ≤ δ) (h1 : δ ≤ 1) : dNc δ 0 δ = π / 2 - capLat (2 - δ) := by
  rw [dNc_central δ δ hδ le_rfl h1, show 2 - δ + δ = (2 : ℝ) by ring, capLat_two]

/-! ## the folded longitude of a cap position -/

theorem fold_ratio (k : ℕ) (ρ : ℝ) (h1 : -1 ≤ ρ) (h2 : ρ ≤ 1) : fold ((ρ + (2 * k + 1)) * (π / 4)) = |ρ| * (π / 4) := by
  have hpi := Real.pi_pos
  rcases eq_or_lt_of_le h2 with rfl | h2'
  · -- the east seam of the facet is the start of the next quarter turn
    rw [fold_of_mem _ (k + 1) (by push_cast; linarith) (by push_cast; linarith), abs_one, one_mul]
    push_cast
    rw [show π / 4 + π / 2 * ((k : ℝ) + 1) - (1 + (2 * (k : ℝ) + 1)) * (π / 4) = π / 4 by ring]
    exact abs_of_pos (by positivity)
  · rw [fold_of_mem _ k (by nlinarith) (by nlinarith),
      show π / 4 + π / 2 * (k : ℝ) - (ρ + (2 * (k : ℝ) + 1)) * (π / 4) = -(ρ * (π / 4)) by ring, abs_neg, abs_mul,
      abs_of_pos (by positivity : 0 < π / 4)]

theorem fold_cap (k : ℕ) (t σ : ℝ) (hσ : 0 ≤ σ) (ht : |t| ≤ σ) : fold (capLon k t σ) = |t / σ| * (π / 4) := by
  obtain ⟨t1, t2⟩ := abs_le.mp ht
  unfold capLon
  rcases eq_or_lt_of_le hσ with rfl | hpos
  · rw [div_zero]
    exact fold_ratio k 0 (by norm_num) (by norm_num)
  · exact fold_ratio k (t / σ) (by rw [le_div_iff₀ hpos]; linarith) (by rw [div_le_one hpos]; exact t2)

open Hpx.CellReal

/-! ## `intercept_npc` -/

/-- `intercept_npc` over ℝ as a function of `δ = 1/nside` -/
noncomputable def dMinP (δ : ℝ) : ℝ := capLat (1 + δ) - tl

/-- `lat_north` of `ConstantsC2V::new`: the latitude of the north vertex of the transition-ring cells -/
theorem latNorth_eq (d : ℕ) :
    Num.asin ((Num.one : ℝ) - pow2 (Num.one - Num.one / Num.ofNat (1 <<< d)) / Num.ofNat 3) = capLat (1 + 1 / 2 ^ d) := by
  obtain ⟨h0, h1⟩ := distCw_range d
  rw [r_nside, r_one, r_asin, r_ofNat, capLat_eq_arcsin_sin _ (by linarith) (by linarith)]
  unfold pow2
  congr 1
  push_cast; ring

/-- `intercept_npc` is the latitude difference between the north vertex and the centre of the transition-ring cell on the
    central meridian of the base cell -/
theorem new_interceptNpc_eq (d : Nat) : (Csts.new d : Csts ℝ).interceptNpc = dMinP (1 / 2 ^ d) :=
  congrArg (· - tl) (latNorth_eq d)

theorem dMinP_theta (δ : ℝ) : dMinP δ = 2 * (theta 1 - theta (1 - δ)) := by
  unfold dMinP
  rw [← capLat_one, capLat_theta, capLat_theta, show 2 - (1 + δ) = 1 - δ by ring, show (2 : ℝ) - 1 = 1 by ring]
  ring

theorem dMinP_nonneg (δ : ℝ) (h0 : 0 ≤ δ) : 0 ≤ dMinP δ := by
  rw [dMinP_theta]
  have := theta_mono (1 - δ) 1 (by linarith)
  linarith

/-- `dMinP δ ≤ 2δ/√5`, the slope of the latitude at the transition ordinate; stated on the squares -/
theorem dMinP_sq_le (δ : ℝ) (h0 : 0 ≤ δ) (h1 : δ ≤ 1) : dMinP δ ^ 2 ≤ 4 / 5 * δ ^ 2 := by
  obtain ⟨hkey, -⟩ := theta_sub_bounds (1 - δ) 1 (by linarith) (by linarith) le_rfl
  have hsq := pow_le_pow_left₀ (mul_nonneg (sub_nonneg.mpr (theta_mono _ _ (by linarith))) (cos_theta_nonneg 1)) hkey 2
  rw [mul_pow, cos_sq_theta 1 (by norm_num) le_rfl, show 1 - (1 - δ) = δ by ring, arg_sq] at hsq
  rw [dMinP_theta]
  nlinarith

theorem cos_dMinP_ge (δ : ℝ) (h0 : 0 ≤ δ) (h1 : δ ≤ 1) : 1 - 2 / 5 * δ ^ 2 ≤ cos (dMinP δ) := by
  linarith [Real.one_sub_sq_div_two_le_cos (x := dMinP δ), dMinP_sq_le δ h0 h1]

theorem dMinP_sq_ge (δ : ℝ) (h0 : 0 ≤ δ) (h1 : δ ≤ 1) : 4 * δ ^ 2 ≤ dMinP δ ^ 2 * (6 - (1 - δ) ^ 2) := by
  obtain ⟨-, hkey⟩ := theta_sub_bounds (1 - δ) 1 (by linarith) (by linarith) le_rfl
  have h6 := inv_sqrt6_nonneg
  have hsq := pow_le_pow_left₀ (mul_nonneg (by linarith) h6) hkey 2
  rw [mul_pow _ (cos _), cos_sq_theta (1 - δ) (by linarith) (by linarith), show 1 - (1 - δ) = δ by ring, arg_sq] at hsq
  rw [dMinP_theta]
  nlinarith

theorem dMinP_ge_mul (δ κ : ℝ) (h0 : 0 ≤ δ) (h1 : δ ≤ 1) (hκ : κ ^ 2 * (6 - (1 - δ) ^ 2) ≤ 4) : κ * δ ≤ dMinP δ := by
  have hs : 0 < 6 - (1 - δ) ^ 2 := by linarith [pow_le_one₀ (by linarith : 0 ≤ 1 - δ) (by linarith : 1 - δ ≤ 1) (n := 2)]
  refine le_of_sq_le_sq (le_of_mul_le_mul_right ?_ hs) (dMinP_nonneg δ h0)
  calc (κ * δ) ^ 2 * (6 - (1 - δ) ^ 2) = κ ^ 2 * (6 - (1 - δ) ^ 2) * δ ^ 2 := by ring
    _ ≤ 4 * δ ^ 2 := mul_le_mul_of_nonneg_right hκ (sq_nonneg δ)
    _ ≤ _ := dMinP_sq_ge δ h0 h1

theorem dMinP_ge_lin (δ : ℝ) (h0 : 0 ≤ δ) (h1 : δ ≤ 1) : 4 / 5 * δ ≤ dMinP δ :=
  dMinP_ge_mul δ (4 / 5) h0 h1 (by nlinarith [sq_nonneg (1 - δ)])

theorem dMinP_pos (δ : ℝ) (h0 : 0 < δ) (h1 : δ ≤ 1) : 0 < dMinP δ :=
  (by positivity : 0 < 4 / 5 * δ).trans_le (dMinP_ge_lin δ h0.le h1)

theorem dMinP_le_pi (δ : ℝ) (h1 : δ ≤ 1) : dMinP δ ≤ π := by
  unfold dMinP
  linarith [capLat_le (1 + δ) (by linarith), tl_pos, Real.pi_pos]

/-! ## next to the pole -/

theorem cos_pi_div_eight_le : cos (π / 8) ≤ 92389 / 100000 := by
  rw [Real.cos_pi_div_eight]
  have h2 : Real.sqrt 2 ≤ 141422 / 100000 := by
    rw [Real.sqrt_le_left (by norm_num)]; norm_num
  have h3 : Real.sqrt (2 + Real.sqrt 2) ≤ 184778 / 100000 := by
    rw [Real.sqrt_le_left (by norm_num)]; linarith
  linarith

/-- for `0 < δ ≤ 1/4` (depth `≥ 2`) the plane centre `(t, σ) = (−δ, 2δ)` (the cell next to the pole cell, along the seam) is
    farther from its north vertex `(−δ, δ)` than `dMinP δ = intercept_npc` -/
theorem intercept_lt_dN_next_to_pole (δ : ℝ) (h0 : 0 < δ) (h1 : δ ≤ 1 / 4) : dMinP δ < dNc δ (-δ) (2 * δ) := by
  have hpi := Real.pi_pos
  unfold dNc
  have hΔ : (-δ / (2 * δ - δ) - -δ / (2 * δ)) * (π / 4) = -(π / 8) := by
    have : δ ≠ 0 := h0.ne'
    field_simp; ring
  rw [hΔ, gcDist_neg, show 2 - 2 * δ + δ = 2 - δ by ring]
  apply lt_of_cos_lt (gcDist_nonneg _ _ _) (dMinP_le_pi δ (by linarith))
  rw [cos_gcDist]
  have hδ2 : 0 < δ ^ 2 := by positivity
  have hδ2' : δ ^ 2 ≤ 1 / 16 := (pow_le_pow_left₀ h0.le h1 2).trans_eq (by norm_num)
  have hδ4 := mul_le_mul_of_nonneg_left hδ2' hδ2.le
  -- `cos φc · cos φN ≤ 4δ²/3`
  have hprod := cos_mul_cos_capLat_le (2 * δ) δ (by linarith) (by linarith) h0.le (by linarith)
  have hc80 : 0 ≤ cos (π / 8) := Real.cos_nonneg_of_neg_pi_div_two_le_of_le (by linarith) (by linarith)
  have hprod8 := mul_le_mul hprod cos_pi_div_eight_le hc80 (by positivity)
  have hcosg := cos_dMinP_ge δ h0.le (by linarith)
  rw [sin_capLat' _ (by linarith) (by linarith), sin_capLat' _ (by linarith) (by linarith)]
  linarith

/-! ## the pole threshold and the north base cells -/

/-- `EPS_POLE < 2⁻³⁰`: smaller than every cell half-diagonal `1/nside`, `depth ≤ 29` -/
theorem epsPole_lt_pow : (Num.epsPole : ℝ) < 1 / 2 ^ 30 := by rw [epsPole_eq]; norm_num

theorem epsPole_lt_step (d : ℕ) (hd : d ≤ 29) : (Num.epsPole : ℝ) < 1 / 2 ^ d := by
  have h1 : (2 : ℝ) ^ d ≤ 2 ^ 30 := pow_le_pow_right₀ (by norm_num) (by omega)
  have h2 : (1 : ℝ) / 2 ^ 30 ≤ 1 / 2 ^ d := one_div_le_one_div_of_le (by positivity) h1
  exact lt_of_lt_of_le epsPole_lt_pow h2

theorem baseX_north (b : ℕ) (hb : b < 4) : baseX b = 2 * (b : ℝ) + 1 ∧ baseY b = 1 := by
  unfold baseX baseY
  interval_cases b <;> norm_num

theorem baseX_south (k : ℕ) (hk : k < 4) : baseX (k + 8) = 2 * (k : ℝ) + 1 ∧ baseY (k + 8) = -1 := by
  unfold baseX baseY
  interval_cases k <;> norm_num

/-! ## east and west vertices, every cell -/

/-- `dE ≤ cos(lat)·(δ/σ)·π/4`, `cos(lat) ≤ 5/6·σ` (from `cos²(lat) ≤ 2/3·σ²`) and `5π/24·δ ≤ 4/5·δ ≤ dMinP δ` -/
theorem dEc_le_dMinP (δ σ : ℝ) (hδ : 0 < δ) (h : δ ≤ σ) (h1 : σ ≤ 1) : dEc δ σ ≤ dMinP δ := by
  have hpi := Real.pi_pos
  have hσ : 0 < σ := hδ.trans_le h
  have hr0 : 0 ≤ δ / σ := by positivity
  have hx0 : 0 ≤ δ / σ * (π / 8) := by positivity
  have hx1 : δ / σ * (π / 8) ≤ π / 8 := mul_le_of_le_one_left (by positivity) ((div_le_one hσ).mpr h)
  have hc1 : cos (capLat (2 - σ)) ≤ 5 / 6 * σ :=
    le_of_sq_le_sq ((cos_sq_capLat_le σ hσ.le h1).trans (by rw [mul_pow]; linarith [sq_nonneg σ])) (by positivity)
  have hle := arcsin_mul_le _ (sin (δ / σ * (π / 8))) (cos_capLat_nonneg (2 - σ) (by linarith) (by linarith)) (Real.cos_le_one _)
    (Real.sin_nonneg_of_nonneg_of_le_pi hx0 (by linarith)) (Real.sin_le_one _)
  rw [Real.arcsin_sin (by linarith) (by linarith)] at hle
  have h3 := mul_le_mul_of_nonneg_right hc1 hx0
  rw [show 5 / 6 * σ * (δ / σ * (π / 8)) = 5 / 48 * (π * δ) by field_simp; ring] at h3
  unfold dEc
  linarith [dMinP_ge_lin δ hδ.le (by linarith), mul_le_mul_of_nonneg_right Real.pi_lt_d2.le hδ.le]

/-! ## north and south vertices on the central meridian -/

/-- the latitude gained over one step `δ` towards the pole is largest at the transition latitude (`θ` is convex) -/
theorem capLat_sub_le (δ σ : ℝ) (hδ : 0 ≤ δ) (h0 : δ ≤ σ) (h1 : σ ≤ 1) :
    capLat (2 - σ + δ) - capLat (2 - σ) ≤ dMinP δ := by
  have hc := inv_sqrt6_nonneg
  rw [dMinP_theta, capLat_theta, capLat_theta, show 2 - (2 - σ + δ) = σ - δ by ring, show 2 - (2 - σ) = σ by ring]
  obtain ⟨a0, a1⟩ := arg_range 1 (by norm_num) le_rfl
  have := arcsin_incr_mono ((σ - δ) * (1 / Real.sqrt 6)) ((1 - δ) * (1 / Real.sqrt 6)) (δ * (1 / Real.sqrt 6))
    (mul_nonneg (by linarith) hc) (mul_le_mul_of_nonneg_right (by linarith) hc) (mul_nonneg hδ hc)
    (by rw [← add_mul, show 1 - δ + δ = (1 : ℝ) by ring]; linarith)
  rw [← add_mul, ← add_mul, show σ - δ + δ = σ by ring, show 1 - δ + δ = (1 : ℝ) by ring] at this
  unfold theta
  linarith

theorem dNc_central_le (δ σ : ℝ) (hδ : 0 ≤ δ) (h0 : δ ≤ σ) (h1 : σ ≤ 1) : dNc δ 0 σ ≤ dMinP δ :=
  (dNc_central δ σ hδ h0 h1).trans_le (capLat_sub_le δ σ hδ h0 h1)

theorem dSc_central_le (δ σ : ℝ) (hδ : 0 ≤ δ) (h0 : 0 ≤ σ) (h1 : σ + δ ≤ 1) : dSc δ 0 σ ≤ dMinP δ :=
  (dSc_eq_dNc δ 0 σ).trans_le (dNc_central_le δ (σ + δ) hδ (by linarith) h1)

/-! ## the haversine helpers over ℝ -/

theorem squaredHalfSegment_real (Δ φ₁ φ₂ : ℝ) :
    squaredHalfSegment (α := ℝ) Δ (φ₂ - φ₁) (Num.cos φ₂) (Num.cos φ₁) = sin (gcDist φ₁ φ₂ Δ / 2) ^ 2 := by
  unfold squaredHalfSegment
  rw [pow2_sin_half, pow2_sin_half, sin_sq_half, cos_gcDist, r_cos, r_cos, cos_sub]
  ring

theorem spheDist_real (g : ℝ) (h0 : 0 ≤ g) (h1 : g ≤ π) : spheDist (α := ℝ) (sin (g / 2) ^ 2) = g := by
  have hpi := Real.pi_pos
  unfold spheDist
  rw [r_two, r_asin]
  show 2 * Real.arcsin (Real.sqrt (sin (g / 2) ^ 2)) = g
  rw [Real.sqrt_sq (Real.sin_nonneg_of_nonneg_of_le_pi (by linarith) (by linarith)),
    Real.arcsin_sin (by linarith) (by linarith)]
  ring

/-- `d_max` of `ConstantsC2V::new` as a function of `δ = 1/nside` -/
noncomputable def dMaxP (δ : ℝ) : ℝ := gcDist tl (capLat (1 + δ)) (π / 4 * δ)

/-- `slope_npc`: the line through `(0, dMinP)` and `((1 − δ)·π/4, dMaxP)` -/
theorem new_slopeNpc_eq (d : Nat) :
    (Csts.new d : Csts ℝ).slopeNpc = (dMaxP (1 / 2 ^ d) - dMinP (1 / 2 ^ d)) / (π / 4 * (1 - 1 / 2 ^ d)) := by
  simp only [Csts.new]
  rw [latNorth_eq d, r_nside, r_one, r_pi4, squaredHalfSegment_real, spheDist_real _ (gcDist_nonneg _ _ _) (gcDist_le_pi _ _ _)]
  rfl

theorem new_slopeNpc_quarter (d : Nat) :
    (Csts.new d : Csts ℝ).slopeNpc * (π / 4) = (dMaxP (1 / 2 ^ d) - dMinP (1 / 2 ^ d)) / (1 - 1 / 2 ^ d) := by
  rw [new_slopeNpc_eq, mul_comm (π / 4), ← div_div, div_mul_cancel₀ _ (by positivity)]

/-! ## `d_min ≤ d_max`: the sign of `slope_npc` -/

theorem cos_dMaxP (δ : ℝ) :
    cos (dMaxP δ) = cos (dMinP δ) - cos tl * cos (capLat (1 + δ)) * (1 - cos (π / 4 * δ)) := by
  unfold dMaxP dMinP
  rw [cos_gcDist, cos_sub]; ring

theorem C0_nonneg (δ : ℝ) (h0 : 0 ≤ δ) (h1 : δ ≤ 1) : 0 ≤ cos tl * cos (capLat (1 + δ)) :=
  mul_nonneg cos_tl_nonneg (cos_capLat_nonneg _ (by linarith) (by linarith))

/-- `d_max` is a great-circle distance whose latitude difference is `d_min`: `cos(d_max) = cos(d_min) − C0·(1 − cos(πδ/4)) ≤ cos(d_min)` -/
theorem dMinP_le_dMaxP (δ : ℝ) (h0 : 0 ≤ δ) (h1 : δ ≤ 1) : dMinP δ ≤ dMaxP δ :=
  le_of_cos_le (dMinP_le_pi δ h1) (gcDist_nonneg _ _ _) <| (cos_dMaxP δ).trans_le <| by
    linarith [mul_nonneg (C0_nonneg δ h0 h1) (sub_nonneg.mpr (Real.cos_le_one (π / 4 * δ)))]

theorem C0_sq (δ : ℝ) (h0 : 0 ≤ δ) (h1 : δ ≤ 1) :
    (cos tl * cos (capLat (1 + δ))) ^ 2 = 5 / 81 * ((1 - δ) ^ 2 * (6 - (1 - δ) ^ 2)) := by
  rw [mul_pow, cos_sq_tl, cos_sq_capLat _ (by linarith) (by linarith)]
  ring

theorem C0_bounds (δ : ℝ) (h0 : 0 ≤ δ) (h1 : δ ≤ 1) :
    5 / 9 * (1 - δ) ≤ cos tl * cos (capLat (1 + δ)) ∧ cos tl * cos (capLat (1 + δ)) ≤ 5 / 9 := by
  have hC0 := C0_nonneg δ h0 h1
  have hC2 := C0_sq δ h0 h1
  generalize cos tl * cos (capLat (1 + δ)) = C at *
  generalize hs : 1 - δ = s at *
  have hs0 : 0 ≤ s := by linarith
  have hs2 : s ^ 2 ≤ 1 := by nlinarith
  constructor
  · apply le_of_sq_le_sq _ hC0
    nlinarith [sq_nonneg s]
  · apply le_of_sq_le_sq _ (by norm_num)
    nlinarith [mul_nonneg (sub_nonneg.mpr hs2) (sub_nonneg.mpr (hs2.trans (by norm_num : (1 : ℝ) ≤ 5)))]

theorem dMinP_lt_dMaxP (δ : ℝ) (h0 : 0 < δ) (h1 : δ < 1) : dMinP δ < dMaxP δ := by
  have hpi := Real.pi_pos
  have hC : 0 < cos tl * cos (capLat (1 + δ)) := (by linarith : 0 < 5 / 9 * (1 - δ)).trans_le (C0_bounds δ h0.le h1.le).1
  have hx : cos (π / 4 * δ) < 1 := by
    rw [← Real.cos_zero]
    exact Real.cos_lt_cos_of_nonneg_of_le_pi le_rfl (by nlinarith) (by positivity)
  refine lt_of_cos_lt (gcDist_nonneg _ _ _) (dMinP_le_pi δ h1.le) ((cos_dMaxP δ).trans_lt ?_)
  linarith [mul_pos hC (sub_pos.mpr hx)]

/-! ## the polar-cap line over ℝ -/

/-- the rise of the polar-cap line over the nominal range `[0, π/4]` of the folded longitude: `slope_npc·π/4`
    (`new_slopeNpc_quarter`) -/
noncomputable def rise (δ : ℝ) : ℝ := (dMaxP δ - dMinP δ) / (1 - δ)

theorem rise_nonneg (δ : ℝ) (h0 : 0 ≤ δ) (h1 : δ ≤ 1) : 0 ≤ rise δ :=
  div_nonneg (sub_nonneg.mpr (dMinP_le_dMaxP δ h0 h1)) (sub_nonneg.mpr h1)

theorem rise_pos (δ : ℝ) (h0 : 0 < δ) (h1 : δ < 1) : 0 < rise δ :=
  div_pos (sub_pos.mpr (dMinP_lt_dMaxP δ h0 h1)) (sub_pos.mpr h1)

/-- the value of `largest_center_to_vertex_distance` on the line `t/σ = ρ` of a facet of a cap (`c2v_cap_eq`), `δ = 1/nside`: from
    `intercept_npc` on the central meridian to `d_max` at `|ρ| = 1 − δ` -/
noncomputable def capVal (δ ρ : ℝ) : ℝ := dMinP δ + rise δ * |ρ|

theorem capVal_mono (δ : ℝ) (h0 : 0 ≤ δ) (h1 : δ ≤ 1) {ρ ρ' : ℝ} (h : |ρ| ≤ |ρ'|) : capVal δ ρ ≤ capVal δ ρ' :=
  add_le_add_right (mul_le_mul_of_nonneg_left h (rise_nonneg δ h0 h1)) _

theorem dMinP_le_capVal (δ ρ : ℝ) (h0 : 0 ≤ δ) (h1 : δ ≤ 1) : dMinP δ ≤ capVal δ ρ :=
  le_add_of_nonneg_right (mul_nonneg (rise_nonneg δ h0 h1) (abs_nonneg ρ))

theorem capVal_corner (δ : ℝ) (h1 : δ < 1) : capVal δ (1 - δ) = dMaxP δ := by
  unfold capVal rise
  rw [abs_of_pos (sub_pos.mpr h1), div_mul_cancel₀ _ (sub_pos.mpr h1).ne']
  ring

theorem capVal_lt_dMaxP (δ ρ : ℝ) (h0 : 0 < δ) (h1 : δ < 1) (hρ : |ρ| < 1 - δ) : capVal δ ρ < dMaxP δ := by
  rw [← capVal_corner δ h1]
  unfold capVal
  rw [abs_of_pos (sub_pos.mpr h1)]
  exact add_lt_add_right (mul_lt_mul_of_pos_left hρ (rise_pos δ h0 h1)) _

theorem c2v_cap_eq (d k : ℕ) (t σ lat : ℝ) (hσ : 0 ≤ σ) (ht : |t| ≤ σ) (hlat : tl ≤ |lat|) :
    c2v (Csts.new d) (capLon k t σ) lat = capVal (1 / 2 ^ d) (t / σ) := by
  unfold c2v
  rw [if_pos hlat, fold_cap k t σ hσ ht]
  unfold npcEnv capVal rise
  rw [new_interceptNpc_eq, ← new_slopeNpc_quarter]
  ring

end Hpx.EnvelopePolar

namespace Hpx.C2VReal
open Hpx Hpx.C2V Hpx.EnvelopePolar Real

theorem new_slopeNpc_nonneg (d : Nat) : 0 ≤ (Csts.new d : Csts ℝ).slopeNpc := by
  obtain ⟨h0, h1⟩ := distCw_range d
  rw [new_slopeNpc_eq]
  exact div_nonneg (sub_nonneg.mpr (dMinP_le_dMaxP _ h0.le h1)) (mul_nonneg (by positivity) (by linarith))

theorem new_slopeNpc_pos (d : Nat) (hd : 1 ≤ d) : 0 < (Csts.new d : Csts ℝ).slopeNpc := by
  obtain ⟨h0, h1⟩ := half_pow_range d hd
  rw [new_slopeNpc_eq]
  exact div_pos (sub_pos.mpr (dMinP_lt_dMaxP _ h0 (by linarith))) (mul_pos (by positivity) (by linarith))

/-- F12, unconditional: at every depth `1 … 29` the position `(π/2, π/3)`, at angular distance exactly `cexR` from
    `(π/4, π/3)` (`cex_distance`) and in the same polar cap, has a pointwise value strictly above the value with radius
    of the cone `((π/4, π/3), cexR)` (exact arithmetic) -/
theorem largestC2VWithRadius_not_cone_bound' (depth : Nat) (hd1 : 1 ≤ depth) (hd2 : depth ≤ 29) :
    ∃ v w, largestC2VWithRadius false depth (π / 4 : ℝ) (π / 3) cexR = some v ∧
      largestC2V false depth (π / 2 : ℝ) (π / 3) = some w ∧ v < w :=
  ⟨_, _, largestC2VWithRadius_eq depth hd1 hd2 _ _ _, largestC2V_eq depth hd1 hd2 _ _,
    (npc_with_radius_not_cone_bound _ (new_slopeNpc_pos depth hd1)).2.2.2⟩

/-- Unconditional, polar-cap branch (every depth `1 … 29`): when `tl ≤ |lat| + r` the value with radius dominates
    the pointwise value at the positions of a polar cap whose FOLDED longitude is at most `fold lon + r` (and `π/4`) —
    nothing more (`largestC2VWithRadius_not_cone_bound'`) -/
theorem largestC2VWithRadius_upper_bound_npc (depth : Nat) (hd1 : 1 ≤ depth) (hd2 : depth ≤ 29)
    (lon lat r lon' lat' : ℝ) (hA : tl ≤ |lat| + r) (hpol : tl ≤ |lat'|) (hf1 : fold lon' ≤ fold lon + r)
    (hf2 : fold lon' ≤ π / 4) :
    ∃ v w, largestC2VWithRadius false depth lon lat r = some v ∧ largestC2V false depth lon' lat' = some w ∧ w ≤ v := by
  refine ⟨_, _, largestC2VWithRadius_eq depth hd1 hd2 _ _ _, largestC2V_eq depth hd1 hd2 _ _, ?_⟩
  unfold c2v c2vR
  rw [if_pos hpol, if_pos hA]
  exact npcEnv_mono _ (new_slopeNpc_nonneg depth) (le_min hf1 hf2)

end Hpx.C2VReal

#print axioms Hpx.EnvelopePolar.unproj_cap
#print axioms Hpx.EnvelopePolar.unproj_mirror
#print axioms Hpx.EnvelopePolar.dNc_central
#print axioms Hpx.EnvelopePolar.dSc_central
#print axioms Hpx.EnvelopePolar.dNc_pole
#print axioms Hpx.EnvelopePolar.fold_cap
#print axioms Hpx.EnvelopePolar.new_interceptNpc_eq
#print axioms Hpx.EnvelopePolar.dMinP_sq_le
#print axioms Hpx.EnvelopePolar.intercept_lt_dN_next_to_pole
#print axioms Hpx.EnvelopePolar.dEc_le_dMinP
#print axioms Hpx.EnvelopePolar.dNc_central_le
#print axioms Hpx.EnvelopePolar.dSc_central_le
#print axioms Hpx.EnvelopePolar.new_slopeNpc_eq
#print axioms Hpx.C2VReal.new_slopeNpc_nonneg
#print axioms Hpx.C2VReal.largestC2VWithRadius_not_cone_bound'
#print axioms Hpx.C2VReal.largestC2VWithRadius_upper_bound_npc
