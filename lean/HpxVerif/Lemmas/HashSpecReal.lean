/-
C01 over the reals: the front end stays in range (C02); containment with respect to the HEALPix projection written independently of the code
(Calabretta & Roukema, `H = 4`, `K = 3`), and the behaviour on the cap seams for negative longitudes.
-/
import HpxVerif.Lemmas.HashRealContains
import HpxVerif.Lemmas.PlaneChart
import HpxVerif.Lemmas.CellReal
import Mathlib.Data.Real.Sign

namespace Hpx.HashReal
open Real Hpx.Proj Hpx.Hash

/-- C02: over the reals the front end of `hash` produces `h + l`, `h − l` in `[0, 2]` — the hypothesis "patterns small" of
    the bit-level prefix theorem holds for the exact values -/
theorem frontend_small_real (lon lat : ℝ) (hlon : |lon| < 64 * π) (hl1 : -(π / 2) ≤ lat) (hl2 : lat ≤ π / 2) :
    0 ≤ (d0hLhInD0c (α := ℝ) lon lat).2.2 + (d0hLhInD0c (α := ℝ) lon lat).2.1 ∧
    (d0hLhInD0c (α := ℝ) lon lat).2.2 + (d0hLhInD0c (α := ℝ) lon lat).2.1 ≤ 2 ∧
    0 ≤ (d0hLhInD0c (α := ℝ) lon lat).2.2 - (d0hLhInD0c (α := ℝ) lon lat).2.1 ∧
    (d0hLhInD0c (α := ℝ) lon lat).2.2 - (d0hLhInD0c (α := ℝ) lon lat).2.1 ≤ 2 := by
  obtain ⟨hq, hn, e⟩ := d0hLhInD0c_eq lon lat (lon_bound lon hlon) hl1 hl2
  rw [e]
  obtain ⟨_, a, b, c, d, _⟩ := partsAt_geom _ _ _ hq hn
  exact ⟨a, b, c, d⟩

/-- HEALPix projection (Calabretta & Roukema 2007, `H = 4`, `K = 3`) scaled by `4/π`, `xc` the centre of the facet.  Same
    text as `Hpx.Proj.projSpec` of `ProjRealSpec.lean`. -/
noncomputable def projSpecXY (lon lat : ℝ) : ℝ × ℝ :=
  let z := Real.sin lat
  if |z| ≤ 2 / 3 then (lon * 4 / π, 3 / 2 * z)
  else
    let σ := Real.sqrt (3 * (1 - |z|))
    let xc : ℝ := 2 * (⌊lon * 2 / π⌋ : ℝ) + 1
    (xc + (lon * 4 / π - xc) * σ, Real.sign lat * (2 - σ))

/-- the specification in terms of `σ` and the ordinate: in the equatorial zone `σ = 1` and the facet centre cancels -/
theorem projSpecXY_eq (lon lat : ℝ) (hl1 : -(π / 2) ≤ lat) (hl2 : lat ≤ π / 2) :
    projSpecXY lon lat =
      (2 * (⌊lon * 2 / π⌋ : ℝ) + 1 + (lon * 4 / π - (2 * (⌊lon * 2 / π⌋ : ℝ) + 1)) * sigma lat, planeY lat) :=
  projSpec_eq lon lat hl1 hl2

/-- abscissa of the specification vs `xpm1_and_q`, modulo 8.  Excluded: negative longitudes exactly on a cap seam
    (`lon = −kπ/2`, `|sin lat| > 2/3`), where the code takes the facet west of the seam (`xpm1 = +1`) and the
    specification the facet east of it. -/
theorem spec_abscissa (lon lat : ℝ) (hlon : |lon| * (4 / π) < 256) (hl1 : -(π / 2) ≤ lat) (hl2 : lat ≤ π / 2)
    (hseam : 0 ≤ lon ∨ |Real.sin lat| ≤ 2 / 3 ∨ ∀ z : ℤ, lon ≠ (z : ℝ) * (π / 2)) :
    ∃ m : ℤ, (projSpecXY lon lat).1 + 8 * (m : ℝ) =
      (xpm1AndQ (α := ℝ) lon).1 * sigma lat + (2 * ((xpm1AndQ (α := ℝ) lon).2 : ℝ) + 1) := by
  have hpi := Real.pi_pos
  obtain ⟨k, hk, h1, h2⟩ := facet_exists _ (by positivity : 0 ≤ |lon| * (4 / π)) 128 (by push_cast; linarith only [hlon])
  rw [xpm1AndQ_real lon k hk h1 h2, projSpecXY_eq lon lat hl1 hl2]
  simp only []
  have hm4 := cast_mod4 k
  generalize k / 4 = c at hm4
  rcases lt_or_ge lon 0 with hneg | hpos
  · simp only [hneg, if_true]
    rw [abs_of_neg hneg] at h1 h2 ⊢
    have ht : lon * 4 / π = -(-lon * (4 / π)) := by ring
    have ht2 : lon * 2 / π = -(-lon * (4 / π)) / 2 := by ring
    rw [Nat.cast_sub (by omega : k % 4 ≤ 3), hm4]
    by_cases hsig : sigma lat = 1
    · refine ⟨1 + (c : ℤ), ?_⟩
      rw [hsig, ht]; push_cast; ring
    · have hns : (2 * k : ℝ) ≠ -lon * (4 / π) := by
        intro he
        rcases hseam with h | h | h
        · linarith only [h, hneg]
        · have := sigma_planeY_spec lat hl1 hl2
          rw [if_pos h] at this
          exact hsig (Prod.mk.inj this).1.symm
        · apply h (-(k : ℤ))
          have : -lon = (2 * k : ℝ) / (4 / π) := by rw [he]; field_simp
          have : lon = -((2 * k : ℝ) / (4 / π)) := by linarith only [this]
          rw [this]; push_cast; field_simp; ring
      have hlt : (2 * k : ℝ) < -lon * (4 / π) := lt_of_le_of_ne h1 hns
      have hfl : ⌊lon * 2 / π⌋ = -(k : ℤ) - 1 := by
        rw [Int.floor_eq_iff, ht2]; push_cast; constructor <;> linarith only [hlt, h2]
      refine ⟨1 + (c : ℤ), ?_⟩
      rw [hfl, ht]; push_cast; ring
  · simp only [not_lt.mpr hpos, if_false]
    rw [abs_of_nonneg hpos] at h1 h2 ⊢
    have ht : lon * 4 / π = lon * (4 / π) := by ring
    have ht2 : lon * 2 / π = lon * (4 / π) / 2 := by ring
    have hfl : ⌊lon * 2 / π⌋ = (k : ℤ) := by
      rw [Int.floor_eq_iff, ht2]; push_cast; constructor <;> linarith only [h1, h2]
    refine ⟨-(c : ℤ), ?_⟩
    rw [hfl, ht, hm4]; push_cast; ring

/-- **C01 against the independent projection, any sign of the longitude** (`|lon| < 64π`).
    Partial: negative longitudes exactly on a cap seam (`lon = −kπ/2` with `|sin lat| > 2/3`) are excluded; there the
    statement is false in the plane (`seam_counterexample`): the code returns the cell west of the seam, whose closed
    diamond contains the point on the sphere but lies across the gap of the interrupted projection. -/
theorem hash_real_contains_spec_partial (d : ℕ) (hd : d ≤ 32) (lon lat : ℝ) (hlon : |lon| < 64 * π)
    (hl1 : -(π / 2) ≤ lat) (hl2 : lat ≤ π / 2)
    (hseam : 0 ≤ lon ∨ |Real.sin lat| ≤ 2 / 3 ∨ ∀ z : ℤ, lon ≠ (z : ℝ) * (π / 2)) :
    (d0hLhInD0c (α := ℝ) lon lat).1 < 12 ∧
      gridCoord d ((d0hLhInD0c (α := ℝ) lon lat).2.2 + (d0hLhInD0c (α := ℝ) lon lat).2.1) < 2 ^ d ∧
      gridCoord d ((d0hLhInD0c (α := ℝ) lon lat).2.2 - (d0hLhInD0c (α := ℝ) lon lat).2.1) < 2 ^ d ∧
      ∃ m : ℤ, InDiamond d (d0hLhInD0c (α := ℝ) lon lat).1
        (gridCoord d ((d0hLhInD0c (α := ℝ) lon lat).2.2 + (d0hLhInD0c (α := ℝ) lon lat).2.1))
        (gridCoord d ((d0hLhInD0c (α := ℝ) lon lat).2.2 - (d0hLhInD0c (α := ℝ) lon lat).2.1))
        ((projSpecXY lon lat).1 + 8 * (m : ℝ)) (projSpecXY lon lat).2 := by
  have hb := lon_bound lon hlon
  exact contains_of_plane d hd lon lat hb hl1 hl2 _ (by rw [projSpecXY_eq lon lat hl1 hl2])
    (spec_abscissa lon lat hb hl1 hl2 hseam)

/-- **C01 against the independent projection, non-negative longitudes** (`0 ≤ lon < 64π`, in particular
    `0 ≤ lon < 2π`): the closed diamond of the cell `(d0h, i, j)` computed by `hash_v2` contains the
    Calabretta–Roukema projection of the point, abscissa modulo 8.  No seam is excluded. -/
theorem hash_real_contains_spec (d : ℕ) (hd : d ≤ 32) (lon lat : ℝ) (hlon0 : 0 ≤ lon) (hlon : lon < 64 * π)
    (hl1 : -(π / 2) ≤ lat) (hl2 : lat ≤ π / 2) :
    (d0hLhInD0c (α := ℝ) lon lat).1 < 12 ∧
      gridCoord d ((d0hLhInD0c (α := ℝ) lon lat).2.2 + (d0hLhInD0c (α := ℝ) lon lat).2.1) < 2 ^ d ∧
      gridCoord d ((d0hLhInD0c (α := ℝ) lon lat).2.2 - (d0hLhInD0c (α := ℝ) lon lat).2.1) < 2 ^ d ∧
      ∃ m : ℤ, InDiamond d (d0hLhInD0c (α := ℝ) lon lat).1
        (gridCoord d ((d0hLhInD0c (α := ℝ) lon lat).2.2 + (d0hLhInD0c (α := ℝ) lon lat).2.1))
        (gridCoord d ((d0hLhInD0c (α := ℝ) lon lat).2.2 - (d0hLhInD0c (α := ℝ) lon lat).2.1))
        ((projSpecXY lon lat).1 + 8 * (m : ℝ)) (projSpecXY lon lat).2 :=
  hash_real_contains_spec_partial d hd lon lat (by rw [abs_of_nonneg hlon0]; exact hlon) hl1 hl2 (Or.inl hlon0)

theorem xpm1AndQ_neg_half_pi : xpm1AndQ (α := ℝ) (-(π / 2)) = (1, 2) := by
  have hpi := Real.pi_pos
  have hx : |-(π / 2)| * (4 / π) = 2 := by
    rw [abs_neg, abs_of_pos (by positivity)]; field_simp; ring
  rw [xpm1AndQ_real _ 1 (by norm_num) (by rw [hx]; norm_num) (by rw [hx]; norm_num), hx, if_pos (by linarith)]
  norm_num

theorem xpm1AndQ_three_half_pi : xpm1AndQ (α := ℝ) (3 * π / 2) = (-1, 3) := by
  have hpi := Real.pi_pos
  have hx : |3 * π / 2| * (4 / π) = 6 := by
    rw [abs_of_pos (by positivity)]; field_simp; ring
  rw [xpm1AndQ_real _ 3 (by norm_num) (by rw [hx]; norm_num) (by rw [hx]; norm_num), hx, if_neg (by linarith)]
  norm_num

/-- **`hash` is not `2π`-periodic on the cap seams**: `lon = −π/2` and `lon = 3π/2` are the same meridian; in the north
    cap the first is sent to base cell 2 (east border, `xpm1 = +1`), the second to base cell 3 (west border,
    `xpm1 = −1`).  Both closed cells contain the point on the sphere. -/
theorem seam_not_periodic (lat : ℝ) (hN : Real.arcsin (2 / 3) < lat) :
    (d0hLhInD0c (α := ℝ) (-(π / 2)) lat).1 = 2 ∧ (d0hLhInD0c (α := ℝ) (3 * π / 2) lat).1 = 3 := by
  unfold d0hLhInD0c
  simp only [xpm1AndQ_neg_half_pi, xpm1AndQ_three_half_pi, r_gt, r_transitionLat, hN, decide_true, if_true, and_self]

/-- **Counter-example to the plane statement without the seam exclusion.**  For `lon = −π/2` and every latitude of the
    north cap (`asin(2/3) < lat ≤ π/2`, e.g. `lat = π/2` where `σ = 0`), the code answers base cell 2 while the
    Calabretta–Roukema point `(−1 − σ, 2 − σ)` is in no closed diamond of base cell 2, whatever the shift by a multiple
    of 8: it lies on the other side of the gap between the facets (in the closed diamond of base cell 3's west border). -/
theorem seam_counterexample (d i j : ℕ) (hi : i < 2 ^ d) (hj : j < 2 ^ d) (lat : ℝ)
    (hN : Real.arcsin (2 / 3) < lat) (hl2 : lat ≤ π / 2) :
    (d0hLhInD0c (α := ℝ) (-(π / 2)) lat).1 = 2 ∧
    ¬ ∃ m : ℤ, InDiamond d 2 i j ((projSpecXY (-(π / 2)) lat).1 + 8 * (m : ℝ)) (projSpecXY (-(π / 2)) lat).2 := by
  have hpi := Real.pi_pos
  have hA := asin23_nonneg
  refine ⟨(seam_not_periodic lat hN).1, ?_⟩
  rintro ⟨m, h⟩
  obtain ⟨⟨-, a2⟩, b1, b2⟩ := h.base hi hj
  obtain ⟨-, hs1⟩ : 0 ≤ sig lat ∧ sig lat < 1 := collignon_y_lt_one lat hN hl2
  have hfl : ⌊-(π / 2) * 2 / π⌋ = -1 := by
    rw [show -(π / 2) * 2 / π = -1 by field_simp]; norm_num
  have ht : -(π / 2) * 4 / π = -2 := by field_simp; ring
  have hc : baseCentre 2 = (5, 1) := by norm_num [baseCentre]
  simp only [projSpecXY_eq _ _ (by linarith only [hN, hA, hpi]) hl2, hfl, ht, hc, sigma_of_north hN, planeY_of_north hN]
    at a2 b1 b2
  push_cast at a2 b1 b2
  -- the point is `(−1 − σ, 2 − σ)`: the second diagonal coordinate `8 − 8m ∈ [0, 2]` forces `m = 1`, and then the first,
  -- `8m − 4 − 2σ ≤ 2`, fails for `σ < 1`
  have hm1 : m = 1 := by
    have u : (m : ℝ) < 2 := by linarith only [b1]
    have l : (0 : ℝ) < (m : ℝ) := by linarith only [b2]
    have u' : m < 2 := by exact_mod_cast u
    have l' : 0 < m := by exact_mod_cast l
    omega
  subst hm1
  push_cast at a2
  linarith only [a2, hs1]

/-- the seam exclusion is satisfiable on both sides: a generic negative longitude in the cap, and a seam in the
    equatorial zone -/
example : (∀ z : ℤ, (-(1 / 2) : ℝ) ≠ (z : ℝ) * (π / 2)) ∧ |Real.sin 0| ≤ 2 / 3 := by
  refine ⟨fun z hz => ?_, by simp; norm_num⟩
  have hpi := Real.two_le_pi
  rcases le_or_gt 0 z with h | h
  · have : (0 : ℝ) ≤ (z : ℝ) := by exact_mod_cast h
    have : 0 ≤ (z : ℝ) * (π / 2) := by positivity
    linarith
  · have h' : z ≤ -1 := by omega
    have : (z : ℝ) ≤ -1 := by exact_mod_cast h'
    nlinarith

theorem xpm1AndQ_saturated : xpm1AndQ (α := ℝ) (129 * π / 2) = (3, 3) := by
  have hpi := Real.pi_pos
  have hx : |129 * π / 2| * (4 / π) = 258 := by
    rw [abs_of_pos (by positivity)]; field_simp; ring
  have hneg : ¬ (129 * π / 2 < 0) := not_lt.mpr (by positivity)
  unfold xpm1AndQ
  simp only [r_abs, r_signBit, r_fourOverPi, r_ofNat, hx, oddFloor_saturated 258 (by norm_num), hneg, decide_false,
    Bool.not_false, if_true]
  norm_num; rfl

/-- **Beyond `|lon| = 64π` the front end is wrong**: at `lon = 64π + π/2` (same meridian as `π/2`), `lat = 0`,
    `|lon|·4/π = 258` saturates the `u8` cast at 255; `xpm1 = 3`, `h + l = 3` and the first grid coordinate is
    `3·nside/2 ≥ nside` (debug builds: assertion of `build_hash_from_parts`; release: bits spill into the base cell). -/
theorem lon_saturation_counterexample (d : ℕ) (hd1 : 1 ≤ d) (hd : d ≤ 31) :
    ¬ gridCoord d ((d0hLhInD0c (α := ℝ) (129 * π / 2) 0).2.2 + (d0hLhInD0c (α := ℝ) (129 * π / 2) 0).2.1) < 2 ^ d := by
  have hA := asin23_nonneg
  have hp : d0hLhInD0c (α := ℝ) (129 * π / 2) 0 = (4, 2, 1) := by
    unfold d0hLhInD0c
    simp only [xpm1AndQ_saturated, r_gt, r_lt, r_ge, r_transitionLat, r_sin, r_ootz, r_ofInt, r_ofNat, Real.sin_zero]
    rw [if_neg (by simpa using hA), if_neg (by simpa using hA)]
    norm_num [(eqD0h_table 3 (by norm_num)).1]
  rw [hp]
  simp only []
  obtain ⟨e, rfl⟩ : ∃ e, d = e + 1 := ⟨d - 1, by omega⟩
  rw [gridCoord_floor _ _ (by norm_num), show (2 : ℝ) ^ (e + 1) / 2 * (1 + 2) = ((3 * 2 ^ e : ℕ) : ℝ) by push_cast; ring,
    Nat.floor_natCast, Nat.pow_succ 2 e]
  have he : 2 ^ e ≤ 2 ^ 30 := Nat.pow_le_pow_right (by norm_num) (by omega)
  have hpos : 1 ≤ 2 ^ e := Nat.one_le_two_pow
  generalize 2 ^ e = N at *
  rw [min_eq_left (by omega), if_neg (by omega)]
  omega

theorem inDiamond_iff_l1 (d b i j : ℕ) (X Y : ℝ) :
    InDiamond d b i j X Y ↔
      |(2 : ℝ) ^ d * (X - (baseCentre b).1) - ((i : ℝ) - (j : ℝ))| +
        |(2 : ℝ) ^ d * (Y - (baseCentre b).2) - ((i : ℝ) + (j : ℝ) + 1 - (2 : ℝ) ^ d)| ≤ 1 := by
  rw [abs_add_abs_le_iff, InDiamond]
  constructor
  · rintro ⟨h1, h2, h3, h4⟩
    exact ⟨⟨by linarith only [h1], by linarith only [h2]⟩, by linarith only [h3], by linarith only [h4]⟩
  · rintro ⟨⟨h1, h2⟩, h3, h4⟩
    exact ⟨by linarith only [h1], by linarith only [h2], by linarith only [h3], by linarith only [h4]⟩

/-- `baseCentre` and the grid centre `(i − j, i + j + 1 − n)` are the integer centre `Layer.centerXY` of the model
    (abscissa up to the wrap by `8·nside` applied to negative values) -/
theorem centerXY_baseCentre (d b i j : ℕ) (hb : b < 12) :
    (((Layer.centerXY d ⟨b, i, j⟩).2 : ℤ) : ℝ) = (2 : ℝ) ^ d * (baseCentre b).2 + ((i : ℝ) + (j : ℝ) + 1 - (2 : ℝ) ^ d) ∧
    ∃ m : ℤ, (((Layer.centerXY d ⟨b, i, j⟩).1 : ℤ) : ℝ) =
      (2 : ℝ) ^ d * ((baseCentre b).1 + 8 * (m : ℝ)) + ((i : ℝ) - (j : ℝ)) := by
  obtain ⟨k1, k2⟩ := CellReal.centerXY_real d b i j
  have hp : (0 : ℝ) < 2 ^ d := by positivity
  -- the two vocabularies name the same centre of base cell `b`
  have hB : baseCentre b = (CellReal.baseX b, CellReal.baseY b) := by
    have hq : b / 4 = 0 ∨ b / 4 = 1 ∨ b / 4 = 2 := by omega
    unfold baseCentre CellReal.baseX CellReal.baseY
    rcases hq with h | h | h <;> simp [h] <;> ring
  rw [k1, k2, hB]
  unfold CellReal.cellCy CellReal.norm8 CellReal.cellCx
  constructor
  · field_simp
  · split_ifs
    · exact ⟨1, by push_cast; field_simp; ring⟩
    · exact ⟨0, by push_cast; field_simp; ring⟩

/-- the upper inequality of `gridCoord_spec` is strict except at `v = 2`: inside a base cell the cell owns its two
    southern edges (`i ≤ … < i + 1`), and only the north-east / north-west border of the base cell (`h ± l = 2`) is
    attached by the clamp to the last row -/
theorem gridCoord_half_open (d : ℕ) (hd : d ≤ 32) (v : ℝ) (h0 : 0 ≤ v) (h2 : v < 2) :
    (2 : ℝ) ^ d / 2 * v < (gridCoord d v : ℝ) + 1 :=
  (gridCoord_spec d hd v h0 h2.le).2.2.2 h2

end Hpx.HashReal

#print axioms Hpx.HashReal.hash_real_contains
#print axioms Hpx.HashReal.hash_real_contains_spec
#print axioms Hpx.HashReal.hash_real_contains_spec_partial
#print axioms Hpx.HashReal.seam_counterexample
#print axioms Hpx.HashReal.lon_saturation_counterexample
