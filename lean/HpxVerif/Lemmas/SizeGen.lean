/-
The depth-indexed integer constants of the model are the ones the SOURCE computes: `Gen/SizeTables.lean` is produced on
every run by interpreting `nested::{x_mask, y_mask, xy_mask}`, `lib::{nside_unsafe, nside_square_unsafe, n_hash_unsafe}`
and the body of `Layer::new` (translator/rsmini.py: integer semantics with overflowing shifts and subtractions as
panics), and the hand-written definitions of `Model/Layer.lean`, `Model/Hash.lean`, `Model/Topo.lean` are proved equal to
those tables, entry by entry, for every depth 0..29 (masks: every delta_depth 0..32).
-/
import HpxVerif.Gen.SizeTables
import HpxVerif.Model.Topo
import HpxVerif.Model.Hash

set_option autoImplicit false

namespace Hpx.SizeGen
open Hpx

/-- the integer fields of `Layer::new(d)` as the model computes them, in the order of `Gen.Size.layerFields`:
    depth, nside, nside_minus_1, n_hash, twice_depth, d0h_mask, x_mask, y_mask, xy_mask, nside_remainder_mask -/
def modelLayerFields (d : Nat) : List Nat :=
  [d, Layer.nside d, Layer.nside d - 1, Layer.nHash d, d <<< 1, Layer.d0hMask d, Layer.xMask d, Layer.yMask d,
   Layer.xyMask d, Layer.xyMask d >>> d]

theorem layer_fields_from_source : (List.range 30).map modelLayerFields = Gen.Size.layerFields := by decide +kernel

/-- `time_half_nside` is the exponent increment `(depth − 1) << 52` (`−1 << 52` at depth 0) -/
theorem time_half_nside_from_source :
    (List.range 30).map (fun d => Hash.timeHalfNside d * 2 ^ 52) = Gen.Size.layerTimeHalfNside := by decide +kernel

theorem xMaskFn_cfg (cfg : Cfg) : Topo.xMaskFn cfg = Topo.xMaskFn ⟨false, false⟩ := rfl
theorem yMaskFn_cfg (cfg : Cfg) : Topo.yMaskFn cfg = Topo.yMaskFn ⟨false, false⟩ := rfl
theorem xyMaskFn_cfg (cfg : Cfg) : Topo.xyMaskFn cfg = Topo.xyMaskFn ⟨false, false⟩ := rfl

/-- `x_mask`, `y_mask`, `xy_mask` for every `delta_depth` 0..32, any configuration; `delta_depth = 0` gives the empty
    mask (F25) -/
theorem masks_from_source (cfg : Cfg) :
    (List.range 33).map (Topo.xMaskFn cfg) = Gen.Size.xMask ∧
    (List.range 33).map (Topo.yMaskFn cfg) = Gen.Size.yMask ∧
    (List.range 33).map (Topo.xyMaskFn cfg) = Gen.Size.xyMask := by
  rw [xMaskFn_cfg cfg, yMaskFn_cfg cfg, xyMaskFn_cfg cfg]
  decide +kernel

theorem sizes_from_source :
    (List.range 30).map (fun d => some (Layer.nside d)) = Gen.Size.nside ∧
    (List.range 30).map (fun d => some (4 ^ d)) = Gen.Size.nsideSquare ∧
    (List.range 30).map (fun d => some (Layer.nHash d)) = Gen.Size.nHash := by decide +kernel

end Hpx.SizeGen
