/-
C09 for the coverage queries: **every BMOC returned by `cone_coverage_approx(_custom)`, `elliptical_cone_coverage(_custom)`
and `polygon_coverage` (both modes) is well formed** — for every input, every numeric instance `α` (whatever the
floating-point tests answer), every depth `≤ 29`, both z-order builds, debug assertions on or off.

No hypothesis on the centre cell `h0 = hash(depth_start, lon, lat)` is needed: `Layer::neighbours` checks its argument
(`check_hash`, `hash ≥ n_hash → panic`), so when the coverage returns a BMOC the centre cell was in range.

`Good` (well formed, valid entries, depth `≤ 29`) is closed under `not`, `and`, `or`, `xor`, hence holds of
every BMOC reachable from the coverages by the operators (`reach_good`).
-/
import HpxVerif.Lemmas.CoverWF
import HpxVerif.Lemmas.SearchTree
import HpxVerif.Lemmas.TopoLiftClauses
import HpxVerif.Lemmas.BmocLower
import HpxVerif.Lemmas.BmocBuilder
import HpxVerif.Lemmas.CoverInternal
import HpxVerif.Lemmas.PolyCoverSpec
import HpxVerif.Lemmas.BmocAnd
import HpxVerif.Lemmas.BmocNot
import HpxVerif.Lemmas.BmocOrXor

set_option autoImplicit false

namespace Hpx.CoverAll
open Hpx Hpx.Bmoc Hpx.Cover

theorem startFold_wf (cfg : Cfg) (target : Nat) (κ : Nat → Nat → Nat → Option Verdict) (fuel ds : Nat)
    (hds : ds ≤ target) (hd : ds ≤ 29) (h0 : Nat) (nm : List (MW × Nat))
    (hnm : Topo.neighbours cfg ds h0 true = some nm) (out : List Cell)
    (h : (sortNat (nm.map (·.2))).foldlM (fun acc r => (coverRec target κ fuel ds r 0).map (acc ++ ·)) [] = some out) :
    WF target out ∧ ∀ c ∈ out, InRange c := by
  obtain ⟨s1, s2, _⟩ :=
    TopoLift.neighbours_values_sorted_distinct cfg ds hd h0 (TopoLift.neighbours_some_valid hnm).2 true nm hnm
  exact rootsFold_wf target κ fuel ds hds _ s1 s2 out h

theorem sameDepth_wf (D d : Nat) (hd : d ≤ D) (fl : Bool) (l : List Nat) (hp : l.Pairwise (· < ·))
    (hr : ∀ v ∈ l, v < 12 * 4 ^ d) :
    WF D (l.map fun h => ({ depth := d, hash := h, full := fl } : Cell)) ∧
    ∀ c ∈ l.map fun h => ({ depth := d, hash := h, full := fl } : Cell), InRange c := by
  refine ⟨?_, ?_⟩
  · induction l with
    | nil => trivial
    | cons a l ih =>
      rw [List.pairwise_cons] at hp
      simp only [List.map_cons]
      refine ⟨hd, ?_, ih hp.2 (fun v hv => hr v (by simp [hv]))⟩
      intro c' hc'
      simp only [List.mem_map] at hc'
      obtain ⟨b, hb, rfl⟩ := hc'
      show (a + 1) * 4 ^ (D - d) ≤ b * 4 ^ (D - d)
      exact Nat.mul_le_mul_right _ (hp.1 b hb)
  · intro c hc
    simp only [List.mem_map] at hc
    obtain ⟨b, hb, rfl⟩ := hc
    exact hr b hb

theorem allsky_wf (depth : Nat) :
    WF depth ((List.range 12).map fun h => ({ depth := 0, hash := h, full := true } : Cell)) ∧
    ∀ c ∈ (List.range 12).map fun h => ({ depth := 0, hash := h, full := true } : Cell), InRange c :=
  sameDepth_wf depth 0 (Nat.zero_le _) true _ (by decide) (fun v hv => by simpa using List.mem_range.1 hv)

theorem smallBranch_wf (cfg : Cfg) (depth ds : Nat) (hds : depth ≤ ds) (hd : ds ≤ 29) (h0 : Nat)
    (nm : List (MW × Nat)) (hnm : Topo.neighbours cfg ds h0 true = some nm) (g : MW × Nat → Option Bool) (l : List Nat)
    (hl : nm.foldlM (fun acc e => (g e).map fun k => if k = true then acc ++ [e.2 >>> ((ds - depth) <<< 1)] else acc) []
      = some l) :
    WF depth ((dedupAdj (sortNat l)).map fun h => ({ depth := depth, hash := h, full := false } : Cell)) ∧
    ∀ c ∈ (dedupAdj (sortNat l)).map fun h => ({ depth := depth, hash := h, full := false } : Cell), InRange c := by
  obtain ⟨_, hv⟩ := TopoLift.neighbours_distinct_hash_center cfg ds hd h0 (TopoLift.neighbours_some_valid hnm).2 true nm hnm
  obtain ⟨s1, s2⟩ := Builder.sort_dedup_spec l
  refine sameDepth_wf depth depth (Nat.le_refl _) false _ s1 ?_
  intro v hvm
  rcases (filter_fold_spec g _ nm [] l hl).2.2 v ((s2 v).1 hvm) with h1 | ⟨e, he, rfl, _⟩
  · simp at h1
  · show e.2 >>> ((ds - depth) <<< 1) < 12 * 4 ^ depth
    rw [shr_eq_div]
    exact Lower.anc_lt hds (hv e.2 (List.mem_map.2 ⟨e, he, rfl⟩))

theorem Internal.wf {α : Type} [Num α] {cfg : Cfg} {depth : Nat} {lon lat r : α}
    {κ : List α → Nat → Nat → Nat → Option Verdict} {keep : Nat → α → MW × Nat → Option Bool} {cells : List Cell}
    (h : Internal cfg depth lon lat r κ keep cells) : WF depth cells ∧ ∀ c ∈ cells, InRange c := by
  cases h with
  | base _ _ hfold => exact baseCellsFold_wf depth _ (depth + 2) cells hfold
  | deep _ hds hlt _ hnm _ hfold =>
    exact startFold_wf cfg depth _ (depth + 2) _ hlt.le (bestDepth_le r _ hds) _ _ hnm cells hfold
  | small _ hds hge _ hnm _ hl => exact smallBranch_wf cfg depth _ hge (bestDepth_le r _ hds) _ _ hnm _ _ hl

theorem coneInternal_wf {α : Type} [Num α] (cfg : Cfg) (depth : Nat) (lon lat r : α) (cells : List Cell)
    (h : coneInternal cfg depth lon lat r = some cells) : WF depth cells ∧ ∀ c ∈ cells, InRange c := by
  rcases coneInternal_cases cfg depth lon lat r cells h with ⟨_, rfl⟩ | h
  · exact allsky_wf depth
  · exact Internal.wf h

theorem ellInternal_wf {α : Type} [Num α] (cfg : Cfg) (depth : Nat) (lon lat a b pa : α) (cells : List Cell)
    (h : Sph.ellInternal cfg depth lon lat a b pa = some cells) : WF depth cells ∧ ∀ c ∈ cells, InRange c := by
  rcases (Sph.ellInternal_cases cfg depth lon lat a b pa cells h).2 with ⟨_, rfl⟩ | h
  · exact allsky_wf depth
  · exact Internal.wf h

/-- what is proved of every returned BMOC (a query at a depth above 29 returns nothing) -/
def WellFormed (depth : Nat) (b : BMOC) : Prop :=
  depth ≤ 29 ∧ b.dmax = depth ∧ (∀ e ∈ b.entries, ValidRaw depth e) ∧ WF depth (cellsOf depth b.entries) ∧
  b.entries.Pairwise (· < ·)

theorem finishCoverage_wf (internal : Nat → Option (List Cell))
    (hint : ∀ d cells, internal d = some cells → WF d cells ∧ ∀ c ∈ cells, InRange c) (depth deltaDepth : Nat) (b : BMOC)
    (h : finishCoverage internal depth deltaDepth = some b) : WellFormed depth b := by
  rcases finishCoverage_cases internal depth deltaDepth b h with ⟨_, hd, cells, hc, rfl⟩ | ⟨_, hdeep, cells, hc, rfl⟩
  · obtain ⟨k1, k2⟩ := hint _ _ hc
    obtain ⟨g1, g2, g3, _⟩ := packed_bmoc_wf depth hd cells k1 k2
    exact ⟨hd, rfl, g1, g2, g3⟩
  · obtain ⟨k1, k2⟩ := hint _ _ hc
    obtain ⟨g1, g2, _, _⟩ := packed_bmoc_wf _ hdeep cells k1 k2
    obtain ⟨w1, w2⟩ := Lower.toLower_wf _ depth hdeep (by omega) _ g1 g2
    exact ⟨by omega, rfl, w2, w1, entries_increasing depth (by omega) _ w2 w1⟩

/-- polygon coverage: nothing is packed -/
theorem encode_finish (depth : Nat) (hd : depth ≤ 29) (cells : List Cell) (hw : WF depth cells)
    (hr : ∀ c ∈ cells, InRange c) :
    WellFormed depth { dmax := depth, entries := cells.map (encode depth) } := by
  refine ⟨hd, rfl, validRaw_map_encode hw.depth_le hr, ?_, wf_encode_increasing depth cells hw⟩
  · show WF depth (cellsOf depth (cells.map (encode depth)))
    rw [cellsOf_map_encode depth hd cells hw.depth_le hr]
    exact hw

theorem cone_coverage_wellFormed {α : Type} [Num α] (cfg : Cfg) (depth : Nat) (lon lat r : α) (b : BMOC)
    (h : coneCoverageApprox cfg depth lon lat r = some b) : WellFormed depth b :=
  finishCoverage_wf _ (fun d cells => coneInternal_wf cfg d lon lat r cells) depth 0 b
    ((coneCoverageApprox_eq cfg depth lon lat r).symm.trans h)

/-- **`cone_coverage_approx`**: every returned BMOC is well formed — all-sky, base-cell start, starting depth with
    recursion, small-cone branch; every input, every numeric instance, every build -/
theorem cone_coverage_wf {α : Type} [Num α] (cfg : Cfg) (depth : Nat) (lon lat r : α) (b : BMOC)
    (h : coneCoverageApprox cfg depth lon lat r = some b) :
    b.dmax = depth ∧ (∀ e ∈ b.entries, ValidRaw depth e) ∧ WF depth (cellsOf depth b.entries) ∧
    b.entries.Pairwise (· < ·) :=
  (cone_coverage_wellFormed cfg depth lon lat r b h).2

theorem cone_coverage_custom_wellFormed {α : Type} [Num α] (cfg : Cfg) (depth deltaDepth : Nat) (lon lat r : α) (b : BMOC)
    (h : coneCoverageApproxCustom cfg depth deltaDepth lon lat r = some b) : WellFormed depth b :=
  finishCoverage_wf _ (fun d cells => coneInternal_wf cfg d lon lat r cells) depth deltaDepth b
    ((coneCoverageApproxCustom_eq cfg depth deltaDepth lon lat r).symm.trans h)

/-- **`cone_coverage_approx_custom`**: descent at `depth + delta_depth`, then `to_lower_depth` and nothing else
    (`delta_depth = 0`: `cone_coverage_approx`) -/
theorem cone_coverage_custom_wf {α : Type} [Num α] (cfg : Cfg) (depth deltaDepth : Nat) (lon lat r : α) (b : BMOC)
    (h : coneCoverageApproxCustom cfg depth deltaDepth lon lat r = some b) :
    b.dmax = depth ∧ (∀ e ∈ b.entries, ValidRaw depth e) ∧ WF depth (cellsOf depth b.entries) ∧
    b.entries.Pairwise (· < ·) :=
  (cone_coverage_custom_wellFormed cfg depth deltaDepth lon lat r b h).2

theorem elliptical_cone_coverage_wellFormed {α : Type} [Num α] (cfg : Cfg) (depth deltaDepth : Nat) (lon lat a b pa : α)
    (m : BMOC) (h : Sph.ellipticalConeCoverageCustom cfg depth deltaDepth lon lat a b pa = some m) : WellFormed depth m :=
  finishCoverage_wf _ (fun d cells => ellInternal_wf cfg d lon lat a b pa cells) depth deltaDepth m h

/-- **`elliptical_cone_coverage(_custom)`** (including `delta_depth = 0`): every returned BMOC is well formed -/
theorem elliptical_cone_coverage_wf {α : Type} [Num α] (cfg : Cfg) (depth deltaDepth : Nat) (lon lat a b pa : α)
    (m : BMOC) (h : Sph.ellipticalConeCoverageCustom cfg depth deltaDepth lon lat a b pa = some m) :
    m.dmax = depth ∧ (∀ e ∈ m.entries, ValidRaw depth e) ∧ WF depth (cellsOf depth m.entries) ∧
    m.entries.Pairwise (· < ·) :=
  (elliptical_cone_coverage_wellFormed cfg depth deltaDepth lon lat a b pa m h).2

theorem polygon_coverage_with_wf {α : Type} [Num α] (cfg : Cfg) (depth : Nat) (vertices : List (α × α))
    (extra : Sph.Polygon α → Option (List Nat)) (m : BMOC)
    (h : Sph.polygonCoverageWith cfg depth vertices extra = some m) : WellFormed depth m := by
  obtain ⟨hd, poly, hs, ex, ds, roots, cells, _, _, _, hst, hcells, rfl⟩ :=
    PolyCompose.coverage_spec_with cfg depth vertices extra m h
  have key : WF depth cells ∧ ∀ c ∈ cells, InRange c := by
    rcases PolyCompose.startCells_cases cfg depth poly ds roots hst with ⟨_, rfl, rfl⟩ | ⟨ds0, h0, nm, _, _, rfl, hnm, rfl⟩
    · exact baseCellsFold_wf depth _ (depth + 2) cells hcells
    · exact startFold_wf cfg depth _ (depth + 2) _ (Nat.min_le_right _ _)
        (Nat.le_trans (Nat.min_le_right _ _) hd) h0 nm hnm cells hcells
  exact encode_finish depth hd cells key.1 key.2

/-- **`polygon_coverage(vertices, exact_solution)`, both modes** -/
theorem polygon_coverage_wf {α : Type} [Num α] (cfg : Cfg) (depth : Nat) (vertices : List (α × α)) (exact : Bool)
    (m : BMOC) (h : Sph.polygonCoverage cfg depth vertices exact = some m) :
    m.dmax = depth ∧ (∀ e ∈ m.entries, ValidRaw depth e) ∧ WF depth (cellsOf depth m.entries) ∧
    m.entries.Pairwise (· < ·) :=
  (polygon_coverage_with_wf cfg depth vertices _ m h).2

open Hpx.Sph in
theorem polygonCoverage_false {α : Type} [Num α] (cfg : Cfg) (depth : Nat) (vertices : List (α × α)) :
    polygonCoverage cfg depth vertices false = polygonCoverageApprox cfg depth vertices := by
  unfold polygonCoverage polygonCoverageWith polygonCoverageApprox
  simp only [Bool.false_eq_true, if_false]
  split
  · rfl
  · cases Polygon.new cfg.debug vertices with
    | none => rfl
    | some poly =>
      simp only []
      cases boundingCone poly.vertices with
      | none => rfl
      | some cr =>
        obtain ⟨centre, radius⟩ := cr
        simp only []
        congr 1
        funext a
        cases List.mapM (fun c => Hash.hashV2 cfg depth c.lon c.lat) poly.vertices <;> simp only [List.append_nil]

theorem polygon_coverage_approx_wf {α : Type} [Num α] (cfg : Cfg) (depth : Nat) (vertices : List (α × α))
    (m : BMOC) (h : Sph.polygonCoverageApprox cfg depth vertices = some m) :
    m.dmax = depth ∧ (∀ e ∈ m.entries, ValidRaw depth e) ∧ WF depth (cellsOf depth m.entries) ∧
    m.entries.Pairwise (· < ·) :=
  polygon_coverage_wf cfg depth vertices false m ((polygonCoverage_false cfg depth vertices).trans h)

/-- a BMOC as handed to the user (identical to `Hpx.C09.Good`) -/
def Good (A : BMOC) : Prop := A.dmax ≤ 29 ∧ (∀ r ∈ A.entries, ValidRaw A.dmax r) ∧ WF A.dmax A.cells

theorem good_of_wellFormed {depth : Nat} {m : BMOC} (h : WellFormed depth m) : Good m := by
  obtain ⟨hd, rfl, h2, h3, _⟩ := h
  exact ⟨hd, h2, h3⟩

theorem encode_good (D : Nat) (hD : D ≤ 29) (cells : List Cell) (hw : WF D cells) (hr : ∀ c ∈ cells, InRange c) :
    Good { dmax := D, entries := cells.map (encode D) } :=
  good_of_wellFormed (encode_finish D hD cells hw hr)

theorem coverage_good {α : Type} [Num α] (cfg : Cfg) (m : BMOC) :
    (∀ depth (lon lat r : α), coneCoverageApprox cfg depth lon lat r = some m → Good m) ∧
    (∀ depth deltaDepth (lon lat r : α), coneCoverageApproxCustom cfg depth deltaDepth lon lat r = some m → Good m) ∧
    (∀ depth deltaDepth (lon lat a b pa : α),
      Sph.ellipticalConeCoverageCustom cfg depth deltaDepth lon lat a b pa = some m → Good m) ∧
    (∀ depth (vertices : List (α × α)) (exact : Bool), Sph.polygonCoverage cfg depth vertices exact = some m → Good m) :=
  ⟨fun depth lon lat r h => good_of_wellFormed (cone_coverage_wellFormed cfg depth lon lat r m h),
   fun depth dd lon lat r h => good_of_wellFormed (cone_coverage_custom_wellFormed cfg depth dd lon lat r m h),
   fun depth dd lon lat a b pa h => good_of_wellFormed (elliptical_cone_coverage_wellFormed cfg depth dd lon lat a b pa m h),
   fun depth vs ex h => good_of_wellFormed (polygon_coverage_with_wf cfg depth vs _ m h)⟩

theorem good_cells_inRange {A : BMOC} (g : Good A) : ∀ c ∈ A.cells, c.depth ≤ A.dmax ∧ InR c :=
  inRange_of_validRaw g.1 g.2.1

theorem not_good (A : BMOC) (g : Good A) : Good (BMOC.not A) := by
  obtain ⟨_, w1, r1⟩ := notCells_spec A.dmax g.1 A.cells g.2.2 (fun c hc => (good_cells_inRange g c hc).2)
  exact encode_good A.dmax g.1 _ w1 r1

theorem and_good (A B : BMOC) (gA : Good A) (gB : Good B) : Good (BMOC.and A B) := by
  have wA : WF (max A.dmax B.dmax) A.cells := WF_rebase (Nat.le_max_left _ _) gA.2.2
  have wB : WF (max A.dmax B.dmax) B.cells := WF_rebase (Nat.le_max_right _ _) gB.2.2
  exact encode_good _ (Nat.max_le.2 ⟨gA.1, gB.1⟩) _ (and_wf_inside _ A.cells B.cells wA wB).1
    (and_inR _ _ _ wA wB (fun c hc => (good_cells_inRange gA c hc).2))

theorem packedOp_good {op : Tri → Tri → Tri} {F : List Cell → List Cell → Option (List Cell)} (hF : Computes op F)
    (A B : BMOC) (gA : Good A) (gB : Good B) : ∃ R, packedOp F A B = some R ∧ Good R := by
  obtain ⟨R, h1, h2, h3, _, h5, _⟩ := packedOp_general hF A B gA.1 gB.1 gA.2.1 gB.2.1 gA.2.2 gB.2.2
  exact ⟨R, h1, by rw [h2]; exact Nat.max_le.2 ⟨gA.1, gB.1⟩, h2 ▸ h3, h2 ▸ h5.1⟩

theorem or_good (A B : BMOC) (gA : Good A) (gB : Good B) : ∃ R, BMOC.or A B = some R ∧ Good R :=
  packedOp_good computes_or A B gA gB

theorem xor_good (A B : BMOC) (gA : Good A) (gB : Good B) : ∃ R, BMOC.xor A B = some R ∧ Good R :=
  packedOp_good computes_xor A B gA gB

/-- the BMOCs a user can obtain from the coverage queries and the four logical operators (numeric instance `α`) -/
inductive Reach (α : Type) [Num α] (cfg : Cfg) : BMOC → Prop
  | cone (depth : Nat) (lon lat r : α) (m : BMOC) : coneCoverageApprox cfg depth lon lat r = some m → Reach α cfg m
  | coneCustom (depth deltaDepth : Nat) (lon lat r : α) (m : BMOC) :
      coneCoverageApproxCustom cfg depth deltaDepth lon lat r = some m → Reach α cfg m
  | ell (depth deltaDepth : Nat) (lon lat a b pa : α) (m : BMOC) :
      Sph.ellipticalConeCoverageCustom cfg depth deltaDepth lon lat a b pa = some m → Reach α cfg m
  | poly (depth : Nat) (vertices : List (α × α)) (exact : Bool) (m : BMOC) :
      Sph.polygonCoverage cfg depth vertices exact = some m → Reach α cfg m
  | not (a : BMOC) : Reach α cfg a → Reach α cfg (BMOC.not a)
  | and (a b : BMOC) : Reach α cfg a → Reach α cfg b → Reach α cfg (BMOC.and a b)
  | or (a b m : BMOC) : Reach α cfg a → Reach α cfg b → BMOC.or a b = some m → Reach α cfg m
  | xor (a b m : BMOC) : Reach α cfg a → Reach α cfg b → BMOC.xor a b = some m → Reach α cfg m

theorem reach_good {α : Type} [Num α] (cfg : Cfg) (m : BMOC) (h : Reach α cfg m) : Good m := by
  induction h with
  | cone depth lon lat r m h => exact (coverage_good cfg m).1 depth lon lat r h
  | coneCustom depth dd lon lat r m h => exact (coverage_good cfg m).2.1 depth dd lon lat r h
  | ell depth dd lon lat a b pa m h => exact (coverage_good cfg m).2.2.1 depth dd lon lat a b pa h
  | poly depth vs ex m h => exact (coverage_good cfg m).2.2.2 depth vs ex h
  | not a _ ih => exact not_good a ih
  | and a b _ _ iha ihb => exact and_good a b iha ihb
  | or a b m _ _ hm iha ihb =>
    obtain ⟨R, h1, h2⟩ := or_good a b iha ihb
    rw [hm] at h1; cases h1; exact h2
  | xor a b m _ _ hm iha ihb =>
    obtain ⟨R, h1, h2⟩ := xor_good a b iha ihb
    rw [hm] at h1; cases h1; exact h2

theorem reach_or_xor_defined {α : Type} [Num α] (cfg : Cfg) (a b : BMOC) (ha : Reach α cfg a) (hb : Reach α cfg b) :
    (∃ m, BMOC.or a b = some m) ∧ ∃ m, BMOC.xor a b = some m := by
  obtain ⟨R, h1, _⟩ := or_good a b (reach_good cfg a ha) (reach_good cfg b hb)
  obtain ⟨R', h1', _⟩ := xor_good a b (reach_good cfg a ha) (reach_good cfg b hb)
  exact ⟨⟨R, h1⟩, ⟨R', h1'⟩⟩

/-! ## non-vacuity

The hypotheses `… = some b` are satisfiable in every branch.  At `Float` (`#eval`, bit-identical to the Rust code):
`coneCoverageApprox {} 3 0.3 0.2 r` returns the 12 base cells for `r = 4.0` (all-sky), 50+ entries for `r = 1.5`
(no starting depth: base-cell start) and `r = 0.5` (starting depth 0 < 3: neighbours + recursion), 9 entries for
`r = 0.05` (starting depth 3 = depth: small-cone branch) and `[1146]` for `r = 0.0001` (starting depth 12: small-cone
branch with ancestors); `coneCoverageApproxCustom {} 3 2 0.3 0.2 0.05` (descent at depth 5 from starting depth 3, then
`to_lower_depth`) returns `[1146, 1150, 1234, 1238]`; `ellipticalConeCoverageCustom {} 3 2 0.3 0.2 0.1 0.05 0.3` returns
6 entries, and `[1146]` with `deltaDepth = 0`, `a = 0.001`, `b = 0.0005` (starting depth 9: small branch);
`polygonCoverage {} 3 [(0.1,0.1),(0.4,0.1),(0.3,0.4)]` returns 7 entries in both modes.
The kernel can check the all-sky one; for the generic loops a classifier without floats is used. -/

example : (coneCoverageApprox {} 3 (0.3 : Float) 0.2 4.0).map (·.entries) =
    some [129, 385, 641, 897, 1153, 1409, 1665, 1921, 2177, 2433, 2689, 2945] := by decide +kernel

def κex (_d h _l : Nat) : Option Verdict :=
  if h % 3 = 0 then some .full else if h % 3 = 1 then some (.descend true) else some .skip

/-- `startFold_wf` applies: depth-1 start cells `[4, 5, 6, 7, 10, 11, 26, 27]` around cell 5, target depth 3:
    23 cells of depths 1, 2, 3 -/
example : ((sortNat (((Topo.neighbours {} 1 5 true).getD []).map (·.2))).foldlM
    (fun acc r => (coverRec 3 κex 5 1 r 0).map (acc ++ ·)) []).map
      (fun l => (l.length, l.take 4 |>.map fun c => (c.depth, c.hash))) =
    some (23, [(3, 64), (3, 66), (3, 67), (2, 18)]) := by decide +kernel

/-- the fold of `smallBranch_wf` for the test `e.2 % 2 = 0`: three kept neighbours of cell 200 at depth 3 have the same
    ancestor at depth 1; `dedup` after `sort` leaves one cell -/
example : (((Topo.neighbours {} 3 200 true).getD []).foldlM
    (fun acc (e : MW × Nat) => if e.2 % 2 = 0 then some (acc ++ [e.2 >>> ((3 - 1) <<< 1)]) else some acc)
      ([] : List Nat)).map (fun l => (l, dedupAdj (sortNat l))) = some ([12, 12, 12], [12]) := by decide +kernel

end Hpx.CoverAll

#print axioms Hpx.CoverAll.cone_coverage_wf
#print axioms Hpx.CoverAll.cone_coverage_custom_wf
#print axioms Hpx.CoverAll.elliptical_cone_coverage_wf
#print axioms Hpx.CoverAll.polygon_coverage_wf
#print axioms Hpx.CoverAll.polygon_coverage_approx_wf
#print axioms Hpx.CoverAll.coverage_good
#print axioms Hpx.CoverAll.reach_good
#print axioms Hpx.CoverAll.reach_or_xor_defined
