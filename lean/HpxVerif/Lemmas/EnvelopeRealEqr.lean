import HpxVerif.Lemmas.EnvelopeReal
import HpxVerif.Lemmas.C2VReal
import Mathlib.Analysis.SpecialFunctions.Trigonometric.Bounds

/-!
# C16 — `largest_center_to_vertex_distance` against the true distances in the equatorial region, over ℝ

`δ = 1/2^d`; `dMax2 < dMin2 < dMax3` are the anchors of `ConstantsC2V::new(d)` (end of `C2VReal`): the parabola goes down from
`dMax3` to `dMin2` on `[0, lsc]`, the line from `dMin2` to `dMax2 = dN δ (1 − δ)` on `[lsc, tl]`.  Both stay above `dMax2`, which
dominates `dN` and `dS` of every cell whose four vertices are in the equatorial region (`dN` increases with `y`), `dE` of
those centred at or above `lsc` (there the north vertex is the farthest), and every `dE` as soon as `δ ≤ 1/4`.  So from depth 2
on the value at ANY position below `tl` (with radius: any latitude band below `tl`) dominates the true distances of ANY such
cell; at depth 1 (`dMax2(1/2) < π/8 = dE(1/2, 0)`, by 0.7 %) only the positions of the cell itself do.
-/

namespace Hpx.EnvelopeReal
open Hpx Hpx.C2V Hpx.C2VReal Hpx.Proj Real

theorem dMax2_eq_dN (δ : ℝ) : dMax2 δ = dN δ (1 - δ) := by
  unfold dMax2 dN
  rw [show (1 - δ + δ) * (2 / 3) = (2 : ℝ) / 3 by ring]; rfl

theorem new_topEnv_ge (d : Nat) (x : ℝ) (hx : x ≤ tl) : dMax2 (1 / 2 ^ d) ≤ topEnv (Csts.new d : Csts ℝ) x := by
  rw [← new_topEnv_tl]; exact topEnv_anti _ (new_slopeEqr_neg d).le hx

theorem new_botEnv_ge (d : Nat) (x : ℝ) (h0 : 0 ≤ x) (hx : x ≤ lsc) : dMin2 (1 / 2 ^ d) ≤ botEnv (Csts.new d : Csts ℝ) x := by
  rw [← new_botEnv_lsc]; exact botEnv_anti _ (new_coeffX2Eqr_neg d).le h0 hx

theorem new_topEnv_le (d : Nat) (x : ℝ) (hx : lsc ≤ x) : topEnv (Csts.new d : Csts ℝ) x ≤ dMin2 (1 / 2 ^ d) := by
  rw [← new_topEnv_lsc]; exact topEnv_anti _ (new_slopeEqr_neg d).le hx

theorem new_botEnv_le (d : Nat) (x : ℝ) (h0 : 0 ≤ x) : botEnv (Csts.new d : Csts ℝ) x ≤ dMax3 (1 / 2 ^ d) := by
  rw [← new_botEnv_zero]; exact botEnv_anti _ (new_coeffX2Eqr_neg d).le le_rfl h0

/-! ## mean-value bounds on `dMax2` -/

theorem le_arcsin (x : ℝ) (h0 : 0 ≤ x) (h1 : x ≤ 1) : x ≤ Real.arcsin x := by
  have := Real.sin_le (Real.arcsin_nonneg.mpr h0)
  rwa [Real.sin_arcsin (by linarith) h1] at this

theorem two_thirds_le_dMax2_mul (δ c : ℝ) (h0 : 0 ≤ δ) (h1 : δ ≤ 1)
    (hc : cos ((tl + Real.arcsin ((1 - δ) * (2 / 3))) / 2) ≤ c) : 2 / 3 * δ ≤ dMax2 δ * c := by
  have hy1 : (1 - δ) * (2 / 3) ≤ 2 / 3 := by linarith
  have hkey : 2 / 3 - (1 - δ) * (2 / 3) ≤ dMax2 δ * cos ((tl + Real.arcsin ((1 - δ) * (2 / 3))) / 2) :=
    (arcsin_sub_bounds _ _ (mul_nonneg (by linarith) (by norm_num)) hy1 (by norm_num)).2.1
  have h2 : 0 ≤ dMax2 δ := sub_nonneg.mpr (Real.arcsin_le_arcsin hy1)
  have := mul_le_mul_of_nonneg_left hc h2
  linarith

theorem mid_ge (δ : ℝ) (h0 : 0 ≤ δ) (h1 : δ ≤ 1) :
    (1 - δ / 2) * (2 / 3) ≤ (tl + Real.arcsin ((1 - δ) * (2 / 3))) / 2 := by
  have ha := le_arcsin (2 / 3) (by norm_num) (by norm_num)
  have hb := le_arcsin ((1 - δ) * (2 / 3)) (mul_nonneg (by linarith) (by norm_num)) (by linarith)
  show _ ≤ (Real.arcsin (2 / 3) + _) / 2
  linarith

/-- `1 − x₀²/2 + 5x₀⁴/96 ≥ cos x₀` (`cos_le_quartic`), at any `x₀` below the midpoint of `arcsin((1 − δ)·2/3)` and `tl` -/
theorem dMax2_ge_mul (δ κ x₀ : ℝ) (h0 : 0 ≤ δ) (h1 : δ ≤ 1) (hx0 : 0 ≤ x₀) (hx1 : x₀ ≤ 1)
    (hx : x₀ ≤ (tl + Real.arcsin ((1 - δ) * (2 / 3))) / 2) (hκ : κ * (1 - x₀ ^ 2 / 2 + x₀ ^ 4 * (5 / 96)) ≤ 2 / 3) :
    κ * δ ≤ dMax2 δ := by
  have hpi := Real.pi_pos
  have hm : (tl + Real.arcsin ((1 - δ) * (2 / 3))) / 2 < π / 2 := by
    linarith [tl_le_pi3, Real.arcsin_le_pi_div_two ((1 - δ) * (2 / 3))]
  have hC := cos_le_quartic x₀ hx0 hx1
  have hC0 := (Real.cos_pos_of_mem_Ioo ⟨by linarith, by linarith⟩).trans_le hC
  have h2 := two_thirds_le_dMax2_mul δ _ h0 h1 ((Real.cos_le_cos_of_nonneg_of_le_pi hx0 (by linarith) hx).trans hC)
  refine le_of_mul_le_mul_right ?_ hC0
  calc κ * δ * _ = κ * (1 - x₀ ^ 2 / 2 + x₀ ^ 4 * (5 / 96)) * δ := by ring
    _ ≤ 2 / 3 * δ := mul_le_mul_of_nonneg_right hκ h0
    _ ≤ _ := h2

/-! ## above `lsc` the north vertex is the farthest -/

theorem cos_latOf_le_cosLsc (y : ℝ) (hlat : lsc ≤ |latOf y|) : cos (latOf y) ≤ cosLsc := by
  rw [← cos_lsc, ← Real.cos_abs (latOf y)]
  exact Real.cos_le_cos_of_nonneg_of_le_pi lsc_pos.le (by linarith [latOf_abs_le y, Real.pi_pos]) hlat

theorem abs_latOf (y : ℝ) : |latOf y| = latOf |y| := by
  rcases le_or_gt 0 y with h | h
  · rw [abs_of_nonneg h, abs_of_nonneg (latOf_nonneg y h)]
  · rw [abs_of_neg h, latOf_neg, abs_of_nonpos]
    have := latOf_nonneg (-y) (by linarith)
    rw [latOf_neg] at this; linarith

theorem two_thirds_step_le (δ y : ℝ) (hδ : 0 ≤ δ) (hy0 : 0 ≤ y) (h1 : y + δ ≤ 3 / 2) :
    2 / 3 * δ ≤ dN δ y * cos (latOf y) := by
  have h : (y + δ) * (2 / 3) - y * (2 / 3) ≤ dN δ y * cos (latOf y) :=
    (arcsin_sub_bounds _ _ (by positivity) (by linarith) (by linarith)).2.2
  linarith

/-- **at or above `LAT_OF_SQUARE_CELL` the north vertex is at least as far as the east/west ones**, at every depth
    (`cos²(lat) ≤ cos²(lsc) = 8/(3π)`) -/
theorem dE_le_dN_above_lsc (δ y : ℝ) (hδ0 : 0 ≤ δ) (hδ1 : δ ≤ 1) (hy0 : 0 ≤ y) (h1 : y + δ ≤ 3 / 2)
    (hlat : lsc ≤ latOf y) : dE δ y ≤ dN δ y := by
  have hpi := Real.pi_pos
  have hc0 := cos_latOf_nonneg y
  have hc := cos_latOf_le_cosLsc y (hlat.trans (le_abs_self _))
  have hsq : cos (latOf y) * cos (latOf y) ≤ 8 / (3 * π) := by
    rw [← cosLsc_sq]; exact mul_le_mul hc hc hc0 cosLsc_pos.le
  -- `dE ≤ cos·δ·π/4` and `2/3·δ ≤ dN·cos` give `dE ≤ cos²·(3π/8)·dN`
  calc dE δ y ≤ cos (latOf y) * (δ * (π / 4)) := dE_le δ y hδ0 hδ1
    _ = cos (latOf y) * (2 / 3 * δ) * (3 * π / 8) := by ring
    _ ≤ cos (latOf y) * (dN δ y * cos (latOf y)) * (3 * π / 8) :=
      mul_le_mul_of_nonneg_right (mul_le_mul_of_nonneg_left (two_thirds_step_le δ y hδ0 hy0 h1) hc0) (by positivity)
    _ = cos (latOf y) * cos (latOf y) * (dN δ y * (3 * π / 8)) := by ring
    _ ≤ 8 / (3 * π) * (dN δ y * (3 * π / 8)) :=
      mul_le_mul_of_nonneg_right hsq (mul_nonneg (dN_nonneg δ y hδ0) (by positivity))
    _ = dN δ y := by field_simp

/-! ## the three true distances are below the anchors -/

theorem dN_dS_le_dMax2 (δ y : ℝ) (hδ : 0 ≤ δ) (hy : |y| + δ ≤ 1) : dN δ y ≤ dMax2 δ ∧ dS δ y ≤ dMax2 δ := by
  obtain ⟨y1, y2⟩ := abs_le.mp (show |y| ≤ 1 - δ by linarith)
  rw [dMax2_eq_dN, dS_eq_dN]
  exact ⟨dN_mono δ y (1 - δ) hδ (by linarith) (by linarith) y2 (by linarith),
    dN_mono δ (y - δ) (1 - δ) hδ (by linarith) (by linarith) (by linarith) (by linarith)⟩

theorem dE_le_dMax2 (δ y : ℝ) (hδ0 : 0 ≤ δ) (hδ1 : δ ≤ 1) (hy : |y| + δ ≤ 1) (hlat : lsc ≤ |latOf y|) :
    dE δ y ≤ dMax2 δ := by
  rw [abs_latOf] at hlat
  rw [← dE_abs]
  exact (dE_le_dN_above_lsc δ |y| hδ0 hδ1 (abs_nonneg y) (by linarith) hlat).trans
    (dN_dS_le_dMax2 δ |y| hδ0 (by rwa [abs_abs])).1

theorem dE_le_step (δ y : ℝ) (hδ0 : 0 ≤ δ) (hδ1 : δ ≤ 1) : dE δ y ≤ δ * (π / 4) := by
  rw [← dE_abs, ← dE_equator δ hδ0 hδ1]
  exact dE_anti δ 0 |y| hδ0 hδ1 le_rfl (abs_nonneg y)

theorem dE_le_dMin2 (δ y : ℝ) (hδ0 : 0 < δ) (hδ1 : δ ≤ 1) : dE δ y ≤ dMin2 δ :=
  (dE_le_step δ y hδ0.le hδ1).trans (by nlinarith [dMin2_gt δ hδ0, Real.pi_le_four])

theorem latOf_lt_tl (y : ℝ) (h0 : 0 ≤ y) (h1 : y < 1) : latOf y < tl := by
  unfold latOf
  show _ < Real.arcsin (2 / 3)
  exact Real.arcsin_lt_arcsin (by nlinarith) (by nlinarith) (by norm_num)

/-! ## the envelope is not tight -/

/-- on the equator the envelope is `4/π·δ` while the true largest distance is `dE = π/4·δ`
    (`dN = dS = arcsin(2δ/3) ≤ dE`): the ratio is `16/π² ≈ 1.62` at every depth.
    (The doc comment of `largest_c2v_dist_in_eqr_bottom` says `d_max = pi/4 * 1/nside`; `ConstantsC2V::new` uses
    `FOUR_OVER_PI`.) -/
theorem envelope_equator_ratio (d : Nat) (lon : ℝ) :
    c2v (Csts.new d) lon (latOf 0) = 16 / π ^ 2 * dE (1 / 2 ^ d) 0 := by
  have hpi := Real.pi_pos
  obtain ⟨h0, h1⟩ := distCw_range d
  have hl : latOf 0 = 0 := by unfold latOf; simp
  unfold c2v
  rw [hl, abs_zero, if_neg (not_le.mpr tl_pos), if_neg (not_le.mpr lsc_pos), new_botEnv_zero, dE_equator _ h0.le h1]
  unfold dMax3
  field_simp
  ring

example : |(5 / 8 : ℝ)| + 1 / 2 ^ 3 ≤ 1 := by rw [abs_of_pos (by norm_num : (0 : ℝ) < 5 / 8)]; norm_num

/-! ## depth `≥ 2`: `dMax2` dominates every distance -/

theorem step_le_dMax2 (δ : ℝ) (h0 : 0 ≤ δ) (h1 : δ ≤ 1 / 4) : δ * (π / 4) ≤ dMax2 δ := by
  have hpi2 := Real.pi_lt_d2
  have := dMax2_ge_mul δ (π / 4) (7 / 12) h0 (by linarith) (by norm_num) (by norm_num)
    (by linarith [mid_ge δ h0 (by linarith)]) (by norm_num at hpi2 ⊢; linarith)
  linarith

theorem max_le_of_dE_le (δ y v : ℝ) (hδ : 0 ≤ δ) (hy : |y| + δ ≤ 1) (h2 : dMax2 δ ≤ v) (hE : dE δ y ≤ v) :
    max (dN δ y) (max (dS δ y) (dE δ y)) ≤ v := by
  obtain ⟨hN, hS⟩ := dN_dS_le_dMax2 δ y hδ hy
  exact max_le (hN.trans h2) (max_le (hS.trans h2) hE)

theorem all_le_dMax2 (d : Nat) (hd : 2 ≤ d) (y : ℝ) (hy : |y| + 1 / 2 ^ d ≤ 1) :
    max (dN (1 / 2 ^ d) y) (max (dS (1 / 2 ^ d) y) (dE (1 / 2 ^ d) y)) ≤ dMax2 (1 / 2 ^ d) := by
  obtain ⟨hδ0, hδ1⟩ := quarter_pow_range d hd
  exact max_le_of_dE_le _ y _ hδ0.le hy le_rfl
    ((dE_le_step _ y hδ0.le (by linarith)).trans (step_le_dMax2 _ hδ0.le hδ1))

/-! ## the pointwise function at any position -/

theorem c2v_ge_dMax2 (d : Nat) (lon lat : ℝ) (hlat : |lat| < tl) : dMax2 (1 / 2 ^ d) ≤ c2v (Csts.new d) lon lat := by
  obtain ⟨hδ0, hδ1⟩ := distCw_range d
  unfold c2v
  rw [if_neg (not_le.mpr hlat)]
  by_cases h : lsc ≤ |lat|
  · rw [if_pos h]; exact new_topEnv_ge d |lat| hlat.le
  · rw [if_neg h]
    exact (dMax2_le_dMin2 _ hδ0 hδ1).trans (new_botEnv_ge d |lat| (abs_nonneg lat) (not_le.mp h).le)

/-- ANY position below `tl` against ANY cell with its vertices in the equatorial region.  False at depth 1
    (`c2v_not_uniform_depth1`): `dMax2(1/2) = 0.38989 < π/8 = dE(1/2, 0)`. -/
theorem c2v_uniform_eqr (d : Nat) (hd : 2 ≤ d) (lon lat : ℝ) (hlat : |lat| < tl) (y : ℝ) (hy : |y| + 1 / 2 ^ d ≤ 1) :
    max (dN (1 / 2 ^ d) y) (max (dS (1 / 2 ^ d) y) (dE (1 / 2 ^ d) y)) ≤ c2v (Csts.new d) lon lat :=
  (all_le_dMax2 d hd y hy).trans (c2v_ge_dMax2 d lon lat hlat)

/-! ## the functions with radius -/

theorem c2vR_ge_dMin2 (d : Nat) (lon lat r : ℝ) (hA : |lat| + r < tl) (hB : |lat| - r < lsc) :
    dMin2 (1 / 2 ^ d) ≤ c2vR (Csts.new d) lon lat r :=
  (new_botEnv_ge d _ (le_max_right _ _) (max_le hB.le lsc_pos.le)).trans (bot_le_c2vR _ lon lat r hA hB)

theorem c2vR_ge_dMax2 (d : Nat) (lon lat r : ℝ) (hA : |lat| + r < tl) :
    dMax2 (1 / 2 ^ d) ≤ c2vR (Csts.new d) lon lat r := by
  rcases le_or_gt lsc (|lat| - r) with hB | hB
  · exact (new_topEnv_ge d _ hA.le).trans (top_le_c2vR _ lon lat r hA (Or.inl hB))
  · exact (dMax2_le_dMin2 _ (distCw_range d).1 (distCw_range d).2).trans (c2vR_ge_dMin2 d lon lat r hA hB)

theorem c2vR_le_dMax3 (d : Nat) (lon lat r : ℝ) (hr : 0 ≤ r) (hA : |lat| + r < tl) :
    c2vR (Csts.new d) lon lat r ≤ dMax3 (1 / 2 ^ d) := by
  have h32 := (dMin2_lt_dMax3 _ (distCw_range d).1).le
  have hb := new_botEnv_le d _ (le_max_right (|lat| - r) 0)
  rw [c2vR_of_lt_tl _ lon lat r hA]
  split_ifs with h1 h2
  · exact (new_topEnv_le d _ (by linarith)).trans h32
  · exact hb
  · exact max_le ((new_topEnv_le d _ (not_le.mp h2).le).trans h32) hb

/-- although the upper-equatorial branch returns the minimum, not the maximum, of the pointwise envelope over the band
    (`C2VReal.largestC2VWithRadius_lt_at_centre'`), that minimum is still above `dMax2` -/
theorem c2vR_dominates_eqr (d : Nat) (hd : 2 ≤ d) (lon lat r : ℝ) (hA : |lat| + r < tl) (y : ℝ)
    (hy : |y| + 1 / 2 ^ d ≤ 1) :
    max (dN (1 / 2 ^ d) y) (max (dS (1 / 2 ^ d) y) (dE (1 / 2 ^ d) y)) ≤ c2vR (Csts.new d) lon lat r :=
  (all_le_dMax2 d hd y hy).trans (c2vR_ge_dMax2 d lon lat r hA)

/-- depth 1 included, at the price of `hband`: the centre of the cell is not below the latitude band of the cone -/
theorem c2vR_dominates_band (d : Nat) (hd : 1 ≤ d) (lon lat r : ℝ) (hA : |lat| + r < tl) (y : ℝ)
    (hy : |y| + 1 / 2 ^ d ≤ 1) (hband : |lat| - r ≤ |latOf y|) :
    max (dN (1 / 2 ^ d) y) (max (dS (1 / 2 ^ d) y) (dE (1 / 2 ^ d) y)) ≤ c2vR (Csts.new d) lon lat r := by
  obtain ⟨hδ0, hδ1⟩ := half_pow_range d hd
  have h1 := c2vR_ge_dMax2 d lon lat r hA
  refine max_le_of_dE_le _ y _ hδ0.le hy h1 ?_
  by_cases hB : lsc ≤ |lat| - r
  · exact (dE_le_dMax2 _ y hδ0.le (by linarith) hy (by linarith)).trans h1
  · exact (dE_le_dMin2 _ y hδ0 (by linarith)).trans (c2vR_ge_dMin2 d lon lat r hA (not_le.mp hB))

theorem exists_of_max_le {f : Option ℝ} {v N S E : ℝ} (hf : f = some v) (h : max N (max S E) ≤ v) :
    ∃ v, f = some v ∧ N ≤ v ∧ S ≤ v ∧ E ≤ v :=
  ⟨v, hf, (le_max_left _ _).trans h, ((le_max_left _ _).trans (le_max_right _ _)).trans h,
    ((le_max_right _ _).trans (le_max_right _ _)).trans h⟩

theorem largestC2V_uniform_eqr (d : Nat) (hd1 : 2 ≤ d) (hd2 : d ≤ 29) (lon lat : ℝ) (hlat : |lat| < tl) (y : ℝ)
    (hy : |y| + 1 / 2 ^ d ≤ 1) :
    ∃ v, largestC2V false d lon lat = some v ∧
      dN (1 / 2 ^ d) y ≤ v ∧ dS (1 / 2 ^ d) y ≤ v ∧ dE (1 / 2 ^ d) y ≤ v :=
  exists_of_max_le (largestC2V_eq d (by omega) hd2 _ _) (c2v_uniform_eqr d hd1 lon lat hlat y hy)

/-- a band inside `[lsc, tl)` (where the value with radius is the minimum of the pointwise envelope), and a cell -/
example : (0 : ℝ) ≤ (tl - lsc) / 4 ∧ |(lsc + tl) / 2| + (tl - lsc) / 4 < tl ∧ |(0 : ℝ)| + 1 / 2 ^ 2 ≤ 1 := by
  have h1 := lsc_pos
  have h2 := lsc_lt_tl
  rw [abs_of_pos (by linarith)]
  refine ⟨by linarith, by linarith, by norm_num⟩

/-! ## `tl` and `dMax2(1/2)` numerically -/

theorem tl_ge : 72 / 100 ≤ tl := by
  have hpi := Real.pi_gt_three
  show 72 / 100 ≤ Real.arcsin (2 / 3)
  rw [Real.le_arcsin_iff_sin_le ⟨by linarith, by linarith⟩ ⟨by norm_num, by norm_num⟩]
  have h := Real.sin_bound (x := 72 / 100) (by rw [abs_of_pos] <;> norm_num)
  rw [abs_le] at h
  have e : |(72 / 100 : ℝ)| = 72 / 100 := abs_of_pos (by norm_num)
  rw [e] at h
  norm_num at h
  linarith [h.2]

theorem arcsin_le_of_le_sub_cube (u x : ℝ) (hu : -1 ≤ u) (hx0 : 0 ≤ x) (hx1 : x ≤ π / 2) (h : u ≤ x - x ^ 3 / 6) :
    Real.arcsin u ≤ x := by
  have hpi := Real.pi_pos
  rcases le_or_gt u 1 with hu1 | hu1
  · rw [Real.arcsin_le_iff_le_sin ⟨hu, hu1⟩ ⟨by linarith, hx1⟩]
    exact h.trans (Real.sin_ge_sub_cube hx0)
  · have := Real.sin_ge_sub_cube hx0
    have := Real.sin_le_one x
    linarith

theorem tl_le : tl ≤ 74 / 100 := by
  have hpi := Real.pi_gt_three
  exact arcsin_le_of_le_sub_cube (2 / 3) (74 / 100) (by norm_num) (by norm_num) (by linarith) (by norm_num)

theorem arcsin_three_fifths_le : Real.arcsin (3 / 5) ≤ 65 / 100 := by
  have hpi := Real.pi_gt_three
  exact arcsin_le_of_le_sub_cube (3 / 5) (65 / 100) (by norm_num) (by norm_num) (by linarith) (by norm_num)

theorem dMax2_half_ge : 3837 / 10000 ≤ dMax2 (1 / 2) := by
  have hb := le_arcsin ((1 - 1 / 2) * (2 / 3)) (by norm_num) (by norm_num)
  have := dMax2_ge_mul (1 / 2) (7674 / 10000) (52 / 100) (by norm_num) (by norm_num) (by norm_num) (by norm_num)
    (by linarith [tl_ge]) (by norm_num)
  linarith

/-- `dMax2(1/2) < π/8 = dE(1/2, 0)`: at depth 1 the anchor at the transition latitude is below the centre-to-east
    distance of the cells centred on the equator (`sin(a − b) = (2√8 − √5)/9 ≈ 0.38009`) -/
theorem dMax2_half_lt : dMax2 (1 / 2) < 392 / 1000 := by
  have hpi := Real.pi_gt_three
  unfold dMax2
  show Real.arcsin (2 / 3) - _ < _
  rw [show (1 - 1 / 2 : ℝ) * (2 / 3) = 1 / 3 by norm_num]
  set a := Real.arcsin (2 / 3) with ha
  set b := Real.arcsin (1 / 3) with hb
  have hb0 : 0 ≤ b := Real.arcsin_nonneg.mpr (by norm_num)
  have hba : b ≤ a := Real.arcsin_le_arcsin (by norm_num)
  have ha2 : a ≤ π / 2 := Real.arcsin_le_pi_div_two _
  have hsa : sin a = 2 / 3 := Real.sin_arcsin (by norm_num) (by norm_num)
  have hsb : sin b = 1 / 3 := Real.sin_arcsin (by norm_num) (by norm_num)
  have hca : cos a = Real.sqrt 5 / 3 := by
    rw [ha, Real.cos_arcsin, show (1 : ℝ) - (2 / 3) ^ 2 = 5 / 9 by norm_num,
      show (5 : ℝ) / 9 = 5 / 3 ^ 2 by norm_num, Real.sqrt_div (by norm_num), Real.sqrt_sq (by norm_num)]
  have hcb : cos b = Real.sqrt 8 / 3 := by
    rw [hb, Real.cos_arcsin, show (1 : ℝ) - (1 / 3) ^ 2 = 8 / 9 by norm_num,
      show (8 : ℝ) / 9 = 8 / 3 ^ 2 by norm_num, Real.sqrt_div (by norm_num), Real.sqrt_sq (by norm_num)]
  have h8 : Real.sqrt 8 ≤ 28285 / 10000 := by
    rw [Real.sqrt_le_left (by norm_num)]; norm_num
  have h5 : 2236 / 1000 ≤ Real.sqrt 5 := Real.le_sqrt_of_sq_le (by norm_num)
  have hsin : sin (a - b) ≤ 3802 / 10000 := by
    rw [Real.sin_sub, hsa, hsb, hca, hcb]; linarith
  rw [← Real.arcsin_sin (x := a - b) (by linarith) (by linarith)]
  exact (arcsin_le_of_le_sub_cube _ (3919 / 10000) (by linarith [Real.neg_one_le_sin (a - b)]) (by norm_num) (by linarith)
    (hsin.trans (by norm_num))).trans_lt (by norm_num)

/-! ## depth 1 -/

theorem pow_one_half : (1 : ℝ) / 2 ^ 1 = 1 / 2 := by norm_num

/-- `arcsin(3/5)` is the latitude of the ordinate `9/10` -/
theorem topEnv_one_ge (x : ℝ) (hx : x ≤ Real.arcsin (3 / 5)) : π / 8 ≤ topEnv (Csts.new 1 : Csts ℝ) x := by
  have hpi2 := Real.pi_lt_d2
  norm_num at hpi2
  have h1 := tl_ge
  have h2 := tl_le
  have h3 := arcsin_three_fifths_le
  have h4 := lsc_pos
  have h5 := lsc_lt_tl
  have hA := dMax2_half_ge
  have hB := dMin2_gt (1 / 2) (by norm_num)
  rw [new_topEnv_bary, pow_one_half]
  have hρ : 9 / 100 ≤ (tl - x) / (tl - lsc) := by
    rw [le_div_iff₀ (by linarith)]; nlinarith
  have hA2 := dMax2_half_lt
  have hD : 18 / 100 ≤ dMin2 (1 / 2) - dMax2 (1 / 2) := by linarith
  have hprod : 18 / 100 * (9 / 100) ≤ (dMin2 (1 / 2) - dMax2 (1 / 2)) * ((tl - x) / (tl - lsc)) :=
    mul_le_mul hD hρ (by norm_num) (by linarith)
  linarith

/-! ## just below `tl` the function is as close to `dMax2` as wanted -/

theorem c2v_near_tl (d : Nat) (G : ℝ) (hG : dMax2 (1 / 2 ^ d) < G) :
    ∃ lat0, lsc ≤ lat0 ∧ lat0 < tl ∧ ∀ lon lat, lat0 < lat → lat < tl → c2v (Csts.new d) lon lat < G := by
  obtain ⟨hδ0, hδ1⟩ := distCw_range d
  have hD := dMax2_lt_dMin2 _ hδ0 hδ1
  have h4 := lsc_pos
  have h5 := lsc_lt_tl
  set D := dMin2 (1 / 2 ^ d) - dMax2 (1 / 2 ^ d) with hDdef
  have hDpos : 0 < D := by linarith
  set ρ := min 1 ((G - dMax2 (1 / 2 ^ d)) / (2 * D)) with hρ
  have hρ0 : 0 < ρ := lt_min one_pos (div_pos (by linarith) (by linarith))
  have hρ2 : ρ * (2 * D) ≤ G - dMax2 (1 / 2 ^ d) := (le_div_iff₀ (by linarith)).mp (min_le_right _ _)
  have hP0 : 0 < ρ * (tl - lsc) := mul_pos hρ0 (by linarith)
  have hP1 : ρ * (tl - lsc) ≤ 1 * (tl - lsc) := mul_le_mul_of_nonneg_right (min_le_left _ _) (by linarith)
  refine ⟨tl - ρ * (tl - lsc), by linarith, by linarith, ?_⟩
  intro lon lat hl1 hl2
  unfold c2v
  rw [abs_of_nonneg (by linarith), if_neg (not_le.mpr hl2), if_pos (by linarith), new_topEnv_bary]
  have hr : (tl - lat) / (tl - lsc) < ρ := by
    rw [div_lt_iff₀ (by linarith)]; linarith
  have := mul_lt_mul_of_pos_left hr hDpos
  linarith

/-- **depth 1, not uniform**: some positions of the equatorial region (just below the transition latitude) get a value
    smaller than the centre-to-east distance `π/8` of the depth-1 cells centred on the equator.  These positions are
    not in those cells (`c2v_dominates_in_cell`): this delimits `c2v_uniform_eqr`, it is not a defect. -/
theorem c2v_not_uniform_depth1 (lon : ℝ) :
    ∃ lat : ℝ, |lat| < tl ∧ |(0 : ℝ)| + 1 / 2 ^ 1 ≤ 1 ∧ c2v (Csts.new 1) lon lat < dE (1 / 2 ^ 1) 0 := by
  have hpi2 := Real.pi_gt_d2
  obtain ⟨lat0, h0, h1, h⟩ := c2v_near_tl 1 (π / 8) (by rw [pow_one_half]; linarith [dMax2_half_lt])
  refine ⟨(lat0 + tl) / 2, ?_, by norm_num, ?_⟩
  · rw [abs_of_pos (by linarith [lsc_pos])]; linarith
  · rw [pow_one_half, dE_equator _ (by norm_num) (by norm_num)]
    exact (h lon _ (by linarith) (by linarith)).trans_eq (by ring)

/-! ## positions inside the cell, every depth -/

theorem c2v_ge_dMin2 (d : Nat) (lon lat : ℝ) (hlat : |lat| < lsc) : dMin2 (1 / 2 ^ d) ≤ c2v (Csts.new d) lon lat := by
  unfold c2v
  rw [if_neg (not_le.mpr (hlat.trans lsc_lt_tl)), if_neg (not_le.mpr hlat)]
  exact new_botEnv_ge d |lat| (abs_nonneg lat) hlat.le

theorem cos_latOf_le (y : ℝ) (hy0 : 2 / 5 ≤ y) : cos (latOf y) ≤ 964 / 1000 := by
  unfold latOf
  rw [Real.cos_arcsin, Real.sqrt_le_left (by norm_num)]
  nlinarith

theorem dE_le_c2v_depth1 (lon yp y : ℝ) (hp0 : 0 ≤ yp) (hp : |yp - y| ≤ 1 / 2) (hp1 : yp < 1) :
    dE (1 / 2) y ≤ c2v (Csts.new 1) lon (latOf yp) := by
  have hpi2 := Real.pi_lt_d2
  norm_num at hpi2
  have hpi := Real.pi_pos
  obtain ⟨p1, p2⟩ := abs_le.mp hp
  have hlp0 := latOf_nonneg yp hp0
  have hlt := latOf_lt_tl yp hp0 hp1
  rcases lt_or_ge (latOf yp) lsc with h | h
  · have := c2v_ge_dMin2 1 lon (latOf yp) (by rw [abs_of_nonneg hlp0]; exact h)
    rw [pow_one_half] at this
    exact (dE_le_dMin2 _ y (by norm_num) (by norm_num)).trans this
  · have hval : c2v (Csts.new 1) lon (latOf yp) = topEnv (Csts.new 1 : Csts ℝ) (latOf yp) := by
      unfold c2v
      rw [abs_of_nonneg hlp0, if_neg (not_le.mpr hlt), if_pos h]
    rw [hval]
    rcases le_or_gt yp (9 / 10) with h9 | h9
    · have hx : latOf yp ≤ Real.arcsin (3 / 5) := by
        unfold latOf; exact Real.arcsin_le_arcsin (by linarith)
      exact (dE_le_step _ y (by norm_num) (by norm_num)).trans
        (le_trans (by linarith) (topEnv_one_ge (latOf yp) hx))
    · have hc1 := cos_latOf_le y (by linarith)
      have h1 := dE_le (1 / 2) y (by norm_num) (by norm_num)
      have h2 : cos (latOf y) * (1 / 2 * (π / 4)) ≤ 964 / 1000 * (1 / 2 * (π / 4)) :=
        mul_le_mul_of_nonneg_right hc1 (by positivity)
      have h3 := dMax2_half_ge
      have h4 := new_topEnv_ge 1 (latOf yp) hlt.le
      rw [pow_one_half] at h4
      nlinarith

/-- `yp` is the ordinate of any point of the cell of centre ordinate `y`; only depth 1 (`dE_le_c2v_depth1`) uses `hp` -/
theorem c2v_dominates_in_cell (d : Nat) (hd : 1 ≤ d) (lon yp y : ℝ) (hy : |y| + 1 / 2 ^ d ≤ 1)
    (hp : |yp - y| ≤ 1 / 2 ^ d) (hp1 : |yp| < 1) :
    max (dN (1 / 2 ^ d) y) (max (dS (1 / 2 ^ d) y) (dE (1 / 2 ^ d) y)) ≤ c2v (Csts.new d) lon (latOf yp) := by
  have hlat : |latOf yp| < tl := by rw [abs_latOf]; exact latOf_lt_tl |yp| (abs_nonneg yp) hp1
  rcases Nat.lt_or_ge d 2 with h | h
  · have hd1 : d = 1 := by omega
    subst hd1
    refine max_le_of_dE_le _ y _ (by norm_num) hy (c2v_ge_dMax2 1 lon (latOf yp) hlat) ?_
    rw [pow_one_half] at hy hp ⊢
    have hc : c2v (Csts.new 1) lon (latOf yp) = c2v (Csts.new 1) lon (latOf |yp|) := by
      unfold c2v; rw [abs_latOf, abs_of_nonneg (latOf_nonneg |yp| (abs_nonneg yp))]
    rw [hc, ← dE_abs]
    exact dE_le_c2v_depth1 lon |yp| |y| (abs_nonneg yp) ((abs_abs_sub_abs_le_abs_sub yp y).trans hp) hp1
  · exact c2v_uniform_eqr d h lon (latOf yp) hlat y hy

/-- **`envelope_dominates_eqr`** (C16; ℝ, every depth `d ≥ 1`): at the latitude of a cell centre of ordinate `y` (vertices in
    the equatorial region), any longitude, `largest_center_to_vertex_distance` is at least the three true centre-to-vertex
    distances of `true_c2v_eqr` -/
theorem envelope_dominates_eqr (d : Nat) (hd : 1 ≤ d) (lon y : ℝ) (hy : |y| + 1 / 2 ^ d ≤ 1) :
    max (dN (1 / 2 ^ d) y) (max (dS (1 / 2 ^ d) y) (dE (1 / 2 ^ d) y)) ≤ c2v (Csts.new d) lon (latOf y) :=
  c2v_dominates_in_cell d hd lon y y hy (by rw [sub_self, abs_zero]; positivity)
    (by linarith [(distCw_range d).1])

example : |(1 / 2 : ℝ)| + 1 / 2 ^ 1 ≤ 1 ∧ |(19 / 20 : ℝ) - 1 / 2| ≤ 1 / 2 ^ 1 ∧ |(19 / 20 : ℝ)| < 1 := by
  refine ⟨?_, ?_, ?_⟩ <;> norm_num [abs_of_pos, abs_lt, abs_le]

end Hpx.EnvelopeReal

#print axioms Hpx.EnvelopeReal.envelope_dominates_eqr
#print axioms Hpx.EnvelopeReal.envelope_equator_ratio
#print axioms Hpx.EnvelopeReal.dE_le_dN_above_lsc
#print axioms Hpx.EnvelopeReal.c2v_uniform_eqr
#print axioms Hpx.EnvelopeReal.c2vR_dominates_eqr
#print axioms Hpx.EnvelopeReal.c2vR_dominates_band
#print axioms Hpx.EnvelopeReal.largestC2V_uniform_eqr
#print axioms Hpx.EnvelopeReal.dMax2_half_lt
#print axioms Hpx.EnvelopeReal.c2v_near_tl
#print axioms Hpx.EnvelopeReal.c2v_not_uniform_depth1
#print axioms Hpx.EnvelopeReal.c2v_dominates_in_cell
