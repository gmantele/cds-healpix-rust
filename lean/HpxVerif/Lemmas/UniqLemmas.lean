import HpxVerif.Model.Bits

/-! Powers of two and shifts (`four_pow`: `4^d = 2^(2d)`, used wherever `4^d` cell counts meet bit shifts), and the uniq
encodings of C18 on the numbers they are meant for: a uniq number is a sentinel bit `2^(2d+4)` (`2^(2d+2)` for the IVOA variant)
in front of the cell number; `to_uniq*` puts it there, `from_uniq*` finds the depth from `u64::leading_zeros` and takes
the sentinel off. -/

namespace Hpx

theorem four_pow (d : Nat) : (4 : Nat) ^ d = 2 ^ (2 * d) := by rw [Nat.pow_mul]

theorem shl_two_pow (a k : Nat) : (2 ^ a) <<< k = 2 ^ (a + k) := by
  rw [Nat.shiftLeft_eq, ← Nat.pow_add]

theorem pow_lt_64 {k : Nat} (h : k < 64) : 2 ^ k < 2 ^ 64 := Nat.pow_lt_pow_right (by decide) h

theorem sixteen_shl {d : Nat} (hd : d ≤ 29) : (16 <<< (2 * d)) % 2 ^ 64 = 2 ^ (2 * d + 4) := by
  rw [show (16 : Nat) = 2 ^ 4 by decide, shl_two_pow, Nat.add_comm, Nat.mod_eq_of_lt (pow_lt_64 (by omega))]

theorem four_shl {d : Nat} (hd : d ≤ 29) : (4 <<< (2 * d)) % 2 ^ 64 = 2 ^ (2 * d + 2) := by
  rw [show (4 : Nat) = 2 ^ 2 by decide, shl_two_pow, Nat.add_comm, Nat.mod_eq_of_lt (pow_lt_64 (by omega))]

theorem leadingZeros64_bounds {u k k' : Nat} (hk' : k' < 64) (h1 : 2 ^ k ≤ u) (h2 : u < 2 ^ (k' + 1)) :
    63 - k' ≤ leadingZeros64 u ∧ leadingZeros64 u ≤ 63 - k := by
  have hu : u < 2 ^ 64 := Nat.lt_of_lt_of_le h2 (Nat.pow_le_pow_right (by decide) (by omega))
  have hne : u ≠ 0 := by have := Nat.two_pow_pos k; omega
  have l1 := (Nat.le_log2 hne).2 h1
  have l2 := (Nat.log2_lt hne).2 h2
  unfold leadingZeros64
  rw [Nat.mod_eq_of_lt hu, if_neg hne]
  omega

theorem sentinel_and {n h : Nat} (hn : n < 64) (hh : h < 2 ^ n) : (2 ^ n + h) &&& (2 ^ 64 - 1 - 2 ^ n) = h := by
  apply Nat.eq_of_testBit_eq; intro q
  have e := Nat.two_pow_add_eq_or_of_lt hh 1
  rw [Nat.mul_one] at e
  rw [e, Nat.sub_sub, Nat.add_comm 1, Nat.testBit_and, Nat.testBit_or, Nat.testBit_two_pow_sub_succ (pow_lt_64 hn),
    Nat.testBit_two_pow]
  by_cases hq : n = q
  · subst hq; simp [Nat.testBit_lt_two_pow hh]
  · by_cases h64 : q < 64
    · simp [hq, h64]
    · have : h < 2 ^ q := Nat.lt_of_lt_of_le hh (Nat.pow_le_pow_right (by decide) (by omega))
      simp [hq, Nat.testBit_lt_two_pow this]

/-! `to_uniq` / `from_uniq` for every `hash < 16·4^depth` (the cell numbers `< 12·4^depth` are among them) -/

theorem toUniq_eq {d h : Nat} (hd : d ≤ 29) (hh : h < 2 ^ (2 * d + 4)) : toUniq d h = some (2 ^ (2 * d + 4) + h) := by
  have := Nat.two_pow_add_eq_or_of_lt hh 1
  rw [toUniq, if_neg (by omega), Nat.mod_eq_of_lt (a := 2 * d) (by omega), sixteen_shl hd]
  simpa using this.symm

theorem fromUniq_add {d h : Nat} (hd : d ≤ 29) (hh : h < 2 ^ (2 * d + 4)) :
    fromUniq (2 ^ (2 * d + 4) + h) = some (d, h) := by
  have hlz : leadingZeros64 (2 ^ (2 * d + 4) + h) = 59 - 2 * d := by
    have : 2 ^ (2 * d + 4 + 1) = 2 ^ (2 * d + 4) * 2 := Nat.pow_succ _ _
    have := leadingZeros64_bounds (u := 2 ^ (2 * d + 4) + h) (k := 2 * d + 4) (k' := 2 * d + 4) (by omega) (by omega)
      (by omega)
    omega
  have hdepth : (60 - (59 - 2 * d)) >>> 1 = d := by rw [Nat.shiftRight_eq_div_pow]; omega
  rw [fromUniq]
  simp only [hlz, hdepth]
  rw [if_neg (by omega), Nat.mod_eq_of_lt (a := d) (by omega), sixteen_shl hd, sentinel_and (by omega) hh]

/-! the IVOA variant `4·4^depth + hash`: unambiguous for `hash < 12·4^depth`, since then `4·4^d ≤ u < 16·4^d` and the top
bit is bit `2d + 2` or `2d + 3` -/

theorem toUniqIvoa_eq {d : Nat} (hd : d ≤ 29) (h : Nat) : toUniqIvoa d h = some (2 ^ (2 * d + 2) + h) := by
  rw [toUniqIvoa, if_neg (by omega), Nat.mod_eq_of_lt (a := 2 * d) (by omega), four_shl hd]

theorem fromUniqIvoa_add {d h : Nat} (hd : d ≤ 29) (hh : h < 3 * 2 ^ (2 * d + 2)) :
    fromUniqIvoa (2 ^ (2 * d + 2) + h) = some (d, h) := by
  have : 2 ^ (2 * d + 3 + 1) = 2 ^ (2 * d + 2) * 2 ^ 2 := Nat.pow_add _ _ 2
  have hlz := leadingZeros64_bounds (u := 2 ^ (2 * d + 2) + h) (k := 2 * d + 2) (k' := 2 * d + 3) (by omega) (by omega)
    (by omega)
  have hdepth : (61 - leadingZeros64 (2 ^ (2 * d + 2) + h)) >>> 1 = d := by
    rw [Nat.shiftRight_eq_div_pow]; omega
  rw [fromUniqIvoa]
  simp only [hdepth]
  rw [if_neg (by omega), four_shl hd, if_neg (by omega), Nat.mod_eq_of_lt (a := d) (by omega),
    Nat.add_sub_cancel_left]

end Hpx
