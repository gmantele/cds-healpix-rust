/-
Packed plain MOCs are canonical: structural equality = set equality (C07, C15).  The cells of a canonical list are exactly
the maximal entirely-full cells, so two canonical lists with the same content are equal; `and` and `not` (which do not
call `pack`) preserve canonicity, the output of `pack` is canonical, and the algebraic laws hold as equalities of lists and
of raw BMOCs.
-/
import HpxVerif.Lemmas.BmocPack
import HpxVerif.Lemmas.BmocAnd
import HpxVerif.Lemmas.BmocNot
import Mathlib.Tactic.Ring

namespace Hpx.Bmoc.Canon
end Hpx.Bmoc.Canon

namespace Hpx.Bmoc
open Canon

def NoFourFull (l : List Cell) : Prop :=
  ∀ d h, 0 < d → h % 4 = 0 →
    (⟨d, h, true⟩ : Cell) ∈ l → (⟨d, h + 1, true⟩ : Cell) ∈ l → (⟨d, h + 2, true⟩ : Cell) ∈ l →
    (⟨d, h + 3, true⟩ : Cell) ∈ l → False

/-- the form of a packed plain MOC -/
def Canonical (D : Nat) (l : List Cell) : Prop :=
  WF D l ∧ (∀ c ∈ l, InR c) ∧ (∀ c ∈ l, c.full = true) ∧ NoFourFull l

theorem Canon.wf_eq_of_overlap {D : Nat} {l : List Cell} (hw : WF D l) {c1 c2 : Cell} (h1 : c1 ∈ l) (h2 : c2 ∈ l)
    (o1 : lo D c1 < hi D c2) (o2 : lo D c2 < hi D c1) : c1 = c2 := by
  induction l with
  | nil => simp at h1
  | cons a l ih =>
    rcases List.mem_cons.1 h1 with rfl | m1 <;> rcases List.mem_cons.1 h2 with rfl | m2
    · rfl
    · have := hw.2.1 c2 m2; omega
    · have := hw.2.1 c1 m1; omega
    · exact ih hw.tail m1 m2

theorem Canon.wf_ext {D : Nat} : ∀ {a b : List Cell}, WF D a → WF D b → (∀ c, c ∈ a ↔ c ∈ b) → a = b := by
  -- with equal heads, the members of one tail are members of the other (none of them is the head)
  have tail_sub : ∀ {c : Cell} {ra rb : List Cell}, WF D (c :: ra) → (∀ x ∈ c :: ra, x ∈ c :: rb) → ∀ x ∈ ra, x ∈ rb := by
    intro c ra rb ha h x hx
    rcases List.mem_cons.1 (h x (List.mem_cons_of_mem _ hx)) with rfl | h'
    · have := ha.2.1 x hx
      have := lo_lt_hi D x
      omega
    · exact h'
  intro a
  induction a with
  | nil =>
    intro b _ _ h
    cases b with
    | nil => rfl
    | cons cb rb => exact absurd ((h cb).2 (by simp)) (by simp)
  | cons ca ra ih =>
    intro b ha hb h
    cases b with
    | nil => exact absurd ((h ca).1 (by simp)) (by simp)
    | cons cb rb =>
      -- the heads are equal: otherwise each lies in the tail of the other list, hence strictly after the other
      have e : ca = cb := by
        by_contra hne
        have m1 : ca ∈ rb := (List.mem_cons.1 ((h ca).1 (by simp))).resolve_left hne
        have m2 : cb ∈ ra := (List.mem_cons.1 ((h cb).2 (by simp))).resolve_left (fun e => hne e.symm)
        have := hb.2.1 ca m1
        have := ha.2.1 cb m2
        have := lo_lt_hi D ca
        have := lo_lt_hi D cb
        omega
      subst e
      congr 1
      exact ih ha.tail hb.tail (fun c =>
        ⟨tail_sub ha (fun x hx => (h x).1 hx) c, tail_sub hb (fun x hx => (h x).2 hx) c⟩)

theorem Canon.cell_eq_of_interval {D : Nat} {c1 c2 : Cell} (d1 : c1.depth ≤ D) (d2 : c2.depth ≤ D)
    (hl : lo D c1 = lo D c2) (hh : hi D c1 = hi D c2) (hf : c1.full = c2.full) : c1 = c2 := by
  have e1 := hi_eq_lo_add D c1
  have e2 := hi_eq_lo_add D c2
  have hp : 4 ^ (D - c1.depth) = 4 ^ (D - c2.depth) := by omega
  have hd : D - c1.depth = D - c2.depth := Nat.pow_right_injective (by decide : 2 ≤ 4) hp
  have hhash : c1.hash = c2.hash := by
    unfold lo at hl
    rw [hp] at hl
    exact Nat.eq_of_mul_eq_mul_right (Nat.pow_pos (by decide)) hl
  have hdd : c1.depth = c2.depth := by omega
  cases c1; cases c2; simp_all

def FullOn (D : Nat) (l : List Cell) (s : Cell) : Prop := ∀ x, lo D s ≤ x → x < hi D s → stOf D l x = .full

/-- by induction on the levels below `s`: its four children lie inside cells of the list; one that is not deeper than `s`
    contains it, cells being nested or disjoint; otherwise the four children are themselves in the list -/
theorem full_inside {D : Nat} {l : List Cell} (hw : WF D l) (hf : ∀ c ∈ l, c.full = true) (hn : NoFourFull l) :
    ∀ (n : Nat) {s : Cell}, s.depth + n = D → FullOn D l s → InsideSome D s l := by
  intro n
  induction n with
  | zero =>
    intro s hD hx
    have hlh := lo_lt_hi D s
    obtain ⟨c, hc, c1, c2⟩ := stOf_ne_abs_covered (D := D) (l := l) (x := lo D s)
      (by rw [hx _ (Nat.le_refl _) hlh]; decide)
    exact ⟨c, hc, overlap_inside (by have := hw.depth_le c hc; omega) (by omega) (by omega) (by omega)⟩
  | succ n ih =>
    intro s hD hx
    have hlh := lo_lt_hi D s
    -- each child lies inside a cell of `l`
    have child : ∀ k, k < 4 → ∃ c ∈ l, lo D c ≤ lo D ⟨s.depth + 1, 4 * s.hash + k, true⟩ ∧
        hi D ⟨s.depth + 1, 4 * s.hash + k, true⟩ ≤ hi D c ∧ lo D s ≤ lo D ⟨s.depth + 1, 4 * s.hash + k, true⟩ ∧
        hi D ⟨s.depth + 1, 4 * s.hash + k, true⟩ ≤ hi D s := by
      intro k hk
      obtain ⟨b1, b2⟩ := anc_bounds D (s.depth + 1) 1 (4 * s.hash + k) (by omega) (by omega)
      rw [Nat.pow_one, Nat.add_sub_cancel, show (4 * s.hash + k) / 4 = s.hash by omega] at b1 b2
      obtain ⟨c, hc, i1, i2⟩ := ih (s := ⟨s.depth + 1, 4 * s.hash + k, true⟩) (by show s.depth + 1 + n = D; omega)
        (fun x x1 x2 => hx x (Nat.le_trans b1 x1) (Nat.lt_of_lt_of_le x2 b2))
      exact ⟨c, hc, i1, i2, b1, b2⟩
    by_cases hex : ∃ k, k < 4 ∧ ∃ c ∈ l, c.depth ≤ s.depth ∧ lo D c ≤ lo D ⟨s.depth + 1, 4 * s.hash + k, true⟩ ∧
        hi D ⟨s.depth + 1, 4 * s.hash + k, true⟩ ≤ hi D c
    · obtain ⟨k, hk, c, hc, hcd, c1, c2⟩ := hex
      obtain ⟨_, _, _, _, b1, b2⟩ := child k hk
      have := lo_lt_hi D ⟨s.depth + 1, 4 * s.hash + k, true⟩
      exact ⟨c, hc, overlap_inside hcd (by omega) (by omega) (by omega)⟩
    · exfalso
      have isCell : ∀ k, k < 4 → (⟨s.depth + 1, 4 * s.hash + k, true⟩ : Cell) ∈ l := by
        intro k hk
        obtain ⟨c, hc, c1, c2, _⟩ := child k hk
        have hcD := hw.depth_le c hc
        have hgt : ¬ c.depth ≤ s.depth := fun hcd => hex ⟨k, hk, c, hc, hcd, c1, c2⟩
        have := lo_lt_hi D c
        have := lo_lt_hi D ⟨s.depth + 1, 4 * s.hash + k, true⟩
        obtain ⟨j1, j2⟩ := overlap_inside (c := ⟨s.depth + 1, 4 * s.hash + k, true⟩) (s := c) (by show s.depth + 1 ≤ c.depth; omega)
          hcD (by omega) (by omega)
        rw [← cell_eq_of_interval (c1 := c) (c2 := ⟨s.depth + 1, 4 * s.hash + k, true⟩) hcD (by show s.depth + 1 ≤ D; omega)
          (by omega) (by omega) (hf c hc)]
        exact hc
      exact hn (s.depth + 1) (4 * s.hash) (by omega) (by omega) (isCell 0 (by omega)) (isCell 1 (by omega))
        (isCell 2 (by omega)) (isCell 3 (by omega))

theorem fullOn_of_inside {D : Nat} {l : List Cell} (hw : WF D l) (hf : ∀ c ∈ l, c.full = true) {s : Cell}
    (h : InsideSome D s l) : FullOn D l s := by
  obtain ⟨c, hc, h1, h2⟩ := h
  intro x x1 x2
  rw [stOf_of_mem hw hc (by omega) (by omega), hf c hc]; rfl

theorem Canon.insideSome_self {D : Nat} {c : Cell} {l : List Cell} (h : c ∈ l) : InsideSome D c l :=
  ⟨c, h, Nat.le_refl _, Nat.le_refl _⟩

def Cell.parent (c : Cell) : Cell := ⟨c.depth - 1, c.hash / 4, true⟩

theorem Canon.par_bounds (D : Nat) (c : Cell) (hd : 0 < c.depth) (hD : c.depth ≤ D) :
    lo D (Cell.parent c) ≤ lo D c ∧ hi D c ≤ hi D (Cell.parent c) ∧ hi D (Cell.parent c) = lo D (Cell.parent c) + 4 * 4 ^ (D - c.depth) := by
  obtain ⟨l1, l2⟩ := parent_interval D c.depth c.hash true hd hD
  refine ⟨?_, ?_, ?_⟩
  · rw [show lo D (Cell.parent c) = _ from l1]; exact Nat.mul_le_mul_right _ (by omega)
  · rw [show hi D (Cell.parent c) = _ from l2]; exact Nat.mul_le_mul_right _ (by omega)
  · rw [show hi D (Cell.parent c) = _ from l2, show lo D (Cell.parent c) = _ from l1, Nat.add_mul]

/-- the cells of a canonical list are exactly the maximal entirely-full cells: full on their interval, not on their
    parent's -/
theorem mem_canonical_iff {D : Nat} {l : List Cell} (hc : Canonical D l) (c : Cell) :
    c ∈ l ↔ c.full = true ∧ c.depth ≤ D ∧ FullOn D l c ∧ (c.depth = 0 ∨ ¬ FullOn D l (Cell.parent c)) := by
  obtain ⟨w, _, f, n⟩ := hc
  have hlh := lo_lt_hi D c
  constructor
  · intro hm
    have hcD := w.depth_le c hm
    refine ⟨f c hm, hcD, fullOn_of_inside w f (insideSome_self hm), ?_⟩
    by_cases h0 : c.depth = 0
    · exact Or.inl h0
    · right
      intro hp
      -- the cell of `l` that contains the parent meets `c`, hence is `c`: but the parent is wider
      obtain ⟨cp, mp, i1, i2⟩ := full_inside w f n (D - (c.depth - 1)) (s := Cell.parent c) (by show c.depth - 1 + _ = D; omega) hp
      obtain ⟨b1, b2, b3⟩ := par_bounds D c (by omega) hcD
      have e : cp = c := wf_eq_of_overlap w mp hm (by omega) (by omega)
      subst e
      have := hi_eq_lo_add D cp
      have : 0 < 4 ^ (D - cp.depth) := Nat.pow_pos (by decide)
      omega
  · intro ⟨hf, hcD, hfull, hmax⟩
    -- `c` lies inside a cell `cp` of `l`; if `cp` is not deeper than the parent it contains the parent, else it is `c`
    obtain ⟨cp, mp, i1, i2⟩ := full_inside w f n (D - c.depth) (by omega) hfull
    have hpD := w.depth_le cp mp
    by_cases hlt : cp.depth < c.depth
    · exfalso
      obtain ⟨b1, b2, _⟩ := par_bounds D c (by omega) hcD
      have hin := overlap_inside (c := cp) (s := Cell.parent c) (by show cp.depth ≤ c.depth - 1; omega)
        (by show c.depth - 1 ≤ D; omega) (by omega) (by omega)
      rcases hmax with h0 | hmax
      · omega
      · exact hmax (fullOn_of_inside w f ⟨cp, mp, hin⟩)
    · obtain ⟨j1, j2⟩ := overlap_inside (c := c) (s := cp) (by omega) hpD (by omega) (by omega)
      rw [cell_eq_of_interval hcD hpD (by omega) (by omega) (by rw [hf, f cp mp])]
      exact mp

theorem Canonical.maximal {D : Nat} {l : List Cell} (hc : Canonical D l) {c : Cell} (hm : c ∈ l) :
    c.depth = 0 ∨ ¬ FullOn D l (Cell.parent c) :=
  ((mem_canonical_iff hc c).1 hm).2.2.2

theorem fullOn_parent {D : Nat} {l : List Cell} {d h : Nat} (hd : 0 < d) (hdD : d ≤ D) (h4 : h % 4 = 0)
    (f0 : FullOn D l ⟨d, h, true⟩) (f1 : FullOn D l ⟨d, h + 1, true⟩) (f2 : FullOn D l ⟨d, h + 2, true⟩)
    (f3 : FullOn D l ⟨d, h + 3, true⟩) : FullOn D l ⟨d - 1, h / 4, true⟩ := by
  intro x x1 x2
  have hc := covers_parent D d h true true true true true hd hdD h4 x
  rw [(covers_iff _ _ _).2 ⟨x1, x2⟩, eq_comm] at hc
  simp only [Bool.or_eq_true, covers_iff] at hc
  rcases hc with ((hc | hc) | hc) | hc
  · exact f0 x hc.1 hc.2
  · exact f1 x hc.1 hc.2
  · exact f2 x hc.1 hc.2
  · exact f3 x hc.1 hc.2

theorem noFourFull_of_maximal {D : Nat} {l : List Cell} (hw : WF D l) (hf : ∀ c ∈ l, c.full = true)
    (hmax : ∀ c ∈ l, c.depth = 0 ∨ ¬ FullOn D l (Cell.parent c)) : NoFourFull l := by
  intro d h hd h4 m0 m1 m2 m3
  rcases hmax _ m0 with h0 | hp
  · exact absurd h0 (by show d ≠ 0; omega)
  · exact hp (fullOn_parent hd (hw.depth_le _ m0) h4 (fullOn_of_inside hw hf (insideSome_self m0))
      (fullOn_of_inside hw hf (insideSome_self m1)) (fullOn_of_inside hw hf (insideSome_self m2))
      (fullOn_of_inside hw hf (insideSome_self m3)))

theorem fullOn_congr {D : Nat} {a b : List Cell} (h : ∀ x, x < 12 * 4 ^ D → stOf D a x = stOf D b x) {s : Cell}
    (hs : hi D s ≤ 12 * 4 ^ D) (hf : FullOn D a s) : FullOn D b s :=
  fun x x1 x2 => by rw [← h x (by omega)]; exact hf x x1 x2

theorem Canon.parent_inR {D : Nat} {c : Cell} (hd : c.depth ≤ D) (hr : InR c) : hi D (Cell.parent c) ≤ 12 * 4 ^ D := by
  refine hi_le_of_inR (c := Cell.parent c) (by show c.depth - 1 ≤ D; omega) ?_
  show c.hash / 4 < 12 * 4 ^ (c.depth - 1)
  unfold InR at hr
  by_cases h0 : c.depth = 0
  · rw [h0] at hr ⊢
    omega
  · simpa using anc_inR (k := 1) (by omega) hr

/-- **packed plain MOCs are canonical**: two canonical lists denoting the same set of cells of the sphere are equal (by
    `mem_canonical_iff`, membership in either is the same property of the common state function) -/
theorem moc_canonical {D : Nat} {a b : List Cell} (ha : Canonical D a) (hb : Canonical D b)
    (h : ∀ x, x < 12 * 4 ^ D → stOf D a x = stOf D b x) : a = b := by
  have sub : ∀ {a b : List Cell}, Canonical D a → Canonical D b → (∀ x, x < 12 * 4 ^ D → stOf D a x = stOf D b x) →
      ∀ c ∈ a, c ∈ b := by
    intro a b ha hb h c hc
    obtain ⟨f, hd, hfull, hmax⟩ := (mem_canonical_iff ha c).1 hc
    have hr := ha.2.1 c hc
    exact (mem_canonical_iff hb c).2 ⟨f, hd, fullOn_congr h (hi_le_of_inR hd hr) hfull,
      hmax.imp id (fun hn hp => hn (fullOn_congr (fun x hx => (h x hx).symm) (parent_inR hd hr) hp))⟩
  exact wf_ext ha.1 hb.1 (fun c => ⟨sub ha hb h c, sub hb ha (fun x hx => (h x hx).symm) c⟩)

theorem Canon.and_mem_src (a b : List Cell) : ∀ c ∈ andCells a b,
    (∃ c' ∈ a, c'.depth = c.depth ∧ c'.hash = c.hash) ∨ (∃ c' ∈ b, c'.depth = c.depth ∧ c'.hash = c.hash) := by
  intro c hc
  obtain ⟨l, hl, r, hr, _, ⟨e1, e2, _⟩ | ⟨e1, e2, _⟩⟩ := andCells_src a b c hc
  · exact Or.inr ⟨r, hr, e1.symm, e2.symm⟩
  · exact Or.inl ⟨l, hl, e1.symm, e2.symm⟩

theorem tri_min_eq_full {s t : Tri} (h : Tri.min s t = .full) : s = .full ∧ t = .full := by
  cases s <;> cases t <;> first | exact ⟨rfl, rfl⟩ | cases h

theorem and_canonical {D : Nat} {a b : List Cell} (ha : Canonical D a) (hb : Canonical D b) :
    Canonical D (andCells a b) := by
  have w := (and_wf_inside D a b ha.1 hb.1).1
  have hfull : ∀ c ∈ andCells a b, c.full = true := by
    intro c hc
    obtain ⟨l, hl, r, hr, hf, _⟩ := andCells_src a b c hc
    rw [hf, ha.2.2.1 l hl, hb.2.2.1 r hr]; rfl
  refine ⟨w, and_inR D a b ha.1 hb.1 ha.2.1, hfull, noFourFull_of_maximal w hfull fun c hc => ?_⟩
  -- `c` is a cell of one operand, maximal there; what is full in the intersection is full in that operand
  have key : ∀ {s : List Cell}, Canonical D s → (∃ c' ∈ s, c'.depth = c.depth ∧ c'.hash = c.hash) →
      (∀ x, stOf D (andCells a b) x = .full → stOf D s x = .full) →
      c.depth = 0 ∨ ¬ FullOn D (andCells a b) (Cell.parent c) := by
    rintro s hs ⟨c', m, e1, e2⟩ hle
    have e : c' = c := by
      have := hs.2.2.1 c' m; have := hfull c hc
      cases c'; cases c; simp_all
    exact (hs.maximal m).imp (fun h => e ▸ h) (fun h hp => h (fun x x1 x2 => hle x (hp x (e ▸ x1) (e ▸ x2))))
  rcases and_mem_src a b c hc with hm | hm
  · exact key ha hm (fun x hx => (tri_min_eq_full (and_sem D a b ha.1 hb.1 x ▸ hx)).1)
  · exact key hb hm (fun x hx => (tri_min_eq_full (and_sem D a b ha.1 hb.1 x ▸ hx)).2)

theorem and_comm_canonical {D : Nat} {a b : List Cell} (ha : Canonical D a) (hb : Canonical D b) :
    andCells a b = andCells b a := by
  apply moc_canonical (and_canonical ha hb) (and_canonical hb ha)
  intro x _
  rw [and_sem D a b ha.1 hb.1, and_sem D b a hb.1 ha.1]
  cases stOf D a x <;> cases stOf D b x <;> rfl

theorem Canon.wf_head_of_adjacent {D : Nat} {c1 c2 : Cell} {t : List Cell} (hw : WF D (c1 :: t)) (hm : c2 ∈ t)
    (hadj : hi D c1 = lo D c2) : ∃ t', t = c2 :: t' := by
  cases t with
  | nil => simp at hm
  | cons p t' =>
    rcases List.mem_cons.1 hm with rfl | hm'
    · exact ⟨t', rfl⟩
    · exfalso
      have := hw.tail.2.1 c2 hm'
      have := hw.2.1 p (by simp)
      have := lo_lt_hi D p
      omega

theorem noFourFull_of_positional {D : Nat} {l : List Cell} (hw : WF D l)
    (h : ∀ (pre rest : List Cell) (d h : Nat), 0 < d → h % 4 = 0 →
      l ≠ pre ++ ⟨d, h, true⟩ :: ⟨d, h + 1, true⟩ :: ⟨d, h + 2, true⟩ :: ⟨d, h + 3, true⟩ :: rest) : NoFourFull l := by
  intro d hh hd h4 m0 m1 m2 m3
  -- each sibling starts where the previous one ends
  have a1 : hi D ⟨d, hh, true⟩ = lo D ⟨d, hh + 1, true⟩ := rfl
  have a2 : hi D ⟨d, hh + 1, true⟩ = lo D ⟨d, hh + 2, true⟩ := rfl
  have a3 : hi D ⟨d, hh + 2, true⟩ = lo D ⟨d, hh + 3, true⟩ := rfl
  have l0 := lo_lt_hi D ⟨d, hh, true⟩
  have l1 := lo_lt_hi D ⟨d, hh + 1, true⟩
  have l2 := lo_lt_hi D ⟨d, hh + 2, true⟩
  obtain ⟨pre, post0, rfl⟩ := List.append_of_mem m0
  obtain ⟨_, w0, b0⟩ := WF_append_iff.1 hw
  have tail_mem : ∀ c, c ∈ pre ++ ⟨d, hh, true⟩ :: post0 → lo D ⟨d, hh, true⟩ < lo D c → c ∈ post0 := by
    intro c hc hlt
    rcases List.mem_append.1 hc with hc | hc
    · have := b0 c hc ⟨d, hh, true⟩ (by simp)
      have := lo_lt_hi D c
      omega
    · rcases List.mem_cons.1 hc with rfl | hc
      · omega
      · exact hc
  have drop_head : ∀ {c p : Cell} {t : List Cell}, c ∈ p :: t → lo D c ≠ lo D p → c ∈ t := fun hc hne =>
    (List.mem_cons.1 hc).resolve_left (fun e => hne (congrArg (lo D) e))
  have n1 := tail_mem _ m1 (by omega)
  have n2 := tail_mem _ m2 (by omega)
  have n3 := tail_mem _ m3 (by omega)
  obtain ⟨t1, rfl⟩ := wf_head_of_adjacent w0 n1 (by omega)
  have w1 := w0.tail
  have k2 := drop_head n2 (by omega)
  have k3 := drop_head n3 (by omega)
  obtain ⟨t2, rfl⟩ := wf_head_of_adjacent w1 k2 (by omega)
  have w2 := w1.tail
  have j3 := drop_head k3 (by omega)
  obtain ⟨t3, rfl⟩ := wf_head_of_adjacent w2 j3 (by omega)
  exact h pre t3 d hh hd h4 rfl

theorem positional_of_noFourFull {l : List Cell} (hn : NoFourFull l) (pre rest : List Cell) (d h : Nat) (hd : 0 < d)
    (h4 : h % 4 = 0) :
    l ≠ pre ++ ⟨d, h, true⟩ :: ⟨d, h + 1, true⟩ :: ⟨d, h + 2, true⟩ :: ⟨d, h + 3, true⟩ :: rest := by
  intro e
  subst e
  exact hn d h hd h4 (by simp) (by simp) (by simp) (by simp)

private theorem packPass_length_le (dm : Nat) (l : List Nat) : (packPass dm l).length ≤ l.length :=
  packPass_length dm l

private theorem packPass_eq_of_length (dm : Nat) (l : List Nat) (h : (packPass dm l).length = l.length) :
    packPass dm l = l :=
  packPass_fix_of_length dm l h

private theorem packFuel_fixpoint (dm : Nat) (fuel : Nat) (l : List Nat) (hf : l.length < fuel) :
    (packPass dm (packFuel dm fuel l)).length = (packFuel dm fuel l).length :=
  packFuel_stable dm fuel l hf

/-- **the output of `pack` on the raw entries of a well-formed plain MOC is canonical** -/
theorem pack_canonical (dm : Nat) (hdm : dm ≤ 29) (l : List Nat) (hv : ∀ r ∈ l, ValidRaw dm r)
    (hw : WF dm (cellsOf dm l)) (hf : ∀ c ∈ cellsOf dm l, c.full = true) :
    Canonical dm (cellsOf dm (pack dm l)) := by
  obtain ⟨s1, s2, s3⟩ := pack_sem dm hdm l hv
  have w := s3 hw
  refine ⟨w, ?_, ?_, ?_⟩
  · intro c hc
    obtain ⟨r, hr, rfl⟩ := List.mem_map.1 hc
    exact (raw_of_decode hdm (s2 r hr) rfl).2.2
  · exact flags_of_sem w (fun x => by rw [s1]; exact stOf_of_all_flag hf x)
  · exact noFourFull_of_positional w (fun pre rest d h hd h4 =>
      fix_no_four_full dm hdm _ s2 (pack_fixpoint_pass dm l) pre rest d h hd h4)

/-! ## `not` of a canonical MOC is canonical: every produced cell is maximal -/

/-- sufficient for `c` to be maximal in the complement of `A` -/
def Canon.Maxl (D : Nat) (A : List Cell) (c : Cell) : Prop :=
  c.depth = 0 ∨ ∃ c' ∈ A, lo D (Cell.parent c) ≤ lo D c' ∧ hi D c' ≤ hi D (Cell.parent c)

/-- the hypotheses are what `mem_goUp` and `mem_goDownAux` say of a pushed cell -/
theorem Canon.maxl_of_anc {D : Nat} {A : List Cell} {c c0 : Cell} (hc0 : c0 ∈ A) (hd : c0.depth ≤ D) {j : Nat}
    (hj : j < c0.depth) (j1 : c.depth = c0.depth - j) (j2 : c.hash / 4 = c0.hash >>> (2 * (j + 1))) : Maxl D A c := by
  obtain ⟨b1, b2⟩ := anc_bounds D c0.depth (j + 1) c0.hash (by omega) hd
  rw [← shr2_eq_div, ← j2, show c0.depth - (j + 1) = c.depth - 1 by omega] at b1 b2
  exact Or.inr ⟨c0, hc0, b1, b2⟩

theorem Canon.maxl_self {D : Nat} {A : List Cell} {c : Cell} (hc : c ∈ A) (hd : c.depth ≤ D) : Maxl D A c := by
  by_cases h0 : c.depth = 0
  · exact Or.inl h0
  · exact maxl_of_anc hc hd (j := 0) (by omega) (by omega) (by rw [Nat.shiftRight_eq_div_pow])

theorem Canon.notStep_maxl (D : Nat) (hD : D ≤ 29) (A : List Cell) (a c0 : Cell) (had : a.depth ≤ D) (har : InR a)
    (hc0D : c0.depth ≤ D) (hr : InR c0) (hbefore : hi D a ≤ lo D c0) (ha : a ∈ A) (hc0 : c0 ∈ A) :
    ∀ c ∈ (goUp (dd4GoUp a.depth a.hash c0.depth c0.hash) a.depth a.hash true).1 ++
        goDown (goUp (dd4GoUp a.depth a.hash c0.depth c0.hash) a.depth a.hash true).2.1
          (goUp (dd4GoUp a.depth a.hash c0.depth c0.hash) a.depth a.hash true).2.2 c0.depth c0.hash true ++
        (if c0.full then [] else [c0]), Maxl D A c := by
  obtain ⟨s1, s2, s3, hpar⟩ := dd4GoUp_spec D a.depth a.hash c0.depth c0.hash hD had hc0D har hr hbefore
  set dd := dd4GoUp a.depth a.hash c0.depth c0.hash with hdd
  obtain ⟨u1, u2, _⟩ := Seg.goUp D true dd a.depth a.hash s1 had
  rw [u1, u2]
  intro c hc
  simp only [List.mem_append] at hc
  rcases hc with (hc | hc) | hc
  · obtain ⟨_, j, hj, j1, j2⟩ := mem_goUp true dd _ _ c hc
    exact maxl_of_anc ha had (Nat.lt_of_lt_of_le hj s1) j1 j2
  · unfold goDown at hc
    obtain ⟨_, ⟨h1, h2, h3⟩ | ⟨j, hj, j1, j2⟩⟩ := mem_goDownAux true _ _ _ _ c hc
    · by_cases hdd0 : dd = a.depth
      · left; omega
      · -- first level of `go_down`: the ancestors of `a` and of `c0` at that depth are siblings
        have hp := hpar (by omega)
        rw [show 2 * (c0.depth - (a.depth - dd)) + 2 = 2 * ((c0.depth - (a.depth - dd)) + 1) by ring, shr_succ,
          shr_succ] at hp
        refine maxl_of_anc ha had (j := dd) (by omega) h1 ?_
        rw [shr_succ]
        omega
    · rw [Nat.add_sub_of_le s2] at j1
      exact maxl_of_anc hc0 hc0D (Nat.lt_of_lt_of_le hj (Nat.sub_le _ _)) j1 j2
  · obtain ⟨rfl, _⟩ := mem_keep.1 hc
    exact maxl_self hc0 hc0D

theorem Canon.notLoop_maxl (D : Nat) (hD : D ≤ 29) (A : List Cell) : ∀ (rest : List Cell) (c0 : Cell), WF D (c0 :: rest) →
    (∀ c ∈ c0 :: rest, InR c) → (∀ c ∈ c0 :: rest, c ∈ A) → ∀ c ∈ (notLoop rest c0.depth c0.hash).1, Maxl D A c
  | [], _, _, _, _, _, hc => by simp [notLoop] at hc
  | c1 :: rest, c0, hw, hr, hA, c, hc => by
    simp only [notLoop] at hc
    rcases List.mem_append.1 hc with hc | hc
    · exact notStep_maxl D hD A c0 c1 hw.1 (hr c0 (List.mem_cons_self ..)) hw.tail.1 (hr c1 (by simp))
        (hw.2.1 c1 (List.mem_cons_self ..)) (hA c0 (List.mem_cons_self ..)) (hA c1 (by simp)) c hc
    · exact notLoop_maxl D hD A rest c1 hw.tail (fun c' hc' => hr c' (List.mem_cons_of_mem _ hc'))
        (fun c' hc' => hA c' (List.mem_cons_of_mem _ hc')) c hc

theorem notCells_maxl (D : Nat) (hD : D ≤ 29) (l : List Cell) (hw : WF D l) (hr : ∀ c ∈ l, InR c) :
    ∀ c ∈ notCells l, Maxl D l c := by
  cases l with
  | nil => exact fun c hc => Or.inl (mem_pushRange hc).1
  | cons c0 rest =>
    have hlast : rest.getLastD c0 ∈ c0 :: rest := List.getLastD_mem_cons
    intro c hc
    simp only [notCells, notLoop_cursor, List.mem_append] at hc
    rcases hc with (((hc | hc) | hc) | hc) | hc
    · unfold goDown at hc
      obtain ⟨_, ⟨h1, _, _⟩ | ⟨j, hj, j1, j2⟩⟩ := mem_goDownAux true _ _ _ _ c hc
      · exact Or.inl h1
      · rw [Nat.sub_zero, Nat.zero_add] at j1
        exact maxl_of_anc (List.mem_cons_self ..) hw.1 hj j1 j2
    · obtain ⟨rfl, _⟩ := mem_keep.1 hc
      exact maxl_self (List.mem_cons_self ..) hw.1
    · exact notLoop_maxl D hD _ rest c0 hw hr (fun _ h => h) c hc
    · obtain ⟨_, j, hj, j1, j2⟩ := mem_goUp true _ _ _ c hc
      exact maxl_of_anc hlast (hw.depth_le _ hlast) hj j1 j2
    · exact Or.inl (mem_pushRange hc).1

/-- **`not` of a canonical MOC is canonical** (depth `≤ 29`) -/
theorem not_canonical {D : Nat} (hD : D ≤ 29) {a : List Cell} (ha : Canonical D a) : Canonical D (notCells a) := by
  obtain ⟨wa, ra, fa, _⟩ := ha
  obtain ⟨sem, w, r⟩ := notCells_spec D hD a wa ra
  have hfull := notCells_full fa
  refine ⟨w, r, hfull, noFourFull_of_maximal w hfull fun c hc => ?_⟩
  -- the parent of `c` contains a cell of `a`, which is absent from the complement
  refine (notCells_maxl D hD a wa ra c hc).imp id ?_
  rintro ⟨c', mc', i1, i2⟩ pf
  have hlh := lo_lt_hi D c'
  have hR := hi_le_of_inR (wa.depth_le c' mc') (ra c' mc')
  have e2 := sem (lo D c') (by omega)
  rw [stOf_of_mem wa mc' (Nat.le_refl _) hlh, fa c' mc', pf (lo D c') i1 (by omega)] at e2
  exact absurd e2 (by decide)

theorem not_not_canonical {D : Nat} (hD : D ≤ 29) {a : List Cell} (ha : Canonical D a) : notCells (notCells a) = a := by
  have hn := not_canonical hD ha
  apply moc_canonical (not_canonical hD hn) ha
  intro x hx
  rw [(notCells_spec D hD _ hn.1 hn.2.1).1 x hx, (notCells_spec D hD a ha.1 ha.2.1).1 x hx]
  cases stOf D a x <;> rfl

theorem canonical_nil (D : Nat) : Canonical D [] :=
  ⟨trivial, fun c hc => by simp at hc, fun c hc => by simp at hc, fun _ _ _ _ h => by simp at h⟩

theorem pack_cells_canonical (dm : Nat) (hdm : dm ≤ 29) (cs : List Cell) (hw : WF dm cs) (hr : ∀ c ∈ cs, InR c)
    (hf : ∀ c ∈ cs, c.full = true) :
    Canonical dm (cellsOf dm (pack dm (cs.map (encode dm)))) ∧
    ∀ x, stOf dm (cellsOf dm (pack dm (cs.map (encode dm)))) x = stOf dm cs x := by
  have hv := validRaw_map_encode (dm := dm) hw.depth_le hr
  have hcells : cellsOf dm (cs.map (encode dm)) = cs := cellsOf_map_encode dm hdm cs hw.depth_le hr
  refine ⟨pack_canonical dm hdm _ hv (by rw [hcells]; exact hw) (by rw [hcells]; exact hf), ?_⟩
  intro x
  rw [(pack_sem dm hdm _ hv).1 x, hcells]

/-- two plain cell lists denoting the same set are packed into the same raw entries -/
theorem pack_eq_of_same_set (dm : Nat) (hdm : dm ≤ 29) (a b : List Cell) (wa : WF dm a) (wb : WF dm b)
    (ra : ∀ c ∈ a, InR c) (rb : ∀ c ∈ b, InR c) (fa : ∀ c ∈ a, c.full = true) (fb : ∀ c ∈ b, c.full = true)
    (h : ∀ x, x < 12 * 4 ^ dm → stOf dm a x = stOf dm b x) :
    pack dm (a.map (encode dm)) = pack dm (b.map (encode dm)) := by
  obtain ⟨ca, sa⟩ := pack_cells_canonical dm hdm a wa ra fa
  obtain ⟨cb, sb⟩ := pack_cells_canonical dm hdm b wb rb fb
  have va := (pack_sem dm hdm _ (validRaw_map_encode (dm := dm) wa.depth_le ra)).2.1
  have vb := (pack_sem dm hdm _ (validRaw_map_encode (dm := dm) wb.depth_le rb)).2.1
  have e := moc_canonical ca cb (fun x hx => by rw [sa x, sb x, h x hx])
  have m1 := map_encode_cellsOf dm hdm _ va
  have m2 := map_encode_cellsOf dm hdm _ vb
  rw [← m1, ← m2, e]

theorem Canon.cells_eq_cellsOf (b : BMOC) : b.cells = cellsOf b.dmax b.entries := rfl

/-- **canonicity of raw BMOCs**: two BMOCs of the same depth whose entries are the encodings of their (canonical) cells
    and which denote the same set have the same entries -/
theorem bmoc_canonical (A B : BMOC) (hdm : A.dmax = B.dmax)
    (eA : A.entries = A.cells.map (encode A.dmax)) (eB : B.entries = B.cells.map (encode B.dmax))
    (cA : Canonical A.dmax A.cells) (cB : Canonical B.dmax B.cells)
    (h : ∀ x, x < 12 * 4 ^ A.dmax → stOf A.dmax A.cells x = stOf B.dmax B.cells x) : A = B := by
  obtain ⟨da, ea⟩ := A
  obtain ⟨db, eb⟩ := B
  simp only at hdm
  subst hdm
  have hc : BMOC.cells ⟨da, ea⟩ = BMOC.cells ⟨da, eb⟩ := moc_canonical cA cB h
  simp only at eA eB
  rw [eA, eB, hc]

/-- **`A and B = B and A` for raw BMOCs** whose cells are canonical at the depth of the result -/
theorem bmoc_and_comm (A B : BMOC) (cA : Canonical (max A.dmax B.dmax) A.cells)
    (cB : Canonical (max A.dmax B.dmax) B.cells) : A.and B = B.and A := by
  unfold BMOC.and
  simp only
  rw [and_comm_canonical cA cB, Nat.max_comm]

/-- a concrete three-level MOC (depths 0, 1, 2; reference depth 2) that is canonical -/
def exCanonMoc : List Cell := [⟨0, 0, true⟩, ⟨1, 4, true⟩, ⟨1, 5, true⟩, ⟨2, 24, true⟩, ⟨2, 25, true⟩, ⟨2, 47, true⟩]

theorem exCanonMoc_canonical : Canonical 2 exCanonMoc := by
  refine ⟨?_, ?_, ?_, ?_⟩
  · simp [exCanonMoc, WF, lo, hi]
  · intro c hc
    simp only [exCanonMoc, List.mem_cons, List.not_mem_nil, or_false] at hc
    rcases hc with rfl | rfl | rfl | rfl | rfl | rfl <;> simp [InR]
  · intro c hc
    simp only [exCanonMoc, List.mem_cons, List.not_mem_nil, or_false] at hc
    rcases hc with rfl | rfl | rfl | rfl | rfl | rfl <;> rfl
  · intro d h hd h4 m0 _ m2 _
    simp only [exCanonMoc, List.mem_cons, List.not_mem_nil, or_false, Cell.mk.injEq, and_true] at m0 m2
    omega

/-- the corresponding raw BMOC satisfies the hypotheses of `C07.bmoc_canonical` / `C07.not_not` -/
def exCanonBmoc : BMOC := ⟨2, exCanonMoc.map (encode 2)⟩

example : (∀ r ∈ exCanonBmoc.entries, ValidRaw exCanonBmoc.dmax r) ∧ Canonical exCanonBmoc.dmax exCanonBmoc.cells := by
  have hc : exCanonBmoc.cells = exCanonMoc :=
    cellsOf_map_encode 2 (by decide) exCanonMoc exCanonMoc_canonical.1.depth_le exCanonMoc_canonical.2.1
  refine ⟨?_, by rw [hc]; exact exCanonMoc_canonical⟩
  intro r hr
  obtain ⟨c, hm, rfl⟩ := List.mem_map.1 hr
  exact ⟨c, exCanonMoc_canonical.1.depth_le c hm, exCanonMoc_canonical.2.1 c hm, rfl⟩

example : notCells (notCells exCanonMoc) = exCanonMoc := by decide
example : andCells exCanonMoc (notCells exCanonMoc) = [] := by decide +kernel
example : andCells exCanonMoc [⟨1, 1, true⟩, ⟨1, 5, true⟩, ⟨2, 25, true⟩] = [⟨1, 1, true⟩, ⟨1, 5, true⟩, ⟨2, 25, true⟩] ∧
    andCells [⟨1, 1, true⟩, ⟨1, 5, true⟩, ⟨2, 25, true⟩] exCanonMoc = [⟨1, 1, true⟩, ⟨1, 5, true⟩, ⟨2, 25, true⟩] := by
  simp [exCanonMoc, andCells]

/-- `NoFourFull` is needed: four full siblings and their parent denote the same set -/
example : (∀ x, stOf 1 [⟨1, 0, true⟩, ⟨1, 1, true⟩, ⟨1, 2, true⟩, ⟨1, 3, true⟩] x = stOf 1 [⟨0, 0, true⟩] x) ∧
    [(⟨1, 0, true⟩ : Cell), ⟨1, 1, true⟩, ⟨1, 2, true⟩, ⟨1, 3, true⟩] ≠ [⟨0, 0, true⟩] := by
  refine ⟨fun x => ?_, by decide⟩
  rw [stOf_cons, stOf_cons, stOf_cons, stOf_cons, stOf_cons]
  simp only [lo, hi, stOf, Nat.sub_self, Nat.sub_zero, Nat.pow_zero, Nat.pow_one, Nat.mul_one, Nat.zero_mul,
    Nat.zero_add, Nat.reduceAdd, Nat.reduceMul]
  split_ifs <;> first | rfl | (exfalso; omega)

end Hpx.Bmoc

#print axioms Hpx.Bmoc.moc_canonical
#print axioms Hpx.Bmoc.and_canonical
#print axioms Hpx.Bmoc.not_canonical
#print axioms Hpx.Bmoc.not_not_canonical
#print axioms Hpx.Bmoc.and_comm_canonical
#print axioms Hpx.Bmoc.mem_canonical_iff
#print axioms Hpx.Bmoc.pack_canonical
#print axioms Hpx.Bmoc.pack_eq_of_same_set
#print axioms Hpx.Bmoc.bmoc_and_comm
