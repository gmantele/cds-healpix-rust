/-
The elliptical-cone tests over ℝ and the descent (C13).  The classifier of the descent is a pair of ball tests
(`ellClassifier_spec`, `ellClassifier_ballTests`); `ProjSIN::new` keeps the centre (`adist_new_c0`), so the statements hold for
*any* input centre `(lon, lat)`; a skipped cone is disjoint from the inscribed circular cone of radius `b`
(`inner_skip_sound`).  Relative to the envelope hypothesis H1 (the radius of a level bounds the extent of its cells) the cell
of the centre is kept, and in the circular case nothing is missed and `full` verdicts are truthful.
-/
import HpxVerif.Lemmas.EConeReal
import HpxVerif.Lemmas.Atan2Vec

namespace Hpx.Sph
open Hpx Hpx.Cover Hpx.Bmoc Real

section
variable {α : Type} [Num α]

theorem ellClassifier_spec (cfg : Cfg) (target : Nat) (e : ECone α) (dists : List α) (d h l : Nat) (v : Verdict)
    (hk : ellClassifier cfg target e dists d h l = some v) :
    ∃ c dist, Hash.center (α := α) cfg d h = some c ∧ dists[l]? = some dist ∧
      (v = .full → e.containsCone c.1 c.2 dist = true) ∧
      (v = .skip → e.contains c.1 c.2 = false ∧ e.overlapCone c.1 c.2 dist = some false) ∧
      (∀ fl, v = .descend fl → (e.contains c.1 c.2 = true ∨ e.overlapCone c.1 c.2 dist = some true) ∧
        (fl = true → d = target ∧ ∃ vs, Hash.vertices (α := α) cfg d h = some vs ∧
          vs.all (fun v => e.contains v.1 v.2) = true)) := by
  unfold ellClassifier at hk
  split at hk
  · simp at hk
  · rename_i c hc
    split at hk
    · simp at hk
    · rename_i dist hdist
      refine ⟨c, dist, hc, hdist, ?_⟩
      split at hk
      · cases hk
        exact ⟨fun _ => ‹_›, nofun, nofun⟩
      · simp only at hk
        split at hk
        · cases hk
        · rename_i hgo
          cases hk
          refine ⟨nofun, fun _ => ?_, nofun⟩
          split at hgo
          · cases hgo
          · exact ⟨eq_false_of_ne_true ‹_›, hgo⟩
        · rename_i hgo
          have keep : e.contains c.1 c.2 = true ∨ e.overlapCone c.1 c.2 dist = some true := by
            split at hgo
            · exact Or.inl ‹_›
            · exact Or.inr hgo
          split at hk
          · rename_i hdt
            simp only [Option.map_eq_some_iff] at hk
            obtain ⟨vs, hvs, rfl⟩ := hk
            exact ⟨nofun, nofun, fun fl hfl => ⟨keep, fun ht =>
              ⟨by simpa using hdt, vs, hvs, (Verdict.descend.inj hfl).trans ht⟩⟩⟩
          · cases hk
            exact ⟨nofun, nofun, fun fl hfl => ⟨keep, fun ht => absurd ((Verdict.descend.inj hfl).trans ht) (by simp)⟩⟩

theorem ellClassifier_skip (cfg : Cfg) (target : Nat) (e : ECone α) (dists : List α) (d h l : Nat)
    (hk : ellClassifier cfg target e dists d h l = some .skip) :
    ∃ c dist, Hash.center (α := α) cfg d h = some c ∧ dists[l]? = some dist ∧
      e.contains c.1 c.2 = false ∧ e.overlapCone c.1 c.2 dist = some false := by
  obtain ⟨c, dist, hc, hd, _, hs, _⟩ := ellClassifier_spec cfg target e dists d h l _ hk
  exact ⟨c, dist, hc, hd, hs rfl⟩

theorem ellClassifier_full (cfg : Cfg) (target : Nat) (e : ECone α) (dists : List α) (d h l : Nat)
    (hk : ellClassifier cfg target e dists d h l = some .full) :
    ∃ c dist, Hash.center (α := α) cfg d h = some c ∧ dists[l]? = some dist ∧ e.containsCone c.1 c.2 dist = true := by
  obtain ⟨c, dist, hc, hd, hf, _⟩ := ellClassifier_spec cfg target e dists d h l _ hk
  exact ⟨c, dist, hc, hd, hf rfl⟩

theorem ellClassifier_descend_full (cfg : Cfg) (target : Nat) (e : ECone α) (dists : List α) (d h l : Nat)
    (hk : ellClassifier cfg target e dists d h l = some (.descend true)) :
    d = target ∧ ∃ vs, Hash.vertices (α := α) cfg d h = some vs ∧ vs.all (fun v => e.contains v.1 v.2) = true := by
  obtain ⟨_, _, _, _, _, _, hd⟩ := ellClassifier_spec cfg target e dists d h l _ hk
  exact (hd _ rfl).2 rfl

theorem ellClassifier_descend_keep (cfg : Cfg) (target : Nat) (e : ECone α) (dists : List α) (d h l : Nat) (fl : Bool)
    (hk : ellClassifier cfg target e dists d h l = some (.descend fl)) :
    ∃ c dist, Hash.center (α := α) cfg d h = some c ∧ dists[l]? = some dist ∧
      (e.contains c.1 c.2 = true ∨ e.overlapCone c.1 c.2 dist = some true) := by
  obtain ⟨c, dist, hc, hd, _, _, hdesc⟩ := ellClassifier_spec cfg target e dists d h l _ hk
  exact ⟨c, dist, hc, hd, (hdesc _ rfl).1⟩
end

theorem ellClassifier_ballTests (cfg : Cfg) (target : Nat) (e : ECone ℝ) (dists : List ℝ) :
    BallTests cfg (ellClassifier (α := ℝ) cfg target e dists) dists
      (fun c D => e.contains c.1 c.2 = false ∧ e.overlapCone c.1 c.2 D = some false)
      (fun c D => e.containsCone c.1 c.2 D = true) :=
  ⟨fun hk => ellClassifier_skip cfg target e dists _ _ _ hk, fun hk => ellClassifier_full cfg target e dists _ _ _ hk⟩

/-- `overlap_cone` answers (does not panic) only for a positive radius -/
theorem overlapCone_some_pos (e : ECone ℝ) (l φ r : ℝ) (v : Bool) (h : e.overlapCone l φ r = some v) : 0 < r := by
  unfold ECone.overlapCone at h
  by_contra hr
  have : Num.gt r (Num.zero : ℝ) = false := by rw [r_gt, Proj.r_zero]; simpa using hr
  simp [this] at h

theorem ProjSIN.new_vec (lon lat : ℝ) :
    vec (ProjSIN.new lon lat).c0.1 (ProjSIN.new lon lat).c0.2 = vec lon lat := by
  unfold ProjSIN.new ProjSIN.c0
  split
  rename_i lon' lat' heq
  split at heq
  · simp only [num_cos, num_sin, num_atan2, num_sqrt, pow2, Prod.mk.injEq] at heq
    obtain ⟨h1, h2⟩ := heq
    obtain ⟨vx, vy, vz⟩ := vec_of_atan2 lon lat
    have hcl : cos lon' = cos (Complex.arg ⟨cos lat * cos lon, cos lat * sin lon⟩) := by
      rw [← h1]; split
      · rw [r_twicePi]; exact cos_add_two_pi _
      · rfl
    have hsl : sin lon' = sin (Complex.arg ⟨cos lat * cos lon, cos lat * sin lon⟩) := by
      rw [← h1]; split
      · rw [r_twicePi]; exact sin_add_two_pi _
      · rfl
    simp only [vec]
    rw [← h2, hcl, hsl, vx, vy, vz]
  · simp only [Prod.mk.injEq] at heq
    rw [← heq.1, ← heq.2]

theorem adist_new_c0 (lon lat : ℝ) (q : ℝ × ℝ) : adist q (ProjSIN.new lon lat).c0 = adist q (lon, lat) := by
  unfold adist
  rw [ProjSIN.new_vec]

theorem proj_defined_iff (lon lat l φ : ℝ) :
    ((ProjSIN.new lon lat).proj l φ).isSome = true ↔ adist (l, φ) (lon, lat) < π / 2 := by
  rw [proj_isSome_iff _ (ProjSIN.new_coherent lon lat), adist_new_c0]

theorem forced_distance (lon lat l φ : ℝ) :
    ((ProjSIN.new lon lat).forcedProjAndDistance l φ).2 = adist (l, φ) (lon, lat) := by
  rw [forcedProjAndDistance_spec _ (ProjSIN.new_coherent lon lat), adist_new_c0]

theorem econe_contains_circular_iff (lon lat a pa l φ : ℝ) (ha : 0 < a ∧ a < π / 2) :
    (ECone.new (α := ℝ) lon lat a a pa).contains l φ = true ↔ adist (l, φ) (lon, lat) ≤ a := by
  rw [econe_contains_circular' lon lat a pa l φ ha, adist_new_c0]

theorem contains_cone_circular_iff (lon lat a pa l φ r : ℝ) (ha : 0 < a ∧ a < π / 2) (hr : 0 ≤ r) :
    (ECone.new (α := ℝ) lon lat a a pa).containsCone l φ r = true ↔ r < a ∧ adist (l, φ) (lon, lat) + r ≤ a := by
  rw [contains_cone_circular lon lat a pa l φ r ha hr, adist_new_c0]

theorem overlap_cone_circular_sound' (lon lat a pa l φ r : ℝ) (ha : 0 < a ∧ a < π / 2) (hr : 0 < r ∧ r ≤ π / 2)
    (hfin : 1 / 2 ^ 1024 < sin (adist (l, φ) (lon, lat))) (hd : adist (l, φ) (lon, lat) ≤ a + r) :
    (ECone.new (α := ℝ) lon lat a a pa).overlapCone l φ r = some true :=
  overlap_cone_circular_sound lon lat a pa l φ r ha hr (by rwa [adist_new_c0]) (by rwa [adist_new_c0])

theorem inner_skip_sound (lon lat a b pa l φ r : ℝ) (hb : 0 < b) (hba : b ≤ a) (ha : a < π / 2)
    (hmin : 1 / 2 ^ 1024 < sin b) (hr : r ≤ π / 2)
    (hc : (ECone.new (α := ℝ) lon lat a b pa).contains l φ = false)
    (ho : (ECone.new (α := ℝ) lon lat a b pa).overlapCone l φ r = some false)
    (hd3 : adist (l, φ) (lon, lat) ≤ 3) :
    b + r < adist (l, φ) (lon, lat) := by
  by_contra hle
  rw [← adist_new_c0] at hle hd3
  rcases inner_cone_kept lon lat a b pa l φ r hb hba ha hmin ⟨overlapCone_some_pos _ _ _ _ _ ho, hr⟩ (not_lt.mp hle) hd3
    with h | h
  · rw [h] at hc; exact absurd hc (by simp)
  · rw [h] at ho; exact absurd ho (by simp)

/-- circular case: the skip test `¬contains ∧ overlap_cone = false` is sound -/
theorem circular_skip_sound (lon lat a pa l φ r : ℝ) (ha : 0 < a ∧ a < π / 2) (hmin : 1 / 2 ^ 1024 < sin a)
    (hr : r ≤ π / 2) (har : a + r ≤ 3)
    (hc : (ECone.new (α := ℝ) lon lat a a pa).contains l φ = false)
    (ho : (ECone.new (α := ℝ) lon lat a a pa).overlapCone l φ r = some false) :
    a + r < adist (l, φ) (lon, lat) := by
  by_contra hle
  exact hle (inner_skip_sound lon lat a a pa l φ r ha.1 le_rfl ha.2 hmin hr hc ho (by linarith))

theorem centre_skip_sound (lon lat a b pa l φ r : ℝ) (hb : 0 < b) (hba : b ≤ a) (ha : a < π / 2)
    (hmin : 1 / 2 ^ 1024 < sin b) (hr : r ≤ π / 2)
    (hc : (ECone.new (α := ℝ) lon lat a b pa).contains l φ = false)
    (ho : (ECone.new (α := ℝ) lon lat a b pa).overlapCone l φ r = some false) :
    r < adist (l, φ) (lon, lat) := by
  by_contra hle
  have := inner_skip_sound lon lat a b pa l φ r hb hba ha hmin hr hc ho (by linarith [pi_lt_four])
  linarith

/-- `H1` is the envelope hypothesis, needed at the centre only: a visited cell that contains the centre of the ellipse has
    its own centre within the `D` of its level of it -/
theorem econe_scheme_centre_kept (cfg : Cfg) (lon lat a b pa : ℝ) (hb : 0 < b) (hba : b ≤ a) (ha : a < π / 2)
    (hmin : 1 / 2 ^ 1024 < sin b) (dists : List ℝ) (hD : ∀ D ∈ dists, D ≤ π / 2)
    (inCell : Nat → Nat → ℝ × ℝ → Prop) (target ds : Nat)
    (hcover : ∀ d h q, d ≠ target → inCell d h q → inCell (d + 1) (h <<< 2) q ∨ inCell (d + 1) (h <<< 2 ||| 1) q ∨
      inCell (d + 1) (h <<< 2 ||| 2) q ∨ inCell (d + 1) (h <<< 2 ||| 3) q)
    (H1 : ∀ d h c D, ds ≤ d → Hash.center (α := ℝ) cfg d h = some c → dists[d - ds]? = some D →
      inCell d h (lon, lat) → adist c (lon, lat) ≤ D)
    (fuel root : Nat) (out : List Cell)
    (h : coverRec target (ellClassifier (α := ℝ) cfg target (ECone.new lon lat a b pa) dists) fuel ds root 0 = some out)
    (hq : inCell ds root (lon, lat)) :
    ∃ c ∈ out, inCell c.depth c.hash (lon, lat) :=
  (ellClassifier_ballTests cfg target _ dists).no_miss (fun q => q = (lon, lat))
    (fun c D q hDm hs hq hR => by
      rw [hR] at hq
      exact absurd hq (not_le.mpr (centre_skip_sound lon lat a b pa c.1 c.2 D hb hba ha hmin (hD D hDm) hs.1 hs.2)))
    inCell target ds hcover (fun d h c D q hd hc hD' hq hR => hR ▸ H1 d h c D hd hc hD' (hR ▸ hq)) fuel root out h _ hq rfl

/-- **C13, the centre cell is kept** (relative to the envelope hypothesis `H1` at the centre): for every centre
    `(lon, lat)`, `0 < b ≤ a < π/2` (`sin b > 2^-1024`), position angle, target depth, start depth and start cell: if the
    descent returns `out` and `(lon, lat)` lies in the start cell, it lies in a cell of `out` -/
theorem centre_cell_kept (cfg : Cfg) (lon lat a b pa : ℝ) (hb : 0 < b) (hba : b ≤ a) (ha : a < π / 2)
    (hmin : 1 / 2 ^ 1024 < sin b) (dists : List ℝ) (hD : ∀ D ∈ dists, D ≤ π / 2)
    (inCell : Nat → Nat → ℝ × ℝ → Prop) (target ds : Nat)
    (hcover : ∀ d h q, d ≠ target → inCell d h q → inCell (d + 1) (h <<< 2) q ∨ inCell (d + 1) (h <<< 2 ||| 1) q ∨
      inCell (d + 1) (h <<< 2 ||| 2) q ∨ inCell (d + 1) (h <<< 2 ||| 3) q)
    (hext : ∀ d h q q', vec q.1 q.2 = vec q'.1 q'.2 → inCell d h q → inCell d h q')
    (H1 : ∀ d h c D, ds ≤ d → Hash.center (α := ℝ) cfg d h = some c → dists[d - ds]? = some D →
      inCell d h (lon, lat) → adist c (lon, lat) ≤ D)
    (fuel root : Nat) (out : List Cell)
    (h : coverRec target (ellClassifier (α := ℝ) cfg target (ECone.new lon lat a b pa) dists) fuel ds root 0 = some out)
    (hq : inCell ds root (lon, lat)) :
    ∃ c ∈ out, inCell c.depth c.hash (lon, lat) :=
  econe_scheme_centre_kept cfg lon lat a b pa hb hba ha hmin dists hD inCell target ds hcover H1 fuel root out h hq

/-- **C13, circular case: nothing is missed** (relative to the envelope hypothesis `H1`): for `a = b`, every point within
    `a` of `(lon, lat)` lying in the start cell lies in a cell of the output -/
theorem circular_no_miss (cfg : Cfg) (lon lat a pa : ℝ) (ha : 0 < a ∧ a < π / 2)
    (hmin : 1 / 2 ^ 1024 < sin a) (dists : List ℝ) (hD : ∀ D ∈ dists, D ≤ π / 2 ∧ a + D ≤ 3)
    (inCell : Nat → Nat → ℝ × ℝ → Prop) (target ds : Nat)
    (hcover : ∀ d h q, d ≠ target → inCell d h q → inCell (d + 1) (h <<< 2) q ∨ inCell (d + 1) (h <<< 2 ||| 1) q ∨
      inCell (d + 1) (h <<< 2 ||| 2) q ∨ inCell (d + 1) (h <<< 2 ||| 3) q)
    (H1 : ∀ d h c D q, ds ≤ d → Hash.center (α := ℝ) cfg d h = some c → dists[d - ds]? = some D → inCell d h q →
      adist c q ≤ D)
    (fuel root : Nat) (out : List Cell)
    (h : coverRec target (ellClassifier (α := ℝ) cfg target (ECone.new lon lat a a pa) dists) fuel ds root 0 = some out)
    (q : ℝ × ℝ) (hq : inCell ds root q) (hin : adist q (lon, lat) ≤ a) :
    ∃ c ∈ out, inCell c.depth c.hash q :=
  (ellClassifier_ballTests cfg target _ dists).no_miss (fun q => adist q (lon, lat) ≤ a)
    (fun c D q hDm hs hq hR => by
      have := circular_skip_sound lon lat a pa c.1 c.2 D ha hmin (hD D hDm).1 (hD D hDm).2 hs.1 hs.2
      have := adist_triangle c q (lon, lat)
      linarith)
    inCell target ds hcover (fun d h c D q hd hc hD' hq _ => H1 d h c D q hd hc hD' hq) fuel root out h q hq hin

/-- **C13, circular case: `full` flags are truthful** (relative to `H1`) -/
theorem circular_full_inside (cfg : Cfg) (lon lat a pa : ℝ) (ha : 0 < a ∧ a < π / 2)
    (dists : List ℝ) (hD : ∀ D ∈ dists, 0 ≤ D)
    (inCell : Nat → Nat → ℝ × ℝ → Prop) (target ds : Nat)
    (H1 : ∀ d h c D q, ds ≤ d → Hash.center (α := ℝ) cfg d h = some c → dists[d - ds]? = some D → inCell d h q →
      adist c q ≤ D)
    (fuel root : Nat) (out : List Cell)
    (h : coverRec target (ellClassifier (α := ℝ) cfg target (ECone.new lon lat a a pa) dists) fuel ds root 0 = some out)
    (c : Cell) (hc : c ∈ out) (hf : c.full = true) :
    (∀ q, inCell c.depth c.hash q → adist q (lon, lat) ≤ a) ∨
    (c.depth = target ∧ ∃ vs, Hash.vertices (α := ℝ) cfg c.depth c.hash = some vs ∧
      ∀ v ∈ vs, adist v (lon, lat) ≤ a) :=
  ((ellClassifier_ballTests cfg target _ dists).full_cell (fun q => adist q (lon, lat) ≤ a)
    (fun c D q hDm hF hq => by
      rw [← adist_new_c0]
      exact containsCone_ball_inside lon lat a a pa c.1 c.2 D le_rfl ha.2 (hD D hDm) hF q hq)
    inCell target ds (fun d h c D q hd hc hD' _ hq => H1 d h c D q hd hc hD' hq) fuel root out h c hc hf).imp_right
    fun ⟨hdt, hk⟩ => by
      obtain ⟨_, vs, hvs, hall⟩ := ellClassifier_descend_full cfg target _ dists _ _ _ hk
      exact ⟨hdt, vs, hvs, fun v hv => (econe_contains_circular_iff lon lat a pa v.1 v.2 ha).mp (List.all_eq_true.mp hall v hv)⟩

/-- the centre cell is kept, normalised centre (`0 ≤ lon < 2π`, `|lat| ≤ π/2`): no extensionality hypothesis on `inCell` -/
theorem centre_cell_kept_normalised (cfg : Cfg) (lon lat a b pa : ℝ) (hlon : 0 ≤ lon ∧ lon < 2 * π)
    (hlat : -(π / 2) ≤ lat ∧ lat ≤ π / 2) (hb : 0 < b) (hba : b ≤ a) (ha : a < π / 2)
    (hmin : 1 / 2 ^ 1024 < sin b) (dists : List ℝ) (hD : ∀ D ∈ dists, D ≤ π / 2)
    (inCell : Nat → Nat → ℝ × ℝ → Prop) (target ds : Nat)
    (hcover : ∀ d h q, d ≠ target → inCell d h q → inCell (d + 1) (h <<< 2) q ∨ inCell (d + 1) (h <<< 2 ||| 1) q ∨
      inCell (d + 1) (h <<< 2 ||| 2) q ∨ inCell (d + 1) (h <<< 2 ||| 3) q)
    (H1 : ∀ d h c D, ds ≤ d → Hash.center (α := ℝ) cfg d h = some c → dists[d - ds]? = some D →
      inCell d h (lon, lat) → adist c (lon, lat) ≤ D)
    (fuel root : Nat) (out : List Cell)
    (h : coverRec target (ellClassifier (α := ℝ) cfg target (ECone.new lon lat a b pa) dists) fuel ds root 0 = some out)
    (hq : inCell ds root (lon, lat)) :
    ∃ c ∈ out, inCell c.depth c.hash (lon, lat) :=
  econe_scheme_centre_kept cfg lon lat a b pa hb hba ha hmin dists hD inCell target ds hcover H1 fuel root out h hq

/-- circular case, a cone that meets the circle without containing its centre: centre `(0, 0)`, `a = b = 1/2`, the cone of
    radius `3/5` around `(0, 1)` (at distance `1 ≤ 1/2 + 3/5`): `overlap_cone` answers `true` -/
example : (ECone.new (α := ℝ) 0 0 (1 / 2) (1 / 2) 0).overlapCone 0 1 (3 / 5) = some true := by
  have hd : adist (0, 1) ((0 : ℝ), (0 : ℝ)) = 1 := adist_same_lon 0 1 (by norm_num) (by linarith [pi_gt_three])
  have h3 := pi_gt_three
  apply overlap_cone_circular_sound' 0 0 (1 / 2) 0 0 1 (3 / 5) ⟨by norm_num, by linarith⟩ ⟨by norm_num, by linarith⟩
  · rw [hd]; exact tiny_lt_sin 1 (by norm_num) (by linarith)
  · rw [hd]; norm_num

/-- general case: centre `(0, 0)`, `a = 1/2`, `b = 1/10`, position angle `1`; the cone of radius `3/5` around `(0, 1/2)`
    contains the centre: the cell is not skipped -/
example : (ECone.new (α := ℝ) 0 0 (1 / 2) (1 / 10) 1).contains 0 (1 / 2) = true ∨
    (ECone.new (α := ℝ) 0 0 (1 / 2) (1 / 10) 1).overlapCone 0 (1 / 2) (3 / 5) = some true := by
  have h3 := pi_gt_three
  have hd : adist (0, 1 / 2) ((0 : ℝ), (0 : ℝ)) = 1 / 2 := adist_same_lon 0 (1 / 2) (by norm_num) (by linarith)
  apply centre_cone_kept 0 0 (1 / 2) (1 / 10) 1 0 (1 / 2) (3 / 5) (by norm_num) (by norm_num) (by linarith)
    (tiny_lt_sin _ (by norm_num) (by linarith)) ⟨by norm_num, by linarith⟩
  rw [adist_new_c0, hd]; norm_num

/-- the numeric hypotheses of `circular_no_miss` / `centre_cell_kept` hold for the radii the coverage uses
    (the largest centre-to-vertex distance is `π/2 − asin(2/3) ≈ 0.841` at depth 0, decreasing with the depth) -/
example : ∀ D ∈ [(85 : ℝ) / 100, 54 / 100, 27 / 100], D ≤ π / 2 ∧ (3 / 2 : ℝ) + D ≤ 3 := by
  have h3 := pi_gt_three
  intro D hD
  simp only [List.mem_cons, List.not_mem_nil, or_false] at hD
  rcases hD with rfl | rfl | rfl <;> constructor <;> linarith

end Hpx.Sph
