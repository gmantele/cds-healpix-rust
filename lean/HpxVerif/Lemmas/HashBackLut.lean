/-
C03 over the reals, the cell returned by the back end of `hash_with_dxdy`, for either build of the z-order curve:
its parts in every branch reached from the plane (`hashBack_parts`); what is returned at every point of a north-cap base cell
(`north_hashBack`) against where the point really is (`inBase_pos`), whose cases are the exact set of plane points on which the
answer is wrong (finding F11 in exact arithmetic); the round trip `hash_with_dxdy ∘ sph_coo` in the plane; the branches of
`depth0_bits` reached from a base cell; the rejection of depths above 29.
-/
import HpxVerif.Lemmas.HashBackReal
import HpxVerif.Lemmas.EdgeInternal
import HpxVerif.Lemmas.CellNumber

namespace Hpx.CellReal
open Hpx Hpx.Hash Hpx.Proj

theorem or_pow_sub_one (i d : ℕ) (hi : i < 2 ^ d) : (2 ^ d - 1) ||| i = 2 ^ d - 1 := by
  apply Nat.eq_of_testBit_eq; intro q
  rw [Nat.testBit_or, Nat.testBit_two_pow_sub_one]
  by_cases h : q < d
  · simp [h]
  · have : i.testBit q = false :=
      Nat.testBit_lt_two_pow (Nat.lt_of_lt_of_le hi (Nat.pow_le_pow_right (by decide) (by omega)))
    simp [h, this]

theorem masks_interleave (d : ℕ) (hd : d ≤ 29) :
    Layer.xMask d = interleave (2 ^ d - 1) 0 ∧ Layer.yMask d = interleave 0 (2 ^ d - 1) ∧
    Layer.xyMask d = interleave (2 ^ d - 1) (2 ^ d - 1) := by
  interval_cases d <;> decide +kernel

theorem decode_build (cfg : Cfg) (d b i j : ℕ) (hd : d ≤ 29) (hb : b < 12)
    (hi : i < 2 ^ d) (hj : j < 2 ^ d) :
    Layer.decodeHash cfg d ((b <<< (d <<< 1)) ||| interleave i j) = some ⟨b, i, j⟩ ∧
    (b <<< (d <<< 1)) ||| interleave i j < Layer.nHash d := by
  have hv : RingBij.Valid d ⟨b, i, j⟩ := ⟨hb, hi, hj⟩
  have hk : d <<< 1 = 2 * d := by rw [Nat.shiftLeft_eq]; omega
  have ht : interleave i j < 2 ^ (2 * d) := by rw [Nat.pow_mul]; exact interleave_lt hi hj
  rw [hk, ← Nat.shiftLeft_add_eq_or_of_lt ht, ← hk, RingBij.shl2d']
  refine ⟨RingBij.decode_build cfg d hd _ hv, ?_⟩
  rw [RingBij.nHash_eq, RingBij.nside_eq, ← Nat.mul_pow]
  exact (RingBij.build_spec cfg d hd _ hv).2

theorem ij2h_curve (cfg : Cfg) (d i j : ℕ) (hd : d ≤ 29) (hi : i < 2 ^ d) (hj : j < 2 ^ d) :
    ∃ c, Layer.zoc cfg d = some c ∧ Layer.ij2h cfg c i j = interleave i j :=
  have ⟨c, hc, hcb⟩ := LayerBmi.zoc_curve cfg d hd
  ⟨c, hc, LayerBmi.layer_ij2h_interleave cfg c i j (EdgeInternal.lt_pow_of_le hcb hi) (EdgeInternal.lt_pow_of_le hcb hj)⟩

theorem north_base (q : ℕ) (hq : q < 4) : baseX q = 2 * (q : ℝ) + 1 ∧ baseY q = 1 ∧ sqOf q = (q + 1, 4 - q) := by
  interval_cases q <;> (unfold baseX baseY sqOf; norm_num)

theorem exact_parts (d m : ℕ) (u : ℝ) (h : u = 2 ^ d * (m : ℝ)) : ⌊u⌋₊ % 2 ^ d = 0 ∧ u - (⌊u⌋₊ : ℝ) = 0 :=
  ((floor_split_iff (I := m) (Nat.two_pow_pos d) (by rw [h]; positivity)).mpr
    ⟨by rw [h]; push_cast; ring, Nat.two_pow_pos d, le_rfl, one_pos⟩).2

theorem or_assoc_interleave (A mi mj i j : ℕ) :
    (A ||| interleave mi mj) ||| interleave i j = A ||| interleave (mi ||| i) (mj ||| j) := by
  rw [Nat.or_assoc, EdgeInternal.interleave_or]

theorem cast_pow_sub_one (d : ℕ) : ((2 ^ d - 1 : ℕ) : ℝ) = 2 ^ d - 1 := by
  have : 1 ≤ 2 ^ d := Nat.one_le_two_pow
  push_cast [Nat.cast_sub this]; ring

/-- the parts of the cell returned by the back end of `hash_with_dxdy` at the plane point `(X, Y)`: the regular branch,
    the two alternatives of the branch `k = −1` (the mask fills `j`, resp. `i`) and the branch `k = −2` -/
noncomputable def hbParts (d : ℕ) (X Y : ℝ) : HashParts :=
  if hbI d X Y + hbJ d X Y ≤ 5 then ⟨hbb d X Y, hbi d X Y, hbj d X Y⟩
  else if hbI d X Y + hbJ d X Y = 6 then
    if hbdy d X Y < hbdx d X Y then ⟨(hbI d X Y + 3) % 4, hbi d X Y, 2 ^ d - 1⟩
    else ⟨(hbI d X Y + 2) % 4, 2 ^ d - 1, hbj d X Y⟩
  else ⟨hbI d X Y - 2, 2 ^ d - 1, 2 ^ d - 1⟩

theorem mask_col (I : ℕ) : ((I + 255) % 256) &&& 3 = (I + 3) % 4 ∧ ((I + 2) % 256) &&& 3 = (I + 2) % 4 := by
  rw [show (3 : ℕ) = 2 ^ 2 - 1 from rfl, Nat.and_two_pow_sub_one_eq_mod, Nat.and_two_pow_sub_one_eq_mod]; omega

/-- the back end in the plane, every branch, either build; `3 ≤ I + J` holds at every point of a base cell
    (`branch_sum`), `I + J ≤ 7` on the whole domain (`hb_sq`).  In the branches `k = −1, −2` the masks of the code go into the interleaving (`masks_interleave`). -/
theorem hashBack_parts (cfg : Cfg) (d : ℕ) (hd : d ≤ 29) (X Y : ℝ) (h : PlaneDom X Y)
    (h3 : 3 ≤ hbI d X Y + hbJ d X Y) :
    hashBack (α := ℝ) cfg d (X, Y) =
      some (((hbParts d X Y).d0h <<< (d <<< 1)) ||| interleave (hbParts d X Y).i (hbParts d X Y).j,
        hbdx d X Y, hbdy d X Y) ∧
    ((hbParts d X Y).d0h <<< (d <<< 1)) ||| interleave (hbParts d X Y).i (hbParts d X Y).j < Layer.nHash d ∧
    Layer.decodeHash cfg d (((hbParts d X Y).d0h <<< (d <<< 1)) ||| interleave (hbParts d X Y).i (hbParts d X Y).j) =
      some (hbParts d X Y) := by
  have hi := (hb_u d X Y h).2.1
  have hj := (hb_v d X Y h).2.1
  obtain ⟨fI, fJ, _, _, h7⟩ := hb_sq d X Y h
  obtain ⟨c, hz, hij⟩ := ij2h_curve cfg d (hbi d X Y) (hbj d X Y) hd hi hj
  obtain ⟨mx, my, mxy⟩ := masks_interleave d hd
  obtain ⟨c1, c2⟩ := mask_col (hbI d X Y)
  have hn : 2 ^ d - 1 < 2 ^ d := Nat.sub_one_lt (Nat.two_pow_pos d).ne'
  rw [hashBack_real cfg d c X Y hz hd h, hij]
  unfold hbParts
  split_ifs with h5 h6 hlt
  · obtain ⟨hdec, hl⟩ := decode_build cfg d _ _ _ hd (hb_base d X Y h h3 h5).1 hi hj
    exact ⟨by rw [depth0Bits_normal d 2 _ _ _ _ h3 h5]; rfl, hl, hdec⟩
  · obtain ⟨hdec, hl⟩ := decode_build cfg d ((hbI d X Y + 3) % 4) (hbi d X Y) (2 ^ d - 1) hd (by omega) hi hn
    refine ⟨?_, hl, hdec⟩
    rw [depth0Bits_km1 d 2 _ _ _ _ (hbdx d X Y) (hbdy d X Y) h6 rfl rfl, if_pos hlt, Option.map_some, my, c1,
      or_assoc_interleave, Nat.zero_or, or_pow_sub_one _ d hj]
  · obtain ⟨hdec, hl⟩ := decode_build cfg d ((hbI d X Y + 2) % 4) (2 ^ d - 1) (hbj d X Y) hd (by omega) hn hj
    refine ⟨?_, hl, hdec⟩
    rw [depth0Bits_km1 d 2 _ _ _ _ (hbdx d X Y) (hbdy d X Y) h6 rfl rfl, if_neg hlt, Option.map_some, mx, c2,
      or_assoc_interleave, Nat.zero_or, or_pow_sub_one _ d hi]
  · obtain ⟨hdec, hl⟩ := decode_build cfg d (hbI d X Y - 2) (2 ^ d - 1) (2 ^ d - 1) hd (by omega) hn hn
    refine ⟨?_, hl, hdec⟩
    rw [depth0Bits_km2 d 2 _ _ _ _ (by omega), if_neg (by omega), Option.map_some, mxy, or_assoc_interleave,
      or_pow_sub_one _ d hi, or_pow_sub_one _ d hj]

theorem hash_with_dxdy_plane_any (cfg : Cfg) (d : ℕ) (hd : d ≤ 29) (X Y : ℝ) (h : PlaneDom X Y)
    (h3 : 3 ≤ hbI d X Y + hbJ d X Y) (h5 : hbI d X Y + hbJ d X Y ≤ 5) :
    ∃ hash b i j dx dy, hashBack (α := ℝ) cfg d (X, Y) = some (hash, dx, dy) ∧ hash < Layer.nHash d ∧
      Layer.decodeHash cfg d hash = some ⟨b, i, j⟩ ∧ b < 12 ∧ i < 2 ^ d ∧ j < 2 ^ d ∧
      0 ≤ dx ∧ dx < 1 ∧ 0 ≤ dy ∧ dy < 1 ∧
      cooPt d b i j dx dy = (X, Y) ∧
      (InDiamond (cellCx d b i j) (cellCy d b i j) (1 / 2 ^ d) X Y ∨
        InDiamond (cellCx d b i j) (cellCy d b i j) (1 / 2 ^ d) (X - 8) Y) ∧
      sphCoo (α := ℝ) cfg d hash dx dy = some (unprojT X Y) ∧ unproj X Y = some (unprojT X Y) := by
  have hb := (hb_base d X Y h h3 h5).1
  obtain ⟨_, hi, dx0, dx1⟩ := hb_u d X Y h
  obtain ⟨_, hj, dy0, dy1⟩ := hb_v d X Y h
  obtain ⟨hval, hlt, hdec⟩ := hashBack_parts cfg d hd X Y h h3
  rw [show hbParts d X Y = ⟨hbb d X Y, hbi d X Y, hbj d X Y⟩ from if_pos h5] at hval hlt hdec
  obtain ⟨_, _, hcoo, hdia⟩ := hb_regular d X Y h h3 h5
  refine ⟨_, _, _, _, _, _, hval, hlt, hdec, hb, hi, hj, dx0, dx1, dy0, dy1, hcoo, ?_, ?_, unproj_eq X Y h.hY1 h.hY2⟩
  · rcases hbs_cases d X Y with h0 | h8
    · left; rw [h0, sub_zero] at hdia; exact hdia
    · right; rw [h8] at hdia; exact hdia
  · rw [(sph_coo_plane cfg d _ _ _ _ _ _ hlt hdec hb hi hj dx0 dx1 dy0 dy1).1, hcoo]

/-- C03, regular case, stated for the LUT curve (`hbmi` is not used: `hash_with_dxdy_plane_any`): the back end returns a
    valid cell number which decodes to a cell `(b, i, j)` whose closed diamond contains `(X, Y)` (abscissa modulo 8), offsets
    in `[0, 1)`, and `sph_coo` of the result un-projects exactly `(X, Y)`. -/
theorem hash_with_dxdy_plane (cfg : Cfg) (hbmi : cfg.bmi = false) (d : ℕ) (hd : d ≤ 29) (X Y : ℝ) (h : PlaneDom X Y)
    (h3 : 3 ≤ hbI d X Y + hbJ d X Y) (h5 : hbI d X Y + hbJ d X Y ≤ 5) :
    ∃ hash b i j dx dy, hashBack (α := ℝ) cfg d (X, Y) = some (hash, dx, dy) ∧ hash < Layer.nHash d ∧
      Layer.decodeHash cfg d hash = some ⟨b, i, j⟩ ∧ b < 12 ∧ i < 2 ^ d ∧ j < 2 ^ d ∧
      0 ≤ dx ∧ dx < 1 ∧ 0 ≤ dy ∧ dy < 1 ∧
      cooPt d b i j dx dy = (X, Y) ∧
      (InDiamond (cellCx d b i j) (cellCy d b i j) (1 / 2 ^ d) X Y ∨
        InDiamond (cellCx d b i j) (cellCy d b i j) (1 / 2 ^ d) (X - 8) Y) ∧
      sphCoo (α := ℝ) cfg d hash dx dy = some (unprojT X Y) ∧ unproj X Y = some (unprojT X Y) :=
  hash_with_dxdy_plane_any cfg d hd X Y h h3 h5

theorem l1_edge {a c : ℝ} (h : |a| + |c| ≤ 1) (he : a + c = 1 ∨ c - a = 1) : 0 ≤ c ∧ |a| = 1 - c := by
  obtain ⟨⟨h1, h2⟩, h3, h4⟩ := abs_add_abs_le_iff.mp h
  rcases he with he | he
  · rw [abs_of_nonneg (by linarith only [he, h4])]; exact ⟨by linarith only [he, h3], by linarith only [he]⟩
  · rw [abs_of_nonpos (by linarith only [he, h2])]; exact ⟨by linarith only [he, h1], by linarith only [he]⟩

/-- for every point `(X, Y)`, `0 ≤ X < 8`, of the closed diamond of a base cell `b`, the branch index of `depth0_bits`
    is `k = 5 − (I + J)` with `I + J = 5 − b/4 + [north-east border] + [north-west border] ∈ 3..7`: the branches
    `k = 3`, `k = 4` and the final `None` are unreachable in exact arithmetic (they exist for rounding errors);
    `I + J ≥ 6` needs `b < 4` (a border `|X − Xb| = 2 − Y` of a polar-cap triangle, i.e. a seam `lon = k·π/2`) or
    `b < 8` with both borders (north vertex of an equatorial base cell). -/
theorem branch_sum (d b : ℕ) (X Y : ℝ) (hb : b < 12) (hX0 : 0 ≤ X) (hX8 : X < 8)
    (hin : InDiamond (baseX b) (baseY b) 1 X Y) :
    hbI d X Y + hbJ d X Y + b / 4 = 5 + (if X + Y = baseX b + baseY b + 1 then 1 else 0)
      + (if Y - X = baseY b - baseX b + 1 then 1 else 0) ∧
    3 ≤ hbI d X Y + hbJ d X Y ∧ hbI d X Y + hbJ d X Y ≤ 7 ∧
    (6 ≤ hbI d X Y + hbJ d X Y → b < 8 ∧ 1 ≤ Y ∧ (b < 4 → |X - baseX b| = 2 - Y)) := by
  obtain ⟨_, eI, eJ⟩ := inBase_branch d b X Y hb hX0 hX8 hin
  obtain ⟨_, t1, _⟩ := sqOf_table b hb
  have h4 : b / 4 ≤ 2 := by omega
  refine ⟨by rw [eI, eJ]; omega, by rw [eI, eJ]; omega, by rw [eI, eJ]; split_ifs <;> omega, ?_⟩
  intro h6
  rw [eI, eJ] at h6
  have hbY : baseY b = 1 - ((b / 4 : ℕ) : ℝ) := rfl
  -- `[NE] + [NW] ≥ 1 + b/4`: at least one northern border, and both in the equatorial row
  have hedge : (X - baseX b) + (Y - baseY b) = 1 ∨ (Y - baseY b) - (X - baseX b) = 1 := by
    by_contra hc
    rw [not_or] at hc
    rw [if_neg (fun h => hc.1 (by linarith only [h])), if_neg (fun h => hc.2 (by linarith only [h]))] at h6
    omega
  obtain ⟨hc, ha⟩ := l1_edge hin hedge
  rcases Nat.eq_zero_or_pos (b / 4) with h0 | hpos
  · rw [hbY, h0] at hc ha
    push_cast at hc ha
    exact ⟨by omega, by linarith only [hc], fun _ => by rw [ha]; ring⟩
  · have both : X + Y = baseX b + baseY b + 1 ∧ Y - X = baseY b - baseX b + 1 := by
      split_ifs at h6 with h1 h2 <;> first | exact ⟨h1, h2⟩ | omega
    have h1 : b / 4 = 1 := by split_ifs at h6 <;> omega
    refine ⟨by omega, ?_, fun hb4 => by omega⟩
    rw [hbY, h1] at both
    push_cast at both
    linarith only [both.1, both.2]

theorem border_uv (d b : ℕ) (hb : b < 12) (X Y : ℝ) :
    (X + Y = baseX b + baseY b + 1 → uOf d X Y = 2 ^ d * (((sqOf b).1 + 1 : ℕ) : ℝ)) ∧
    (Y - X = baseY b - baseX b + 1 → vOf d X Y = 2 ^ d * (((sqOf b).2 + 1 : ℕ) : ℝ)) := by
  obtain ⟨eX, eY⟩ := base_center_sq b hb
  unfold uOf vOf
  constructor <;> intro h <;> rw [h, eX, eY] <;> push_cast <;> ring

/-- where a point of base cell `b` is: at the position `(dx, dy)` of the cell `(b, i, j)` given by the remainders and
    fractional parts of `u`, `v`, except that on the north-east border (`u` a multiple of `n`, counted by the code as position
    `0` of the first column of the next square) it is position `1` of the last column, and likewise on the north-west border -/
theorem inBase_pos (d b : ℕ) (X Y : ℝ) (hb : b < 12) (hX0 : 0 ≤ X) (hX8 : X < 8)
    (hin : InDiamond (baseX b) (baseY b) 1 X Y) (i j : ℕ) (dx dy : ℝ)
    (hu : if X + Y = baseX b + baseY b + 1 then i = 2 ^ d - 1 ∧ dx = 1 else i = hbi d X Y ∧ dx = hbdx d X Y)
    (hv : if Y - X = baseY b - baseX b + 1 then j = 2 ^ d - 1 ∧ dy = 1 else j = hbj d X Y ∧ dy = hbdy d X Y) :
    cellCx d b i j + (dx - dy) / 2 ^ d = X ∧ cellCy d b i j + (dx + dy - 1) / 2 ^ d = Y ∧
    InDiamond (cellCx d b i j) (cellCy d b i j) (1 / 2 ^ d) X Y := by
  obtain ⟨eX, eY⟩ := base_center_sq b hb
  obtain ⟨hdom, eI, eJ⟩ := inBase_branch d b X Y hb hX0 hX8 hin
  obtain ⟨eu, _, dx0, dx1⟩ := hb_u d X Y hdom
  obtain ⟨ev, _, dy0, dy1⟩ := hb_v d X Y hdom
  obtain ⟨bu, bv⟩ := border_uv d b hb X Y
  have hu' : uOf d X Y = 2 ^ d * ((sqOf b).1 : ℝ) + i + dx ∧ 0 ≤ dx ∧ dx ≤ 1 := by
    split_ifs at hu with hNE <;> obtain ⟨rfl, rfl⟩ := hu
    · exact ⟨by rw [bu hNE, cast_pow_sub_one]; push_cast; ring, zero_le_one, le_rfl⟩
    · exact ⟨by rw [eu, eI, if_neg hNE, Nat.add_zero], dx0, dx1.le⟩
  have hv' : vOf d X Y = 2 ^ d * ((sqOf b).2 : ℝ) + j + dy ∧ 0 ≤ dy ∧ dy ≤ 1 := by
    split_ifs at hv with hNW <;> obtain ⟨rfl, rfl⟩ := hv
    · exact ⟨by rw [bv hNW, cast_pow_sub_one]; push_cast; ring, zero_le_one, le_rfl⟩
    · exact ⟨by rw [ev, eJ, if_neg hNW, Nat.add_zero], dy0, dy1.le⟩
  obtain ⟨ex, ey⟩ := (cell_pt d b i j _ _ 0 dx dy X Y (by rw [add_zero, eX]) eY).mp ⟨hu'.1, hv'.1⟩
  rw [sub_zero] at ex
  exact ⟨ex, ey, inDiamond_of _ _ _ _ _ _ _ (pow_pos' d) ex ey hu'.2.1 hu'.2.2 hv'.2.1 hv'.2.2⟩

/-- what the back end returns on a north-cap base cell `q`, at every point of its closed diamond: the cell of the
    remainders in the interior and on the southern borders; on the north-east border the last column `i = n − 1`; on the
    north-west border the last row `j = n − 1` if `u` is not an integer, and the cell `((q+3) mod 4, n−1, 0)` of the previous
    base cell if it is; at the pole the cell `(q, n−1, n−1)`.  The returned offset is `0` along a border coordinate. -/
theorem north_hashBack (cfg : Cfg) (d : ℕ) (hd : d ≤ 29) (q : ℕ) (hq : q < 4) (X Y : ℝ) (hX0 : 0 ≤ X) (hX8 : X < 8)
    (hin : InDiamond (baseX q) (baseY q) 1 X Y) :
    PlaneDom X Y ∧
    (X + Y = baseX q + baseY q + 1 → hbdx d X Y = 0) ∧ (Y - X = baseY q - baseX q + 1 → hbdy d X Y = 0) ∧
    ∃ P : HashParts,
      (P = if X + Y = baseX q + baseY q + 1 then
          ⟨q, 2 ^ d - 1, if Y - X = baseY q - baseX q + 1 then 2 ^ d - 1 else hbj d X Y⟩
        else if Y - X = baseY q - baseX q + 1 then
          if 0 < hbdx d X Y then ⟨q, hbi d X Y, 2 ^ d - 1⟩ else ⟨(q + 3) % 4, 2 ^ d - 1, 0⟩
        else ⟨q, hbi d X Y, hbj d X Y⟩) ∧
      hashBack (α := ℝ) cfg d (X, Y) = some ((P.d0h <<< (d <<< 1)) ||| interleave P.i P.j, hbdx d X Y, hbdy d X Y) ∧
      (P.d0h <<< (d <<< 1)) ||| interleave P.i P.j < Layer.nHash d ∧
      Layer.decodeHash cfg d ((P.d0h <<< (d <<< 1)) ||| interleave P.i P.j) = some P := by
  obtain ⟨_, _, hsq⟩ := north_base q hq
  obtain ⟨t0, _⟩ := sqOf_table q (hq.trans (by decide))
  obtain ⟨hdom, eI, eJ⟩ := inBase_branch d q X Y (hq.trans (by decide)) hX0 hX8 hin
  obtain ⟨bu, bv⟩ := border_uv d q (hq.trans (by decide)) X Y
  have dy0 := (hb_v d X Y hdom).2.2.1
  rw [hsq] at eI eJ bu bv t0
  dsimp only at t0
  have zu := fun h => exact_parts d _ _ (bu h)
  have zv := fun h => exact_parts d _ _ (bv h)
  obtain ⟨_, h3, _⟩ := branch_sum d q X Y (hq.trans (by decide)) hX0 hX8 hin
  refine ⟨hdom, fun h => (zu h).2, fun h => (zv h).2, hbParts d X Y, ?_, hashBack_parts cfg d hd X Y hdom h3⟩
  unfold hbParts
  by_cases hNE : X + Y = baseX q + baseY q + 1 <;> by_cases hNW : Y - X = baseY q - baseX q + 1 <;>
    simp only [hNE, hNW, if_true, if_false, Nat.add_zero] at eI eJ ⊢
  · rw [if_neg (by omega), if_neg (by omega), eI, show q + 1 + 1 - 2 = q by omega]
  · rw [if_neg (by omega), if_pos (by omega), show hbdx d X Y = 0 from (zu hNE).2, if_neg (not_lt.mpr dy0), eI,
      show (q + 1 + 1 + 2) % 4 = q by omega]
  · rw [if_neg (by omega), if_pos (by omega), show hbdy d X Y = 0 from (zv hNW).2, eI, show hbj d X Y = 0 from (zv hNW).1,
      show (q + 1 + 3) % 4 = q by omega, show (q + 1 + 2) % 4 = (q + 3) % 4 by omega]
  · rw [if_pos (by omega), hbb, eI, eJ, t0]

/-- **north-east border of a north-cap base cell** (`X + Y = Xb + Yb + 1`, pole excluded: the seam `lon = (q+1)·π/2`
    seen from base cell `q`): branch `k = −1`.  The returned cell `(q, n−1, j)` is the right one (its closed diamond
    contains the point, on its north-east side), but the returned offset along `x` is `0` where the position of the
    point in that cell is `1`. -/
theorem f11_north_east (cfg : Cfg) (hbmi : cfg.bmi = false) (d : ℕ) (hd : d ≤ 29) (q : ℕ) (hq : q < 4) (X Y : ℝ)
    (hX0 : 0 ≤ X) (hX8 : X < 8) (hin : InDiamond (baseX q) (baseY q) 1 X Y)
    (hNE : X + Y = baseX q + baseY q + 1) (hNW : Y - X ≠ baseY q - baseX q + 1) :
    ∃ hash j dy, hashBack (α := ℝ) cfg d (X, Y) = some (hash, 0, dy) ∧ hash < Layer.nHash d ∧
      Layer.decodeHash cfg d hash = some ⟨q, 2 ^ d - 1, j⟩ ∧ j < 2 ^ d ∧ 0 ≤ dy ∧ dy < 1 ∧
      cellCx d q (2 ^ d - 1) j + (1 - dy) / 2 ^ d = X ∧ cellCy d q (2 ^ d - 1) j + (1 + dy - 1) / 2 ^ d = Y ∧
      InDiamond (cellCx d q (2 ^ d - 1) j) (cellCy d q (2 ^ d - 1) j) (1 / 2 ^ d) X Y := by
  obtain ⟨hdom, zx, _, P, hP, hval, hlt, hdec⟩ := north_hashBack cfg d hd q hq X Y hX0 hX8 hin
  rw [if_pos hNE, if_neg hNW] at hP
  subst hP
  rw [zx hNE] at hval
  obtain ⟨_, hj, dy0, dy1⟩ := hb_v d X Y hdom
  obtain ⟨ex, ey, hdia⟩ := inBase_pos d q X Y (hq.trans (by decide)) hX0 hX8 hin (2 ^ d - 1) (hbj d X Y) 1 (hbdy d X Y)
    (by rw [if_pos hNE]; exact ⟨rfl, rfl⟩) (by rw [if_neg hNW]; exact ⟨rfl, rfl⟩)
  exact ⟨_, _, _, hval, hlt, hdec, hj, dy0, dy1, ex, ey, hdia⟩

/-- **north-west border of a north-cap base cell** (`Y − X = Yb − Xb + 1`: the seam `lon = q·π/2` seen from base cell
    `q`), at a point whose scaled coordinate `u` is **not** an integer: branch `k = −1`, first alternative.  The returned
    cell `(q, i, n−1)` is the right one, but the returned offset along `y` is `0` where the position of the point in
    that cell is `1`. -/
theorem f11_north_west_pos (cfg : Cfg) (hbmi : cfg.bmi = false) (d : ℕ) (hd : d ≤ 29) (q : ℕ) (hq : q < 4) (X Y : ℝ)
    (hX0 : 0 ≤ X) (hX8 : X < 8) (hin : InDiamond (baseX q) (baseY q) 1 X Y)
    (hNE : X + Y ≠ baseX q + baseY q + 1) (hNW : Y - X = baseY q - baseX q + 1) (hfrac : 0 < hbdx d X Y) :
    ∃ hash i dx, hashBack (α := ℝ) cfg d (X, Y) = some (hash, dx, 0) ∧ hash < Layer.nHash d ∧
      Layer.decodeHash cfg d hash = some ⟨q, i, 2 ^ d - 1⟩ ∧ i < 2 ^ d ∧ 0 < dx ∧ dx < 1 ∧
      cellCx d q i (2 ^ d - 1) + (dx - 1) / 2 ^ d = X ∧ cellCy d q i (2 ^ d - 1) + (dx + 1 - 1) / 2 ^ d = Y ∧
      InDiamond (cellCx d q i (2 ^ d - 1)) (cellCy d q i (2 ^ d - 1)) (1 / 2 ^ d) X Y := by
  obtain ⟨hdom, _, zy, P, hP, hval, hlt, hdec⟩ := north_hashBack cfg d hd q hq X Y hX0 hX8 hin
  rw [if_neg hNE, if_pos hNW, if_pos hfrac] at hP
  subst hP
  rw [zy hNW] at hval
  obtain ⟨_, hi, _, dx1⟩ := hb_u d X Y hdom
  obtain ⟨ex, ey, hdia⟩ := inBase_pos d q X Y (hq.trans (by decide)) hX0 hX8 hin (hbi d X Y) (2 ^ d - 1) (hbdx d X Y) 1
    (by rw [if_neg hNE]; exact ⟨rfl, rfl⟩) (by rw [if_pos hNW]; exact ⟨rfl, rfl⟩)
  exact ⟨_, _, _, hval, hlt, hdec, hi, hfrac, dx1, ex, ey, hdia⟩

/-- the west vertex `(2q, 1)` of the north-cap base cell `q` (where it meets the previous north-cap base cell and two
    equatorial ones): the cell `((q+3) mod 4, n−1, 0)` returned by the code has this point as its east vertex (abscissa
    modulo 8), position `(1, 0)` in it; the returned offsets are `(0, 0)` -/
theorem f11_west_vertex (d q : ℕ) (hq : q < 4) :
    cellCx d ((q + 3) % 4) (2 ^ d - 1) 0 + (1 - 0) / 2 ^ d = 2 * (q : ℝ) + (if q = 0 then 8 else 0) ∧
    cellCy d ((q + 3) % 4) (2 ^ d - 1) 0 + (1 + 0 - 1) / 2 ^ d = 1 := by
  have hp := pow_pos' d
  obtain ⟨bX', bY', _⟩ := north_base ((q + 3) % 4) (Nat.mod_lt _ (by decide))
  unfold cellCx cellCy
  rw [bX', bY', cast_pow_sub_one]
  constructor
  · have : (2 : ℝ) * (((q + 3) % 4 : ℕ) : ℝ) + 2 = 2 * (q : ℝ) + (if q = 0 then 8 else 0) := by
      interval_cases q <;> norm_num
    rw [← this]; field_simp; ring
  · field_simp; ring

/-- **the wrong cell of F11.**  North-west border of the north-cap base cell `q` (seam `lon = q·π/2`), at a point whose
    scaled coordinate `u` **is** an integer (a vertex of a cell of depth `d` on that seam): both sub-cell offsets are `0`,
    the comparison `dx > dy` of the branch `k = −1` fails, and the code answers the cell `((q+3) mod 4, n−1, 0)` — the
    easternmost cell of the previous base cell — with offsets `(0, 0)`.  The point is the north vertex of the cell
    `(q, i, n−1)` (position `(0, 1)` in it).  Unless it is the west vertex of base cell `q` (`i = 0`), it does **not**
    belong to the closed diamond of the returned cell, whatever multiple of 8 is added to the abscissa. -/
theorem f11_north_west_wrong_cell (cfg : Cfg) (d : ℕ) (hd : d ≤ 29) (q : ℕ) (hq : q < 4)
    (X Y : ℝ) (hX0 : 0 ≤ X) (hX8 : X < 8) (hin : InDiamond (baseX q) (baseY q) 1 X Y)
    (hNE : X + Y ≠ baseX q + baseY q + 1) (hNW : Y - X = baseY q - baseX q + 1) (hfrac : hbdx d X Y = 0) :
    ∃ hash : ℕ, ∃ i : ℕ, hashBack (α := ℝ) cfg d (X, Y) = some (hash, 0, 0) ∧
      hash = ((q + 3) % 4) <<< (d <<< 1) ||| interleave (2 ^ d - 1) 0 ∧ hash < Layer.nHash d ∧
      Layer.decodeHash cfg d hash = some ⟨(q + 3) % 4, 2 ^ d - 1, 0⟩ ∧ i < 2 ^ d ∧
      X = 2 * (q : ℝ) + (i : ℝ) / 2 ^ d ∧ Y = 1 + (i : ℝ) / 2 ^ d ∧
      cellCx d q i (2 ^ d - 1) + (0 - 1) / 2 ^ d = X ∧ cellCy d q i (2 ^ d - 1) + (0 + 1 - 1) / 2 ^ d = Y ∧
      (0 < i → ∀ m : ℤ, ¬ InDiamond (cellCx d ((q + 3) % 4) (2 ^ d - 1) 0 + 8 * m) (cellCy d ((q + 3) % 4) (2 ^ d - 1) 0)
        (1 / 2 ^ d) X Y) := by
  have hp := pow_pos' d
  obtain ⟨bX, bY, _⟩ := north_base q hq
  obtain ⟨hdom, _, zy, P, hP, hval, hlt, hdec⟩ := north_hashBack cfg d hd q hq X Y hX0 hX8 hin
  rw [if_neg hNE, if_pos hNW, if_neg (by rw [hfrac]; exact lt_irrefl 0)] at hP
  subst hP
  rw [hfrac, zy hNW] at hval
  have hi := (hb_u d X Y hdom).2.1
  obtain ⟨ex, ey, _⟩ := inBase_pos d q X Y (hq.trans (by decide)) hX0 hX8 hin (hbi d X Y) (2 ^ d - 1) 0 1
    (by rw [if_neg hNE, hfrac]; exact ⟨rfl, rfl⟩) (by rw [if_pos hNW]; exact ⟨rfl, rfl⟩)
  set i := hbi d X Y
  -- in terms of `t = i/n`: the point is `(2q + t, 1 + t)`
  have hX : X = 2 * (q : ℝ) + (i : ℝ) / 2 ^ d := by
    rw [← ex, cellCx, bX, cast_pow_sub_one]; field_simp; ring
  have hY : Y = 1 + (i : ℝ) / 2 ^ d := by
    rw [← ey, cellCy, bY, cast_pow_sub_one]; field_simp; ring
  refine ⟨_, i, hval, rfl, hlt, hdec, hi, hX, hY, ex, ey, ?_⟩
  intro hipos m hcon
  -- the returned cell has the west vertex `(2q, 1)` of base cell `q` as its east vertex (`f11_west_vertex`): its centre
  -- is `(2q − 1/n, 1)` modulo 8.  The ordinate forces `t = i/n ≤ 1/n` and equal abscissas; then `t + 1/n ∈ (0, 2]` would
  -- be a multiple of 8
  obtain ⟨wx, wy⟩ := f11_west_vertex d q hq
  rw [add_zero, sub_self, zero_div, add_zero] at wy
  have ht : (1 : ℝ) / 2 ^ d ≤ (i : ℝ) / 2 ^ d := by
    rw [div_le_div_iff_of_pos_right hp]; exact_mod_cast hipos
  have ho : 0 < (1 : ℝ) / 2 ^ d := one_div_pos.mpr hp
  have ho1 : (1 : ℝ) / 2 ^ d ≤ 1 := by rw [div_le_one hp]; exact one_le_pow₀ (by norm_num)
  unfold InDiamond at hcon
  rw [wy, hY, add_sub_cancel_left, abs_of_nonneg (ho.le.trans ht)] at hcon
  have hA := abs_nonneg (X - (cellCx d ((q + 3) % 4) (2 ^ d - 1) 0 + 8 * m))
  have hA0 := abs_eq_zero.mp (le_antisymm (by linarith only [hcon, ht]) hA)
  have h8 : (8 : ℝ) * ((m + (if q = 0 then 1 else 0) : ℤ) : ℝ) = (i : ℝ) / 2 ^ d + 1 / 2 ^ d := by
    push_cast; split_ifs at wx ⊢ <;> linarith only [hA0, hX, wx]
  rcases le_or_gt (m + (if q = 0 then 1 else 0)) 0 with hk | hk
  · have : ((m + (if q = 0 then 1 else 0) : ℤ) : ℝ) ≤ 0 := by exact_mod_cast hk
    linarith only [h8, this, ht, ho]
  · have : (1 : ℝ) ≤ ((m + (if q = 0 then 1 else 0) : ℤ) : ℝ) := by exact_mod_cast hk
    linarith only [h8, this, hcon, hA, ho1]

/-- **north pole** (`(X, Y) = (2q+1, 2)`, north vertex of the north-cap base cell `q`): branch `k = −2`.  The returned
    cell `(q, n−1, n−1)` is the right one, but the returned offsets are `(0, 0)` where the position of the point in
    that cell is `(1, 1)`. -/
theorem f11_north_pole (cfg : Cfg) (hbmi : cfg.bmi = false) (d : ℕ) (hd : d ≤ 29) (q : ℕ) (hq : q < 4) :
    ∃ hash, hashBack (α := ℝ) cfg d (2 * (q : ℝ) + 1, 2) = some (hash, 0, 0) ∧ hash < Layer.nHash d ∧
      Layer.decodeHash cfg d hash = some ⟨q, 2 ^ d - 1, 2 ^ d - 1⟩ ∧
      cellCx d q (2 ^ d - 1) (2 ^ d - 1) + (1 - 1) / 2 ^ d = 2 * (q : ℝ) + 1 ∧
      cellCy d q (2 ^ d - 1) (2 ^ d - 1) + (1 + 1 - 1) / 2 ^ d = 2 := by
  obtain ⟨bX, bY, _⟩ := north_base q hq
  have hq0 : (0 : ℝ) ≤ q := Nat.cast_nonneg q
  have hq3 : (q : ℝ) ≤ 3 := by exact_mod_cast Nat.lt_succ_iff.mp hq
  have hin : InDiamond (baseX q) (baseY q) 1 (2 * (q : ℝ) + 1) 2 := by
    unfold InDiamond; rw [bX, bY]; norm_num
  have hNE : 2 * (q : ℝ) + 1 + 2 = baseX q + baseY q + 1 := by rw [bX, bY]; ring
  have hNW : 2 - (2 * (q : ℝ) + 1) = baseY q - baseX q + 1 := by rw [bX, bY]; ring
  obtain ⟨_, zx, zy, P, hP, hval, hlt, hdec⟩ := north_hashBack cfg d hd q hq _ _ (by linarith) (by linarith) hin
  rw [if_pos hNE, if_pos hNW] at hP
  subst hP
  rw [zx hNE, zy hNW] at hval
  obtain ⟨ex, ey, _⟩ := inBase_pos d q _ _ (hq.trans (by decide)) (by linarith) (by linarith) hin (2 ^ d - 1) (2 ^ d - 1) 1 1
    (by rw [if_pos hNE]; exact ⟨rfl, rfl⟩) (by rw [if_pos hNW]; exact ⟨rfl, rfl⟩)
  exact ⟨_, hval, hlt, hdec, ex, ey⟩

theorem hashBack_norm8 (cfg : Cfg) (d : ℕ) (X Y : ℝ) (hX : -8 ≤ X) :
    hashBack (α := ℝ) cfg d (X, Y) = hashBack (α := ℝ) cfg d (norm8 X, Y) := by
  have h0 : 0 ≤ norm8 X := by unfold norm8; split_ifs <;> linarith
  unfold hashBack
  simp only [r_ensures, norm8_of_nonneg _ h0]

theorem hashWithDxDy_of_proj (cfg : Cfg) (d : ℕ) (lon lat X Y : ℝ) (hproj : proj (α := ℝ) lon lat = some (X, Y))
    (hX : -8 ≤ X) : hashWithDxDy (α := ℝ) cfg d lon lat = hashBack (α := ℝ) cfg d (norm8 X, Y) := by
  rw [hashWithDxDy_eq, hproj, Option.bind_some, hashBack_norm8 cfg d X Y hX]

/-- **counter-example (finding F11, exact arithmetic).**  Depth 1, plane point `(1/2, 3/2)` — the image of
    `lon = 0`, `sin lat = 11/12`, on the north-west border of base cell 0.  The code answers the cell number 13 =
    `(3, 1, 0)` with offsets `(0, 0)`; the point is the north vertex of the cell 3 = `(0, 1, 1)` and is not in the closed
    diamond of the cell 13, whatever multiple of 8 is added to the abscissa.  (The `Float` model returns the same
    `(13, 0, 0)` on `(0.0, asin(11/12))`.) -/
example : hashBack (α := ℝ) {} 1 (1 / 2, 3 / 2) = some (13, 0, 0) ∧ Layer.decodeHash {} 1 13 = some ⟨3, 1, 0⟩ ∧
    cooPt 1 0 1 1 0 1 = (1 / 2, 3 / 2) ∧
    ∀ m : ℤ, ¬ InDiamond (cellCx 1 3 1 0 + 8 * m) (cellCy 1 3 1 0) (1 / 2 ^ 1) (1 / 2) (3 / 2) := by
  have hin : InDiamond (baseX 0) (baseY 0) 1 (1 / 2) (3 / 2) := by
    unfold InDiamond baseX baseY; norm_num [abs_of_nonneg, abs_of_nonpos]
  have hfrac : hbdx 1 (1 / 2) (3 / 2) = 0 := by
    unfold hbdx
    have : uOf 1 (1 / 2) (3 / 2) = ((3 : ℕ) : ℝ) := by unfold uOf; norm_num
    rw [this, Nat.floor_natCast]; norm_num
  obtain ⟨hash, i, hval, hh, _, hdec, _, hX, _, _, _, hwrong⟩ :=
    f11_north_west_wrong_cell {} 1 (by decide) 0 (by decide) (1 / 2) (3 / 2) (by norm_num) (by norm_num) hin
      (by unfold baseX baseY; norm_num) (by unfold baseX baseY; norm_num) hfrac
  have hi1 : i = 1 := by
    have : (i : ℝ) = 1 := by norm_num at hX; linarith
    exact_mod_cast this
  have h13 : hash = 13 := by rw [hh]; decide +kernel
  subst h13
  refine ⟨hval, by decide +kernel, ?_, fun m => hwrong (by omega) m⟩
  unfold cooPt cellCx cellCy baseX baseY norm8
  norm_num


/-- round trip in the plane: the back end of `hash_with_dxdy` applied to the plane point of `sph_coo` returns the same cell
    and offsets, for both z-order implementations.  With `dx = dy = 1/2` this is `hash(center) = h` in the plane. -/
theorem hash_back_coo (cfg : Cfg) (d : ℕ) (hd : d ≤ 29) (b i j : ℕ) (dx dy : ℝ) (hb : b < 12) (hi : i < 2 ^ d)
    (hj : j < 2 ^ d) (hx0 : 0 ≤ dx) (hx1 : dx < 1) (hy0 : 0 ≤ dy) (hy1 : dy < 1) :
    hashBack (α := ℝ) cfg d (cooPt d b i j dx dy) = some ((b <<< (d <<< 1)) ||| interleave i j, dx, dy) := by
  have hp := pow_pos' d
  obtain ⟨eX, eY⟩ := base_center_sq b hb
  obtain ⟨t0, t1, t2⟩ := sqOf_table b hb
  set x' := cellCx d b i j + (dx - dy) / 2 ^ d with hx'
  set Y := cellCy d b i j + (dx + dy - 1) / 2 ^ d with hY
  obtain ⟨⟨hl1, hl2⟩, -⟩ := coo_offsets d dx dy hx0 hx1 hy0 hy1
  obtain ⟨-, r0, r8, y1, y2⟩ := cooPt_range d b i j dx dy hb hi hj hx0 hx1 hy0 hy1
  change 0 ≤ norm8 x' at r0
  change norm8 x' < 8 at r8
  change hashBack (α := ℝ) cfg d (norm8 x', Y) = _
  -- the square actually hit: that of `b`, or `(4, 0)` for the points of base cell 4 sent to `X ≥ 7` by the reduction
  obtain ⟨I, J, s, hsum3, hsum5, hbase, hbx, hby, hn⟩ :
      ∃ (I J : ℕ) (s : ℝ), 3 ≤ I + J ∧ I + J ≤ 5 ∧ baseOf I J = b ∧
        baseX b + s = (I : ℝ) - J + 4 ∧ baseY b = (I : ℝ) + J - 4 ∧ norm8 x' = x' + s := by
    by_cases hneg : x' < 0
    · -- only base cell 4 reaches negative abscissas
      have hb4 : b = 4 := by
        rcases baseX_cases b hb with ⟨h4, _⟩ | ⟨h1, _⟩
        · exact h4
        · linarith only [cellCx_ge d b i j hi hj h1, hl1, hneg, hx']
      subst hb4
      exact ⟨4, 0, 8, by norm_num, by norm_num, by decide, by unfold baseX; norm_num, by unfold baseY; norm_num,
        if_pos hneg⟩
    · have h4 : b / 4 ≤ 2 := by omega
      exact ⟨(sqOf b).1, (sqOf b).2, 0, by omega, by omega, t0, by rw [add_zero, eX], eY,
        by rw [add_zero]; exact if_neg hneg⟩
  obtain ⟨hu, hv⟩ := (cell_pt d b i j I J s dx dy (norm8 x') Y hbx hby).mpr ⟨by rw [hn, add_sub_cancel_right], rfl⟩
  -- `I, i, dx` and `J, j, dy` are quotient, remainder and fractional part of `u`, `v`: the regular branch, on these parts
  have hu0 : 0 ≤ uOf d (norm8 x') Y := hu ▸ add_nonneg (by positivity) hx0
  have hv0 : 0 ≤ vOf d (norm8 x') Y := hv ▸ add_nonneg (by positivity) hy0
  have hdom : PlaneDom (norm8 x') Y :=
    ⟨r0, r8, y1, y2, (mul_nonneg_iff_of_pos_right hp).mp (by unfold uOf at hu0; linarith only [hu0]),
      (mul_nonneg_iff_of_pos_right hp).mp (by unfold vOf at hv0; linarith only [hv0])⟩
  obtain ⟨eI, ei, edx⟩ : hbI d (norm8 x') Y = I ∧ hbi d (norm8 x') Y = i ∧ hbdx d (norm8 x') Y = dx :=
    (floor_split_iff (Nat.two_pow_pos d) hu0).mpr ⟨by exact_mod_cast hu, hi, hx0, hx1⟩
  obtain ⟨eJ, ej, edy⟩ : hbJ d (norm8 x') Y = J ∧ hbj d (norm8 x') Y = j ∧ hbdy d (norm8 x') Y = dy :=
    (floor_split_iff (Nat.two_pow_pos d) hv0).mpr ⟨by exact_mod_cast hv, hj, hy0, hy1⟩
  rw [(hashBack_parts cfg d hd _ _ hdom (by rw [eI, eJ]; exact hsum3)).1, hbParts,
    if_pos (by rw [eI, eJ]; exact hsum5), hbb, eI, eJ, ei, ej, edx, edy, hbase]

theorem hash_back_center (cfg : Cfg) (d : ℕ) (hd : d ≤ 29) (b i j : ℕ) (hb : b < 12) (hi : i < 2 ^ d) (hj : j < 2 ^ d) :
    hashBack (α := ℝ) cfg d (norm8 (cellCx d b i j), cellCy d b i j)
      = some ((b <<< (d <<< 1)) ||| interleave i j, 1 / 2, 1 / 2) := by
  have h := hash_back_coo cfg d hd b i j (1 / 2) (1 / 2) hb hi hj (by norm_num) (by norm_num) (by norm_num)
    (by norm_num)
  have e : cooPt d b i j (1 / 2) (1 / 2) = (norm8 (cellCx d b i j), cellCy d b i j) := by
    unfold cooPt; norm_num
  rw [e] at h; exact h

/-- `hash ∘ center = id` in the plane, either build: for the cell number `h` built from valid parts `(b, i, j)`,
    `center_of_projected_cell(h)` succeeds and the back end of `hash_with_dxdy` sends it back to `(h, 1/2, 1/2)`;
    more generally the plane point of `sph_coo(h, dx, dy)` is sent back to `(h, dx, dy)`. -/
theorem hash_center_plane_any (cfg : Cfg) (d : ℕ) (hd : d ≤ 29) (b i j : ℕ) (hb : b < 12)
    (hi : i < 2 ^ d) (hj : j < 2 ^ d) :
    let h := (b <<< (d <<< 1)) ||| interleave i j
    h < Layer.nHash d ∧ Layer.decodeHash cfg d h = some ⟨b, i, j⟩ ∧
    (∃ p, centerOfProjectedCell (α := ℝ) cfg d h = some p ∧ hashBack (α := ℝ) cfg d p = some (h, 1 / 2, 1 / 2)) ∧
    (∀ dx dy : ℝ, 0 ≤ dx → dx < 1 → 0 ≤ dy → dy < 1 →
      sphCoo (α := ℝ) cfg d h dx dy = unproj (cooPt d b i j dx dy).1 (cooPt d b i j dx dy).2 ∧
      hashBack (α := ℝ) cfg d (cooPt d b i j dx dy) = some (h, dx, dy)) := by
  intro h
  obtain ⟨hdec, hlt⟩ := decode_build cfg d b i j hd hb hi hj
  refine ⟨hlt, hdec, ⟨_, center_eq cfg d h b i j hlt hdec hb, hash_back_center cfg d hd b i j hb hi hj⟩, ?_⟩
  intro dx dy hx0 hx1 hy0 hy1
  obtain ⟨s1, _⟩ := sph_coo_plane cfg d h b i j dx dy hlt hdec hb hi hj hx0 hx1 hy0 hy1
  obtain ⟨_, _, _, y1, y2⟩ := cooPt_range d b i j dx dy hb hi hj hx0 hx1 hy0 hy1
  exact ⟨by rw [s1, unproj_eq _ _ y1 y2], hash_back_coo cfg d hd b i j dx dy hb hi hj hx0 hx1 hy0 hy1⟩

/-- the same, stated for the LUT curve (`hbmi` is not used) -/
theorem hash_center_plane (cfg : Cfg) (hbmi : cfg.bmi = false) (d : ℕ) (hd : d ≤ 29) (b i j : ℕ) (hb : b < 12)
    (hi : i < 2 ^ d) (hj : j < 2 ^ d) :
    let h := (b <<< (d <<< 1)) ||| interleave i j
    h < Layer.nHash d ∧ Layer.decodeHash cfg d h = some ⟨b, i, j⟩ ∧
    (∃ p, centerOfProjectedCell (α := ℝ) cfg d h = some p ∧ hashBack (α := ℝ) cfg d p = some (h, 1 / 2, 1 / 2)) ∧
    (∀ dx dy : ℝ, 0 ≤ dx → dx < 1 → 0 ≤ dy → dy < 1 →
      sphCoo (α := ℝ) cfg d h dx dy = unproj (cooPt d b i j dx dy).1 (cooPt d b i j dx dy).2 ∧
      hashBack (α := ℝ) cfg d (cooPt d b i j dx dy) = some (h, dx, dy)) :=
  hash_center_plane_any cfg d hd b i j hb hi hj

/-- depths above 29 are rejected (`get_zoc` panics), for every numeric instance and both configurations: the bound
    `d ≤ 29` of the theorems on `hashBack` is the whole domain of `hash_with_dxdy` -/
theorem hashBack_deep {α : Type} [Num α] (cfg : Cfg) (d : ℕ) (hd : d > 29) (xy : α × α) : hashBack cfg d xy = none := by
  unfold hashBack
  simp only [Layer.zoc_none_of_gt cfg hd]
  split <;> rfl

/-- depth 1, the point `(1/2, 1/4)` of base cell 4: regular case, the hypotheses of `hashBack_parts` and `hb_regular` hold -/
example : ∃ hash dx dy, hashBack (α := ℝ) {} 1 (1 / 2, 1 / 4) = some (hash, dx, dy) ∧ 0 ≤ dx ∧ dx < 1 ∧ 0 ≤ dy ∧ dy < 1 := by
  have hin : InDiamond (baseX 4) (baseY 4) 1 (1 / 2) (1 / 4) := by
    unfold InDiamond baseX baseY; norm_num [abs_of_nonneg]
  obtain ⟨hdom, h3, _⟩ := inBase_regular 1 4 (1 / 2) (1 / 4) (by decide) (by norm_num) (by norm_num) hin
    (by unfold baseX baseY; norm_num) (by unfold baseX baseY; norm_num)
  obtain ⟨_, _, a, b⟩ := hb_u 1 (1 / 2) (1 / 4) hdom
  exact ⟨_, _, _, (hashBack_parts {} 1 (by decide) _ _ hdom h3).1, a, b, (hb_v 1 _ _ hdom).2.2⟩

/-- depth 2, cell 73 = `(4, 1, 2)` (centre abscissa `−1/4`, reduced to `7.75`): the round trip holds -/
example : ∃ p, centerOfProjectedCell (α := ℝ) {} 2 73 = some p ∧ hashBack (α := ℝ) {} 2 p = some (73, 1 / 2, 1 / 2) := by
  have h := (hash_center_plane {} rfl 2 (by decide) 4 1 2 (by decide) (by decide) (by decide)).2.2.1
  have e : (4 <<< (2 <<< 1)) ||| interleave 1 2 = 73 := by decide +kernel
  rw [e] at h; exact h

/-- depth 1, the point `(5/4, 7/4)` of the north-east border of base cell 0 (seam `lon = π/2`): hypotheses of
    `f11_north_east` hold; the right cell `(0, 1, j)` is returned with `dx = 0` instead of `1` -/
example : ∃ hash j dy, hashBack (α := ℝ) {} 1 (5 / 4, 7 / 4) = some (hash, 0, dy) ∧
    Layer.decodeHash {} 1 hash = some ⟨0, 2 ^ 1 - 1, j⟩ ∧
    cellCx 1 0 (2 ^ 1 - 1) j + (1 - dy) / 2 ^ 1 = 5 / 4 := by
  have hin : InDiamond (baseX 0) (baseY 0) 1 (5 / 4) (7 / 4) := by
    unfold InDiamond baseX baseY; norm_num [abs_of_nonneg]
  obtain ⟨hash, j, dy, h1, _, h2, _, _, _, h3, _⟩ :=
    f11_north_east {} rfl 1 (by decide) 0 (by decide) (5 / 4) (7 / 4) (by norm_num) (by norm_num) hin
      (by unfold baseX baseY; norm_num) (by unfold baseX baseY; norm_num)
  exact ⟨hash, j, dy, h1, h2, h3⟩

/-- the north pole seen from base cell 2, depth 3 -/
example : ∃ hash, hashBack (α := ℝ) {} 3 (2 * ((2 : ℕ) : ℝ) + 1, 2) = some (hash, 0, 0) ∧
    Layer.decodeHash {} 3 hash = some ⟨2, 2 ^ 3 - 1, 2 ^ 3 - 1⟩ := by
  obtain ⟨hash, h1, _, h2, _⟩ := f11_north_pole {} rfl 3 (by decide) 2 (by decide)
  exact ⟨hash, h1, h2⟩

#print axioms hashBack_parts
#print axioms hash_with_dxdy_plane
#print axioms f11_north_east
#print axioms f11_north_west_pos
#print axioms f11_north_west_wrong_cell
#print axioms f11_north_pole
#print axioms f11_west_vertex
#print axioms hashWithDxDy_of_proj
#print axioms decode_build
#print axioms hash_back_coo
#print axioms hash_back_center
#print axioms hash_center_plane
#print axioms branch_sum
#print axioms hashBack_deep

end Hpx.CellReal
