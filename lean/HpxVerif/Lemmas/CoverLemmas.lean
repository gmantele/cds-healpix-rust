import HpxVerif.Model.Cover
import HpxVerif.Lemmas.BmocLists
import Mathlib.Tactic.Ring
import Mathlib.Tactic.Linarith

/-!
Structure of the generic coverage descent, **for every classifier** (whatever the floating-point tests answer): the
output of `coverRec` is a well-formed cell list lying inside the root cell, with depths between the root's and the
target's; nothing is missed and a full flag is justified as far as the classifier is sound; the loop over the root cells
concatenates the descents.  A descent started at level 0 on a cell of depth `ds` consults the classifier on a cell of
depth `d` at level `d − ds` only (the index of the radius of that depth in the list of the crate).
-/

namespace Hpx.Cover
open Hpx.Bmoc

theorem shl2_or (h k : Nat) (hk : k < 4) : (h <<< 2) ||| k = 4 * h + k := by
  have := Nat.shiftLeft_add_eq_or_of_lt (i := 2) (b := k) (by omega) h
  rw [← this, Nat.shiftLeft_eq]; omega

theorem child_interval (D d h : Nat) (hd : d + 1 ≤ D) :
    lo D ⟨d, h, true⟩ = lo D ⟨d + 1, 4 * h + 0, true⟩ ∧ hi D ⟨d, h, true⟩ = hi D ⟨d + 1, 4 * h + 3, true⟩ := by
  have e : 4 ^ (D - d) = 4 * 4 ^ (D - (d + 1)) := by
    rw [show D - d = (D - (d + 1)) + 1 by omega, Nat.pow_succ, Nat.mul_comm]
  simp only [lo_mk, hi_mk, e]
  constructor <;> ring

def Below (D target depth hash : Nat) (out : List Cell) : Prop :=
  WF D out ∧ ∀ c ∈ out, lo D ⟨depth, hash, true⟩ ≤ lo D c ∧ hi D c ≤ hi D ⟨depth, hash, true⟩ ∧
    depth ≤ c.depth ∧ c.depth ≤ target

theorem coverRec_ind {target : Nat} {κ : Nat → Nat → Nat → Option Verdict} {M : Nat → Nat → Nat → List Cell → Prop}
    (full : ∀ {d h l}, κ d h l = some .full → M d h l [⟨d, h, true⟩])
    (skip : ∀ {d h l}, κ d h l = some .skip → M d h l [])
    (leaf : ∀ {h l fl}, κ target h l = some (.descend fl) → M target h l [⟨target, h, fl⟩])
    (node : ∀ {d h l a b c e}, d ≠ target → M (d + 1) (h <<< 2) (l + 1) a → M (d + 1) (h <<< 2 ||| 1) (l + 1) b →
      M (d + 1) (h <<< 2 ||| 2) (l + 1) c → M (d + 1) (h <<< 2 ||| 3) (l + 1) e → M d h l (a ++ b ++ c ++ e)) :
    ∀ (fuel depth hash level : Nat) (out : List Cell), coverRec target κ fuel depth hash level = some out →
      M depth hash level out := by
  intro fuel
  induction fuel with
  | zero => intro depth hash level out h; simp [coverRec] at h
  | succ fuel ih =>
    intro depth hash level out h
    unfold coverRec at h
    cases hk : κ depth hash level with
    | none => simp [hk] at h
    | some v =>
      simp only [hk] at h
      cases v with
      | full => cases h; exact full hk
      | skip => cases h; exact skip hk
      | descend fl =>
        by_cases heq : depth = target
        · subst heq
          simp only [beq_self_eq_true, if_true] at h
          cases h
          exact leaf hk
        · have hne : (depth == target) = false := by simp [heq]
          simp only [hne, Bool.false_eq_true, if_false] at h
          cases h0 : coverRec target κ fuel (depth + 1) (hash <<< 2) (level + 1) with
          | none => simp [h0] at h
          | some a =>
          cases h1 : coverRec target κ fuel (depth + 1) (hash <<< 2 ||| 1) (level + 1) with
          | none => simp [h0, h1] at h
          | some b =>
          cases h2 : coverRec target κ fuel (depth + 1) (hash <<< 2 ||| 2) (level + 1) with
          | none => simp [h0, h1, h2] at h
          | some c =>
          cases h3 : coverRec target κ fuel (depth + 1) (hash <<< 2 ||| 3) (level + 1) with
          | none => simp [h0, h1, h2, h3] at h
          | some e =>
          simp only [h0, h1, h2, h3] at h
          cases h
          exact node heq (ih _ _ _ _ h0) (ih _ _ _ _ h1) (ih _ _ _ _ h2) (ih _ _ _ _ h3)

theorem coverRec_below (target : Nat) (κ : Nat → Nat → Nat → Option Verdict) (D : Nat) (hD : target ≤ D) :
    ∀ (fuel depth hash level : Nat) (out : List Cell), depth ≤ target →
      coverRec target κ fuel depth hash level = some out → Below D target depth hash out := by
  -- in the form that composes: `Within` the interval of the root
  suffices h : ∀ (fuel depth hash level : Nat) (out : List Cell),
      coverRec target κ fuel depth hash level = some out → depth ≤ target →
      Within D out (lo D ⟨depth, hash, true⟩) (hi D ⟨depth, hash, true⟩) ∧ ∀ c ∈ out, depth ≤ c.depth ∧ c.depth ≤ target from
    fun fuel depth hash level out hdt ho =>
      have ⟨w, d⟩ := h fuel depth hash level out ho hdt
      ⟨w.1.1, fun c hc => ⟨w.1.2 c hc, w.2 c hc, d c hc⟩⟩
  have single : ∀ d h f, d ≤ target → Within D [⟨d, h, f⟩] (lo D ⟨d, h, true⟩) (hi D ⟨d, h, true⟩) ∧
      ∀ c ∈ [(⟨d, h, f⟩ : Cell)], d ≤ c.depth ∧ c.depth ≤ target := fun d h f hdt =>
    ⟨Within.single (c := ⟨d, h, f⟩) (show d ≤ D by omega), fun c hc => by simp at hc; subst hc; exact ⟨Nat.le_refl _, hdt⟩⟩
  refine coverRec_ind (fun _ => single _ _ true) (fun _ _ => ⟨Within.nil _ _ _, by simp⟩) (fun _ => single _ _ _) ?_
  intro depth hash _ a b c e heq A B C E hdt
  have hd1 : depth + 1 ≤ target := by omega
  rw [show hash <<< 2 = 4 * hash + 0 by rw [Nat.shiftLeft_eq]; omega] at A
  rw [shl2_or hash 1 (by omega)] at B
  rw [shl2_or hash 2 (by omega)] at C
  rw [shl2_or hash 3 (by omega)] at E
  obtain ⟨A, A'⟩ := A hd1
  obtain ⟨B, B'⟩ := B hd1
  obtain ⟨C, C'⟩ := C hd1
  obtain ⟨E, E'⟩ := E hd1
  have up : ∀ {o : List Cell}, (∀ u ∈ o, depth + 1 ≤ u.depth ∧ u.depth ≤ target) →
      ∀ u ∈ o, depth ≤ u.depth ∧ u.depth ≤ target := fun H u hu => ⟨Nat.le_of_succ_le (H u hu).1, (H u hu).2⟩
  -- the four children tile the parent in z-order: a cell ends where the next of its depth begins (by definition of `hi`, `lo`)
  have m : ∀ j k, j ≤ k → lo D ⟨depth + 1, 4 * hash + j, true⟩ ≤ lo D ⟨depth + 1, 4 * hash + k, true⟩ :=
    fun j k hjk => Nat.mul_le_mul_right _ (Nat.add_le_add_left hjk _)
  obtain ⟨e0, e4⟩ := child_interval D depth hash (show depth + 1 ≤ D by omega)
  rw [e0, e4]
  exact ⟨((A.append B (m 0 1 (by decide)) (m 1 2 (by decide))).append C (m 0 2 (by decide)) (m 2 3 (by decide))).append E
      (m 0 3 (by decide)) (m 3 4 (by decide)),
    List.forall_mem_append.2 ⟨List.forall_mem_append.2 ⟨List.forall_mem_append.2 ⟨up A', up B'⟩, up C'⟩, up E'⟩⟩

/-- `I d l` is any relation between depth and recursion level that the descent preserves (e.g. `l = d − ds`): the
    classifier needs to be sound only where it holds -/
theorem coverRec_no_miss_inv {P : Type} (inCell : Nat → Nat → P → Prop) (R : P → Prop) (I : Nat → Nat → Prop)
    (target : Nat) (κ : Nat → Nat → Nat → Option Verdict)
    (hI : ∀ d l, I d l → I (d + 1) (l + 1))
    (hcover : ∀ d h q, d ≠ target → inCell d h q → inCell (d + 1) (h <<< 2) q ∨ inCell (d + 1) (h <<< 2 ||| 1) q ∨
      inCell (d + 1) (h <<< 2 ||| 2) q ∨ inCell (d + 1) (h <<< 2 ||| 3) q)
    (hskip : ∀ d h l, I d l → κ d h l = some .skip → ∀ q, inCell d h q → ¬ R q) :
    ∀ (fuel depth hash level : Nat) (out : List Cell), I depth level →
      coverRec target κ fuel depth hash level = some out →
      ∀ q, inCell depth hash q → R q → ∃ c ∈ out, inCell c.depth c.hash q := by
  intro fuel depth hash level out hinv h
  revert hinv
  refine coverRec_ind (M := fun d h l out => I d l → ∀ q, inCell d h q → R q → ∃ c ∈ out, inCell c.depth c.hash q)
    (fun _ _ q hq _ => ⟨_, List.mem_singleton_self _, hq⟩) (fun hk hinv q hq hR => absurd hR (hskip _ _ _ hinv hk q hq))
    (fun _ _ q hq _ => ⟨_, List.mem_singleton_self _, hq⟩) ?_ fuel depth hash level out h
  intro d h l a b c e heq A B C E hinv q hq hR
  have hinv' := hI _ _ hinv
  rcases hcover d h q heq hq with hc | hc | hc | hc
  · obtain ⟨x, hx, hin⟩ := A hinv' q hc hR; exact ⟨x, by simp [hx], hin⟩
  · obtain ⟨x, hx, hin⟩ := B hinv' q hc hR; exact ⟨x, by simp [hx], hin⟩
  · obtain ⟨x, hx, hin⟩ := C hinv' q hc hR; exact ⟨x, by simp [hx], hin⟩
  · obtain ⟨x, hx, hin⟩ := E hinv' q hc hR; exact ⟨x, by simp [hx], hin⟩

theorem coverRec_no_miss {P : Type} (inCell : Nat → Nat → P → Prop) (R : P → Prop)
    (target : Nat) (κ : Nat → Nat → Nat → Option Verdict)
    (hcover : ∀ d h q, d ≠ target → inCell d h q → inCell (d + 1) (h <<< 2) q ∨ inCell (d + 1) (h <<< 2 ||| 1) q ∨
      inCell (d + 1) (h <<< 2 ||| 2) q ∨ inCell (d + 1) (h <<< 2 ||| 3) q)
    (hskip : ∀ d h l, κ d h l = some .skip → ∀ q, inCell d h q → ¬ R q) :
    ∀ (fuel depth hash level : Nat) (out : List Cell),
      coverRec target κ fuel depth hash level = some out →
      ∀ q, inCell depth hash q → R q → ∃ c ∈ out, inCell c.depth c.hash q := by
  intro fuel depth hash level out h
  exact coverRec_no_miss_inv inCell R (fun _ _ => True) target κ (fun _ _ _ => trivial) hcover
    (fun d hh l _ => hskip d hh l) fuel depth hash level out trivial h

theorem coverRec_emitted (I : Nat → Nat → Prop) (target : Nat) (κ : Nat → Nat → Nat → Option Verdict)
    (hI : ∀ d l, I d l → I (d + 1) (l + 1)) :
    ∀ (fuel depth hash level : Nat) (out : List Cell), I depth level →
      coverRec target κ fuel depth hash level = some out →
      ∀ c ∈ out, ∃ l, I c.depth l ∧ ((κ c.depth c.hash l = some .full ∧ c.full = true) ∨
        (c.depth = target ∧ κ c.depth c.hash l = some (.descend c.full))) := by
  intro fuel depth hash level out hinv h
  revert hinv
  refine coverRec_ind (M := fun d _ l out => I d l → ∀ c ∈ out, ∃ l, I c.depth l ∧
      ((κ c.depth c.hash l = some .full ∧ c.full = true) ∨ (c.depth = target ∧ κ c.depth c.hash l = some (.descend c.full))))
    (fun hk hinv c hc => by simp at hc; subst hc; exact ⟨_, hinv, Or.inl ⟨hk, rfl⟩⟩) (fun _ _ c hc => by simp at hc)
    (fun hk hinv c hc => by simp at hc; subst hc; exact ⟨_, hinv, Or.inr ⟨rfl, hk⟩⟩) ?_ fuel depth hash level out h
  intro d h l a b c e _ A B C E hinv
  have hinv' := hI _ _ hinv
  exact List.forall_mem_append.2 ⟨List.forall_mem_append.2 ⟨List.forall_mem_append.2 ⟨A hinv', B hinv'⟩, C hinv'⟩, E hinv'⟩

theorem coverRec_full_rule (target : Nat) (κ : Nat → Nat → Nat → Option Verdict) :
    ∀ (fuel depth hash level : Nat) (out : List Cell),
      coverRec target κ fuel depth hash level = some out →
      ∀ c ∈ out, c.full = true → ∃ l, κ c.depth c.hash l = some .full ∨
        (c.depth = target ∧ κ c.depth c.hash l = some (.descend true)) := by
  intro fuel depth hash level out h c hc hf
  obtain ⟨l, _, ⟨hk, _⟩ | ⟨hd, hk⟩⟩ := coverRec_emitted (fun _ _ => True) target κ (fun _ _ _ => trivial) fuel depth hash
    level out trivial h c hc
  · exact ⟨l, Or.inl hk⟩
  · exact ⟨l, Or.inr ⟨hd, hf ▸ hk⟩⟩

theorem foldlM_some_ind {β σ : Type} {step : σ → β → Option σ} {M : List β → σ → σ → Prop} (nil : ∀ s, M [] s s)
    (cons : ∀ {r rs s s' out}, step s r = some s' → M rs s' out → M (r :: rs) s out) :
    ∀ (l : List β) (init out : σ), l.foldlM step init = some out → M l init out := by
  intro l
  induction l with
  | nil =>
    intro init out h
    simp only [List.foldlM_nil] at h
    cases h
    exact nil _
  | cons r rs ih =>
    intro init out h
    simp only [List.foldlM_cons] at h
    cases hs : step init r with
    | none => simp [hs] at h
    | some s' =>
      simp only [hs, Option.bind_eq_bind, Option.bind_some] at h
      exact cons hs (ih _ _ h)

theorem foldlM_append_spec {β : Type} (f : β → Option (List Cell)) : ∀ (roots : List β) (init out : List Cell),
    roots.foldlM (fun acc r => (f r).map (acc ++ ·)) init = some out →
    (∀ c ∈ init, c ∈ out) ∧ (∀ r ∈ roots, ∃ o, f r = some o ∧ ∀ c ∈ o, c ∈ out) ∧
    (∀ c ∈ out, c ∈ init ∨ ∃ r ∈ roots, ∃ o, f r = some o ∧ c ∈ o) := by
  refine foldlM_some_ind (fun s => ⟨fun c hc => hc, fun r hr => by simp at hr, fun c hc => Or.inl hc⟩) ?_
  intro r rs init s' out hs ⟨g1, g2, g3⟩
  obtain ⟨o, ho, rfl⟩ := Option.map_eq_some_iff.1 hs
  refine ⟨fun c hc => g1 c (List.mem_append_left _ hc), ?_, ?_⟩
  · intro r' hr'
    rcases List.mem_cons.mp hr' with rfl | hr'
    · exact ⟨o, ho, fun c hc => g1 c (List.mem_append_right _ hc)⟩
    · exact g2 r' hr'
  · intro c hc
    rcases g3 c hc with h1 | ⟨r', hr', o', ho', hco'⟩
    · rcases List.mem_append.mp h1 with h2 | h2
      · exact Or.inl h2
      · exact Or.inr ⟨r, List.mem_cons_self, o, ho, h2⟩
    · exact Or.inr ⟨r', List.mem_cons_of_mem _ hr', o', ho', hco'⟩

theorem rootsFold (target : Nat) (κ : Nat → Nat → Nat → Option Verdict) (D : Nat) (hD : target ≤ D)
    (fuel ds : Nat) (hds : ds ≤ target) :
    ∀ (roots : List Nat) (init out : List Cell),
      roots.Pairwise (· < ·) → WF D init → (∀ c ∈ init, ∀ h ∈ roots, hi D c ≤ lo D ⟨ds, h, true⟩) →
      roots.foldlM (fun acc h => (coverRec target κ fuel ds h 0).map (acc ++ ·)) init = some out →
      WF D out ∧
      (∀ c ∈ out, c ∈ init ∨ ∃ h ∈ roots, ∃ o, coverRec target κ fuel ds h 0 = some o ∧ c ∈ o) ∧
      (∀ h ∈ roots, ∃ o, coverRec target κ fuel ds h 0 = some o ∧ ∀ c ∈ o, c ∈ out) ∧
      (∀ c ∈ init, c ∈ out) := by
  suffices hwf : ∀ (roots : List Nat) (init out : List Cell),
      roots.foldlM (fun acc h => (coverRec target κ fuel ds h 0).map (acc ++ ·)) init = some out → roots.Pairwise (· < ·) →
      WF D init → (∀ c ∈ init, ∀ h ∈ roots, hi D c ≤ lo D ⟨ds, h, true⟩) → WF D out from
    fun roots init out hp hw hsep h =>
      have ⟨g4, g3, g2⟩ := foldlM_append_spec (fun h => coverRec target κ fuel ds h 0) roots init out h
      ⟨hwf roots init out h hp hw hsep, g2, g3, g4⟩
  refine foldlM_some_ind (fun _ _ hw _ => hw) ?_
  intro r rs init s' out hs ih hp hw hsep
  obtain ⟨o, ho, rfl⟩ := Option.map_eq_some_iff.1 hs
  have hb := coverRec_below target κ D hD fuel ds r 0 o hds ho
  have hp' := List.pairwise_cons.mp hp
  refine ih hp'.2 (WF_append_iff.2 ⟨hw, hb.1, fun x hx y hy => ?_⟩) (fun c hc h' hh' => ?_)
  · exact Nat.le_trans (hsep x hx r (by simp)) (hb.2 y hy).1
  · rcases List.mem_append.mp hc with hc | hc
    · exact hsep c hc h' (by simp [hh'])
    · -- a later root starts where `r` ends or further
      have : hi D ⟨ds, r, true⟩ ≤ lo D ⟨ds, h', true⟩ := by
        unfold hi lo
        exact Nat.mul_le_mul_right _ (hp'.1 h' hh')
      exact Nat.le_trans (hb.2 c hc).2.1 this

end Hpx.Cover

#print axioms Hpx.Cover.coverRec_emitted

/-! ## a descent started at level 0: the level of a cell is `d − ds` -/

namespace Hpx.Cover
open Hpx.Bmoc

theorem coverRec_emitted_from (target : Nat) (κ : Nat → Nat → Nat → Option Verdict) (fuel ds root : Nat)
    (out : List Cell) (h : coverRec target κ fuel ds root 0 = some out) (c : Cell) (hc : c ∈ out) :
    ds ≤ c.depth ∧ ((κ c.depth c.hash (c.depth - ds) = some .full ∧ c.full = true) ∨
      (c.depth = target ∧ κ c.depth c.hash (c.depth - ds) = some (.descend c.full))) := by
  obtain ⟨l, ⟨hds, rfl⟩, hrule⟩ := coverRec_emitted (fun d l => ds ≤ d ∧ l = d - ds) target κ
    (fun d l ⟨h1, h2⟩ => ⟨by omega, by omega⟩) fuel ds root 0 out ⟨Nat.le_refl _, by omega⟩ h c hc
  exact ⟨hds, hrule⟩

theorem coverRec_partial_depth (target : Nat) (κ : Nat → Nat → Nat → Option Verdict) (fuel depth hash level : Nat)
    (out : List Cell) (h : coverRec target κ fuel depth hash level = some out) (c : Cell) (hc : c ∈ out) :
    c.full = true ∨ c.depth = target := by
  obtain ⟨_, _, ⟨_, hf⟩ | ⟨hd, _⟩⟩ := coverRec_emitted (fun _ _ => True) target κ (fun _ _ _ => trivial) fuel depth hash
    level out trivial h c hc
  · exact Or.inl hf
  · exact Or.inr hd

theorem coverRec_no_miss_from {P : Type} (inCell : Nat → Nat → P → Prop) (R : P → Prop) (target : Nat)
    (κ : Nat → Nat → Nat → Option Verdict) (ds : Nat)
    (hcover : ∀ d h q, d ≠ target → inCell d h q → inCell (d + 1) (h <<< 2) q ∨ inCell (d + 1) (h <<< 2 ||| 1) q ∨
      inCell (d + 1) (h <<< 2 ||| 2) q ∨ inCell (d + 1) (h <<< 2 ||| 3) q)
    (hskip : ∀ d h, ds ≤ d → κ d h (d - ds) = some .skip → ∀ q, inCell d h q → ¬ R q)
    (fuel root : Nat) (out : List Cell) (h : coverRec target κ fuel ds root 0 = some out)
    (q : P) (hq : inCell ds root q) (hR : R q) : ∃ c ∈ out, inCell c.depth c.hash q :=
  coverRec_no_miss_inv inCell R (fun d l => ds ≤ d ∧ l = d - ds) target κ (fun d l ⟨h1, h2⟩ => ⟨by omega, by omega⟩) hcover
    (fun d hh l ⟨hds, hl⟩ hk => hskip d hh hds (hl ▸ hk)) fuel ds root 0 out ⟨Nat.le_refl _, by omega⟩ h q hq hR

/-- the filter of the small-cone branches; `g e = none` when the test of `e` panics -/
theorem filter_fold_spec {β : Type} (g : β → Option Bool) (t : β → Nat) : ∀ (nm : List β) (init l : List Nat),
    nm.foldlM (fun acc en => (g en).map fun k => if k = true then acc ++ [t en] else acc) init = some l →
    (∀ x ∈ init, x ∈ l) ∧ (∀ en ∈ nm, ∃ k, g en = some k ∧ (k = true → t en ∈ l)) ∧
    ∀ v ∈ l, v ∈ init ∨ ∃ en ∈ nm, v = t en ∧ g en = some true := by
  refine foldlM_some_ind (fun s => ⟨fun x hx => hx, fun e he => by simp at he, fun v hv => Or.inl hv⟩) ?_
  intro e es init s' l hs ⟨g1, g2, g3⟩
  obtain ⟨k, hg, rfl⟩ := Option.map_eq_some_iff.1 hs
  refine ⟨fun x hx => g1 x (by split <;> simp [hx]), ?_, ?_⟩
  · intro en hen
    rcases List.mem_cons.mp hen with rfl | hen
    · exact ⟨k, hg, fun hk => g1 _ (by simp [hk])⟩
    · exact g2 en hen
  · intro v hv
    rcases g3 v hv with h1 | ⟨e', he', rfl, hp⟩
    · cases k
      · exact Or.inl (by simpa using h1)
      · have h1 : v ∈ init ∨ v = t e := by simpa using h1
        exact h1.imp_right fun hv => ⟨e, List.mem_cons_self, hv, hg⟩
    · exact Or.inr ⟨e', List.mem_cons_of_mem _ he', rfl, hp⟩

end Hpx.Cover

#print axioms Hpx.Cover.coverRec_no_miss_from
