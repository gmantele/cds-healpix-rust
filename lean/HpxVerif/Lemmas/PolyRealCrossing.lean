/-
Point-in-polygon over the reals (C12), one edge and the loop over the edges: the model functions of `Model/SphGeom.lean` at
`α := ℝ` (`isInLonRange`, the crossing test and the loop of `oddNumIntersectGoingSouth`, `Polygon.new`) against their
geometric meaning.  The longitude-range test of an edge is a sign condition on three sines, which says that the (shorter)
great-circle arc meets the meridian of the point; with the sign test on the stored normal, that the arc crosses that meridian
strictly south of the point; `contains` is the parity of those crossings `xor` the south-pole flag.
-/
import HpxVerif.Model.SphGeom
import HpxVerif.Lemmas.NumReal
import Mathlib.Tactic.Positivity
import Mathlib.Tactic.LinearCombination
import Mathlib.Analysis.SpecialFunctions.Trigonometric.Arctan

namespace Hpx.Sph
open Real Hpx.Proj


theorem sin_pos_iff_of_abs_lt (x : ℝ) (h1 : -(2 * π) < x) (h2 : x < 2 * π) :
    0 < sin x ↔ (0 < x ∧ x < π) ∨ x < -π := by
  have hpi := pi_pos
  constructor
  · intro h
    by_contra hc
    push Not at hc
    rcases le_or_gt x 0 with hx | hx
    ·
      have : sin x ≤ 0 := sin_nonpos_of_nonpos_of_neg_pi_le hx hc.2
      linarith
    · have hx' := hc.1 hx
      have : sin (x - 2 * π) ≤ 0 := sin_nonpos_of_nonpos_of_neg_pi_le (by linarith) (by linarith)
      rw [sin_sub_two_pi] at this
      linarith
  · rintro (⟨h0, h3⟩ | h)
    · exact sin_pos_of_pos_of_lt_pi h0 h3
    · have : 0 < sin (x + 2 * π) := sin_pos_of_pos_of_lt_pi (by linarith) (by linarith)
      rwa [sin_add_two_pi] at this

theorem sin_neg_iff_of_abs_lt (x : ℝ) (h1 : -(2 * π) < x) (h2 : x < 2 * π) :
    sin x < 0 ↔ (-π < x ∧ x < 0) ∨ π < x := by
  have h := sin_pos_iff_of_abs_lt (-x) (by linarith) (by linarith)
  rw [sin_neg] at h
  constructor
  · intro hs
    rcases h.mp (by linarith) with ⟨a, b⟩ | c
    · left; constructor <;> linarith
    · right; linarith
  · rintro (⟨a, b⟩ | c)
    · have := h.mpr (Or.inl ⟨by linarith, by linarith⟩); linarith
    · have := h.mpr (Or.inr (by linarith)); linarith

/-- the longitudes selected by an edge whose end points have longitudes `a` and `b`: the half-open interval that goes the
    SHORTER way round from one to the other, closed at its western end and open at its eastern end; `|b − a| = π` counts
    as "no wrap", `a = b` gives the empty set. -/
def LonRange (a b l : ℝ) : Prop :=
  if |b - a| ≤ π then min a b ≤ l ∧ l < max a b else l < min a b ∨ max a b ≤ l

/-- **`is_in_lon_range`, exactly** (every triple of reals, no hypothesis): symmetric in the two vertices. -/
theorem is_in_lon_range_spec (coo v1 v2 : Coo ℝ) :
    isInLonRange coo v1 v2 = true ↔ LonRange v1.lon v2.lon coo.lon := by
  unfold isInLonRange LonRange
  generalize v1.lon = a; generalize v2.lon = b; generalize coo.lon = l
  -- the code compares two Booleans: "no wrap" and "in the interval"; when there is a wrap the range is the complement
  have key : ∀ (P : Prop) [Decidable P] (x y : ℝ), (decide P == (decide (x ≤ l) && decide (l < y))) = true ↔
      if P then x ≤ l ∧ l < y else l < x ∨ y ≤ l := by
    intro P _ x y
    rw [beq_iff_eq, ← Bool.decide_and, decide_eq_decide]
    by_cases h : P
    · rw [if_pos h, iff_true_left h]
    · rw [if_neg h, iff_false_left h, not_and_or, not_le, not_lt]
  simp only [r_lt, r_le, r_ge, r_zero, r_pi]
  by_cases hd : b - a < 0
  · have hba : b ≤ a := by linarith
    rw [if_pos (decide_eq_true hd), key, min_eq_right hba, max_eq_left hba, abs_of_neg hd]
    simp only [neg_le]
  · have hab : a ≤ b := by linarith
    rw [if_neg (by simpa using hd), key, min_eq_left hab, max_eq_right hab, abs_of_nonneg (by linarith)]

theorem lonRange_comm (a b l : ℝ) : LonRange a b l ↔ LonRange b a l := by
  unfold LonRange
  rw [abs_sub_comm, min_comm, max_comm]

theorem lonRange_self (a l : ℝ) : ¬ LonRange a a l := by
  unfold LonRange
  simp [pi_pos.le]

theorem lonRange_nowrap (a b l : ℝ) (h : |b - a| ≤ π) : LonRange a b l ↔ min a b ≤ l ∧ l < max a b := by
  unfold LonRange; rw [if_pos h]

theorem lonRange_of_abs_eq_pi (a b l : ℝ) (h : |b - a| = π) : LonRange a b l ↔ min a b ≤ l ∧ l < max a b :=
  lonRange_nowrap a b l h.le

theorem lonRange_zero (a b : ℝ) (ha : 0 ≤ a) (hb : 0 ≤ b) :
    LonRange a b 0 ↔ (min a b = 0 ∧ 0 < max a b ∧ max a b ≤ π) ∨ (π < |b - a| ∧ 0 < min a b) := by
  wlog hab : a ≤ b generalizing a b with H
  · rw [lonRange_comm, min_comm, max_comm, abs_sub_comm]
    exact H b a hb ha (le_of_not_ge hab)
  unfold LonRange
  have hpi := pi_pos
  rw [min_eq_left hab, max_eq_right hab, abs_of_nonneg (by linarith)]
  split
  · constructor
    · rintro ⟨h1, h2⟩; left; exact ⟨le_antisymm h1 ha, h2, by linarith⟩
    · rintro (⟨h1, h2, _⟩ | ⟨h1, _⟩)
      · exact ⟨h1.le, h2⟩
      · linarith
  · constructor
    · rintro (h | h)
      · right; exact ⟨by linarith, h⟩
      · exfalso; linarith
    · rintro (⟨h1, h2, h3⟩ | ⟨_, h⟩)
      · exfalso; linarith
      · left; exact h

theorem mul_pos_iff_of_neg {x s : ℝ} (hs : s < 0) : 0 < x * s ↔ x < 0 := by
  rw [← neg_mul_neg, mul_pos_iff_of_pos_right (neg_pos.mpr hs), neg_pos]

theorem lonRange_iff_sign_of_le (a b l : ℝ) (ha0 : 0 ≤ a) (hb1 : b < 2 * π) (hab : a ≤ b) (hl0 : 0 ≤ l) (hl1 : l < 2 * π)
    (hla : l ≠ a) (hlb : l ≠ b) :
    LonRange a b l ∧ sin (b - a) ≠ 0 ↔ 0 < sin (l - a) * sin (b - a) ∧ 0 < sin (b - l) * sin (b - a) := by
  have hpi := pi_pos
  have P1 := sin_pos_iff_of_abs_lt (l - a) (by linarith) (by linarith)
  have P2 := sin_pos_iff_of_abs_lt (b - l) (by linarith) (by linarith)
  have P3 := sin_pos_iff_of_abs_lt (b - a) (by linarith) (by linarith)
  have N1 := sin_neg_iff_of_abs_lt (l - a) (by linarith) (by linarith)
  have N2 := sin_neg_iff_of_abs_lt (b - l) (by linarith) (by linarith)
  have N3 := sin_neg_iff_of_abs_lt (b - a) (by linarith) (by linarith)
  have hla' := lt_or_gt_of_ne hla
  have hlb' := lt_or_gt_of_ne hlb
  unfold LonRange
  rw [min_eq_left hab, max_eq_right hab, abs_of_nonneg (sub_nonneg.mpr hab)]
  rcases lt_trichotomy (sin (b - a)) 0 with hs | hs | hs
  · -- the range wraps: `l < a` or `b < l`
    have hd : π < b - a := by rcases N3.mp hs with ⟨_, h⟩ | h <;> linarith
    rw [if_neg (not_le.mpr hd), mul_pos_iff_of_neg hs, mul_pos_iff_of_neg hs, N1, N2]
    refine ⟨fun ⟨h, _⟩ => ?_, fun ⟨h1, h2⟩ => ⟨?_, hs.ne⟩⟩
    · rcases h with h | h
      · exact ⟨Or.inl ⟨by linarith, by linarith⟩, Or.inr (by linarith)⟩
      · exact ⟨Or.inr (by rcases hlb' with g | g <;> linarith), Or.inl ⟨by linarith, by rcases hlb' with g | g <;> linarith⟩⟩
    · rcases h1 with h1 | h1
      · exact Or.inl (by linarith [h1.2])
      · exact Or.inr (by rcases h2 with ⟨h2, _⟩ | h2 <;> linarith)
  · simp [hs]
  · have hd := (P3.mp hs).resolve_right (by linarith)
    rw [if_pos hd.2.le, mul_pos_iff_of_pos_right hs, mul_pos_iff_of_pos_right hs, P1, P2]
    refine ⟨fun ⟨h, _⟩ => ?_, fun ⟨h1, h2⟩ => ⟨?_, hs.ne'⟩⟩
    · exact ⟨Or.inl ⟨by rcases hla' with g | g <;> linarith [h.1], by linarith [h.2]⟩, Or.inl ⟨by linarith [h.2], by linarith [h.1]⟩⟩
    · rcases h1 with h1 | h1 <;> rcases h2 with h2 | h2
      · exact ⟨by linarith [h1.1], by linarith [h2.1]⟩
      · linarith [h1.2]
      · linarith [h2.2]
      · linarith

theorem lonRange_iff_sign (a b l : ℝ) (ha0 : 0 ≤ a) (ha1 : a < 2 * π) (hb0 : 0 ≤ b) (hb1 : b < 2 * π)
    (hl0 : 0 ≤ l) (hl1 : l < 2 * π) (hla : l ≠ a) (hlb : l ≠ b) :
    LonRange a b l ∧ sin (b - a) ≠ 0 ↔ 0 < sin (l - a) * sin (b - a) ∧ 0 < sin (b - l) * sin (b - a) := by
  rcases le_total a b with hab | hab
  · exact lonRange_iff_sign_of_le a b l ha0 hb1 hab hl0 hl1 hla hlb
  · have h := lonRange_iff_sign_of_le b a l hb0 ha1 hab hl0 hl1 hlb hla
    rw [lonRange_comm, ← neg_sub b a, ← neg_sub b l, ← neg_sub l a, sin_neg, sin_neg, sin_neg, neg_mul_neg, neg_mul_neg,
      neg_ne_zero] at h
    exact h.trans and_comm

/-- what `Coo3D::from_sph_coo` builds: the unit vector of `(lon, lat)` with `lon ∈ [0, 2π)`, `lat ∈ [-π/2, π/2]` -/
structure Coo.Valid (c : Coo ℝ) : Prop where
  hx : c.x = cos c.lat * cos c.lon
  hy : c.y = cos c.lat * sin c.lon
  hz : c.z = sin c.lat
  lon0 : 0 ≤ c.lon
  lon1 : c.lon < 2 * π
  lat0 : -(π / 2) ≤ c.lat
  lat1 : c.lat ≤ π / 2

def Coo.NonPole (c : Coo ℝ) : Prop := -(π / 2) < c.lat ∧ c.lat < π / 2

theorem Coo.NonPole.cos_pos {c : Coo ℝ} (h : c.NonPole) : 0 < cos c.lat := cos_pos_of_mem_Ioo ⟨h.1, h.2⟩

theorem Coo.Valid.dot_eq {p : Coo ℝ} (hp : p.Valid) (N : ℝ × ℝ × ℝ) :
    dot p N = cos p.lat * cos p.lon * N.1 + cos p.lat * sin p.lon * N.2.1 + sin p.lat * N.2.2 := by
  unfold dot; rw [hp.hx, hp.hy, hp.hz]

/-- the normal stored by `Polygon::new` for the edge `u → w`: `u × w`, replaced by its opposite when it points south -/
noncomputable def npCross (u w : Coo ℝ) : ℝ × ℝ × ℝ :=
  if (cross u w).2.2 < 0 then (-(cross u w).1, -(cross u w).2.1, -(cross u w).2.2) else cross u w

theorem cross_z_eq {u w : Coo ℝ} (hu : u.Valid) (hw : w.Valid) :
    (cross u w).2.2 = cos u.lat * cos w.lat * sin (w.lon - u.lon) := by
  unfold cross
  simp only
  rw [hu.hx, hu.hy, hw.hx, hw.hy, sin_sub]; ring

theorem cross_z_ne_zero {u w : Coo ℝ} (hu : u.Valid) (hw : w.Valid) (hun : u.NonPole) (hwn : w.NonPole)
    (h : sin (w.lon - u.lon) ≠ 0) : (cross u w).2.2 ≠ 0 := by
  rw [cross_z_eq hu hw]; exact mul_ne_zero (mul_ne_zero hun.cos_pos.ne' hwn.cos_pos.ne') h

theorem dot_cross_left (u w : Coo ℝ) : dot u (cross u w) = 0 := by unfold dot cross; ring
theorem dot_cross_right (u w : Coo ℝ) : dot w (cross u w) = 0 := by unfold dot cross; ring

theorem dot_combo {u w : Coo ℝ} {s t X Y Z : ℝ} (ex : s * u.x + t * w.x = X) (ey : s * u.y + t * w.y = Y)
    (ez : s * u.z + t * w.z = Z) (N : ℝ × ℝ × ℝ) : s * dot u N + t * dot w N = X * N.1 + Y * N.2.1 + Z * N.2.2 := by
  unfold dot; rw [← ex, ← ey, ← ez]; ring

theorem npCross_z (u w : Coo ℝ) : (npCross u w).2.2 = |(cross u w).2.2| := by
  unfold npCross; split
  · rename_i h; exact (abs_of_neg h).symm
  · rename_i h; exact (abs_of_nonneg (not_lt.mp h)).symm

theorem dot_npCross (u w : Coo ℝ) : ∃ ε : ℝ, ε ≠ 0 ∧ ∀ p : Coo ℝ, dot p (npCross u w) = ε * dot p (cross u w) := by
  unfold npCross; split
  · exact ⟨-1, by norm_num, fun p => by unfold dot; ring⟩
  · exact ⟨1, one_ne_zero, fun p => (one_mul _).symm⟩

/-- The open great-circle arc from `u` to `w` (the shorter one: the positive combinations of the two vectors) meets the
    meridian of longitude `l` at the latitude `β`. -/
def ArcMeets (u w : Coo ℝ) (l β : ℝ) : Prop :=
  ∃ s t ρ : ℝ, 0 < s ∧ 0 < t ∧ 0 < ρ ∧ s * u.x + t * w.x = ρ * (cos β * cos l) ∧
    s * u.y + t * w.y = ρ * (cos β * sin l) ∧ s * u.z + t * w.z = ρ * sin β

def CrossesSouth (u w p : Coo ℝ) : Prop :=
  ∃ β : ℝ, -(π / 2) < β ∧ β < π / 2 ∧ ArcMeets u w p.lon β ∧ β < p.lat

/-- the arc `u w` meets the meridian `l` at the point of direction `(cos l, sin l, τ)` (`τ` = tangent of the latitude) -/
def MeetsV (u w : Coo ℝ) (l τ : ℝ) : Prop :=
  ∃ s t : ℝ, 0 < s ∧ 0 < t ∧ s * u.x + t * w.x = cos l ∧ s * u.y + t * w.y = sin l ∧ s * u.z + t * w.z = τ

theorem arcMeets_iff_meetsV (u w : Coo ℝ) (l β : ℝ) (hβ1 : -(π / 2) < β) (hβ2 : β < π / 2) :
    ArcMeets u w l β ↔ MeetsV u w l (tan β) := by
  have hc : 0 < cos β := cos_pos_of_mem_Ioo ⟨hβ1, hβ2⟩
  constructor
  · rintro ⟨s, t, ρ, hs, ht, hρ, ex, ey, ez⟩
    refine ⟨s / (ρ * cos β), t / (ρ * cos β), by positivity, by positivity, ?_, ?_, ?_⟩
    · rw [div_mul_eq_mul_div, div_mul_eq_mul_div, ← add_div, ex]; field_simp
    · rw [div_mul_eq_mul_div, div_mul_eq_mul_div, ← add_div, ey]; field_simp
    · rw [div_mul_eq_mul_div, div_mul_eq_mul_div, ← add_div, ez, tan_eq_sin_div_cos]; field_simp
  · rintro ⟨s, t, hs, ht, ex, ey, ez⟩
    refine ⟨s, t, 1 / cos β, hs, ht, by positivity, ?_, ?_, ?_⟩
    · rw [ex]; field_simp
    · rw [ey]; field_simp
    · rw [ez, tan_eq_sin_div_cos]; field_simp

theorem meetsV_iff_arcMeets (u w : Coo ℝ) (l τ : ℝ) : MeetsV u w l τ ↔ ArcMeets u w l (arctan τ) := by
  rw [arcMeets_iff_meetsV u w l _ (neg_pi_div_two_lt_arctan τ) (arctan_lt_pi_div_two τ), tan_arctan]

theorem abs_eq_pi_of_sin_eq_zero {x : ℝ} (h1 : -(2 * π) < x) (h2 : x < 2 * π) (hs : sin x = 0) (hx : x ≠ 0) : |x| = π := by
  -- `x ∓ π` is a zero of the sine in `(-π, π)`
  rcases lt_or_gt_of_ne hx with h | h
  · have := (sin_eq_zero_iff_of_lt_of_lt (x := x + π) (by linarith) (by linarith)).mp (by rw [sin_add_pi, hs, neg_zero])
    rw [abs_of_neg h]; linarith
  · have := (sin_eq_zero_iff_of_lt_of_lt (x := x - π) (by linarith) (by linarith)).mp (by rw [sin_sub_pi, hs, neg_zero])
    rw [abs_of_pos h]; linarith

theorem sin_eq_zero_cos {x : ℝ} (h1 : -(2 * π) < x) (h2 : x < 2 * π) (hs : sin x = 0) (hx : x ≠ 0) : cos x = -1 := by
  rcases (abs_eq pi_pos.le).mp (abs_eq_pi_of_sin_eq_zero h1 h2 hs hx) with g | g <;> rw [g]
  · exact cos_pi
  · rw [cos_neg, cos_pi]

theorem sin_ne_zero_of_lonRange {u w : Coo ℝ} (hu : u.Valid) (hw : w.Valid) (hopp : |w.lon - u.lon| ≠ π) {l : ℝ}
    (hR : LonRange u.lon w.lon l) : sin (w.lon - u.lon) ≠ 0 := by
  intro h0
  refine hopp (abs_eq_pi_of_sin_eq_zero (by linarith [hu.lon1, hw.lon0]) (by linarith [hu.lon0, hw.lon1]) h0 ?_)
  intro hab
  rw [sub_eq_zero.mp hab] at hR
  exact lonRange_self _ _ hR

/-- `ha`, `hb` say that `l` is not the direction of `a` or of `b`: where the sine vanishes the directions are opposite -/
theorem dir_combo_sign {a b l S T C : ℝ} (hS : 0 < S) (hT : 0 < T) (hC : 0 < C)
    (ex : S * cos a + T * cos b = C * cos l) (ey : S * sin a + T * sin b = C * sin l)
    (ha : sin (l - a) = 0 → cos (l - a) = -1) (hb : sin (b - l) = 0 → cos (b - l) = -1) :
    0 < sin (l - a) * sin (b - a) ∧ 0 < sin (b - l) * sin (b - a) := by
  -- the two equations solved for `T` and for `S` (Cramer)
  have k1 : T * sin (b - a) = C * sin (l - a) := by
    rw [sin_sub, sin_sub]; linear_combination cos a * ey - sin a * ex
  have k2 : S * sin (b - a) = C * sin (b - l) := by
    rw [sin_sub, sin_sub]; linear_combination sin b * ex - cos b * ey
  have r2 : S * cos (l - a) + T * cos (b - l) = C := by
    rw [cos_sub, cos_sub]; linear_combination cos l * ex + sin l * ey + C * sin_sq_add_cos_sq l
  have hσ0 : sin (b - a) ≠ 0 := by
    intro h0
    rw [h0, mul_zero] at k1 k2
    rw [ha ((mul_eq_zero.mp k1.symm).resolve_left hC.ne'), hb ((mul_eq_zero.mp k2.symm).resolve_left hC.ne')] at r2
    linarith
  have hσ2 : 0 < sin (b - a) ^ 2 := by positivity
  refine ⟨(mul_pos_iff_of_pos_left hC).mp ?_, (mul_pos_iff_of_pos_left hC).mp ?_⟩
  · rw [show C * (sin (l - a) * sin (b - a)) = T * sin (b - a) ^ 2 by linear_combination (-sin (b - a)) * k1]
    positivity
  · rw [show C * (sin (b - l) * sin (b - a)) = S * sin (b - a) ^ 2 by linear_combination (-sin (b - a)) * k2]
    positivity

theorem lonRange_iff_meetsV {u w : Coo ℝ} (hu : u.Valid) (hw : w.Valid) (hun : u.NonPole) (hwn : w.NonPole)
    (l : ℝ) (hl0 : 0 ≤ l) (hl1 : l < 2 * π) (hlu : l ≠ u.lon) (hlw : l ≠ w.lon) :
    LonRange u.lon w.lon l ∧ sin (w.lon - u.lon) ≠ 0 ↔ ∃ τ : ℝ, MeetsV u w l τ := by
  have hcu := hun.cos_pos
  have hcw := hwn.cos_pos
  rw [lonRange_iff_sign u.lon w.lon l hu.lon0 hu.lon1 hw.lon0 hw.lon1 hl0 hl1 hlu hlw]
  constructor
  · rintro ⟨h1, h2⟩
    set a := u.lon
    set b := w.lon
    set σ := sin (b - a) with hσ
    have hσ0 : σ ≠ 0 := by rintro h; rw [h] at h1; simp at h1
    have hσ2 : 0 < σ ^ 2 := by positivity
    -- the solution of the two horizontal equations (Cramer), written with the positive denominator `σ²`
    refine ⟨_, sin (b - l) * σ / (cos u.lat * σ ^ 2), sin (l - a) * σ / (cos w.lat * σ ^ 2), by positivity, by positivity,
      ?_, ?_, rfl⟩
    · have key : sin (b - l) * cos a + sin (l - a) * cos b = σ * cos l := by
        rw [hσ, sin_sub, sin_sub, sin_sub]; ring
      rw [hu.hx, hw.hx]
      field_simp
      linear_combination key
    · have key : sin (b - l) * sin a + sin (l - a) * sin b = σ * sin l := by
        rw [hσ, sin_sub, sin_sub, sin_sub]; ring
      rw [hu.hy, hw.hy]
      field_simp
      linear_combination key
  · rintro ⟨_, s, t, hs, ht, ex, ey, _⟩
    rw [hu.hx, hw.hx] at ex
    rw [hu.hy, hw.hy] at ey
    exact dir_combo_sign (mul_pos hs hcu) (mul_pos ht hcw) one_pos
      (by linear_combination ex) (by linear_combination ey)
      (fun z => sin_eq_zero_cos (by linarith [hu.lon1]) (by linarith [hu.lon0]) z (sub_ne_zero.mpr hlu))
      (fun z => sin_eq_zero_cos (by linarith [hw.lon0]) (by linarith [hw.lon1]) z (sub_ne_zero.mpr hlw.symm))

/-- in coordinates: `(l, β)` is in the plane through the origin of north-pointing normal `N` (`hq`); then
    `(l, φ) · N > 0` iff the plane passes strictly south of `(l, φ)` -/
theorem plane_crossing (N : ℝ × ℝ × ℝ) (hN : 0 < N.2.2) (l β φ : ℝ) (hβ1 : -(π / 2) < β) (hβ2 : β < π / 2)
    (hφ1 : -(π / 2) ≤ φ) (hφ2 : φ ≤ π / 2)
    (hq : cos β * cos l * N.1 + cos β * sin l * N.2.1 + sin β * N.2.2 = 0) :
    0 < cos φ * cos l * N.1 + cos φ * sin l * N.2.1 + sin φ * N.2.2 ↔ β < φ := by
  have hcβ : 0 < cos β := cos_pos_of_mem_Ioo ⟨hβ1, hβ2⟩
  have hpi := pi_pos
  have key : cos β * (cos φ * cos l * N.1 + cos φ * sin l * N.2.1 + sin φ * N.2.2) = N.2.2 * sin (φ - β) := by
    rw [sin_sub]; linear_combination cos φ * hq
  have P := sin_pos_iff_of_abs_lt (φ - β) (by linarith) (by linarith)
  constructor
  · intro h
    have : 0 < N.2.2 * sin (φ - β) := by rw [← key]; positivity
    have h2 : 0 < sin (φ - β) := (mul_pos_iff_of_pos_left hN).mp this
    rcases P.mp h2 with ⟨g, _⟩ | g <;> linarith
  · intro h
    have h2 : 0 < sin (φ - β) := P.mpr (Or.inl ⟨by linarith, by linarith⟩)
    have : 0 < cos β * (cos φ * cos l * N.1 + cos φ * sin l * N.2.1 + sin φ * N.2.2) := by rw [key]; positivity
    exact (mul_pos_iff_of_pos_left hcβ).mp this

theorem npCross_z_nonneg (u w : Coo ℝ) : 0 ≤ (npCross u w).2.2 := by
  rw [npCross_z]; exact abs_nonneg _

theorem arcMeets_dot {u w : Coo ℝ} {l β : ℝ} (h : ArcMeets u w l β) :
    cos β * cos l * (npCross u w).1 + cos β * sin l * (npCross u w).2.1 + sin β * (npCross u w).2.2 = 0 := by
  obtain ⟨s, t, ρ, _, _, hρ, ex, ey, ez⟩ := h
  obtain ⟨ε, _, hε⟩ := dot_npCross u w
  -- both end points are in the plane, hence so is their combination
  have h0 := dot_combo ex ey ez (npCross u w)
  rw [hε, hε, dot_cross_left, dot_cross_right] at h0
  have : ρ * (cos β * cos l * (npCross u w).1 + cos β * sin l * (npCross u w).2.1 + sin β * (npCross u w).2.2) = 0 := by
    linear_combination -h0
  exact (mul_eq_zero.mp this).resolve_left hρ.ne'

theorem edge_test_iff (p u w : Coo ℝ) :
    (isInLonRange p u w && Num.gt (dot p (npCross u w)) (Num.zero : ℝ)) = true ↔
      LonRange u.lon w.lon p.lon ∧ 0 < dot p (npCross u w) := by
  rw [Bool.and_eq_true, is_in_lon_range_spec, r_gt, r_zero, decide_eq_true_iff]

/-- **the test made on one edge by `odd_num_intersect_going_south`, geometrically.**  For an edge `u → w` between two
    points that are not poles, and a point `p` whose meridian passes through neither end point: the longitude-range test
    and the sign test `p · N > 0` on the north-pointing normal `N = ±(u × w)` are both true iff the great-circle arc `u w`
    (the shorter one) crosses the meridian of `p` at a point strictly SOUTH of `p`.  The only edges excluded are those
    whose end points are on opposite meridians (`|Δlon| = π`: the arc passes over a pole); an edge along a meridian is
    included (both sides false). -/
theorem crossing_test_geometric {u w p : Coo ℝ} (hu : u.Valid) (hw : w.Valid) (hp : p.Valid) (hun : u.NonPole)
    (hwn : w.NonPole) (hopp : |w.lon - u.lon| ≠ π) (hlu : p.lon ≠ u.lon) (hlw : p.lon ≠ w.lon) :
    (isInLonRange p u w && Num.gt (dot p (npCross u w)) (Num.zero : ℝ)) = true ↔ CrossesSouth u w p := by
  have hpi := pi_pos
  rw [edge_test_iff]
  have hmeet := lonRange_iff_meetsV hu hw hun hwn p.lon hp.lon0 hp.lon1 hlu hlw
  have hzpos : sin (w.lon - u.lon) ≠ 0 → 0 < (npCross u w).2.2 := fun h => by
    rw [npCross_z]; exact abs_pos.mpr (cross_z_ne_zero hu hw hun hwn h)
  constructor
  · rintro ⟨hR, hd⟩
    have hs := sin_ne_zero_of_lonRange hu hw hopp hR
    obtain ⟨τ, hτ⟩ := hmeet.mp ⟨hR, hs⟩
    have hm := (meetsV_iff_arcMeets u w p.lon τ).mp hτ
    refine ⟨arctan τ, neg_pi_div_two_lt_arctan τ, arctan_lt_pi_div_two τ, hm, ?_⟩
    rw [hp.dot_eq] at hd
    exact (plane_crossing _ (hzpos hs) p.lon _ p.lat (neg_pi_div_two_lt_arctan τ) (arctan_lt_pi_div_two τ) hp.lat0 hp.lat1
      (arcMeets_dot hm)).mp hd
  · rintro ⟨β, hβ1, hβ2, hm, hlt⟩
    obtain ⟨hR, hs⟩ := hmeet.mpr ⟨_, (arcMeets_iff_meetsV u w p.lon β hβ1 hβ2).mp hm⟩
    refine ⟨hR, ?_⟩
    rw [hp.dot_eq]
    exact (plane_crossing _ (hzpos hs) p.lon β p.lat hβ1 hβ2 hp.lat0 hp.lat1 (arcMeets_dot hm)).mpr hlt

def edgesFrom (left : Coo ℝ) : List (Coo ℝ) → List (Coo ℝ × Coo ℝ)
  | [] => []
  | v :: rest => (left, v) :: edgesFrom v rest

/-- the edges of the closed polygon in the order of the loops of the crate: `(v_{n-1}, v₀), (v₀, v₁), …, (v_{n-2}, v_{n-1})` -/
def edges (vs : List (Coo ℝ)) : List (Coo ℝ × Coo ℝ) :=
  match vs.getLast? with
  | none => []
  | some last => edgesFrom last vs

theorem edgesFrom_eq_zip (left : Coo ℝ) (vs : List (Coo ℝ)) : edgesFrom left vs = (left :: vs).zip vs := by
  induction vs generalizing left with
  | nil => rfl
  | cons v rest ih => rw [edgesFrom, ih, List.zip_cons_cons]

theorem edges_eq_zip {vs : List (Coo ℝ)} {last : Coo ℝ} (h : vs.getLast? = some last) : edges vs = (last :: vs).zip vs := by
  rw [edges, h]; exact edgesFrom_eq_zip _ _

theorem edges_length (vs : List (Coo ℝ)) : (edges vs).length = vs.length := by
  cases h : vs.getLast? with
  | none => simp [List.getLast?_eq_none_iff.mp h, edges]
  | some l => simp [edges_eq_zip h]

def prevIdx (n i : Nat) : Nat := if i = 0 then n - 1 else i - 1

theorem prevIdx_lt {n i : Nat} (hi : i < n) : prevIdx n i < n := by unfold prevIdx; split <;> omega

theorem edges_getElem? (vs : List (Coo ℝ)) (i : Nat) (hi : i < vs.length) :
    (edges vs)[i]? = some (vs[prevIdx vs.length i]'(prevIdx_lt hi), vs[i]) := by
  have hl : vs.getLast? = some (vs[vs.length - 1]'(by omega)) := by
    rw [List.getLast?_eq_getElem?, List.getElem?_eq_getElem]
  rw [edges_eq_zip hl, List.getElem?_zip_eq_some]
  refine ⟨?_, List.getElem?_eq_getElem hi⟩
  cases i with
  | zero => rfl
  | succ j => exact List.getElem?_eq_getElem (l := vs) (by omega)

theorem mem_edges_iff (vs : List (Coo ℝ)) (e : Coo ℝ × Coo ℝ) :
    e ∈ edges vs ↔ ∃ i, ∃ hi : i < vs.length, e = (vs[prevIdx vs.length i]'(prevIdx_lt hi), vs[i]) := by
  rw [List.mem_iff_getElem?]
  constructor
  · rintro ⟨i, hi⟩
    have hlt : i < vs.length := by
      have := (List.getElem?_eq_some_iff.mp hi).1
      rwa [edges_length] at this
    rw [edges_getElem? vs i hlt] at hi
    exact ⟨i, hlt, (Option.some.inj hi).symm⟩
  · rintro ⟨i, hi, rfl⟩
    exact ⟨i, edges_getElem? vs i hi⟩

theorem mem_edges {vs : List (Coo ℝ)} {e : Coo ℝ × Coo ℝ} (h : e ∈ edges vs) : e.1 ∈ vs ∧ e.2 ∈ vs := by
  obtain ⟨i, hi, rfl⟩ := (mem_edges_iff vs e).mp h
  exact ⟨List.getElem_mem _, List.getElem_mem _⟩

/-- `compute_cross_products_v2` -/
theorem new_go_eq (left : Coo ℝ) (vs : List (Coo ℝ)) :
    Polygon.new.go left vs = (edgesFrom left vs).map (fun e => npCross e.1 e.2) := by
  induction vs generalizing left with
  | nil => rfl
  | cons v rest ih =>
    rw [Polygon.new.go, ih]
    simp only [edgesFrom, List.map_cons, r_lt, r_zero, npCross]
    congr 1
    by_cases h : (cross left v).2.2 < 0 <;> simp [h]

def oddB (n : Nat) : Bool := n % 2 == 1

theorem oddB_iff (n : Nat) : oddB n = true ↔ Odd n := by
  unfold oddB; rw [Nat.odd_iff]; simp

theorem oddB_succ (n : Nat) : oddB (n + 1) = !oddB n := by
  unfold oddB
  rcases Nat.mod_two_eq_zero_or_one n with h | h <;> simp [Nat.add_mod, h]

theorem odd_go_eq (coo left : Coo ℝ) (vs : List (Coo ℝ)) (c : Bool) :
    oddNumIntersectGoingSouth.go coo left vs ((edgesFrom left vs).map (fun e => npCross e.1 e.2)) c =
      xor c (oddB ((edgesFrom left vs).countP
        (fun e => isInLonRange coo e.1 e.2 && Num.gt (dot coo (npCross e.1 e.2)) (Num.zero : ℝ)))) := by
  induction vs generalizing left c with
  | nil => simp [edgesFrom, oddNumIntersectGoingSouth.go, oddB]
  | cons v rest ih =>
    simp only [edgesFrom, List.map_cons]
    rw [oddNumIntersectGoingSouth.go, ih, List.countP_cons]
    by_cases ht : (isInLonRange coo left v && Num.gt (dot coo (npCross left v)) (Num.zero : ℝ)) = true
    · simp only [ht, if_true]
      rw [oddB_succ]
      cases c <;> simp
    · simp only [ht, Bool.false_eq_true, if_false, Nat.add_zero]

/-- what `Polygon::new` builds besides the vertices -/
structure Polygon.Built (poly : Polygon ℝ) : Prop where
  cps : poly.crossProducts = (edges poly.vertices).map (fun e => npCross e.1 e.2)
  csp : poly.containsSouthPole = containsSouthPoleBasic poly.vertices

theorem fromSphCoo_inRange (dbg : Bool) (lon lat : ℝ) (h0 : 0 ≤ lon) (h1 : lon < 2 * π) (h2 : -(π / 2) ≤ lat)
    (h3 : lat ≤ π / 2) :
    fromSphCoo dbg lon lat = some { x := cos lat * cos lon, y := cos lat * sin lon, z := sin lat, lon := lon, lat := lat } := by
  unfold fromSphCoo vec3Of
  simp only [r_lt, r_le, r_zero, r_twicePi, r_hpi, r_cos, r_sin]
  have e1 : ¬ lon < 0 := not_lt.mpr h0
  have e2 : ¬ 2 * π ≤ lon := not_le.mpr h1
  have e3 : ¬ lat < -(π / 2) := not_lt.mpr h2
  have e4 : ¬ π / 2 < lat := not_lt.mpr h3
  simp [e1, e2, e3, e4]

noncomputable def cooOf (ll : ℝ × ℝ) : Coo ℝ :=
  { x := cos ll.2 * cos ll.1, y := cos ll.2 * sin ll.1, z := sin ll.2, lon := ll.1, lat := ll.2 }

theorem cooOf_valid (ll : ℝ × ℝ) (h0 : 0 ≤ ll.1) (h1 : ll.1 < 2 * π) (h2 : -(π / 2) ≤ ll.2) (h3 : ll.2 ≤ π / 2) :
    (cooOf ll).Valid := ⟨rfl, rfl, rfl, h0, h1, h2, h3⟩

theorem valid_map_cooOf {lls : List (ℝ × ℝ)} (h : ∀ ll ∈ lls, 0 ≤ ll.1 ∧ ll.1 < 2 * π ∧ -(π / 2) ≤ ll.2 ∧ ll.2 ≤ π / 2) :
    ∀ v ∈ lls.map cooOf, v.Valid := by
  intro v hv
  obtain ⟨ll, hll, rfl⟩ := List.mem_map.mp hv
  obtain ⟨a1, a2, a3, a4⟩ := h ll hll
  exact cooOf_valid ll a1 a2 a3 a4

theorem mapM_fromSphCoo (dbg : Bool) (lls : List (ℝ × ℝ))
    (h : ∀ ll ∈ lls, 0 ≤ ll.1 ∧ ll.1 < 2 * π ∧ -(π / 2) ≤ ll.2 ∧ ll.2 ≤ π / 2) :
    lls.mapM (fun ll => fromSphCoo dbg ll.1 ll.2) = some (lls.map cooOf) := by
  induction lls with
  | nil => rfl
  | cons ll rest ih =>
    have h' := h ll (by simp)
    rw [List.mapM_cons, fromSphCoo_inRange dbg ll.1 ll.2 h'.1 h'.2.1 h'.2.2.1 h'.2.2.2,
      ih (fun x hx => h x (by simp [hx]))]
    rfl

/-- **`Polygon::new` over the reals**: for positions in the canonical ranges (`Coo3D::from_sph_coo` does not renormalise)
    the vertices are the unit vectors of the positions, the normals are the north-pointing `±(v_{i-1} × v_i)`. -/
theorem polygon_new_real (dbg : Bool) (lls : List (ℝ × ℝ)) (hne : lls ≠ [])
    (h : ∀ ll ∈ lls, 0 ≤ ll.1 ∧ ll.1 < 2 * π ∧ -(π / 2) ≤ ll.2 ∧ ll.2 ≤ π / 2) :
    ∃ poly, Polygon.new dbg lls = some poly ∧ poly.vertices = lls.map cooOf ∧ poly.Built := by
  unfold Polygon.new
  rw [mapM_fromSphCoo dbg lls h]
  simp only
  cases hl : (lls.map cooOf).getLast? with
  | none => simp at hl; exact absurd hl hne
  | some last =>
    refine ⟨_, rfl, rfl, ?_, rfl⟩
    simp only [edges, hl, new_go_eq]

/-- `contains`, with no hypothesis: the stored flag `xor` the parity of the number of edges that pass the two tests -/
theorem contains_eq_count (poly : Polygon ℝ) (hb : poly.Built) (p : Coo ℝ) :
    poly.contains p = xor (containsSouthPoleBasic poly.vertices)
      (oddB ((edges poly.vertices).countP
        (fun e => isInLonRange p e.1 e.2 && Num.gt (dot p (npCross e.1 e.2)) (Num.zero : ℝ)))) := by
  unfold Polygon.contains
  rw [hb.csp]
  congr 1
  unfold oddNumIntersectGoingSouth
  rw [hb.cps]
  unfold edges
  cases hl : poly.vertices.getLast? with
  | none => simp [oddB]
  | some last =>
    simp only
    rw [odd_go_eq, Bool.false_xor]

open Classical in
/-- **`contains` is the crossing parity.**  For a polygon as built by `Polygon::new` whose vertices are not poles and
    none of whose edges joins two opposite meridians, and a point whose meridian passes through no vertex:
    `contains` is the `xor` of the stored south-pole flag with "the number of edges whose great-circle arc crosses the
    meridian of `p` strictly south of `p` is odd".  Every number of vertices (0 included: no edge). -/
theorem contains_parity (poly : Polygon ℝ) (hb : poly.Built) (hv : ∀ v ∈ poly.vertices, v.Valid ∧ v.NonPole)
    (hopp : ∀ e ∈ edges poly.vertices, |e.2.lon - e.1.lon| ≠ π) (p : Coo ℝ) (hp : p.Valid)
    (hgen : ∀ v ∈ poly.vertices, p.lon ≠ v.lon) :
    poly.contains p = xor poly.containsSouthPole
      (oddB ((edges poly.vertices).countP (fun e => decide (CrossesSouth e.1 e.2 p)))) := by
  rw [contains_eq_count poly hb, ← hb.csp]
  congr 2
  apply List.countP_congr
  intro e he
  have hm := mem_edges he
  rw [crossing_test_geometric (hv _ hm.1).1 (hv _ hm.2).1 hp (hv _ hm.1).2 (hv _ hm.2).2 (hopp e he) (hgen _ hm.1)
    (hgen _ hm.2)]
  simp

end Hpx.Sph
