/-
C14 (internal part), for every `delta_depth`: the internal edge of a cell is exactly its ring of border descendants.
Masks, `internal_edge`, `internal_corner`, `internal_edge_part` as explicit lists of `hash·4^dd + interleave x y`.
(The sorted variant is in `EdgeInternalSorted.lean`.)
-/
import HpxVerif.Model.Topo
import HpxVerif.Lemmas.BitsLemmas
import HpxVerif.Lemmas.UniqLemmas
import HpxVerif.Lemmas.LayerBmi

namespace Hpx.EdgeInternal
open Hpx Hpx.Topo

theorem or_eq_add_of_and_eq_zero (a b : Nat) (h : a &&& b = 0) : a ||| b = a + b := by
  induction a using Nat.strongRecOn generalizing b with
  | _ a ih =>
    by_cases ha : a = 0
    · subst ha; simp
    · have h2 : a / 2 &&& b / 2 = 0 := by rw [← Nat.and_div_two, h]
      have ih' := ih (a / 2) (by omega) (b / 2) h2
      have hd : (a ||| b) / 2 = a / 2 + b / 2 := by rw [Nat.or_div_two, ih']
      have hm1 : ¬ ((a &&& b) % 2 = 1) := by rw [h]; decide
      rw [Nat.and_mod_two_eq_one] at hm1
      have hm2 := @Nat.or_mod_two_eq_one a b
      omega

theorem interleave_eq_add (x y : Nat) : interleave x y = spreadN 32 x + 2 * spreadN 32 y := by
  unfold interleave
  rw [or_eq_add_of_and_eq_zero, Nat.shiftLeft_eq]; · omega
  apply Nat.eq_of_testBit_eq; intro p
  obtain ⟨q, rfl | rfl⟩ := parity_cases p
  · rw [Nat.testBit_and, Nat.testBit_shiftLeft]
    by_cases hq : q = 0
    · subst hq; simp
    · have : 2 * q - 1 = 2 * (q - 1) + 1 := by omega
      rw [this, testBit_spreadN_odd]; simp
  · rw [Nat.testBit_and, testBit_spreadN_odd]; simp

theorem interleave_zero_right (a : Nat) : interleave a 0 = spreadN 32 a := by simp [interleave]
theorem interleave_zero_left (a : Nat) : interleave 0 a = spreadN 32 a <<< 1 := by simp [interleave]

theorem interleave_lt_64 (a b : Nat) : interleave a b < 2 ^ 64 := by
  rw [interleave_eq_add]
  have h1 := three_spreadN_lt 32 a
  have h2 := three_spreadN_lt 32 b
  have : (4:Nat) ^ 32 = 2 ^ 64 := by decide
  omega

theorem interleave_or (a b c d : Nat) : interleave a b ||| interleave c d = interleave (a ||| c) (b ||| d) := by
  apply Nat.eq_of_testBit_eq; intro p
  obtain ⟨q, rfl | rfl⟩ := parity_cases p
  · simp only [Nat.testBit_or, testBit_interleave_even]; cases decide (q < 32) <;> simp
  · simp only [Nat.testBit_or, testBit_interleave_odd]; cases decide (q < 32) <;> simp

theorem interleave_and (a b c d : Nat) : interleave a b &&& interleave c d = interleave (a &&& c) (b &&& d) := by
  apply Nat.eq_of_testBit_eq; intro p
  obtain ⟨q, rfl | rfl⟩ := parity_cases p
  · simp only [Nat.testBit_and, testBit_interleave_even]; cases decide (q < 32) <;> simp
  · simp only [Nat.testBit_and, testBit_interleave_odd]; cases decide (q < 32) <;> simp

theorem and_xmask {dd x : Nat} (hx : x < 2 ^ dd) (y : Nat) :
    interleave x y &&& interleave (2 ^ dd - 1) 0 = interleave x 0 := by
  rw [interleave_and, Nat.and_two_pow_sub_one_eq_mod, Nat.mod_eq_of_lt hx, Nat.and_zero]

theorem and_ymask {dd y : Nat} (hy : y < 2 ^ dd) (x : Nat) :
    interleave x y &&& interleave 0 (2 ^ dd - 1) = interleave 0 y := by
  rw [interleave_and, Nat.and_two_pow_sub_one_eq_mod, Nat.mod_eq_of_lt hy, Nat.and_zero]

theorem interleave_shl (a : Nat) : (interleave a 0 <<< 1) % 2 ^ 64 = interleave 0 a := by
  rw [interleave_zero_right, ← interleave_zero_left, Nat.mod_eq_of_lt (interleave_lt_64 _ _)]

theorem interleave_shr (a : Nat) : interleave 0 a >>> 1 = interleave a 0 := by
  rw [interleave_zero_right, interleave_zero_left, Nat.shiftLeft_shiftRight]

theorem x55_eq : (0x5555555555555555 : Nat) = interleave (2 ^ 32 - 1) 0 := by decide +kernel
theorem xAA_eq : (0xAAAAAAAAAAAAAAAA : Nat) = interleave 0 (2 ^ 32 - 1) := by decide +kernel

theorem ones_shr {n k : Nat} (h : k ≤ n) : (2 ^ n - 1) >>> (n - k) = 2 ^ k - 1 := by
  apply Nat.eq_of_testBit_eq; intro q
  rw [Nat.testBit_shiftRight, Nat.testBit_two_pow_sub_one, Nat.testBit_two_pow_sub_one, decide_eq_decide]
  omega

theorem x55_shr (dd : Nat) (h : dd ≤ 32) : (0x5555555555555555 : Nat) >>> (64 - 2 * dd) = interleave (2 ^ dd - 1) 0 := by
  rw [x55_eq, show 64 - 2 * dd = 2 * (32 - dd) by omega, interleave_shiftRight (by decide) (by decide), ones_shr h,
    Nat.zero_shiftRight]

theorem xAA_shr (dd : Nat) (h : dd ≤ 32) : (0xAAAAAAAAAAAAAAAA : Nat) >>> (64 - 2 * dd) = interleave 0 (2 ^ dd - 1) := by
  rw [xAA_eq, show 64 - 2 * dd = 2 * (32 - dd) by omega, interleave_shiftRight (by decide) (by decide), ones_shr h,
    Nat.zero_shiftRight]

theorem xFF_shr (dd : Nat) (h : dd ≤ 32) : (0xFFFFFFFFFFFFFFFF : Nat) >>> (64 - 2 * dd) = 4 ^ dd - 1 := by
  rw [four_pow]
  exact ones_shr (n := 64) (by omega)

theorem interleave_max (dd : Nat) (h : dd ≤ 32) : interleave (2 ^ dd - 1) (2 ^ dd - 1) = 4 ^ dd - 1 := by
  rw [four_pow]
  apply Nat.eq_of_testBit_eq; intro p
  obtain ⟨q, rfl | rfl⟩ := parity_cases p
  · rw [testBit_interleave_even, Nat.testBit_two_pow_sub_one, Nat.testBit_two_pow_sub_one, ← Bool.decide_and,
      decide_eq_decide]
    omega
  · rw [testBit_interleave_odd, Nat.testBit_two_pow_sub_one, Nat.testBit_two_pow_sub_one, ← Bool.decide_and,
      decide_eq_decide]
    omega

theorem xyMask_spec (cfg : Cfg) (dd : Nat) (h2 : dd ≤ 32) :
    xyMaskFn cfg dd = some (4 ^ dd - 1) := by
  by_cases h0 : dd = 0
  · subst h0; rfl
  · simp [xyMaskFn, h0, xFF_shr dd h2]

theorem x55_and (dd : Nat) (h : dd ≤ 32) : (0x5555555555555555 : Nat) &&& (4 ^ dd - 1) = interleave (2 ^ dd - 1) 0 := by
  have : 2 ^ dd - 1 < 2 ^ 32 := by
    have := Nat.two_pow_pos dd; have := Nat.pow_le_pow_right (n := 2) (by decide) h; omega
  rw [x55_eq, ← interleave_max dd h, interleave_and, Nat.zero_and, Nat.and_comm, Nat.and_two_pow_sub_one_eq_mod,
    Nat.mod_eq_of_lt this]

theorem xAA_and (dd : Nat) (h : dd ≤ 32) : (0xAAAAAAAAAAAAAAAA : Nat) &&& (4 ^ dd - 1) = interleave 0 (2 ^ dd - 1) := by
  have : 2 ^ dd - 1 < 2 ^ 32 := by
    have := Nat.two_pow_pos dd; have := Nat.pow_le_pow_right (n := 2) (by decide) h; omega
  rw [xAA_eq, ← interleave_max dd h, interleave_and, Nat.zero_and, Nat.and_comm (2 ^ 32 - 1),
    Nat.and_two_pow_sub_one_eq_mod, Nat.mod_eq_of_lt this]

/-- at `dd = 0` the empty mask (finding F25) -/
theorem xMask_spec0 (cfg : Cfg) (dd : Nat) (h2 : dd ≤ 32) :
    xMaskFn cfg dd = some (interleave (2 ^ dd - 1) 0) := by
  simp [xMaskFn, xyMask_spec cfg dd h2, x55_and dd h2]

theorem yMask_spec0 (cfg : Cfg) (dd : Nat) (h2 : dd ≤ 32) :
    yMaskFn cfg dd = some (interleave 0 (2 ^ dd - 1)) := by
  simp [yMaskFn, xyMask_spec cfg dd h2, xAA_and dd h2]

theorem xMask_eq_spreadN (dd : Nat) (h2 : dd ≤ 32) : interleave (2 ^ dd - 1) 0 = spreadN dd (2 ^ dd - 1) := by
  rw [interleave_zero_right]
  exact spreadN_of_lt (by have := Nat.two_pow_pos dd; omega) h2

theorem hash_shl (hash dd : Nat) (hh : hash < 2 ^ (64 - 2 * dd)) (hd : dd ≤ 32) :
    (hash <<< (2 * dd)) % 2 ^ 64 = hash * 4 ^ dd := by
  rw [Nat.shiftLeft_eq, four_pow]
  apply Nat.mod_eq_of_lt
  calc hash * 2 ^ (2 * dd) < 2 ^ (64 - 2 * dd) * 2 ^ (2 * dd) := Nat.mul_lt_mul_of_pos_right hh (Nat.two_pow_pos _)
    _ = 2 ^ 64 := by rw [← Nat.pow_add]; congr 1; omega

theorem or_eq_add (hash dd v : Nat) (hv : v < 4 ^ dd) : hash * 4 ^ dd ||| v = hash * 4 ^ dd + v := by
  rw [four_pow] at *
  rw [Nat.mul_comm, Nat.two_pow_add_eq_or_of_lt hv]

theorem lt_pow_of_le {a b : Nat} (h : a ≤ b) {k : Nat} (hk : k < 2 ^ a) : k < 2 ^ b :=
  Nat.lt_of_lt_of_le hk (Nat.pow_le_pow_right (by decide) h)

theorem i02hDD_any (cfg : Cfg) (dd k : Nat) (hd : dd ≤ 29) (hk : k < 2 ^ dd) : i02hDD cfg dd k = some (interleave k 0) := by
  obtain ⟨c, hc, hdc⟩ := LayerBmi.zoc_curve cfg dd hd
  rw [i02hDD, hc, Option.map_some, bmi_i02h_eq, lut_i02h_spec, ite_self, interleave_zero_right,
    spreadN_of_lt (lt_pow_of_le hdc hk) c.bits_le]

theorem oj2hDD_any (cfg : Cfg) (dd k : Nat) (hd : dd ≤ 29) (hk : k < 2 ^ dd) : oj2hDD cfg dd k = some (interleave 0 k) := by
  obtain ⟨c, hc, hdc⟩ := LayerBmi.zoc_curve cfg dd hd
  rw [oj2hDD, hc, Option.map_some, bmi_oj2h_eq, lut_oj2h_eq, ite_self, interleave_zero_left,
    spreadN_of_lt (lt_pow_of_le hdc hk) c.bits_le]

def cellVal (hash dd : Nat) (c : Nat × Nat) : Nat := hash * 4 ^ dd + interleave c.1 c.2

theorem interleave_lt_pow {dd x y : Nat} (hd : dd ≤ 32) (hx : x < 2 ^ dd) (hy : y < 2 ^ dd) : interleave x y < 4 ^ dd :=
  interleave_lt hx hy

theorem or_or_cell (hash dd a b c d x y : Nat) (hx : x < 2 ^ dd) (hy : y < 2 ^ dd)
    (ex : a ||| c = x) (ey : b ||| d = y) :
    hash * 4 ^ dd ||| interleave a b ||| interleave c d = cellVal hash dd (x, y) := by
  rw [Nat.or_assoc, interleave_or, ex, ey, or_eq_add _ _ _ (interleave_lt hx hy)]; rfl

/-- the shape in which the code combines a side `y` with a side `x` -/
theorem or_yx_cell (hash dd y x : Nat) (hx : x < 2 ^ dd) (hy : y < 2 ^ dd) :
    hash * 4 ^ dd ||| interleave 0 y ||| interleave x 0 = cellVal hash dd (x, y) :=
  or_or_cell hash dd 0 y x 0 x y hx hy (Nat.zero_or x) (Nat.or_zero y)

theorem or_cell (hash dd x y : Nat) (hx : x < 2 ^ dd) (hy : y < 2 ^ dd) :
    hash * 4 ^ dd ||| interleave x y = cellVal hash dd (x, y) := by
  rw [or_eq_add _ _ _ (interleave_lt hx hy)]; rfl

theorem mapM_some_of_forall {α β : Type} (g : α → Option β) (f : α → β) (ks : List α)
    (h : ∀ k ∈ ks, g k = some (f k)) : ks.mapM g = some (ks.map f) := by
  induction ks with
  | nil => rfl
  | cons a l ih =>
    rw [List.mapM_cons, h a (by simp), ih (fun k hk => h k (by simp [hk]))]
    rfl

/-- the inner indices `1 .. N−2` of a side (`1..am1` in the code) -/
def ks (dd : Nat) : List Nat := (List.range (2 ^ dd - 1)).drop 1

/-- in-cell coordinates of the ring, in the order of `internal_edge`: south corner, SE side towards east, east corner,
    NE side towards north, north corner, NW side towards west, west corner, SW side back towards south -/
def edgeCoords (dd : Nat) : List (Nat × Nat) :=
  let m := 2 ^ dd - 1
  [(0, 0)] ++ (ks dd).map (fun k => (k, 0)) ++ [(m, 0)] ++ (ks dd).map (fun k => (m, k))
    ++ [(m, m)] ++ (ks dd).map (fun k => (m - k, m)) ++ [(0, m)] ++ (ks dd).map (fun k => (0, m - k))

theorem two_le_pow {dd : Nat} (h1 : 1 ≤ dd) : 2 ≤ 2 ^ dd :=
  calc 2 = 2 ^ 1 := rfl
    _ ≤ 2 ^ dd := Nat.pow_le_pow_right (by decide) h1

theorem mem_ks {dd k : Nat} (h : k ∈ ks dd) : 1 ≤ k ∧ k < 2 ^ dd - 1 := by
  unfold ks at h
  rw [List.mem_iff_getElem] at h
  obtain ⟨i, hi, rfl⟩ := h
  simp at hi ⊢
  omega

theorem internalEdge_spec (cfg : Cfg) (hash dd : Nat) (hd : dd ≤ 29)
    (hh : hash < 2 ^ (64 - 2 * dd)) :
    internalEdge cfg hash dd = some ((edgeCoords dd).map (cellVal hash dd)) := by
  obtain ⟨c, hc, hdc⟩ := LayerBmi.zoc_curve cfg dd hd
  have hd32 : dd ≤ 32 := by omega
  have hN := Nat.two_pow_pos dd
  have hm : 2 ^ dd - 1 < 2 ^ dd := by omega
  unfold internalEdge
  rw [hc, xMask_spec0 cfg dd hd32]
  simp only [Option.bind_eq_bind, Option.bind_some, interleave_shl, hash_shl hash dd hh hd32, Nat.one_shiftLeft]
  rw [mapM_some_of_forall _ (fun k => cellVal hash dd (k, 0)), Option.bind_some,
    mapM_some_of_forall _ (fun k => cellVal hash dd (2 ^ dd - 1, k)), Option.bind_some,
    mapM_some_of_forall _ (fun k => cellVal hash dd (2 ^ dd - 1 - k, 2 ^ dd - 1)), Option.bind_some,
    mapM_some_of_forall _ (fun k => cellVal hash dd (0, 2 ^ dd - 1 - k)), Option.bind_some]
  · have e1 : hash * 4 ^ dd = cellVal hash dd (0, 0) := by simp [cellVal, interleave]
    have e2 := or_cell hash dd (2 ^ dd - 1) 0 hm (by omega)
    have e3 := or_cell hash dd 0 (2 ^ dd - 1) (by omega) hm
    have e4 := or_yx_cell hash dd (2 ^ dd - 1) (2 ^ dd - 1) hm hm
    rw [e4, e2, e3]
    conv => lhs; rw [e1]
    simp [edgeCoords, ks, Function.comp_def]
  · intro k hk
    have := mem_ks hk
    rw [oj2hDD_any cfg dd _ hd (by omega), Option.map_some, or_cell hash dd 0 _ (by omega) (by omega)]
  · intro k hk
    have := mem_ks hk
    rw [i02hDD_any cfg dd _ hd (by omega), Option.map_some,
      or_yx_cell hash dd (2 ^ dd - 1) (2 ^ dd - 1 - k) (by omega) hm]
  · intro k hk
    have := mem_ks hk
    rw [oj2hDD_any cfg dd _ hd (by omega), Option.map_some,
      or_yx_cell hash dd k (2 ^ dd - 1) hm (by omega)]
  · intro k hk
    have := mem_ks hk
    rw [i02hDD_any cfg dd _ hd (by omega), Option.map_some, or_cell hash dd k 0 (by omega) (by omega)]

def ringCoord (dd t : Nat) : Nat × Nat :=
  let m := 2 ^ dd - 1
  if t < m then (t, 0) else if t < 2 * m then (m, t - m) else if t < 3 * m then (3 * m - t, m) else (0, 4 * m - t)

theorem head_map_drop {α : Type} (g : Nat → α) (m : Nat) (hm : 1 ≤ m) (c : α) (hc : c = g 0) :
    [c] ++ ((List.range m).drop 1).map g = (List.range m).map g := by
  obtain ⟨m', rfl⟩ : ∃ m', m = m' + 1 := ⟨m - 1, by omega⟩
  rw [List.range_succ_eq_map, hc]; simp

theorem head_map_drop' {α : Type} (g : Nat → α) (m : Nat) (hm : 1 ≤ m) (c : α) (hc : c = g 0) (rest : List α) :
    [c] ++ (((List.range m).drop 1).map g ++ rest) = (List.range m).map g ++ rest := by
  rw [← List.append_assoc, head_map_drop g m hm c hc]

theorem range_four (m : Nat) : List.range (4 * m) =
    List.range m ++ (List.range m).map (m + ·) ++ (List.range m).map (2 * m + ·) ++ (List.range m).map (3 * m + ·) := by
  rw [show 4 * m = m + m + m + m by omega, List.range_add, List.range_add, List.range_add]
  simp only [show m + m = 2 * m by omega, show 2 * m + m = 3 * m by omega]

/-! In the lemmas on `ringCoord`, `M = N − 1` is a variable tied to `dd` by `hM`, so that the arithmetic is linear. -/

theorem ringCoord_eq {dd M : Nat} (hM : 2 ^ dd - 1 = M) (t : Nat) : ringCoord dd t =
    if t < M then (t, 0) else if t < 2 * M then (M, t - M) else if t < 3 * M then (3 * M - t, M) else (0, 4 * M - t) := by
  subst hM; rfl

/-- both ends of a side included (`k ≤ M`): a corner ends one side and starts the next, and index `4M` is the south corner
    again -/
theorem ringCoord_side {dd M k : Nat} (hM : 2 ^ dd - 1 = M) (hk : k ≤ M) :
    ringCoord dd k = (k, 0) ∧ ringCoord dd (M + k) = (M, k) ∧ ringCoord dd (2 * M + k) = (M - k, M) ∧
      ringCoord dd (3 * M + k) = (0, M - k) := by
  simp only [ringCoord_eq hM]
  refine ⟨?_, ?_, ?_, ?_⟩ <;> (repeat' split) <;> simp only [Prod.mk.injEq, and_true, true_and] <;> omega

theorem edgeCoords_eq (dd : Nat) (h1 : 1 ≤ dd) :
    edgeCoords dd = (List.range (4 * (2 ^ dd - 1))).map (ringCoord dd) := by
  have hm : 1 ≤ 2 ^ dd - 1 := by have := two_le_pow h1; omega
  unfold edgeCoords ks
  simp only [List.append_assoc]
  rw [head_map_drop' (fun k => (k, 0)) _ hm _ rfl, head_map_drop' (fun k => (2 ^ dd - 1, k)) _ hm _ rfl,
    head_map_drop' (fun k => (2 ^ dd - 1 - k, 2 ^ dd - 1)) _ hm (2 ^ dd - 1, 2 ^ dd - 1) rfl,
    head_map_drop (fun k => (0, 2 ^ dd - 1 - k)) _ hm (0, 2 ^ dd - 1) rfl]
  rw [range_four, List.map_append, List.map_append, List.map_append, List.map_map, List.map_map, List.map_map]
  simp only [List.append_assoc]
  congr 1; rotate_left; congr 1; rotate_left; congr 1
  all_goals
    apply List.map_congr_left
    intro k hk
    obtain ⟨s1, s2, s3, s4⟩ := ringCoord_side rfl (Nat.le_of_lt (List.mem_range.1 hk))
  · exact s3.symm
  · exact s4.symm
  · exact s1.symm
  · exact s2.symm

theorem ringCoord_cases {dd M : Nat} (hM : 2 ^ dd - 1 = M) (t : Nat) (ht : t < 4 * M) :
    ∃ k, k < M ∧ ((t = k ∧ ringCoord dd t = (k, 0)) ∨ (t = M + k ∧ ringCoord dd t = (M, k)) ∨
      (t = 2 * M + k ∧ ringCoord dd t = (M - k, M)) ∨ (t = 3 * M + k ∧ ringCoord dd t = (0, M - k))) := by
  have side := fun k (hk : k < M) => ringCoord_side hM (Nat.le_of_lt hk)
  by_cases c1 : t < M
  · exact ⟨t, c1, Or.inl ⟨rfl, (side t c1).1⟩⟩
  by_cases c2 : t < 2 * M
  · obtain ⟨k, rfl⟩ : ∃ k, t = M + k := ⟨t - M, by omega⟩
    exact ⟨k, by omega, Or.inr (Or.inl ⟨rfl, (side k (by omega)).2.1⟩)⟩
  by_cases c3 : t < 3 * M
  · obtain ⟨k, rfl⟩ : ∃ k, t = 2 * M + k := ⟨t - 2 * M, by omega⟩
    exact ⟨k, by omega, Or.inr (Or.inr (Or.inl ⟨rfl, (side k (by omega)).2.2.1⟩))⟩
  · obtain ⟨k, rfl⟩ : ∃ k, t = 3 * M + k := ⟨t - 3 * M, by omega⟩
    exact ⟨k, by omega, Or.inr (Or.inr (Or.inr ⟨rfl, (side k (by omega)).2.2.2⟩))⟩

def edgeList (hash dd : Nat) : List Nat := (edgeCoords dd).map (cellVal hash dd)

theorem edgeList_eq (hash dd : Nat) (h1 : 1 ≤ dd) :
    edgeList hash dd = (List.range (4 * (2 ^ dd - 1))).map (fun t => cellVal hash dd (ringCoord dd t)) := by
  rw [edgeList, edgeCoords_eq dd h1, List.map_map]; rfl

theorem internalEdge_length (hash dd : Nat) (h1 : 1 ≤ dd) : (edgeList hash dd).length = 4 * 2 ^ dd - 4 := by
  rw [edgeList_eq hash dd h1]; simp; omega

def onBorder (dd x y : Nat) : Prop := x < 2 ^ dd ∧ y < 2 ^ dd ∧ (x = 0 ∨ x = 2 ^ dd - 1 ∨ y = 0 ∨ y = 2 ^ dd - 1)

theorem ringCoord_border (dd t : Nat) (ht : t < 4 * (2 ^ dd - 1)) :
    onBorder dd (ringCoord dd t).1 (ringCoord dd t).2 := by
  obtain ⟨M, hM⟩ : ∃ M, 2 ^ dd - 1 = M := ⟨_, rfl⟩
  simp only [onBorder, hM] at ht ⊢
  obtain ⟨k, _, ⟨_, e⟩ | ⟨_, e⟩ | ⟨_, e⟩ | ⟨_, e⟩⟩ := ringCoord_cases hM t ht <;> rw [e] <;> dsimp only <;> omega

theorem ringCoord_inj (dd t t' : Nat) (ht : t < 4 * (2 ^ dd - 1)) (ht' : t' < 4 * (2 ^ dd - 1))
    (e : ringCoord dd t = ringCoord dd t') : t = t' := by
  obtain ⟨M, hM⟩ : ∃ M, 2 ^ dd - 1 = M := ⟨_, rfl⟩
  rw [hM] at ht ht'
  have c := ringCoord_cases hM t ht
  have c' := ringCoord_cases hM t' ht'
  clear hM
  obtain ⟨k, _, ⟨_, e1⟩ | ⟨_, e1⟩ | ⟨_, e1⟩ | ⟨_, e1⟩⟩ := c <;>
  obtain ⟨k', _, ⟨_, e2⟩ | ⟨_, e2⟩ | ⟨_, e2⟩ | ⟨_, e2⟩⟩ := c' <;>
  rw [e1, e2, Prod.mk.injEq] at e <;> omega

theorem ringCoord_surj (dd x y : Nat) (h1 : 1 ≤ dd) (hb : onBorder dd x y) :
    ∃ t, t < 4 * (2 ^ dd - 1) ∧ ringCoord dd t = (x, y) := by
  have hN := two_le_pow h1
  obtain ⟨M, hM⟩ : ∃ M, 2 ^ dd - 1 = M := ⟨_, rfl⟩
  have side := fun k hk => ringCoord_side (k := k) hM hk
  have hM0 : 0 < M := by omega
  simp only [onBorder, hM] at hb ⊢
  obtain ⟨hx, hy, hb⟩ := hb
  have hx : x ≤ M := by omega
  have hy : y ≤ M := by omega
  clear hN hM
  -- only the side that ends at index `4M` needs its end (the south corner, index `0`) apart
  rcases hb with rfl | rfl | rfl | rfl
  · by_cases c : y = 0
    · exact ⟨0, by omega, c ▸ (side 0 hx).1⟩
    · exact ⟨3 * M + (M - y), by omega, by rw [(side (M - y) (by omega)).2.2.2, show M - (M - y) = y by omega]⟩
  · exact ⟨x + y, by omega, (side y hy).2.1⟩
  · exact ⟨x, by omega, (side x hx).1⟩
  · exact ⟨2 * y + (y - x), by omega, by rw [(side (y - x) (by omega)).2.2.1, show y - (y - x) = x by omega]⟩

theorem cellVal_inj (hash dd : Nat) (c c' : Nat × Nat) (h1 : c.1 < 2 ^ 32) (h2 : c.2 < 2 ^ 32) (h1' : c'.1 < 2 ^ 32)
    (h2' : c'.2 < 2 ^ 32) (e : cellVal hash dd c = cellVal hash dd c') : c = c' := by
  have e' : interleave c.1 c.2 = interleave c'.1 c'.2 := by simp only [cellVal] at e; omega
  have ei := congrArg (squeezeN 32) e'
  have ej := congrArg (fun z => squeezeN 32 (z / 2)) e'
  simp only [squeezeN_interleave (Nat.le_refl 32), squeezeN_interleave_half (Nat.le_refl 32)] at ei ej
  rw [Nat.mod_eq_of_lt h1, Nat.mod_eq_of_lt h1'] at ei
  rw [Nat.mod_eq_of_lt h2, Nat.mod_eq_of_lt h2'] at ej
  exact Prod.ext ei ej

theorem internalEdge_nodup (hash dd : Nat) (h1 : 1 ≤ dd) (hd : dd ≤ 32) : (edgeList hash dd).Nodup := by
  rw [edgeList_eq hash dd h1, List.Nodup, List.pairwise_map]
  refine List.Pairwise.imp_of_mem ?_ (List.nodup_range (n := 4 * (2 ^ dd - 1)))
  intro a b ha hb hab e
  have ha := List.mem_range.1 ha
  have hb := List.mem_range.1 hb
  have ba := ringCoord_border dd a ha
  have bb := ringCoord_border dd b hb
  exact hab (ringCoord_inj dd a b ha hb (cellVal_inj hash dd _ _ (lt_pow_of_le hd ba.1) (lt_pow_of_le hd ba.2.1)
    (lt_pow_of_le hd bb.1) (lt_pow_of_le hd bb.2.1) e))

theorem internalEdge_mem (hash dd h' : Nat) (h1 : 1 ≤ dd) :
    h' ∈ edgeList hash dd ↔ ∃ x y, x < 2 ^ dd ∧ y < 2 ^ dd ∧ (x = 0 ∨ x = 2 ^ dd - 1 ∨ y = 0 ∨ y = 2 ^ dd - 1) ∧
      h' = hash * 4 ^ dd + interleave x y := by
  rw [edgeList_eq hash dd h1, List.mem_map]
  constructor
  · rintro ⟨t, ht, rfl⟩
    have b := ringCoord_border dd t (List.mem_range.1 ht)
    exact ⟨_, _, b.1, b.2.1, b.2.2, rfl⟩
  · rintro ⟨x, y, hx, hy, hb, rfl⟩
    obtain ⟨t, ht, e⟩ := ringCoord_surj dd x y h1 ⟨hx, hy, hb⟩
    exact ⟨t, List.mem_range.2 ht, by rw [e]; rfl⟩

theorem edgeList_getElem? (hash dd t : Nat) (h1 : 1 ≤ dd) (ht : t < 4 * (2 ^ dd - 1)) :
    (edgeList hash dd)[t]? = some (cellVal hash dd (ringCoord dd t)) := by
  rw [edgeList_eq hash dd h1]; simp [ht]

theorem internalEdge_walk (hash dd : Nat) (h1 : 1 ≤ dd) :
    (edgeList hash dd)[0]? = some (hash * 4 ^ dd) ∧
    (edgeList hash dd)[2 ^ dd - 1]? = some (hash * 4 ^ dd + interleave (2 ^ dd - 1) 0) ∧
    (edgeList hash dd)[2 * (2 ^ dd - 1)]? = some (hash * 4 ^ dd + interleave (2 ^ dd - 1) (2 ^ dd - 1)) ∧
    (edgeList hash dd)[3 * (2 ^ dd - 1)]? = some (hash * 4 ^ dd + interleave 0 (2 ^ dd - 1)) ∧
    ∀ t, t < (edgeList hash dd).length → ∃ x y x' y',
      (edgeList hash dd)[t]? = some (hash * 4 ^ dd + interleave x y) ∧
      (edgeList hash dd)[(t + 1) % (edgeList hash dd).length]? = some (hash * 4 ^ dd + interleave x' y') ∧
      onBorder dd x y ∧ onBorder dd x' y' ∧
      ((x' = x ∧ (y' = y + 1 ∨ y' + 1 = y)) ∨ (y' = y ∧ (x' = x + 1 ∨ x' + 1 = x))) := by
  have hN := two_le_pow h1
  obtain ⟨M, hM⟩ : ∃ M, 2 ^ dd - 1 = M := ⟨_, rfl⟩
  have side := fun k hk => ringCoord_side (k := k) hM hk
  obtain ⟨s1, s2, s3, s4⟩ := side 0 (by omega)
  have get := fun t ht => edgeList_getElem? hash dd t h1 ht
  rw [internalEdge_length hash dd h1]
  simp only [hM, onBorder] at get ⊢
  refine ⟨?_, ?_, ?_, ?_, ?_⟩
  · rw [get 0 (by omega), s1]; simp [cellVal, interleave]
  · rw [get M (by omega), ← Nat.add_zero M, s2]; rfl
  · rw [get _ (by omega), ← Nat.add_zero (2 * M), s3]; rfl
  · rw [get _ (by omega), ← Nat.add_zero (3 * M), s4]; rfl
  · intro t ht
    have hm : (t + 1) % (4 * 2 ^ dd - 4) < 4 * M := by
      have := Nat.mod_lt (t + 1) (show 0 < 4 * 2 ^ dd - 4 by omega); omega
    have bd := ringCoord_border dd
    simp only [hM, onBorder] at bd
    refine ⟨_, _, _, _, get t (by omega), get _ hm, bd t (by omega), bd _ hm, ?_⟩
    -- index `4M` is index `0`, so `t` and its successor lie on one side, ends included
    have e0 : ringCoord dd ((t + 1) % (4 * 2 ^ dd - 4)) = ringCoord dd (t + 1) := by
      by_cases hl : t + 1 = 4 * 2 ^ dd - 4
      · rw [hl, Nat.mod_self, s1, show 4 * 2 ^ dd - 4 = 3 * M + M by omega, (side M (Nat.le_refl M)).2.2.2, Nat.sub_self]
      · rw [Nat.mod_eq_of_lt (by omega)]
    obtain ⟨k, hk, ⟨rfl, e⟩ | ⟨rfl, e⟩ | ⟨rfl, e⟩ | ⟨rfl, e⟩⟩ := ringCoord_cases hM t (by omega)
    · rw [e0, e, (side (t + 1) hk).1]; dsimp only; omega
    · rw [e0, e, Nat.add_assoc, (side (k + 1) hk).2.1]; dsimp only; omega
    · rw [e0, e, Nat.add_assoc, (side (k + 1) hk).2.2.1]; dsimp only; omega
    · rw [e0, e, Nat.add_assoc, (side (k + 1) hk).2.2.2]; dsimp only; omega

/-- needs `dd ≤ 32` only (no curve is consulted); at `dd = 0` every corner is the cell itself -/
theorem internalCorner_spec (cfg : Cfg) (hash dd : Nat) (hd : dd ≤ 32) (hh : hash < 2 ^ (64 - 2 * dd)) :
    internalCorner cfg hash dd MW.S = some (hash * 4 ^ dd + interleave 0 0) ∧
    internalCorner cfg hash dd MW.E = some (hash * 4 ^ dd + interleave (2 ^ dd - 1) 0) ∧
    internalCorner cfg hash dd MW.W = some (hash * 4 ^ dd + interleave 0 (2 ^ dd - 1)) ∧
    internalCorner cfg hash dd MW.N = some (hash * 4 ^ dd + interleave (2 ^ dd - 1) (2 ^ dd - 1)) ∧
    (∀ dir, dir ≠ MW.S → dir ≠ MW.E → dir ≠ MW.W → dir ≠ MW.N → internalCorner cfg hash dd dir = none) := by
  have hN := Nat.two_pow_pos dd
  have hm : 2 ^ dd - 1 < 2 ^ dd := by omega
  have hmax : 4 ^ dd - 1 < 4 ^ dd := by have := Nat.pow_pos (n := dd) (show 0 < 4 by decide); omega
  refine ⟨?_, ?_, ?_, ?_, ?_⟩
  · simp [internalCorner, hash_shl hash dd hh hd, interleave]
  · simp only [internalCorner, hash_shl hash dd hh hd, xMask_spec0 cfg dd hd, Option.map_some]
    rw [or_eq_add _ _ _ (interleave_lt hm (by omega))]
  · simp only [internalCorner, hash_shl hash dd hh hd, yMask_spec0 cfg dd hd, Option.map_some]
    rw [or_eq_add _ _ _ (interleave_lt (by omega) hm)]
  · simp only [internalCorner, hash_shl hash dd hh hd, xyMask_spec cfg dd hd, Option.map_some]
    rw [or_eq_add _ _ _ hmax, interleave_max dd hd]
  · intro dir a b c d
    cases dir <;> simp_all [internalCorner]

/-- the north corner is the last descendant -/
theorem north_corner_val (hash dd : Nat) (hd : dd ≤ 32) :
    hash * 4 ^ dd + interleave (2 ^ dd - 1) (2 ^ dd - 1) = (hash + 1) * 4 ^ dd - 1 := by
  rw [interleave_max dd hd]
  have := Nat.pow_pos (n := dd) (show 0 < 4 by decide)
  rw [Nat.add_mul]; omega

theorem internalEdgePart_any (cfg : Cfg) (hash dd : Nat) (hd : dd ≤ 29)
    (hh : hash < 2 ^ (64 - 2 * dd)) :
    internalEdgePart cfg hash dd MW.SE = some ((List.range (2 ^ dd)).map fun x => hash * 4 ^ dd + interleave x 0) ∧
    internalEdgePart cfg hash dd MW.SW = some ((List.range (2 ^ dd)).map fun y => hash * 4 ^ dd + interleave 0 y) ∧
    internalEdgePart cfg hash dd MW.NE =
      some ((List.range (2 ^ dd)).map fun y => hash * 4 ^ dd + interleave (2 ^ dd - 1) y) ∧
    internalEdgePart cfg hash dd MW.NW =
      some ((List.range (2 ^ dd)).map fun x => hash * 4 ^ dd + interleave x (2 ^ dd - 1)) ∧
    (∀ dir, dir ≠ MW.SE → dir ≠ MW.SW → dir ≠ MW.NE → dir ≠ MW.NW → internalEdgePart cfg hash dd dir = none) := by
  obtain ⟨c, hc, hdc⟩ := LayerBmi.zoc_curve cfg dd hd
  have hd32 : dd ≤ 32 := by omega
  have hN := Nat.two_pow_pos dd
  have hm : 2 ^ dd - 1 < 2 ^ dd := by omega
  refine ⟨?_, ?_, ?_, ?_, ?_⟩
  · simp only [internalEdgePart, hc, Option.bind_eq_bind, Option.bind_some, hash_shl hash dd hh hd32, Nat.one_shiftLeft]
    apply mapM_some_of_forall
    intro k hk
    have hk := List.mem_range.1 hk
    rw [i02hDD_any cfg dd k hd hk, Option.map_some, or_cell hash dd k 0 hk (by omega)]; rfl
  · simp only [internalEdgePart, hc, Option.bind_eq_bind, Option.bind_some, hash_shl hash dd hh hd32, Nat.one_shiftLeft]
    apply mapM_some_of_forall
    intro k hk
    have hk := List.mem_range.1 hk
    rw [oj2hDD_any cfg dd k hd hk, Option.map_some, or_cell hash dd 0 k (by omega) hk]; rfl
  · simp only [internalEdgePart, hc, Option.bind_eq_bind, Option.bind_some, hash_shl hash dd hh hd32, Nat.one_shiftLeft,
      i02hDD_any cfg dd _ hd hm]
    apply mapM_some_of_forall
    intro k hk
    have hk := List.mem_range.1 hk
    rw [oj2hDD_any cfg dd k hd hk, Option.map_some,
      or_yx_cell hash dd k (2 ^ dd - 1) hm hk]; rfl
  · simp only [internalEdgePart, hc, Option.bind_eq_bind, Option.bind_some, hash_shl hash dd hh hd32, Nat.one_shiftLeft,
      oj2hDD_any cfg dd _ hd hm]
    apply mapM_some_of_forall
    intro k hk
    have hk := List.mem_range.1 hk
    rw [i02hDD_any cfg dd k hd hk, Option.map_some,
      or_or_cell hash dd k 0 0 (2 ^ dd - 1) k (2 ^ dd - 1) hk hm (by simp) (by simp)]; rfl
  · intro dir a b c d
    cases dir <;> simp_all [internalEdgePart]

/-- a valid cell of depth `d` refined by `dd` levels with `d + dd ≤ 29` never overflows the 64-bit shift -/
theorem valid_cell_fits (d dd hash : Nat) (hsum : d + dd ≤ 29) (hh : hash < 12 * 4 ^ d) : hash < 2 ^ (64 - 2 * dd) := by
  have h1 : 12 * 4 ^ d < 2 ^ (2 * d + 4) := by
    rw [four_pow, Nat.pow_add]; have := Nat.two_pow_pos (2 * d); omega
  have h2 : 2 ^ (2 * d + 4) ≤ 2 ^ (64 - 2 * dd) := Nat.pow_le_pow_right (by decide) (by omega)
  omega

theorem internalEdge_main (cfg : Cfg) (hash dd : Nat) (h1 : 1 ≤ dd) (hd : dd ≤ 29)
    (hh : hash < 2 ^ (64 - 2 * dd)) :
    ∃ l, internalEdge cfg hash dd = some l ∧ l = edgeList hash dd ∧ l.length = 4 * 2 ^ dd - 4 ∧ l.Nodup ∧
      (∀ h', h' ∈ l ↔ ∃ x y, x < 2 ^ dd ∧ y < 2 ^ dd ∧ (x = 0 ∨ x = 2 ^ dd - 1 ∨ y = 0 ∨ y = 2 ^ dd - 1) ∧
        h' = hash * 4 ^ dd + interleave x y) :=
  ⟨_, internalEdge_spec cfg hash dd hd hh, rfl, internalEdge_length hash dd h1,
    internalEdge_nodup hash dd h1 (by omega), fun h' => internalEdge_mem hash dd h' h1⟩

/-- the convenience functions accept exactly `(d + dd) % 256 ≤ depthMax` (`u8` addition) -/
theorem internalEdgeTop_guard (cfg : Cfg) (depthMax d hash dd : Nat) :
    ((d + dd) % 256 ≤ depthMax → internalEdgeTop cfg depthMax d hash dd = internalEdge cfg hash dd ∧
      internalEdgeSortedTop cfg depthMax d hash dd = internalEdgeSorted cfg hash dd) ∧
    (¬ (d + dd) % 256 ≤ depthMax → internalEdgeTop cfg depthMax d hash dd = none ∧
      internalEdgeSortedTop cfg depthMax d hash dd = none) := by
  constructor <;> intro h <;> simp [internalEdgeTop, internalEdgeSortedTop, h]

/-- non-vacuity: the hypotheses hold for the last cell of depth 9 refined by 20 levels (depth 29) -/
example : (1 : Nat) ≤ 20 ∧ 20 ≤ 29 ∧ 12 * 4 ^ 9 - 1 < 2 ^ (64 - 2 * 20) := by decide

example : internalEdge { debug := true, bmi := false } 7 1 = some (edgeList 7 1) ∧
    internalEdge { debug := true, bmi := false } 7 2 = some (edgeList 7 2) ∧
    internalEdge { debug := true, bmi := false } 7 3 = some (edgeList 7 3) ∧
    edgeCoords 2 = [(0, 0), (1, 0), (2, 0), (3, 0), (3, 1), (3, 2), (3, 3), (2, 3), (1, 3), (0, 3), (0, 2), (0, 1)] := by
  decide +kernel

end Hpx.EdgeInternal
