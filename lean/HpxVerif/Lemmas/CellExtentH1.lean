import HpxVerif.Lemmas.CellExtent
import HpxVerif.Lemmas.CellNumber

/-!
# The envelope hypothesis `H1` of the cone-coverage theorems, discharged for the equatorial cells

`Cover.cone_scheme_no_miss` / `cone_scheme_full_inside` (`Lemmas/ConeReal.lean`) are relative to
`H1 : ∀ d h c D q, ds ≤ d → center cfg d h = some c → dists[d − ds]? = some D → inCell d h q → adist c q ≤ D`.
Here `inCell` is `InCellEq` (the positions of a cell of the NESTED scheme whose centre is strictly inside the equatorial band)
and `dists` is the list the crate computes, `largest_center_to_vertex_distances_with_radius(ds, target + 1, lon, lat, r)`.  The
four children of such a cell are such cells and cover it (`hcover`), and `H1` holds for every cone with `|lat| + r < tl`,
`2 ≤ ds`, `target ≤ 29`: `cone_full_inside_equatorial` is left with no geometric hypothesis.
-/

namespace Hpx.CellExtent
open Hpx Hpx.Hash Hpx.C2V Hpx.C2VReal Hpx.Proj Hpx.Cover Hpx.CellReal Hpx.EnvelopeReal Hpx.TopoLift Real

theorem partsOf_child (d h k : ℕ) (hd : d ≤ 31) (hk : k < 4) :
    partsOf (d + 1) (4 * h + k) =
      ⟨(partsOf d h).d0h, 2 * (partsOf d h).i + k % 2, 2 * (partsOf d h).j + k / 2⟩ := by
  have e : 4 * h + k = EdgeInternal.cellVal h 1 (k % 2, k / 2) := by
    have : ∀ k < 4, interleave (k % 2) (k / 2) = k := by decide
    show _ = h * 4 ^ 1 + interleave (k % 2) (k / 2)
    rw [this k hk]; omega
  rw [e, partsOf_cellVal d 1 h _ _ (by omega) (by omega) (by omega)]
  simp only [Nat.pow_one, Nat.mul_comm]

theorem child_center (d b i j a c : ℕ) :
    cellCx (d + 1) b (2 * i + a) (2 * j + c) = cellCx d b i j + ((a : ℝ) - c) / 2 ^ (d + 1) ∧
    cellCy (d + 1) b (2 * i + a) (2 * j + c) = cellCy d b i j + ((a : ℝ) + c - 1) / 2 ^ (d + 1) := by
  have hp : (0 : ℝ) < 2 ^ d := by positivity
  unfold cellCx cellCy
  rw [pow_succ]
  push_cast
  constructor
  · field_simp; ring
  · field_simp; ring

/-- `InCellEq d h q`: `(d, h)` is a cell of the NESTED scheme (`d ≤ 29`, `h < 12·4^d`; parts `(b, i, j) = partsOf d h`, which
    is what `decode_hash` returns for every build: `TopoLift.decodeHash_spec`) whose centre is strictly inside the
    equatorial band, and the position `q` is the image `(x'·π/4 + 2πm, arcsin(2y'/3))` of a point `(x', y')` of its closed
    diamond in the projection plane (centre `(cellCx, cellCy)`, half-diagonal `1/2^d`; abscissas modulo 8 ↔ longitudes
    modulo `2π`). -/
def InCellEq (d h : ℕ) (q : ℝ × ℝ) : Prop :=
  d ≤ 29 ∧ h < 12 * 4 ^ d ∧
    |cellCy d (partsOf d h).d0h (partsOf d h).i (partsOf d h).j| < 1 ∧
    ∃ (x' y' : ℝ) (m : ℤ),
      InDiamond (cellCx d (partsOf d h).d0h (partsOf d h).i (partsOf d h).j)
        (cellCy d (partsOf d h).d0h (partsOf d h).i (partsOf d h).j) (1 / 2 ^ d) x' y' ∧
      q = (x' * (π / 4) + 2 * π * m, latOf y')

theorem abs_add_abs_le {a b m : ℝ} (h1 : |a + b| ≤ m) (h2 : |a - b| ≤ m) : |a| + |b| ≤ m := by
  obtain ⟨h11, h12⟩ := abs_le.mp h1
  obtain ⟨h21, h22⟩ := abs_le.mp h2
  rcases abs_cases a with ⟨ea, _⟩ | ⟨ea, _⟩ <;> rcases abs_cases b with ⟨eb, _⟩ | ⟨eb, _⟩ <;> rw [ea, eb] <;> linarith

/-- the four small diamonds are those of the children `k = 0, 1, 2, 3`: south, east, west, north -/
theorem diamond_split (u v ε : ℝ) (h : |u| + |v| ≤ 2 * ε) :
    ∃ k < 4, |u - (((k % 2 : ℕ) : ℝ) - ((k / 2 : ℕ) : ℝ)) * ε| + |v - (((k % 2 : ℕ) : ℝ) + ((k / 2 : ℕ) : ℝ) - 1) * ε| ≤ ε := by
  obtain ⟨p1, p2⟩ := abs_le.mp ((abs_add_le u v).trans h)
  obtain ⟨q1, q2⟩ := abs_le.mp ((abs_sub u v).trans h)
  -- the child is given by the signs of `u + v` and `u − v`
  rcases le_total 0 (u + v) with hs | hs <;> rcases le_total 0 (u - v) with hd | hd
  · refine ⟨1, by decide, ?_⟩
    norm_num
    exact abs_add_abs_le (abs_le.mpr ⟨by linarith, by linarith⟩) (abs_le.mpr ⟨by linarith, by linarith⟩)
  · refine ⟨3, by decide, ?_⟩
    norm_num
    exact abs_add_abs_le (abs_le.mpr ⟨by linarith, by linarith⟩) (abs_le.mpr ⟨by linarith, by linarith⟩)
  · refine ⟨0, by decide, ?_⟩
    norm_num
    exact abs_add_abs_le (abs_le.mpr ⟨by linarith, by linarith⟩) (abs_le.mpr ⟨by linarith, by linarith⟩)
  · refine ⟨2, by decide, ?_⟩
    norm_num
    exact abs_add_abs_le (abs_le.mpr ⟨by linarith, by linarith⟩) (abs_le.mpr ⟨by linarith, by linarith⟩)

theorem half_pow_succ (d : ℕ) : (1 : ℝ) / 2 ^ d = 2 * (1 / 2 ^ (d + 1)) := by rw [pow_succ]; field_simp

theorem child_diamond (d b i j a c : ℕ) (ha : a ≤ 1) (hc : c ≤ 1) (hband : |cellCy d b i j| < 1) (x' y' : ℝ)
    (hin : |x' - cellCx d b i j - ((a : ℝ) - c) / 2 ^ (d + 1)| +
      |y' - cellCy d b i j - ((a : ℝ) + c - 1) / 2 ^ (d + 1)| ≤ 1 / 2 ^ (d + 1)) :
    |cellCy (d + 1) b (2 * i + a) (2 * j + c)| < 1 ∧
      InDiamond (cellCx (d + 1) b (2 * i + a) (2 * j + c)) (cellCy (d + 1) b (2 * i + a) (2 * j + c))
        (1 / 2 ^ (d + 1)) x' y' := by
  obtain ⟨ex, ey⟩ := child_center d b i j a c
  rw [ex, ey]
  constructor
  · -- the centre moves by at most half of the `1/2^d` that separates the parent's centre from the transition latitude
    have hy := cellCy_band d b i j hband
    have hε : (0 : ℝ) < 1 / 2 ^ (d + 1) := by positivity
    have ht : |(a : ℝ) + c - 1| ≤ 1 := by
      have h2 : (a : ℝ) ≤ 1 := by exact_mod_cast ha
      have h3 : (c : ℝ) ≤ 1 := by exact_mod_cast hc
      rw [abs_le]; constructor <;> linarith [a.cast_nonneg (α := ℝ), c.cast_nonneg (α := ℝ)]
    rw [half_pow_succ] at hy
    rw [div_eq_mul_one_div]
    calc _ ≤ _ + |((a : ℝ) + c - 1) * (1 / 2 ^ (d + 1))| := abs_add_le _ _
      _ ≤ _ + 1 * (1 / 2 ^ (d + 1)) := by
        rw [abs_mul, abs_of_pos hε]; exact add_le_add_right (mul_le_mul_of_nonneg_right ht hε.le) _
      _ < 1 := by linarith
  · unfold InDiamond
    rw [← sub_sub, ← sub_sub]
    exact hin

theorem inCellEq_child (d h : ℕ) (q : ℝ × ℝ) (hd : d + 1 ≤ 29) (hq : InCellEq d h q) :
    ∃ k, k < 4 ∧ InCellEq (d + 1) (4 * h + k) q := by
  obtain ⟨_, hh, hband, x', y', m, hin, rfl⟩ := hq
  obtain ⟨k, hk, hin'⟩ := diamond_split _ _ (1 / 2 ^ (d + 1)) (half_pow_succ d ▸ hin)
  rw [mul_one_div, mul_one_div] at hin'
  obtain ⟨hband', hin''⟩ := child_diamond d _ _ _ (k % 2) (k / 2) (by omega) (by omega) hband x' y' hin'
  refine ⟨k, hk, hd, by rw [Nat.pow_succ]; omega, ?_, x', y', m, ?_, rfl⟩ <;>
    rw [partsOf_child d h k (by omega) hk]
  exacts [hband', hin'']

/-- `hcover` of `cone_scheme_no_miss`: the children cover the parent, on the cell numbers as the descent writes them -/
theorem inCellEq_children (d h : ℕ) (q : ℝ × ℝ) (hd : d + 1 ≤ 29) (hq : InCellEq d h q) :
    InCellEq (d + 1) (h <<< 2) q ∨ InCellEq (d + 1) (h <<< 2 ||| 1) q ∨ InCellEq (d + 1) (h <<< 2 ||| 2) q ∨
      InCellEq (d + 1) (h <<< 2 ||| 3) q := by
  obtain ⟨k, hk, hc⟩ := inCellEq_child d h q hd hq
  have e0 : h <<< 2 = 4 * h + 0 := by rw [Nat.shiftLeft_eq]; omega
  rw [shl2_or h 1 (by omega), shl2_or h 2 (by omega), shl2_or h 3 (by omega), e0]
  interval_cases k
  exacts [Or.inl hc, Or.inr (Or.inl hc), Or.inr (Or.inr (Or.inl hc)), Or.inr (Or.inr (Or.inr hc))]

theorem center_inCellEq (cfg : Cfg) (d h : ℕ) (hd : d ≤ 29) (hh : h < 12 * 4 ^ d)
    (hband : |cellCy d (partsOf d h).d0h (partsOf d h).i (partsOf d h).j| < 1) :
    ∃ c, center (α := ℝ) cfg d h = some c ∧ InCellEq d h c := by
  obtain ⟨hb, hi, hj⟩ := partsOf_valid d h hh
  obtain ⟨m, hc⟩ := center_lonlat cfg d h (partsOf d h).d0h (partsOf d h).i (partsOf d h).j
    (by rw [nHash_eq]; exact hh) (decodeHash_spec cfg d hd h hh) hb hi hj hband.le
  refine ⟨_, hc, hd, hh, hband, _, _, m, ?_, rfl⟩
  unfold InDiamond
  rw [sub_self, sub_self, abs_zero, add_zero]
  positivity

/-- every position `unproj (norm8 x') y'` of a plane point of the diamond around the reduced centre
    (`center_of_projected_cell`) is a position of the cell -/
theorem inCellEq_of_unproj (d h : ℕ) (hd : d ≤ 29) (hh : h < 12 * 4 ^ d)
    (hband : |cellCy d (partsOf d h).d0h (partsOf d h).i (partsOf d h).j| < 1) (x' y' : ℝ)
    (hin : InDiamond (norm8 (cellCx d (partsOf d h).d0h (partsOf d h).i (partsOf d h).j))
      (cellCy d (partsOf d h).d0h (partsOf d h).i (partsOf d h).j) (1 / 2 ^ d) x' y') :
    ∃ q, unproj (α := ℝ) (norm8 x') y' = some q ∧ InCellEq d h q := by
  obtain ⟨hb, hi, hj⟩ := partsOf_valid d h hh
  obtain ⟨n0, n8⟩ := norm8_center_range d _ _ _ hb hi hj
  obtain ⟨_, hδ1⟩ := distCw_range d
  obtain ⟨x'', m, hin', hu⟩ := unproj_diamond_lonlat _ _ (1 / 2 ^ d) x' y' hδ1 n0 (by linarith)
    (cellCy_band d _ _ _ hband) hin
  exact ⟨_, hu, hd, hh, hband, x'', y', m, hin', rfl⟩

/-! ## the list of distances of the cone descent -/

/-- the value of `largest_center_to_vertex_distance_with_radius` at depth `d ≤ 29` (release profile) -/
noncomputable def valR (d : ℕ) (lon lat r : ℝ) : ℝ := if d = 0 then π / 2 - tl else c2vR (Csts.new d) lon lat r

theorem valR_spec (d : ℕ) (hd : d ≤ 29) (lon lat r : ℝ) :
    largestC2VWithRadius false d lon lat r = some (valR d lon lat r) := by
  rw [c2v_with_radius_region_choice]
  unfold valR
  by_cases h0 : d = 0
  · rw [if_pos h0, if_pos h0]
  · rw [if_neg h0, if_neg h0, if_neg (by omega)]

theorem depthsOf_succ (ds t : ℕ) : depthsOf ds (t + 1) = List.range' ds (t + 1 - ds) := by
  rcases Nat.eq_zero_or_pos ds with rfl | h
  · exact depthsOf_eq_range' 0 _ (Nat.succ_pos t)
  · unfold depthsOf; rw [if_neg (by omega)]; exact filter_ge_range ds _

theorem dists_eq (ds target : ℕ) (ht : target ≤ 29) (lon lat r : ℝ) :
    largestC2VsWithRadius false ds (target + 1) lon lat r =
      some ((List.range' ds (target + 1 - ds)).map fun d => valR d lon lat r) := by
  rw [c2vs_with_radius_agree, depthsOf_succ, mapM_congr' _ _ _ fun d' hd' =>
    valR_spec d' (by have := List.mem_range'_1.mp hd'; omega) lon lat r, mapM_some_eq]

theorem dists_getElem (ds target : ℕ) (ht : target ≤ 29) (lon lat r : ℝ) (dists : List ℝ)
    (hdists : largestC2VsWithRadius false ds (target + 1) lon lat r = some dists) (d : ℕ) (hd : ds ≤ d) (D : ℝ)
    (hD : dists[d - ds]? = some D) : d ≤ target ∧ D = valR d lon lat r := by
  rw [dists_eq ds target ht] at hdists
  rw [← Option.some.inj hdists, List.getElem?_map] at hD
  cases hr : (List.range' ds (target + 1 - ds))[d - ds]? with
  | none => rw [hr] at hD; simp at hD
  | some a =>
    rw [hr] at hD
    simp only [Option.map_some, Option.some.injEq] at hD
    obtain ⟨hlt, ha⟩ := List.getElem?_eq_some_iff.mp hr
    rw [List.length_range'] at hlt
    rw [List.getElem_range'] at ha
    have : a = d := by omega
    subst this
    exact ⟨by omega, hD.symm⟩

theorem dists_exists (ds target : ℕ) (hds : 1 ≤ ds) (ht : target ≤ 29) (lon lat r : ℝ) :
    ∃ dists, largestC2VsWithRadius false ds (target + 1) lon lat r = some dists :=
  ⟨_, dists_eq ds target ht lon lat r⟩

theorem valR_nonneg (d : ℕ) (lon lat r : ℝ) (hA : |lat| + r < tl) : 0 ≤ valR d lon lat r := by
  unfold valR
  split_ifs with h0
  · have := tl_le
    have := Real.pi_gt_three
    linarith
  · obtain ⟨hδ0, hδ1⟩ := distCw_range d
    have h1 := c2vR_ge_dMax2 d lon lat r hA
    have h2 : 0 ≤ dMax2 (1 / 2 ^ d) := by rw [dMax2_eq_dN]; exact dN_nonneg _ _ hδ0.le
    linarith

theorem dists_nonneg (ds target : ℕ) (ht : target ≤ 29) (lon lat r : ℝ) (hA : |lat| + r < tl) (dists : List ℝ)
    (hdists : largestC2VsWithRadius false ds (target + 1) lon lat r = some dists) : ∀ D ∈ dists, 0 ≤ D := by
  intro D hD
  obtain ⟨k, hk⟩ := List.mem_iff_getElem?.mp hD
  obtain ⟨_, rfl⟩ := dists_getElem ds target ht lon lat r dists hdists (ds + k) (by omega) D
    (by rw [show ds + k - ds = k by omega]; exact hk)
  exact valR_nonneg _ lon lat r hA

theorem inCellEq_extent (cfg : Cfg) (d h : ℕ) (c q : ℝ × ℝ) (hc : center (α := ℝ) cfg d h = some c)
    (hq : InCellEq d h q) :
    adist c q ≤ max (dN (1 / 2 ^ d) (cellCy d (partsOf d h).d0h (partsOf d h).i (partsOf d h).j))
      (max (dS (1 / 2 ^ d) (cellCy d (partsOf d h).d0h (partsOf d h).i (partsOf d h).j))
        (dE (1 / 2 ^ d) (cellCy d (partsOf d h).d0h (partsOf d h).i (partsOf d h).j))) := by
  obtain ⟨hd29, hh, hband, x', y', m, hin, rfl⟩ := hq
  obtain ⟨hb, hi, hj⟩ := partsOf_valid d h hh
  obtain ⟨c', hc', hall⟩ := cell_extent_lonlat cfg d h _ _ _ (by rw [nHash_eq]; exact hh) (decodeHash_spec cfg d hd29 h hh)
    hb hi hj hband
  rw [hc] at hc'
  rw [Option.some.inj hc']
  exact hall x' y' m hin

/-! ## `H1` for the strictly equatorial cells -/

/-- the hypothesis `H1` of `Cover.cone_scheme_no_miss` / `cone_scheme_full_inside` with `inCell := InCellEq` and `dists` the
    list computed by `largest_center_to_vertex_distances_with_radius` (release profile), for every cone whose latitude band
    stays below the transition latitude -/
theorem H1_equatorial (cfg : Cfg) (lon lat r : ℝ) (hA : |lat| + r < tl) (ds target : ℕ) (hds : 2 ≤ ds)
    (ht : target ≤ 29) (dists : List ℝ)
    (hdists : largestC2VsWithRadius false ds (target + 1) lon lat r = some dists) :
    ∀ d h c D q, ds ≤ d → Hash.center (α := ℝ) cfg d h = some c → dists[d - ds]? = some D → InCellEq d h q →
      adist c q ≤ D := by
  intro d h c D q hd hc hD hq
  obtain ⟨_, rfl⟩ := dists_getElem ds target ht lon lat r dists hdists d hd D hD
  refine (inCellEq_extent cfg d h c q hc hq).trans ?_
  unfold valR
  rw [if_neg (by omega)]
  exact c2vR_dominates_eqr d (by omega) lon lat r hA _ (cellCy_band d _ _ _ hq.2.2.1)

theorem _root_.Hpx.EConeEq.lt_halfPi_of_band (lat a : ℝ) (hA : |lat| + a < tl) : a < π / 2 := by
  have := tl_le
  have := Real.pi_gt_three
  have := abs_nonneg lat
  linarith

theorem _root_.Hpx.EConeEq.r_lt_pi (lat r : ℝ) (hA : |lat| + r < tl) : r < π :=
  (EConeEq.lt_halfPi_of_band lat r hA).trans (half_lt_self Real.pi_pos)

/-- For a cone with `|lat| + r < tl`, start depth `≥ 2` and target depth `≤ 29` (over ℝ, release profile): every position of a
    strictly equatorial cell that the descent flags FULL is strictly inside the cone. -/
theorem cone_full_inside_equatorial (cfg : Cfg) (lon lat r : ℝ) (hA : |lat| + r < tl) (ds target : ℕ)
    (hds : 2 ≤ ds) (ht : target ≤ 29) (dists : List ℝ)
    (hdists : largestC2VsWithRadius false ds (target + 1) lon lat r = some dists) (fuel root : ℕ)
    (out : List Bmoc.Cell)
    (h : coverRec target (coneClassifier (α := ℝ) cfg lon lat (Num.cos lat) (dists.map (toShsMinMax r))) fuel ds root 0
      = some out)
    (c : Bmoc.Cell) (hc : c ∈ out) (hf : c.full = true) (q : ℝ × ℝ) (hq : InCellEq c.depth c.hash q) :
    adist (lon, lat) q < r :=
  cone_scheme_full_inside cfg lon lat r (EConeEq.r_lt_pi lat r hA).le dists
    (dists_nonneg ds target ht lon lat r hA dists hdists) InCellEq target ds
    (H1_equatorial cfg lon lat r hA ds target hds ht dists hdists) fuel root out h c hc hf q hq

/-- the parts of the children of cell 19 of depth 1 (`(b, i, j) = (4, 1, 1)`): cells 76 … 79 of depth 2 -/
example : partsOf 1 19 = ⟨4, 1, 1⟩ ∧ partsOf 2 (4 * 19 + 1) = ⟨4, 3, 2⟩ := by decide +kernel

/-- depth 2, cell 77 = base cell 4, `(i, j) = (3, 2)` (centre ordinate `1/2`) is strictly equatorial: its centre is one of
    its positions -/
example : ∃ c, center (α := ℝ) {} 2 77 = some c ∧ InCellEq 2 77 c :=
  center_inCellEq {} 2 77 (by decide) (by decide) (by
    have e : partsOf 2 77 = ⟨4, 3, 2⟩ := by decide +kernel
    rw [e]; unfold cellCy baseY; norm_num [abs_lt])

/-- a cone in the equatorial band and its list of distances: `lat = 0.3`, `r = 0.1`, `ds = 3`, `target = 6` -/
example : (0 : ℝ) ≤ 1 / 10 ∧ |(3 / 10 : ℝ)| + 1 / 10 < tl ∧
    ∃ dists, largestC2VsWithRadius false 3 (6 + 1) (1 : ℝ) (3 / 10) (1 / 10) = some dists := by
  refine ⟨by norm_num, ?_, dists_exists 3 6 (by decide) (by decide) _ _ _⟩
  have := tl_ge
  rw [abs_of_pos (by norm_num)]
  linarith

end Hpx.CellExtent

#print axioms Hpx.CellExtent.partsOf_child
#print axioms Hpx.CellExtent.inCellEq_children
#print axioms Hpx.CellExtent.H1_equatorial
#print axioms Hpx.CellExtent.cone_full_inside_equatorial
#print axioms Hpx.CellExtent.inCellEq_extent
