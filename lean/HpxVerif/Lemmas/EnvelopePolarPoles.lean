import HpxVerif.Lemmas.CapChart

/-!
# C16 — polar caps: where the function is below the true distance (next to the poles, at the transition corner), and where it is exact

Next to a pole one cell spans a wide range of longitudes: the cells `(nside − 2, nside − 1)`, `(nside − 1, nside − 2)` of the
north base cells and `(0, 1)`, `(1, 0)` of the south base cells have a vertex on the central meridian of the base cell, where
the function takes its smallest value `intercept_npc`, below the distance from the centre to the vertex nearest to the pole
(`intercept_lt_dN_next_to_pole`).  Float model, depth 2, cell 14: value `0.2187` at the east vertex, true distance centre → N
vertex `0.2349` (−7 %).  The statements give, for each such cell, a segment `0 ≤ τ < r0` of positions of the cell (`τ = 0`: the
vertex on the central meridian, `τ = 1/nside`: the centre) where the function returns less than that distance.

At the other end of a seam, the cell `(nside − 1, 0)` of a north base cell (centre on the transition latitude, next to the seam) is the
one on which `slope_npc` is fitted: the value at its centre is exactly the distance to its north vertex
(`c2v_exact_at_transition_corner`), and at its positions on the polar side, nearer to the central meridian of the base cell, the
function returns strictly less (`c2v_below_true_on_transition_corner_polar_side`).
-/

namespace Hpx.EnvelopePolar
open Hpx Hpx.Hash Hpx.Proj Hpx.Cover Hpx.C2V Hpx.C2VReal Hpx.EnvelopeReal Hpx.CellReal Real

theorem next_to_pole_chart (d : ℕ) (hd1 : 2 ≤ d) (hd2 : d ≤ 29) (s : ℝ) (hs : s = 1 ∨ s = -1) (k : ℕ) (e : ℝ)
    (he : e = 1 ∨ e = -1) :
    ∃ r0 : ℝ, 0 < r0 ∧ r0 ≤ 1 / 2 ^ d ∧ ∀ τ, 0 ≤ τ → τ < r0 →
      ∃ v, largestC2V false d (capPt s k (e * τ) (2 * (1 / 2 ^ d))).1 (capPt s k (e * τ) (2 * (1 / 2 ^ d))).2 = some v ∧
        v < adist (capPt s k (e * (1 / 2 ^ d)) (2 * (1 / 2 ^ d))) (capPt s k (e * (1 / 2 ^ d)) (2 * (1 / 2 ^ d) - 1 / 2 ^ d)) := by
  obtain ⟨hδ0, hδ4⟩ := quarter_pow_range d hd1
  have he1 : |e| = 1 := by rcases he with rfl | rfl <;> simp
  have hgap : dMinP (1 / 2 ^ d) < dNc (1 / 2 ^ d) (e * (1 / 2 ^ d)) (2 * (1 / 2 ^ d)) := by
    have := intercept_lt_dN_next_to_pole (1 / 2 ^ d) hδ0 hδ4
    rcases he with rfl | rfl
    · rwa [one_mul, ← dNc_neg]
    · rwa [neg_one_mul]
  rw [adist_capPt_north s hs]
  generalize dNc (1 / 2 ^ d) (e * (1 / 2 ^ d)) (2 * (1 / 2 ^ d)) = D at *
  generalize hδ : (1 : ℝ) / 2 ^ d = δ at *
  -- the function grows like `K·τ` from `intercept_npc` at `τ = 0`
  set K := rise δ / (2 * δ) with hK
  have hKpos : 0 < K := div_pos (rise_pos δ hδ0 (by linarith)) (by linarith)
  refine ⟨min δ ((D - dMinP δ) / K), lt_min hδ0 (div_pos (by linarith) hKpos), min_le_left _ _, fun τ hτ0 hτ1 => ?_⟩
  have hτδ : τ < δ := hτ1.trans_le (min_le_left _ _)
  have hτG := (lt_div_iff₀ hKpos).mp (hτ1.trans_le (min_le_right _ _))
  refine ⟨_, largestC2V_capPt d (by omega) hd2 s hs k _ _ (by linarith)
    (by rw [abs_mul, he1, one_mul, abs_of_nonneg hτ0]; linarith), ?_⟩
  rw [capVal, hδ, abs_div, abs_mul, he1, one_mul, abs_of_nonneg hτ0, abs_of_pos (by linarith : 0 < 2 * δ),
    show rise δ * (τ / (2 * δ)) = K * τ by rw [hK]; ring]
  linarith

theorem seam_point_inDiamond (K s τ δ y : ℝ) (hs : s = 1 ∨ s = -1) (h0 : 0 ≤ τ) (h1 : τ ≤ δ) :
    InDiamond (K + s * δ) y δ (K + s * τ) y := by
  unfold InDiamond
  rw [sub_self, abs_zero, add_zero, show K + s * τ - (K + s * δ) = s * (τ - δ) by ring, abs_mul,
    show |s| = 1 by rcases hs with h | h <;> rw [h] <;> simp, one_mul, abs_of_nonpos (by linarith)]
  linarith

theorem cap_cell_next_to_pole (cfg : Cfg) (d hash b i j : ℕ) (hd1 : 2 ≤ d) (hd2 : d ≤ 29) (hh : hash < Layer.nHash d)
    (hdec : Layer.decodeHash cfg d hash = some ⟨b, i, j⟩) (s : ℝ) (k : ℕ) (hc : CapCell d b i j s k 2) (v : ℕ)
    (hv : s = 1 ∧ v = 2 ∨ s = -1 ∧ v = 0) :
    ∃ (c n : ℝ × ℝ) (r0 : ℝ), center (α := ℝ) cfg d hash = some c ∧ vertex (α := ℝ) cfg d hash v = some n ∧
      0 < r0 ∧ r0 ≤ 1 / 2 ^ d ∧
      ∀ τ, 0 ≤ τ → τ < r0 →
        InDiamond (norm8 (cellCx d b i j)) (cellCy d b i j) (1 / 2 ^ d)
          (2 * (k : ℝ) + 1 + ((i : ℝ) - j) * τ) (cellCy d b i j) ∧
        ∃ (p : ℝ × ℝ) (val : ℝ), unproj (α := ℝ) (2 * (k : ℝ) + 1 + ((i : ℝ) - j) * τ) (cellCy d b i j) = some p ∧
          tl ≤ |p.2| ∧ largestC2V false d p.1 p.2 = some val ∧ val < adist c n := by
  obtain ⟨hs, -, hx, hy, -⟩ := hc.plane
  have he : (i : ℝ) - j = 1 ∨ (i : ℝ) - j = -1 := by
    rcases (by rcases hc.2.2.2.2 with ⟨_, _, h⟩ | ⟨_, _, h⟩ <;> have := hc.2.1 <;> have := hc.2.2.1 <;> omega :
      i = j + 1 ∨ j = i + 1) with h | h
    · left; rw [h]; push_cast; ring
    · right; rw [h]; push_cast; ring
  obtain ⟨hcen, hN⟩ := cap_cell_poleward cfg d hash b i j hd2 hh hdec s k 2 hc v hv
  obtain ⟨r0, h0, h1, hall⟩ := next_to_pole_chart d hd1 hd2 s hs k _ he
  obtain ⟨hδ0, hδ4⟩ := quarter_pow_range d hd1
  have heps := epsPole_lt_step d hd2
  push_cast at hcen hN hy
  refine ⟨_, _, r0, hcen, hN, h0, h1, fun τ hτ0 hτ1 => ?_⟩
  obtain ⟨val, hval, hlt⟩ := hall τ hτ0 hτ1
  generalize (1 : ℝ) / 2 ^ d = δ at *
  generalize (i : ℝ) - j = e at *
  have he1 : |e| = 1 := by rcases he with rfl | rfl <;> simp
  have habs : |e * τ| = τ := by rw [abs_mul, he1, one_mul, abs_of_nonneg hτ0]
  have hle := le_abs_self (e * τ)
  have hcy : -2 ≤ cellCy d b i j ∧ cellCy d b i j ≤ 2 := by
    rw [hy]; rcases hs with rfl | rfl <;> constructor <;> linarith
  have hu := unprojT_capPt s hs k hc.1 (e * τ) (2 * δ) (by linarith) (by rw [habs]; linarith) (by linarith)
    (Or.inl (by linarith))
  rw [← hy] at hu
  refine ⟨?_, _, val, (unproj_eq _ _ hcy.1 hcy.2).trans (congrArg some hu), capPt_lat s hs k _ _ (by linarith) (by linarith),
    hval, hlt⟩
  rw [hx]
  exact seam_point_inDiamond _ _ _ _ _ he hτ0 (by linarith)

/-- F24, next to the north pole (ℝ, release profile, every depth `2 … 29`, every north base cell `b < 4`, the
    two cells `{i, j} = {nside − 1, nside − 2}` next to the pole cell).  `center` returns `c`, `vertex … 2` the north vertex
    `n`; for `0 ≤ τ < r0` (`0 < r0 ≤ 1/nside`) the plane point `(2b + 1 + (i − j)·τ, y_c)` — on the segment from the vertex of
    the cell lying on the central meridian of the base cell (`τ = 0`: the E vertex if `i < j`, the W vertex if `i > j`)
    towards the centre (`τ = 1/nside`), hence in the closed diamond of the cell — un-projects to a position `p` of the north
    cap where `largest_center_to_vertex_distance(d, p)` is STRICTLY SMALLER than the angular distance from `c` to `n`. -/
theorem c2v_below_true_next_to_north_pole (cfg : Cfg) (d hash b i j : ℕ) (hd1 : 2 ≤ d) (hd2 : d ≤ 29)
    (hh : hash < Layer.nHash d) (hdec : Layer.decodeHash cfg d hash = some ⟨b, i, j⟩) (hb : b < 4)
    (hi : i < 2 ^ d) (hj : j < 2 ^ d) (hsum : i + j + 3 = 2 * 2 ^ d) :
    ∃ (c n : ℝ × ℝ) (r0 : ℝ), center (α := ℝ) cfg d hash = some c ∧ vertex (α := ℝ) cfg d hash 2 = some n ∧
      0 < r0 ∧ r0 ≤ 1 / 2 ^ d ∧
      ∀ τ, 0 ≤ τ → τ < r0 →
        InDiamond (norm8 (cellCx d b i j)) (cellCy d b i j) (1 / 2 ^ d)
          (2 * (b : ℝ) + 1 + ((i : ℝ) - j) * τ) (cellCy d b i j) ∧
        ∃ (p : ℝ × ℝ) (v : ℝ), unproj (α := ℝ) (2 * (b : ℝ) + 1 + ((i : ℝ) - j) * τ) (cellCy d b i j) = some p ∧
          tl ≤ |p.2| ∧ largestC2V false d p.1 p.2 = some v ∧ v < adist c n := by
  have hd4 : 2 ^ 2 ≤ 2 ^ d := Nat.pow_le_pow_right (by norm_num) hd1
  exact cap_cell_next_to_pole cfg d hash b i j hd1 hd2 hh hdec 1 b ⟨hb, hi, hj, by omega, Or.inl ⟨rfl, rfl, by omega⟩⟩ 2
    (Or.inl ⟨rfl, rfl⟩)

/-- At the east vertex itself: for the same cells, the position returned by `vertex … 1` (east vertex, on the
    central meridian `lon = (2b+1)·π/4` of the base cell) gets the value `intercept_npc`, strictly smaller than the angular
    distance from `center` to `vertex … 2` -/
theorem c2v_below_true_at_east_vertex (cfg : Cfg) (d hash b i j : ℕ) (hd1 : 2 ≤ d) (hd2 : d ≤ 29)
    (hh : hash < Layer.nHash d) (hdec : Layer.decodeHash cfg d hash = some ⟨b, i, j⟩) (hb : b < 4)
    (hi : i + 2 = 2 ^ d) (hj : j + 1 = 2 ^ d) :
    ∃ (c n e : ℝ × ℝ) (v : ℝ), center (α := ℝ) cfg d hash = some c ∧ vertex (α := ℝ) cfg d hash 2 = some n ∧
      vertex (α := ℝ) cfg d hash 1 = some e ∧ largestC2V false d e.1 e.2 = some v ∧ v < adist c n := by
  have hd4 : 2 ^ 2 ≤ 2 ^ d := Nat.pow_le_pow_right (by norm_num) hd1
  have hi2 : i < 2 ^ d := by omega
  have hj2 : j < 2 ^ d := by omega
  have hc : CapCell d b i j 1 b 2 := ⟨hb, hi2, hj2, by omega, Or.inl ⟨rfl, rfl, by omega⟩⟩
  obtain ⟨c, n, r0, ec, en, hr0, -, hall⟩ :=
    cap_cell_next_to_pole cfg d hash b i j hd1 hd2 hh hdec 1 b hc 2 (Or.inl ⟨rfl, rfl⟩)
  obtain ⟨-, p, v, up, -, hv, hlt⟩ := hall 0 le_rfl hr0
  obtain ⟨-, -, hX, -⟩ := hc.plane
  refine ⟨c, n, p, v, ec, en, ?_, hv, hlt⟩
  -- the east vertex is the point `τ = 0`
  have hij : (i : ℝ) - j = -1 := by rw [show j = i + 1 by omega]; push_cast; ring
  have e : norm8 (cellCx d b i j) + 1 / 2 ^ d = 2 * (b : ℝ) + 1 + ((i : ℝ) - j) * 0 := by
    rw [hX, hij]; ring
  have hy := vtx_y_range d b i j 1 (by omega) hi2 hj2
  rw [vertex_plane cfg d hash b i j 1 hh hdec (by omega) hi2 hj2 (by decide), ← up]
  simp only [vtx]
  rw [e]
  exact (unproj_eq _ _ hy.1 hy.2).symm

/-- The same next to the south pole (ℝ, release profile, every depth `2 … 29`, every south base cell `k + 8`, the two
    cells `{i, j} = {0, 1}` next to the south-pole cell `(0, 0)`).  `center` returns `c`, `vertex … 0` the south vertex `s`;
    for `0 ≤ τ < r0` the plane point `(2k + 1 + (i − j)·τ, y_c)` of the cell (`τ = 0`: its vertex on the central meridian of the
    base cell) un-projects to a position `p` of the south cap where `largest_center_to_vertex_distance(d, p)` is
    STRICTLY SMALLER than the angular distance from `c` to `s`. -/
theorem c2v_below_true_next_to_south_pole (cfg : Cfg) (d hash k i j : ℕ) (hd1 : 2 ≤ d) (hd2 : d ≤ 29)
    (hh : hash < Layer.nHash d) (hdec : Layer.decodeHash cfg d hash = some ⟨k + 8, i, j⟩) (hk : k < 4)
    (hsum : i + j = 1) :
    ∃ (c s : ℝ × ℝ) (r0 : ℝ), center (α := ℝ) cfg d hash = some c ∧ vertex (α := ℝ) cfg d hash 0 = some s ∧
      0 < r0 ∧ r0 ≤ 1 / 2 ^ d ∧
      ∀ τ, 0 ≤ τ → τ < r0 →
        InDiamond (norm8 (cellCx d (k + 8) i j)) (cellCy d (k + 8) i j) (1 / 2 ^ d)
          (2 * (k : ℝ) + 1 + ((i : ℝ) - j) * τ) (cellCy d (k + 8) i j) ∧
        ∃ (p : ℝ × ℝ) (v : ℝ), unproj (α := ℝ) (2 * (k : ℝ) + 1 + ((i : ℝ) - j) * τ) (cellCy d (k + 8) i j) = some p ∧
          tl ≤ |p.2| ∧ largestC2V false d p.1 p.2 = some v ∧ v < adist c s := by
  have hd4 : 2 ^ 2 ≤ 2 ^ d := Nat.pow_le_pow_right (by norm_num) hd1
  exact cap_cell_next_to_pole cfg d hash (k + 8) i j hd1 hd2 hh hdec (-1) k
    ⟨hk, by omega, by omega, by omega, Or.inr ⟨rfl, rfl, by omega⟩⟩ 0 (Or.inr ⟨rfl, rfl⟩)

/-! ## the corner cell of the transition ring -/

theorem transition_corner_chart (cfg : Cfg) (d hash b i : ℕ) (hd2 : d ≤ 29) (hh : hash < Layer.nHash d)
    (hdec : Layer.decodeHash cfg d hash = some ⟨b, i, 0⟩) (hb : b < 4) (hi : i + 1 = 2 ^ d) :
    center (α := ℝ) cfg d hash = some (capPt 1 b (1 - 1 / 2 ^ d) 1) ∧
    vertex (α := ℝ) cfg d hash 2 = some (capPt 1 b (1 - 1 / 2 ^ d) (1 - 1 / 2 ^ d)) ∧
    norm8 (cellCx d b i 0) = 2 * (b : ℝ) + 2 - 1 / 2 ^ d ∧ cellCy d b i 0 = 1 := by
  have hc : CapCell d b i 0 1 b (2 ^ d) := ⟨hb, by omega, by positivity, le_rfl, Or.inl ⟨rfl, rfl, by omega⟩⟩
  obtain ⟨hcen, hn⟩ := cap_cell_poleward cfg d hash b i 0 hd2 hh hdec 1 b (2 ^ d) hc 2 (Or.inl ⟨rfl, rfl⟩)
  obtain ⟨-, -, hx, hy, -⟩ := hc.plane
  have hi' : (i : ℝ) + 1 = 2 ^ d := by exact_mod_cast hi
  have hδn : (2 : ℝ) ^ d * (1 / 2 ^ d) = 1 := mul_one_div_cancel (pow_pos' d).ne'
  have e : ((i : ℝ) - (0 : ℕ)) * (1 / 2 ^ d) = 1 - 1 / 2 ^ d := by
    rw [show (i : ℝ) = 2 ^ d - 1 by linarith, Nat.cast_zero, sub_zero, sub_mul, one_mul, hδn]
  rw [e] at hcen hn hx
  rw [Nat.cast_pow, Nat.cast_ofNat, hδn] at hcen hn hy
  refine ⟨hcen, hn, ?_, by rw [hy]; ring⟩
  rw [hx]; ring

/-- the distance from the centre of the corner cell to its north vertex is `d_max` of `ConstantsC2V::new` -/
theorem adist_transition_corner (b : ℕ) (δ : ℝ) (hδ : δ < 1) :
    adist (capPt 1 b (1 - δ) 1) (capPt 1 b (1 - δ) (1 - δ)) = dMaxP δ := by
  rw [adist_capPt 1 (Or.inl rfl), div_one, div_self (by linarith), ← gcDist_neg]
  unfold dMaxP
  rw [show (2 : ℝ) - 1 = 1 by ring, capLat_one, show 2 - (1 - δ) = 1 + δ by ring]
  congr 1; ring

/-- The envelope is exact at the transition-ring corner cell: `largest_center_to_vertex_distance` at the centre of the
    cell `(nside − 1, 0)` of a north base cell equals the angular distance from that centre to the north vertex -/
theorem c2v_exact_at_transition_corner (cfg : Cfg) (d hash b i : ℕ) (hd1 : 1 ≤ d) (hd2 : d ≤ 29)
    (hh : hash < Layer.nHash d) (hdec : Layer.decodeHash cfg d hash = some ⟨b, i, 0⟩) (hb : b < 4)
    (hi : i + 1 = 2 ^ d) :
    ∃ c n : ℝ × ℝ, center (α := ℝ) cfg d hash = some c ∧ vertex (α := ℝ) cfg d hash 2 = some n ∧ c.2 = tl ∧
      largestC2V false d c.1 c.2 = some (adist c n) := by
  obtain ⟨hδ0, hδ1⟩ := half_pow_range d hd1
  obtain ⟨ec, en, -, -⟩ := transition_corner_chart cfg d hash b i hd2 hh hdec hb hi
  refine ⟨_, _, ec, en, ?_, ?_⟩
  · show 1 * capLat (2 - 1) = tl
    rw [one_mul, show (2 : ℝ) - 1 = 1 by ring, capLat_one]
  · rw [largestC2V_capPt d hd1 hd2 1 (Or.inl rfl) b _ 1 le_rfl (abs_le.mpr ⟨by linarith, by linarith⟩),
      adist_transition_corner b _ (by linarith), div_one, capVal_corner _ (by linarith)]

theorem corner_polar_side_chart (d : ℕ) (hd1 : 1 ≤ d) (hd2 : d ≤ 29) (b : ℕ) (hb : b < 4) (xp yp : ℝ) (hy1 : 1 < yp)
    (hin : |xp - (2 * (b : ℝ) + 2 - 1 / 2 ^ d)| + (yp - 1) ≤ 1 / 2 ^ d)
    (hratio : xp - (2 * (b : ℝ) + 1) < (1 - 1 / 2 ^ d) * (2 - yp)) :
    ∃ (p : ℝ × ℝ) (v : ℝ), unproj (α := ℝ) xp yp = some p ∧ tl ≤ |p.2| ∧
      largestC2V false d p.1 p.2 = some v ∧ v < dMaxP (1 / 2 ^ d) := by
  obtain ⟨hδ0, hδ1⟩ := half_pow_range d hd1
  have heps := epsPole_lt_small
  -- the point in the chart: `t = xp − (2b + 1) ≥ 0`, `σ = 2 − yp`, `t/σ < 1 − δ`
  have side : 0 < 2 - yp ∧ yp ≤ 2 ∧ |xp - (2 * (b : ℝ) + 1)| ≤ 2 - yp ∧ xp - (2 * (b : ℝ) + 1) < 1 ∧
      (Num.epsPole : ℝ) < 2 - yp ∧ 0 ≤ xp - (2 * (b : ℝ) + 1) := by
    generalize (1 : ℝ) / 2 ^ d = δ at *
    generalize (b : ℝ) = B at *
    clear hratio
    obtain ⟨a1, a2⟩ := abs_le.mp (show |xp - (2 * B + 2 - δ)| ≤ δ - (yp - 1) by linarith)
    exact ⟨by linarith, by linarith, abs_le.mpr ⟨by linarith, by linarith⟩, by linarith, by linarith, by linarith⟩
  obtain ⟨hσ, hy2, ht, ht1, hp, hx0⟩ := side
  have hρ : |(xp - (2 * (b : ℝ) + 1)) / (2 - yp)| < 1 - 1 / 2 ^ d := by
    rw [abs_of_nonneg (div_nonneg hx0 hσ.le), div_lt_iff₀ hσ]; exact hratio
  have hu := unprojT_capPt 1 (Or.inl rfl) b hb (xp - (2 * b + 1)) (2 - yp) (by linarith only [hy1]) ht ht1 (Or.inl hp)
  rw [add_sub_cancel, one_mul, sub_sub_cancel] at hu
  exact ⟨_, _, (unproj_eq _ _ (by linarith only [hy1]) hy2).trans (congrArg some hu),
    capPt_lat 1 (Or.inl rfl) b _ _ hσ.le (by linarith only [hy1]),
    largestC2V_capPt d hd1 hd2 1 (Or.inl rfl) b _ _ (by linarith only [hy1]) ht,
    capVal_lt_dMaxP _ _ hδ0 (by linarith only [hδ1]) hρ⟩

/-- F24, at the transition corner (ℝ, release profile, every depth `1 … 29`, north base cells, the
    cell `(i, j) = (nside − 1, 0)`).  For every plane point `(xp, yp)` of the closed diamond of the cell that lies in the
    polar cap (`1 < yp`), east of the central meridian of the base cell (`2b + 1 ≤ xp`) and whose ratio
    `(xp − (2b+1))/(2 − yp)` is smaller than the ratio `1 − 1/nside` of the centre, the position `p = unproj (xp, yp)` is in
    the polar cap and `largest_center_to_vertex_distance(d, p)` is STRICTLY SMALLER than the angular distance from
    `center` to the north vertex. -/
theorem c2v_below_true_on_transition_corner_polar_side (cfg : Cfg) (d hash b i : ℕ) (hd1 : 1 ≤ d) (hd2 : d ≤ 29)
    (hh : hash < Layer.nHash d) (hdec : Layer.decodeHash cfg d hash = some ⟨b, i, 0⟩) (hb : b < 4)
    (hi : i + 1 = 2 ^ d) :
    ∃ c n : ℝ × ℝ, center (α := ℝ) cfg d hash = some c ∧ vertex (α := ℝ) cfg d hash 2 = some n ∧
      ∀ xp yp : ℝ, 1 < yp → InDiamond (norm8 (cellCx d b i 0)) (cellCy d b i 0) (1 / 2 ^ d) xp yp →
        2 * (b : ℝ) + 1 ≤ xp → xp - (2 * (b : ℝ) + 1) < (1 - 1 / 2 ^ d) * (2 - yp) →
        ∃ (p : ℝ × ℝ) (v : ℝ), unproj (α := ℝ) xp yp = some p ∧ tl ≤ |p.2| ∧
          largestC2V false d p.1 p.2 = some v ∧ v < adist c n := by
  obtain ⟨ec, en, hX, hY⟩ := transition_corner_chart cfg d hash b i hd2 hh hdec hb hi
  refine ⟨_, _, ec, en, fun xp yp hy1 hin _ hratio => ?_⟩
  unfold InDiamond at hin
  rw [hX, hY, abs_of_pos (sub_pos.mpr hy1)] at hin
  rw [adist_transition_corner b _ (by linarith only [(half_pow_range d hd1).2])]
  exact corner_polar_side_chart d hd1 hd2 b hb xp yp hy1 hin hratio

/-- depth 2, cell 5 = base cell 0, `(i, j) = (3, 0)`; the point `(2 − 1/4 − 1/8, 1 + 1/16)` satisfies the hypotheses -/
example : ∃ c n : ℝ × ℝ, center (α := ℝ) {} 2 5 = some c ∧ vertex (α := ℝ) {} 2 5 2 = some n ∧ c.2 = tl ∧
      largestC2V false 2 c.1 c.2 = some (adist c n) :=
  c2v_exact_at_transition_corner {} 2 5 0 3 (by decide) (by decide) (by decide) (by decide +kernel) (by decide)
    (by decide)

example : (1 : ℝ) < 1 + 1 / 16 ∧ |(2 - 1 / 4 - 1 / 8 : ℝ) - (2 - 1 / 4)| + |(1 + 1 / 16 : ℝ) - 1| ≤ 1 / 4 ∧
    2 * ((0 : ℕ) : ℝ) + 1 ≤ 2 - 1 / 4 - 1 / 8 ∧
    (2 - 1 / 4 - 1 / 8 : ℝ) - (2 * ((0 : ℕ) : ℝ) + 1) < (1 - 1 / 4) * (2 - (1 + 1 / 16)) := by
  refine ⟨by norm_num, ?_, by norm_num, by norm_num⟩
  rw [abs_of_neg (by norm_num), abs_of_pos (by norm_num)]; norm_num

/-- depth 2, cell 13 = base cell 0, `(i, j) = (3, 2)` -/
example : ∃ (c n : ℝ × ℝ) (r0 : ℝ), center (α := ℝ) {} 2 13 = some c ∧ vertex (α := ℝ) {} 2 13 2 = some n ∧
      0 < r0 ∧ r0 ≤ 1 / 2 ^ 2 ∧
      ∀ τ, 0 ≤ τ → τ < r0 →
        InDiamond (norm8 (cellCx 2 0 3 2)) (cellCy 2 0 3 2) (1 / 2 ^ 2)
          (2 * ((0 : ℕ) : ℝ) + 1 + (((3 : ℕ) : ℝ) - (2 : ℕ)) * τ) (cellCy 2 0 3 2) ∧
        ∃ (p : ℝ × ℝ) (v : ℝ), unproj (α := ℝ) (2 * ((0 : ℕ) : ℝ) + 1 + (((3 : ℕ) : ℝ) - (2 : ℕ)) * τ) (cellCy 2 0 3 2) = some p ∧
          tl ≤ |p.2| ∧ largestC2V false 2 p.1 p.2 = some v ∧ v < adist c n :=
  c2v_below_true_next_to_north_pole {} 2 13 0 3 2 (by decide) (by decide) (by decide) (by decide +kernel) (by decide)
    (by decide) (by decide) (by decide)

/-- depth 2, cell 129 = base cell 8, `(i, j) = (1, 0)` -/
example : ∃ (c s : ℝ × ℝ) (r0 : ℝ), center (α := ℝ) {} 2 129 = some c ∧ vertex (α := ℝ) {} 2 129 0 = some s ∧
      0 < r0 ∧ r0 ≤ 1 / 2 ^ 2 ∧
      ∀ τ, 0 ≤ τ → τ < r0 →
        InDiamond (norm8 (cellCx 2 (0 + 8) 1 0)) (cellCy 2 (0 + 8) 1 0) (1 / 2 ^ 2)
          (2 * ((0 : ℕ) : ℝ) + 1 + (((1 : ℕ) : ℝ) - (0 : ℕ)) * τ) (cellCy 2 (0 + 8) 1 0) ∧
        ∃ (p : ℝ × ℝ) (v : ℝ), unproj (α := ℝ) (2 * ((0 : ℕ) : ℝ) + 1 + (((1 : ℕ) : ℝ) - (0 : ℕ)) * τ) (cellCy 2 (0 + 8) 1 0) = some p ∧
          tl ≤ |p.2| ∧ largestC2V false 2 p.1 p.2 = some v ∧ v < adist c s :=
  c2v_below_true_next_to_south_pole {} 2 129 0 1 0 (by decide) (by decide) (by decide) (by decide +kernel) (by decide)
    (by decide)

/-- depth 2, cell 14 = base cell 0, `(i, j) = (2, 3)` -/
example : ∃ (c n e : ℝ × ℝ) (v : ℝ), center (α := ℝ) {} 2 14 = some c ∧ vertex (α := ℝ) {} 2 14 2 = some n ∧
      vertex (α := ℝ) {} 2 14 1 = some e ∧ largestC2V false 2 e.1 e.2 = some v ∧ v < adist c n :=
  c2v_below_true_at_east_vertex {} 2 14 0 2 3 (by decide) (by decide) (by decide) (by decide +kernel) (by decide)
    (by decide) (by decide)

end Hpx.EnvelopePolar

#print axioms Hpx.EnvelopePolar.next_to_pole_chart
#print axioms Hpx.EnvelopePolar.c2v_below_true_next_to_north_pole
#print axioms Hpx.EnvelopePolar.c2v_below_true_next_to_south_pole
#print axioms Hpx.EnvelopePolar.c2v_below_true_at_east_vertex
#print axioms Hpx.EnvelopePolar.c2v_exact_at_transition_corner
#print axioms Hpx.EnvelopePolar.c2v_below_true_on_transition_corner_polar_side
