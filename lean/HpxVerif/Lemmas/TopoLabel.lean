/-
C04 — seams as chart transitions (`seam_vertex`), and from them `neighbour_vertex`: which vertex of a cell is which vertex
of its neighbour.  `neighbour_labelled` and `neighbours_distinct` follow; so does the way back, in `EdgeExternal.lean`.
-/
import HpxVerif.Lemmas.TopoGlue

namespace Hpx.TopoNeigh
open Hpx Hpx.Topo Hpx.TopoSpec MW

theorem dA_range (v : MW) : 0 ≤ dA v ∧ dA v ≤ 1 := by cases v <;> simp [dA]
theorem dC_range (v : MW) : 0 ≤ dC v ∧ dC v ≤ 1 := by cases v <;> simp [dC]

theorem vkey_eq_iff (n : Nat) (p q : HashParts) (v w : MW) (hn : 1 ≤ n) (hp : Valid n p) (hq : Valid n q)
    (hv : v ∈ cardinals) (hw : w ∈ cardinals) :
    vkey n p v = vkey n q w ↔ Glue n p.d0h q.d0h (p.i + dA v) (p.j + dC v) (q.i + dA w) (q.j + dC w) := by
  rw [vkey_eq n p v hn hp hv, vkey_eq n q w hn hq hw]
  have h1 := dA_range v; have h2 := dC_range v; have h3 := dA_range w; have h4 := dC_range w
  obtain ⟨hpb, hpi, hpj⟩ := hp
  obtain ⟨hqb, hqi, hqj⟩ := hq
  exact glue n _ _ _ _ _ _ (by omega) hpb hqb (by omega) (by omega) (by omega) (by omega) (by omega) (by omega)
    (by omega) (by omega)

/-! ## seams as chart transitions

The chart of a base cell extends one cell beyond its border: `nbAt n b x y` with `x` or `y` in `{-1, n}` is the cell of the
neighbouring base cell that the *virtual* cell `(x, y)` of the chart of `b` stands for.  The two charts differ by a
translation and by `turn b zx zy` quarter turns; `seam_vertex` says so vertex by vertex, and is the one place where the
seam rules of the code meet the gluing of the specification. -/

def rho : MW → MW
  | S => E | E => N | N => W | W => S | SE => NE | NE => NW | NW => SW | SW => SE | C => C

def rhoN : Nat → MW → MW
  | 0, w => w
  | t + 1, w => rho (rhoN t w)

/-- quarter turns between the chart of base cell `b` and the chart of the base cell beyond its border in the zone
    `(zx, zy)`: only the seams between two base cells of the same polar cap turn -/
def turn (b : Nat) (zx zy : Int) : Nat :=
  match b / 4, zx, zy with
  | 0, 1, 0 => 1 | 0, 0, 1 => 3 | 0, 1, 1 => 2
  | 2, -1, 0 => 1 | 2, 0, -1 => 3 | 2, -1, -1 => 2
  | _, _, _ => 0

theorem u32_in (n : Nat) (x : Int) (hn2 : n ≤ 4294967296) (h1 : 0 ≤ x) (h2 : x < n) : u32 x = x.toNat := by
  unfold u32; omega

theorem seam_vertex (n b : Nat) (x y a c : Int) (q : HashParts) (w : MW) (hn : 1 ≤ n) (hn2 : n ≤ 4294967296)
    (hb : b < 12) (hx : -1 ≤ x) (hx' : x ≤ n) (hy : -1 ≤ y) (hy' : y ≤ n) (ha : 0 ≤ a) (ha' : a ≤ n) (hc : 0 ≤ c)
    (hc' : c ≤ n) (hw : w ∈ cardinals) (h : nbAt n b x y = some q) :
    Glue n b q.d0h a c (q.i + dA w) (q.j + dC w) ↔
      a = x + dA (rhoN (turn b (zone n x) (zone n y)) w) ∧ c = y + dC (rhoN (turn b (zone n x) (zone n y)) w) := by
  obtain ⟨b, h0, k, hk, rfl⟩ := exists_col b hb
  rw [nbAt_rot n _ k x y (by omega) hk, Option.map_eq_some_iff] at h
  obtain ⟨q, h, rfl⟩ := h
  rw [show turn (rotB k b) = turn b by unfold turn; rw [rotB_row]]
  simp only [rot, Glue_rot]
  clear hb hk
  revert h
  unfold nbAt
  simp only [cardinals, List.mem_cons, List.not_mem_nil, or_false] at hw
  -- a seam rule copies a coordinate that stayed inside the grid, `0` or `n − 1`: as integers these are free of `%`, `toNat`
  -- and natural subtraction (`u32_in`, `Int.toNat_of_nonneg`, `hn1`), on each of which `omega` would split in every case below
  have hn1 : ((n - 1 : Nat) : Int) = n - 1 := by omega
  rcases zone_cases n x with ⟨h1, hz⟩ | ⟨h1, h2, hz⟩ | ⟨h1, h2, hz⟩ <;>
  rcases zone_cases n y with ⟨h3, hz'⟩ | ⟨h3, h4, hz'⟩ | ⟨h3, h4, hz'⟩ <;>
  rw [hz, hz'] <;>
  obtain rfl | rfl | rfl := h0 <;>
  simp (disch := assumption) only [nbZ_tab, u32_in n x hn2, u32_in n y hn2, Option.some.injEq, reduceCtorEq,
    false_imp_iff] <;>
  · intro hq; subst hq
    -- `turn` and `Glue` unfold once per seam, before the split on the four vertices
    simp (disch := assumption) only [turn, Glue, Int.toNat_of_nonneg, hn1, Nat.reduceDiv, Nat.reduceMod, Nat.reduceAdd,
      Nat.reduceSub]
    rcases hw with rfl | rfl | rfl | rfl <;>
    simp only [rho, rhoN, dA, dC] <;>
    omega

theorem turn_lt (b : Nat) (zx zy : Int) : turn b zx zy < 4 := by
  unfold turn; split <;> decide

theorem filter_edgeOf (dir : MW) : cardinals.filter (fun v => decide (v ∈ edgeOf dir)) = edgeOf dir := by
  cases dir <;> decide

theorem edgeOf_injective {d1 d2 : MW} (h : edgeOf d1 = edgeOf d2) : d1 = d2 := by
  cases d1 <;> cases d2 <;> first | rfl | exact absurd h (by decide)

theorem glue_self (n : Int) (b : Nat) (a c a' c' : Int) (hb : b < 12) :
    Glue n b b a c a' c' ↔ a = a' ∧ c = c' := by
  obtain rfl | rfl | rfl | rfl | rfl | rfl | rfl | rfl | rfl | rfl | rfl | rfl := b12 b hb <;>
  simp [Glue]

theorem dAC_injective : ∀ v ∈ cardinals, ∀ w ∈ cardinals, dA v = dA w → dC v = dC w → v = w := by decide

/-- the four vertices of a cell are four different points of the sphere, so `shared n p q` counts points of the sphere -/
theorem vkey_injective (n : Nat) (p : HashParts) (v w : MW) (hn : 1 ≤ n) (hp : Valid n p) (hv : v ∈ cardinals)
    (hw : w ∈ cardinals) (e : vkey n p v = vkey n p w) : v = w := by
  have hG := (vkey_eq_iff n p p v w hn hp hp hv hw).1 e
  rw [glue_self n _ _ _ _ _ hp.1] at hG
  exact dAC_injective v hv w hw (by omega) (by omega)

theorem neighbour_vertex (n : Nat) (p q : HashParts) (dir v w : MW) (hn : 1 ≤ n) (hn2 : n ≤ 4294967296)
    (hp : Valid n p) (hv : v ∈ cardinals) (hw : w ∈ cardinals) (h : neighbourParts n p dir = some q) :
    vkey n p v = vkey n q w ↔
      dA v = dir.offsetSe + dA (rhoN (turn p.d0h (zone n (p.i + dir.offsetSe)) (zone n (p.j + dir.offsetSw))) w) ∧
      dC v = dir.offsetSw + dC (rhoN (turn p.d0h (zone n (p.i + dir.offsetSe)) (zone n (p.j + dir.offsetSw))) w) := by
  have hq := neighbourParts_valid n p q dir hn hn2 hp h
  have ⟨hb, hi, hj⟩ := hp
  have h1 := dA_range v; have h2 := dC_range v
  have o := offsets_range dir
  rw [neighbourParts_eq_nbAt] at h
  rw [vkey_eq_iff n p q v w hn hp hq hv hw, seam_vertex n p.d0h _ _ _ _ q w hn hn2 hb (by omega) (by omega)
    (by omega) (by omega) (by omega) (by omega) (by omega) (by omega) hw h]
  omega

theorem edge_shared : ∀ t < 4, ∀ dir ∈ MW.all, ∀ v ∈ cardinals,
    (∃ w ∈ cardinals, dA v = dir.offsetSe + dA (rhoN t w) ∧ dC v = dir.offsetSw + dC (rhoN t w)) ↔ v ∈ edgeOf dir := by
  decide

/-- **C04, `neighbour_labelled`**: the cell returned for direction `dir` shares with `p` exactly the vertices of the
    side `dir` of `p` (two vertices, `dir` ordinal), exactly the corner `dir` of `p` (one vertex, `dir` cardinal); for
    `dir = C` it is `p` itself (four vertices).  Every `1 ≤ n ≤ 2^32`, `n = 1` (depth 0) included. -/
theorem neighbour_labelled (n : Nat) (p q : HashParts) (dir : MW) (hn : 1 ≤ n) (hn2 : n ≤ 4294967296)
    (hp : Valid n p) (h : neighbourParts n p dir = some q) : shared n p q = edgeOf dir := by
  rw [← filter_edgeOf dir]
  unfold shared
  apply List.filter_congr
  intro v hv
  rw [decide_eq_decide, ← edge_shared _ (turn_lt _ _ _) dir (mem_all dir) v hv, keys, List.mem_map]
  exact exists_congr fun w => and_congr_right fun hw =>
    eq_comm.trans (neighbour_vertex n p q dir v w hn hn2 hp hv hw h)

/-- **C04, `neighbours_distinct`**: two different directions (the centre included) never give the same cell; in
    particular the (up to 8) neighbours are pairwise distinct.  Every `1 ≤ n ≤ 2^32`. -/
theorem neighbours_distinct (n : Nat) (p q : HashParts) (d1 d2 : MW) (hn : 1 ≤ n) (hn2 : n ≤ 4294967296)
    (hp : Valid n p) (h1 : neighbourParts n p d1 = some q) (h2 : neighbourParts n p d2 = some q) : d1 = d2 :=
  edgeOf_injective ((neighbour_labelled n p q d1 hn hn2 hp h1).symm.trans (neighbour_labelled n p q d2 hn hn2 hp h2))

/-- a neighbour (direction other than `C`) is never the cell itself.  Every `1 ≤ n ≤ 2^32`. -/
theorem neighbour_ne_self (n : Nat) (p q : HashParts) (dir : MW) (hn : 1 ≤ n) (hn2 : n ≤ 4294967296)
    (hp : Valid n p) (hdir : dir ≠ C) (h : neighbourParts n p dir = some q) : q ≠ p := by
  rintro rfl
  exact hdir (neighbours_distinct n q q dir C hn hn2 hp h (neighbourParts_C n q hp))

end Hpx.TopoNeigh
