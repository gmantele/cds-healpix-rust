import HpxVerif.Lemmas.CellExtentCone
import HpxVerif.Lemmas.EConeRealScheme

/-!
The envelope hypothesis `H1` ("every position of a visited cell is within the radius of its level of the cell centre") of
the elliptical-cone theorems of C13 (`Sph.centre_cell_kept`, `Sph.circular_no_miss`, `Sph.circular_full_inside`), `hcover`
("the four children cover the parent") and the numeric side conditions on the radii, discharged for the equatorial cells.

`inCell := CellExtent.InCellEq` (positions of the strictly equatorial cells of the NESTED scheme) and `dists` is the
list the model of `elliptical_cone_coverage_internal` really computes, `largest_center_to_vertex_distances_with_radius(ds,
depth + 1, lon, lat, a)` with the SEMI-MAJOR axis `a` as radius (`Model/SphGeom.lean`, `ellInternal`; release profile
`cfg.debug = false`), for the ellipses whose bounding disc stays in the equatorial band: `|lat| + a < tl`.  Every radius of
the list is in `[0, 0.86]` (so `D ≤ π/2`, `a + D ≤ 3`), and each use of `H1` is for a cell that meets the disc
(`H1_equatorial_meet`), so no geometric hypothesis is left, for EVERY starting depth `ds ≤ target ≤ 29` and any real
longitude of the centre (no normalisation, no `hext`).
-/

namespace Hpx.EConeEq
open Hpx Hpx.Hash Hpx.C2V Hpx.C2VReal Hpx.Proj Hpx.Cover Hpx.CellReal Hpx.EnvelopeReal Hpx.TopoLift Hpx.CellExtent
open Hpx.Sph Hpx.Bmoc Real

/-- every value of `largest_center_to_vertex_distance_with_radius` (depth `≤ 29`, release profile) for a cone of the
    equatorial band is at most `0.86` (`π/2 − tl ≈ 0.841` at depth 0, at most `2/π` below) -/
theorem valR_le (d : ℕ) (lon lat r : ℝ) (hr : 0 ≤ r) (hA : |lat| + r < tl) : valR d lon lat r ≤ 86 / 100 := by
  unfold valR
  have hpi := Real.pi_gt_three
  split_ifs with h0
  · have := tl_ge
    have := Real.pi_lt_d2
    linarith
  · obtain ⟨hδ0, hδ1⟩ := half_pow_range d (by omega)
    refine (c2vR_le_dMax3 d lon lat r hr hA).trans ?_
    unfold dMax3
    have h1 : 4 / π * (1 / 2 ^ d) ≤ 4 / π * (1 / 2) := mul_le_mul_of_nonneg_left hδ1 (by positivity)
    have h2 : 4 / π * (1 / 2) ≤ 2 / 3 := by
      rw [show (4 : ℝ) / π * (1 / 2) = 2 / π by ring, div_le_div_iff₀ (by positivity) (by norm_num)]
      linarith
    linarith

theorem dists_bounds (ds target : ℕ) (hdt : ds ≤ target) (ht : target ≤ 29) (lon lat r : ℝ) (hr : 0 ≤ r)
    (hA : |lat| + r < tl) (dists : List ℝ)
    (hdists : largestC2VsWithRadius false ds (target + 1) lon lat r = some dists) :
    ∀ D ∈ dists, 0 ≤ D ∧ D ≤ 86 / 100 := by
  rw [dists_eq ds target ht] at hdists
  obtain rfl := Option.some.inj hdists
  intro D hD
  obtain ⟨d, -, rfl⟩ := List.mem_map.mp hD
  exact ⟨valR_nonneg d lon lat r hA, valR_le d lon lat r hr hA⟩

/-- the list exists (no panic) for every `ds ≤ target ≤ 29` -/
theorem dists_exists_gen (ds target : ℕ) (hdt : ds ≤ target) (ht : target ≤ 29) (lon lat r : ℝ) :
    ∃ dists, largestC2VsWithRadius false ds (target + 1) lon lat r = some dists :=
  ⟨_, dists_eq ds target ht lon lat r⟩

/-- **no position of the inscribed circular cone is missed** (ℝ, release profile): general ellipse `0 < b ≤ a`, any position
    angle, EVERY starting depth `ds ≤ target ≤ 29`, `dists` the list computed by the crate (radius `a`).  Every position
    within `b` of `(lon, lat)` that lies in the start cell, a strictly equatorial cell, lies in a cell of the output: a
    skipped ball is disjoint from the cone of radius `b` (`inner_skip_sound`; the radii are at most `0.86`, so its centre is
    within `3` of `(lon, lat)`).  The circular case `a = b` and the centre of any ellipse are instances. -/
theorem econe_inner_no_miss_equatorial (cfg : Cfg) (lon lat a b pa : ℝ) (hb : 0 < b) (hba : b ≤ a) (hA : |lat| + a < tl)
    (hmin : 1 / 2 ^ 1024 < sin b) (ds target : ℕ) (hdt : ds ≤ target) (ht : target ≤ 29) (dists : List ℝ)
    (hdists : largestC2VsWithRadius false ds (target + 1) lon lat a = some dists) (fuel root : ℕ) (out : List Cell)
    (h : coverRec target (ellClassifier (α := ℝ) cfg target (ECone.new lon lat a b pa) dists) fuel ds root 0 = some out)
    (q : ℝ × ℝ) (hq : InCellEq ds root q) (hin : adist q (lon, lat) ≤ b) :
    ∃ c ∈ out, InCellEq c.depth c.hash q := by
  have ha2 := lt_halfPi_of_band lat a hA
  have hpi := Real.pi_gt_three
  have hpi4 := Real.pi_lt_four
  refine (ellClassifier_ballTests cfg target _ dists).no_miss_equatorial lon lat a hA ds target hdt ht hdists
    (fun q => adist q (lon, lat) ≤ b) (fun q hq => by rw [adist_comm]; exact hq.trans hba) ?_ fuel root out h q hq hin
  intro c D q' hDm hs hq' hR
  obtain ⟨_, h2⟩ := dists_bounds ds target hdt ht lon lat a (hb.le.trans hba) hA dists hdists D hDm
  have htri := adist_triangle c q' (lon, lat)
  have hlt := inner_skip_sound lon lat a b pa c.1 c.2 D hb hba ha2 hmin (by linarith) hs.1 hs.2 (by linarith)
  linarith

/-- **C13 `circular_no_miss` with `H1`, `hcover` and the numeric side conditions discharged** (ℝ, release profile).
    Circular elliptical cone `a = b`, centre `(lon, lat)` (any real longitude), `0 < a`,
    `|lat| + a < tl` (its latitude band stays below the transition latitude), `sin a > 2^-1024`, any position angle;
    EVERY starting depth `ds ≤ target ≤ 29`; `dists` the list `largest_center_to_vertex_distances_with_radius(ds,
    target + 1, lon, lat, a)` that `elliptical_cone_coverage_internal` computes (radius = semi-major axis).  If the descent
    of the model from a start cell `root` returns `out`, every position `q` of the disc that lies in `root`, a strictly
    equatorial cell, lies in a cell of `out`. -/
theorem econe_circular_no_miss_equatorial (cfg : Cfg) (lon lat a pa : ℝ) (ha : 0 < a) (hA : |lat| + a < tl)
    (hmin : 1 / 2 ^ 1024 < sin a) (ds target : ℕ) (hdt : ds ≤ target) (ht : target ≤ 29) (dists : List ℝ)
    (hdists : largestC2VsWithRadius false ds (target + 1) lon lat a = some dists) (fuel root : ℕ) (out : List Cell)
    (h : coverRec target (ellClassifier (α := ℝ) cfg target (ECone.new lon lat a a pa) dists) fuel ds root 0 = some out)
    (q : ℝ × ℝ) (hq : InCellEq ds root q) (hin : adist q (lon, lat) ≤ a) :
    ∃ c ∈ out, InCellEq c.depth c.hash q :=
  econe_inner_no_miss_equatorial cfg lon lat a a pa ha le_rfl hA hmin ds target hdt ht dists hdists fuel root out h q hq hin

/-- **C13 `circular_full_inside` with `H1` discharged** (ℝ, release profile), EVERY
    starting depth `ds ≤ target ≤ 29` (no `2 ≤ ds`: a `full` verdict needs the centre of the cell inside the disc, so the cell
    meets the disc and `H1_equatorial_meet` applies at depths 0 and 1 too).  Under the assumptions of
    `econe_circular_no_miss_equatorial`, a cell of the output flagged FULL either has all its positions (as a strictly
    equatorial cell) within `a` of `(lon, lat)`, or is at the target depth with its four vertices within `a`. -/
theorem econe_circular_full_inside_equatorial (cfg : Cfg) (lon lat a pa : ℝ) (ha : 0 < a) (hA : |lat| + a < tl)
    (ds target : ℕ) (hdt : ds ≤ target) (ht : target ≤ 29) (dists : List ℝ)
    (hdists : largestC2VsWithRadius false ds (target + 1) lon lat a = some dists) (fuel root : ℕ) (out : List Cell)
    (h : coverRec target (ellClassifier (α := ℝ) cfg target (ECone.new lon lat a a pa) dists) fuel ds root 0 = some out)
    (c : Cell) (hc : c ∈ out) (hf : c.full = true) :
    (∀ q, InCellEq c.depth c.hash q → adist q (lon, lat) ≤ a) ∨
    (c.depth = target ∧ ∃ vs, Hash.vertices (α := ℝ) cfg c.depth c.hash = some vs ∧
      ∀ v ∈ vs, adist v (lon, lat) ≤ a) := by
  have ha2 := lt_halfPi_of_band lat a hA
  refine ((ellClassifier_ballTests cfg target _ dists).full_equatorial lon lat a hA ds target hdt ht hdists
    (fun q => adist q (lon, lat) ≤ a) (fun q hq => by rwa [adist_comm]) ?_ fuel root out h c hc hf).imp And.right ?_
  · intro ctr D q hDm hF hq
    rw [← adist_new_c0]
    exact containsCone_ball_inside lon lat a a pa ctr.1 ctr.2 D le_rfl ha2
      (dists_bounds ds target hdt ht lon lat a ha.le hA dists hdists D hDm).1 hF q hq
  · rintro ⟨hdt', hk⟩
    obtain ⟨_, vs, hvs, hall⟩ := ellClassifier_descend_full cfg target _ dists _ _ _ hk
    exact ⟨hdt', vs, hvs, fun v hv =>
      (econe_contains_circular_iff lon lat a pa v.1 v.2 ⟨ha, ha2⟩).mp (List.all_eq_true.mp hall v hv)⟩

/-- **C13 `centre_cell_kept` with `H1`, `hcover`, `hext` and the numeric side condition discharged** (ℝ, release profile).
    General ellipse `0 < b ≤ a`, any position angle, centre `(lon, lat)` (any real
    longitude) with `|lat| + a < tl`, `sin b > 2^-1024`; EVERY starting depth `ds ≤ target ≤ 29`; `dists` the list computed by
    the crate (radius `a`).  If the descent from a start cell `root` returns `out` and `(lon, lat)` is a position of `root`, a
    strictly equatorial cell, then `(lon, lat)` is a position of a cell of `out`. -/
theorem econe_centre_cell_kept_equatorial (cfg : Cfg) (lon lat a b pa : ℝ) (hb : 0 < b) (hba : b ≤ a)
    (hA : |lat| + a < tl) (hmin : 1 / 2 ^ 1024 < sin b) (ds target : ℕ) (hdt : ds ≤ target) (ht : target ≤ 29)
    (dists : List ℝ) (hdists : largestC2VsWithRadius false ds (target + 1) lon lat a = some dists) (fuel root : ℕ)
    (out : List Cell)
    (h : coverRec target (ellClassifier (α := ℝ) cfg target (ECone.new lon lat a b pa) dists) fuel ds root 0 = some out)
    (hq : InCellEq ds root (lon, lat)) :
    ∃ c ∈ out, InCellEq c.depth c.hash (lon, lat) :=
  econe_inner_no_miss_equatorial cfg lon lat a b pa hb hba hA hmin ds target hdt ht dists hdists fuel root out h _ hq
    (by rw [adist_self]; exact hb.le)

/-- the shape of `H1` of `centre_cell_kept` (no `q`): at the centre of the ellipse -/
theorem H1_equatorial_centre (cfg : Cfg) (lon lat a : ℝ) (ha : 0 ≤ a) (hA : |lat| + a < tl) (ds target : ℕ)
    (hdt : ds ≤ target) (ht : target ≤ 29) (dists : List ℝ)
    (hdists : largestC2VsWithRadius false ds (target + 1) lon lat a = some dists) :
    ∀ d h c D, ds ≤ d → Hash.center (α := ℝ) cfg d h = some c → dists[d - ds]? = some D →
      InCellEq d h (lon, lat) → adist c (lon, lat) ≤ D :=
  fun d h c D hd hc hD hq => H1_equatorial_cone cfg lon lat a hA ds target hdt ht dists hdists d h c D (lon, lat) hd hc hD
    ⟨hq, by rw [adist_self]; exact ha⟩

theorem ex_hyps : (0 : ℝ) < 1 / 20 ∧ |(1 / 5 : ℝ)| + 1 / 20 < tl ∧ 1 / 2 ^ 1024 < sin (1 / 20 : ℝ) := by
  have := tl_ge
  have hpi := Real.pi_gt_three
  refine ⟨by norm_num, ?_, tiny_lt_sin _ (by norm_num) (by linarith)⟩
  rw [abs_of_pos (by norm_num)]
  linarith

/-- the centre `(1, 1/5)` is a position of cell 4 of depth 3 (base cell 0, `(i, j) = (2, 0)`, centre `(5/4, 3/8)` in the
    projection plane), a strictly equatorial cell: the hash the crate computes at its starting depth 3 -/
theorem ex_centre_in_cell : InCellEq 3 4 ((1 : ℝ), (1 / 5 : ℝ)) := by
  have e : partsOf 3 4 = ⟨0, 2, 0⟩ := by decide +kernel
  have hpi := Real.pi_gt_d2
  have hpi' := Real.pi_lt_d2
  have hs1 : sin (1 / 5 : ℝ) ≤ 1 / 5 := (Real.sin_lt (by norm_num)).le
  have hs2 : (1 / 5 : ℝ) - (1 / 5) ^ 3 / 6 < sin (1 / 5) := Real.sin_gt_sub_cube (by norm_num)
  have h4 : (4 : ℝ) / π ≤ 128 / 100 := by rw [div_le_div_iff₀ (by positivity) (by norm_num)]; linarith
  have h4' : (125 : ℝ) / 100 ≤ 4 / π := by rw [div_le_div_iff₀ (by norm_num) (by positivity)]; linarith
  refine ⟨by decide, by decide, ?_, 4 / π, 3 / 2 * sin (1 / 5), 0, ?_, ?_⟩
  · rw [e]; unfold cellCy baseY; norm_num [abs_lt]
  · rw [e]; unfold InDiamond cellCx cellCy baseX baseY
    norm_num
    rw [abs_of_nonneg (by linarith), abs_of_nonpos (by linarith)]
    linarith
  · unfold latOf
    rw [show (3 : ℝ) / 2 * sin (1 / 5) * (2 / 3) = sin (1 / 5) by ring,
      Real.arcsin_sin (by linarith) (by linarith)]
    ext <;> simp

/-- **the circular no-miss theorem on the concrete ellipse** `lon = 1`, `lat = 0.2`, `a = b = 0.05`, target depth 6, starting
    depth 3 (`best_starting_depth(0.05) = 3`): the list of radii exists, the centre is a position of the start cell `3/4`,
    and every position of the disc in a strictly equatorial start cell is in a returned cell, whatever the position angle -/
example : (∃ dists, largestC2VsWithRadius false 3 (6 + 1) (1 : ℝ) (1 / 5) (1 / 20) = some dists) ∧
    InCellEq 3 4 ((1 : ℝ), (1 / 5 : ℝ)) ∧
    ∀ (cfg : Cfg) (pa : ℝ) (dists : List ℝ),
      largestC2VsWithRadius false 3 (6 + 1) (1 : ℝ) (1 / 5) (1 / 20) = some dists →
      ∀ (fuel root : ℕ) (out : List Cell),
        coverRec 6 (ellClassifier (α := ℝ) cfg 6 (ECone.new 1 (1 / 5) (1 / 20) (1 / 20) pa) dists) fuel 3 root 0 = some out →
        (∀ q, InCellEq 3 root q → adist q (1, 1 / 5) ≤ 1 / 20 → ∃ c ∈ out, InCellEq c.depth c.hash q) ∧
        (∀ c ∈ out, c.full = true → (∀ q, InCellEq c.depth c.hash q → adist q (1, 1 / 5) ≤ 1 / 20) ∨
          (c.depth = 6 ∧ ∃ vs, Hash.vertices (α := ℝ) cfg c.depth c.hash = some vs ∧
            ∀ v ∈ vs, adist v (1, 1 / 5) ≤ 1 / 20)) ∧
        (InCellEq 3 root (1, 1 / 5) → ∃ c ∈ out, InCellEq c.depth c.hash (1, 1 / 5)) := by
  obtain ⟨h1, h2, h3⟩ := ex_hyps
  refine ⟨dists_exists_gen 3 6 (by decide) (by decide) _ _ _, ex_centre_in_cell, ?_⟩
  intro cfg pa dists hdists fuel root out h
  exact ⟨fun q hq hin => econe_circular_no_miss_equatorial cfg 1 (1 / 5) (1 / 20) pa h1 h2 h3 3 6 (by decide) (by decide)
      dists hdists fuel root out h q hq hin,
    fun c hc hf => econe_circular_full_inside_equatorial cfg 1 (1 / 5) (1 / 20) pa h1 h2 3 6 (by decide) (by decide)
      dists hdists fuel root out h c hc hf,
    fun hq => econe_centre_cell_kept_equatorial cfg 1 (1 / 5) (1 / 20) (1 / 20) pa h1 le_rfl h2 h3 3 6 (by decide)
      (by decide) dists hdists fuel root out h hq⟩

/-- a genuinely elliptical example for the centre cell: `a = 0.05`, `b = 0.01`, position angle `0.3` -/
example (cfg : Cfg) (dists : List ℝ)
    (hdists : largestC2VsWithRadius false 3 (6 + 1) (1 : ℝ) (1 / 5) (1 / 20) = some dists) (fuel : ℕ) (out : List Cell)
    (h : coverRec 6 (ellClassifier (α := ℝ) cfg 6 (ECone.new 1 (1 / 5) (1 / 20) (1 / 100) (3 / 10)) dists) fuel 3 4 0
      = some out) : ∃ c ∈ out, InCellEq c.depth c.hash ((1 : ℝ), (1 / 5 : ℝ)) := by
  obtain ⟨h1, h2, _⟩ := ex_hyps
  have hpi := Real.pi_gt_three
  exact econe_centre_cell_kept_equatorial cfg 1 (1 / 5) (1 / 20) (1 / 100) (3 / 10) (by norm_num) (by norm_num) h2
    (tiny_lt_sin _ (by norm_num) (by linarith)) 3 6 (by decide) (by decide) dists hdists fuel 4 out h ex_centre_in_cell

end Hpx.EConeEq

#print axioms Hpx.CellExtent.H1_equatorial_meet
#print axioms Hpx.EConeEq.econe_circular_no_miss_equatorial
#print axioms Hpx.EConeEq.econe_circular_full_inside_equatorial
#print axioms Hpx.EConeEq.econe_centre_cell_kept_equatorial
#print axioms Hpx.EConeEq.ex_centre_in_cell
