/-
C04 — gluing for base cell 4 (equatorial region, column 0) against each of the twelve base cells: the keys of two lattice
corners are equal iff the corners are glued (`Glue`).
-/
import HpxVerif.Lemmas.TopoKeys

namespace Hpx.TopoNeigh
open Hpx Hpx.TopoSpec

section
variable (n a c a' c' : Int) (hn : 0 < n) (ha : 0 ≤ a) (ha' : a ≤ n) (hc : 0 ≤ c) (hc' : c ≤ n)
  (hd : 0 ≤ a') (hd' : a' ≤ n) (he : 0 ≤ c') (he' : c' ≤ n)
include hn ha ha' hc hc' hd hd' he he'

local macro "glue_tac" k1:ident k2:ident : tactic =>
  `(tactic| (rw [$k1:ident n a c hn ha ha' hc hc', $k2:ident n a' c' hn hd hd' he he']
             simp only [Prod.mk.injEq, KXn, KXe, KXs, wr, wl, Glue, Nat.reduceDiv, Nat.reduceMod, Nat.reduceAdd,
               Nat.reduceSub]
             constructor <;> intro h <;> first | exact False.elim h | omega))

theorem glue_4 (b' : Nat) (hb' : b' < 12) : Kp n 4 a c = Kp n b' a' c' ↔ Glue n 4 b' a c a' c' := by
  obtain rfl | rfl | rfl | rfl | rfl | rfl | rfl | rfl | rfl | rfl | rfl | rfl := b12 b' hb'
  · glue_tac Kp_4 Kp_0
  · glue_tac Kp_4 Kp_1
  · glue_tac Kp_4 Kp_2
  · glue_tac Kp_4 Kp_3
  · glue_tac Kp_4 Kp_4
  · glue_tac Kp_4 Kp_5
  · glue_tac Kp_4 Kp_6
  · glue_tac Kp_4 Kp_7
  · glue_tac Kp_4 Kp_8
  · glue_tac Kp_4 Kp_9
  · glue_tac Kp_4 Kp_10
  · glue_tac Kp_4 Kp_11

end

end Hpx.TopoNeigh
