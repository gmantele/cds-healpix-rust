import HpxVerif.Lemmas.Tightness
import HpxVerif.Lemmas.EConeEq
import HpxVerif.Lemmas.CoverWF

/-!
# C06 (tightness clause) — every cell reported by the cone coverage has its centre within `r + 2·Mtrue depth`

A cell that the descent emits passed the upper test of the classifier, so its centre is within `min (r + D) π` of the
cone centre, `D` the crate's radius of its depth, and `D ≤ 2·Mtrue d`: any cone, any start depth.  Also: that the dev
profile returns the release radii or panics, and that the compaction only creates full cells, which carry the clause to the
list and to the returned BMOC in `Props/C06.lean`.

Not covered: the FULL cells created by the compaction (a parent replacing four full children; they are inside the cone by
the other clause of C06, given H1), and `cone_coverage_approx_custom` with `delta_depth > 0` (`to_lower_depth`).
-/

namespace Hpx.Tightness
open Hpx Hpx.Hash Hpx.Proj Hpx.Cover Hpx.C2V Hpx.C2VReal Hpx.EnvelopeReal Hpx.EnvelopePolar Hpx.CellReal Hpx.TopoLift
  Hpx.CellExtent Hpx.Bmoc Real

theorem cone_full_near (coneLon coneLat r D : ℝ) (c : ℝ × ℝ) (hD : 0 ≤ D)
    (hfull : Num.lt (shs (α := ℝ) coneLon coneLat (Num.cos coneLat) c) (toShsMinMax r D).min = true) :
    adist (coneLon, coneLat) c < r := by
  rcases le_or_gt r π with hrpi | hrpi
  · exact cone_full_sound coneLon coneLat r D c hrpi hD hfull c (by rw [adist_self]; exact hD)
  · exact lt_of_le_of_lt (adist_le_pi _ _) hrpi

theorem valR_nonneg_of_radius (d : ℕ) (lon lat r : ℝ) (hr : 0 ≤ r) : 0 ≤ valR d lon lat r := by
  rcases lt_or_ge (|lat| + r) tl with hA | hA
  · exact valR_nonneg d lon lat r hA
  · unfold valR c2vR
    rw [if_pos hA]
    split_ifs with h0
    · have := EnvelopeReal.tl_le
      have := Real.pi_gt_three
      linarith
    · have hpi := Real.pi_pos
      have hs := new_slopeNpc_nonneg d
      have hi : 0 ≤ (Csts.new d : Csts ℝ).interceptNpc := by
        rw [new_interceptNpc_eq]; exact dMinP_nonneg _ (distCw_range d).1.le
      have hx : 0 ≤ min (fold lon + r) (π / 4) := le_min (by linarith [fold_nonneg lon]) (by positivity)
      unfold npcEnv
      nlinarith

theorem valR_le_twice (d : ℕ) (lon lat r : ℝ) (hr : 0 ≤ r) : valR d lon lat r ≤ 2 * Mtrue d := by
  unfold valR
  split_ifs with h0
  · rw [h0]; exact depth0_le_twice
  · exact c2vR_le_twice d (by omega) lon lat r hr

/-- C06, tightness clause (ℝ, release profile).  Any cone with `0 ≤ r` (no restriction on its position), start depth
    `ds ≤ target ≤ 29`, `dists` the list `largest_center_to_vertex_distances_with_radius(ds, target + 1, lon, lat, r)` of the
    crate: every cell of the output of the descent from any start cell has a centre within `min (r + D) π` of the cone
    centre, `D` the crate's radius of its depth — hence within `r + 2·Mtrue c.depth`, the radius plus twice the TRUE
    centre-to-vertex distance `π/4·2^-depth` of the cells of its depth centred on the equator. -/
theorem cone_tight_rec (cfg : Cfg) (lon lat r : ℝ) (hr : 0 ≤ r) (ds target : ℕ) (hdt : ds ≤ target) (ht : target ≤ 29)
    (dists : List ℝ) (hdists : largestC2VsWithRadius false ds (target + 1) lon lat r = some dists)
    (fuel root : ℕ) (out : List Cell)
    (h : coverRec target (coneClassifier (α := ℝ) cfg lon lat (Num.cos lat) (dists.map (toShsMinMax r))) fuel ds root 0
      = some out)
    (c : Cell) (hc : c ∈ out) :
    ∃ ctr, center (α := ℝ) cfg c.depth c.hash = some ctr ∧
      adist (lon, lat) ctr ≤ min (r + valR c.depth lon lat r) π ∧
      adist (lon, lat) ctr ≤ r + 2 * Mtrue c.depth := by
  obtain ⟨hds, hrule⟩ := coverRec_emitted_from target _ fuel ds root out h c hc
  have hv0 := valR_nonneg_of_radius c.depth lon lat r hr
  have hv2 := valR_le_twice c.depth lon lat r hr
  have key : ∀ D, dists[c.depth - ds]? = some D → D = valR c.depth lon lat r := fun D hdl =>
    (dists_getElem ds target ht lon lat r dists hdists c.depth hds D hdl).2
  rcases hrule with ⟨hk, _⟩ | ⟨_, hk⟩
  · obtain ⟨ctr, D, hctr, hdl, hmin⟩ := coneClassifier_full cfg lon lat _ r dists _ _ _ hk
    rw [key D hdl] at hmin
    have := cone_full_near lon lat r _ ctr hv0 hmin
    exact ⟨ctr, hctr, le_min (by linarith) (adist_le_pi _ _), by linarith [Mtrue_pos c.depth]⟩
  · obtain ⟨_, ctr, D, hctr, hdl, hmax⟩ := coneClassifier_descend cfg lon lat _ r dists _ _ _ _ hk
    rw [key D hdl] at hmax
    -- kept ⇒ near: the upper test succeeded
    have h1 := (shs_le_max_iff lon lat r _ ctr (by linarith)).mp hmax
    refine ⟨ctr, hctr, h1, ?_⟩
    have := min_le_left (r + valR c.depth lon lat r) π
    linarith

/-! ## the dev profile refines the release profile: the helpers either panic or return the release value -/

section
variable {α : Type} [Num α]

/-- a `debug_assert!` of the model: what the dev profile returns, the release profile returns too (any continuation `x`, `y`
    related in the same way) -/
theorem dbg_refines {β : Type} {c : Bool} {x y : Option β} {v : β} (hxy : x = some v → y = some v)
    (h : (if (true && !c) = true then none else x) = some v) : (if (false && !c) = true then none else y) = some v := by
  split at h
  · cases h
  · exact hxy h

theorem ite_refines {β : Type} {c : Prop} [Decidable c] {x x' y y' : Option β} {v : β} (hx : x = some v → x' = some v)
    (hy : y = some v → y' = some v) (h : (if c then x else y) = some v) : (if c then x' else y') = some v := by
  split at h
  · rw [if_pos ‹c›]; exact hx h
  · rw [if_neg ‹¬c›]; exact hy h

/-- the `match` of the band that straddles `lsc`, where both helpers are called; `generalizing := false` keeps `hx`, `hy`
    out of the motive, so that the `match` is the one of the model -/
theorem match_refines {β γ : Type} {f : β → β → γ} {x x' y y' : Option β} {v : γ} (hx : ∀ a, x = some a → x' = some a)
    (hy : ∀ b, y = some b → y' = some b)
    (h : (match (generalizing := false) x, y with | some a, some b => some (f a b) | _, _ => none) = some v) :
    (match (generalizing := false) x', y' with | some a, some b => some (f a b) | _, _ => none) = some v := by
  cases x with
  | none => simp at h
  | some a =>
    cases y with
    | none => simp at h
    | some b => rw [hx a rfl, hy b rfl]; exact h

theorem eqrTop_debug {x : α} {c : Csts α} {v : α} (h : eqrTop true x c = some v) : eqrTop false x c = some v :=
  dbg_refines id h

theorem eqrBottom_debug {x : α} {c : Csts α} {v : α} (h : eqrBottom true x c = some v) : eqrBottom false x c = some v :=
  dbg_refines id h

theorem eqrTopWithRadius_debug {x r : α} {c : Csts α} {v : α} (h : eqrTopWithRadius true x r c = some v) :
    eqrTopWithRadius false x r c = some v :=
  dbg_refines (dbg_refines eqrTop_debug) h

theorem eqrBottomWithRadius_debug {x r : α} {c : Csts α} {v : α} (h : eqrBottomWithRadius true x r c = some v) :
    eqrBottomWithRadius false x r c = some v :=
  dbg_refines (dbg_refines eqrBottom_debug) h

theorem npcWithRadius_debug {lon r : α} {c : Csts α} {v : α} (h : npcWithRadius true lon r c = some v) :
    npcWithRadius false lon r c = some v :=
  dbg_refines (dbg_refines id) h

theorem largestC2VWithRadius_debug (d : Nat) (lon lat r v : α) (h : largestC2VWithRadius true d lon lat r = some v) :
    largestC2VWithRadius false d lon lat r = some v := by
  unfold largestC2VWithRadius at h ⊢
  exact ite_refines id (ite_refines id (ite_refines npcWithRadius_debug (ite_refines eqrTopWithRadius_debug
    (ite_refines eqrBottomWithRadius_debug
      (match_refines (fun _ => eqrTopWithRadius_debug) (fun _ => eqrBottomWithRadius_debug)))))) h

theorem mapM_mono {β γ : Type} {f g : β → Option γ} (hfg : ∀ x v, f x = some v → g x = some v) :
    ∀ {l : List β} {vs : List γ}, l.mapM f = some vs → l.mapM g = some vs := by
  intro l
  induction l with
  | nil => intro vs h; simpa using h
  | cons a l ih =>
    intro vs h
    rw [List.mapM_cons] at h ⊢
    cases ha : f a with
    | none => simp [ha] at h
    | some v =>
      cases hl : l.mapM f with
      | none => simp [ha, hl] at h
      | some w =>
        simp only [ha, hl] at h
        rw [hfg a v ha, ih hl]
        exact h

theorem largestC2VsWithRadius_debug (f t : Nat) (lon lat r : α) (vs : List α)
    (h : largestC2VsWithRadius true f t lon lat r = some vs) : largestC2VsWithRadius false f t lon lat r = some vs := by
  unfold largestC2VsWithRadius at h ⊢
  split at h
  · simp at h
  · simp only [Bool.false_and, Bool.false_eq_true, if_false]
    dsimp only at h ⊢
    generalize (if (f == 0) = true then [(Num.halfPi : α) - Num.transitionLat] else []) = head at h ⊢
    generalize (if (f == 0) = true then 1 else f) = from1 at h ⊢
    split at h
    · simp at h
    · rename_i hany
      rw [if_neg hany]
      simp only [Option.map_eq_some_iff] at h ⊢
      obtain ⟨rest, hrest, rfl⟩ := h
      refine ⟨rest, ?_, rfl⟩
      exact ite_refines id (ite_refines (mapM_mono fun _ _ => eqrTop_debug) (ite_refines
        (mapM_mono fun _ _ => eqrBottom_debug)
        (mapM_mono fun _ _ => match_refines (fun _ => eqrTop_debug) (fun _ => eqrBottom_debug)))) hrest
theorem largestC2VsWithRadius_release (dbg : Bool) (f t : Nat) (lon lat r : α) (vs : List α)
    (h : largestC2VsWithRadius dbg f t lon lat r = some vs) : largestC2VsWithRadius false f t lon lat r = some vs := by
  cases dbg
  · exact h
  · exact largestC2VsWithRadius_debug f t lon lat r vs h

theorem largestC2VWithRadius_release (dbg : Bool) (d : Nat) (lon lat r v : α)
    (h : largestC2VWithRadius dbg d lon lat r = some v) : largestC2VWithRadius false d lon lat r = some v := by
  cases dbg
  · exact h
  · exact largestC2VWithRadius_debug d lon lat r v h
end

theorem center_exists (cfg : Cfg) (d h : ℕ) (hd : d ≤ 29) (hh : h < 12 * 4 ^ d) :
    ∃ ctr, center (α := ℝ) cfg d h = some ctr := by
  obtain ⟨hb, hi, hj⟩ := partsOf_valid d h hh
  exact ⟨_, center_plane cfg d h _ _ _ (by rw [nHash_eq]; exact hh) (decodeHash_spec cfg d hd h hh) hb hi hj⟩

theorem small_keep_near (coneLon coneLat r D : ℝ) (c : ℝ × ℝ) (hrD : 0 ≤ r + D)
    (hkeep : Num.le (squaredHalfSegment (c.1 - coneLon) (c.2 - coneLat) (Num.cos c.2) (Num.cos coneLat))
      (toSquaredHalfSegment (r + D)) = true) :
    adist (coneLon, coneLat) c ≤ r + D := by
  rcases le_or_gt (r + D) π with hpi | hpi
  · exact (shs_le_iff coneLon coneLat (r + D) c ⟨hrD, hpi⟩).mp hkeep
  · exact (adist_le_pi _ _).trans hpi.le

theorem Mtrue_halve (depth ds : ℕ) (h : depth < ds) : 2 * Mtrue ds ≤ Mtrue depth := by
  have hpi := Real.pi_pos
  rw [Mtrue_eq, Mtrue_eq]
  have h1 : (2 : ℝ) ^ (depth + 1) ≤ 2 ^ ds := pow_le_pow_right₀ (by norm_num) h
  have h2 : (1 : ℝ) / 2 ^ ds ≤ 1 / 2 ^ (depth + 1) := one_div_le_one_div_of_le (by positivity) h1
  have h3 : (1 : ℝ) / 2 ^ (depth + 1) = 1 / 2 ^ depth / 2 := by rw [pow_succ]; field_simp
  rw [h3] at h2
  nlinarith

/-- The small-cone branch with `ds > depth`, relative to the extent of the reported cell: if the centre `ctrE` of the
    tested cell of depth `ds` (a position of the reported cell, its ancestor) is within `L` of the centre `ctrC` of the reported
    cell, the latter is within `r + Mtrue depth + L` of the cone centre — `≤ r + 2·L` as soon as `L` is at least `Mtrue depth`
    (e.g. `L` the largest true centre-to-vertex distance of the depth). -/
theorem small_cone_ancestor_near (lon lat r L : ℝ) (depth ds : ℕ) (hlt : depth < ds) (ctrC ctrE : ℝ × ℝ)
    (hE : adist (lon, lat) ctrE ≤ r + 2 * Mtrue ds) (hext : adist ctrE ctrC ≤ L) :
    adist (lon, lat) ctrC ≤ r + Mtrue depth + L := by
  have := adist_triangle (lon, lat) ctrE ctrC
  have := Mtrue_halve depth ds hlt
  linarith

theorem decode_full_buildRaw (d h dm : Nat) : (decode (buildRaw d h true dm) dm).full = true := by
  unfold decode buildRaw
  simp only [if_true, beq_iff_eq]
  rw [Nat.and_one_is_mod, Nat.or_mod_two_eq_one]
  right; rfl

theorem packed_entry_origin (depth : ℕ) (hd : depth ≤ 29) (cells : List Cell) (hw : WF depth cells)
    (hr : ∀ c ∈ cells, InRange c) (e : ℕ) (he : e ∈ pack depth (cells.map (encode depth))) :
    (decode e depth).full = true ∨ decode e depth ∈ cells := by
  -- "flagged full or a cell of the list" passes from four full siblings to their parent
  refine ConeBmoc.pack_closure (fun c => c.full = true ∨ c ∈ cells) depth hd (fun _ _ _ _ _ _ _ _ _ _ => Or.inl rfl) _ ?_ ?_ e he
  · intro e he
    obtain ⟨c, hc, rfl⟩ := List.mem_map.1 he
    exact ⟨c, hw.depth_le c hc, hr c hc, rfl⟩
  · intro e he
    obtain ⟨c, hc, rfl⟩ := List.mem_map.1 he
    rw [decode_encode (hw.depth_le c hc) hd (hr c hc)]
    exact Or.inr hc

/-- a polar cone (`lat = 1.2 > tl`, `r = 0.1`), start depth 3, target depth 6: the list of radii exists, and its entries are
    at most `2·Mtrue` of their depth -/
example : ∃ dists, largestC2VsWithRadius false 3 (6 + 1) (1 : ℝ) (6 / 5) (1 / 10) = some dists ∧
    ∀ d D, 3 ≤ d → dists[d - 3]? = some D → 0 ≤ D ∧ D ≤ 2 * Mtrue d := by
  obtain ⟨dists, hd⟩ := EConeEq.dists_exists_gen 3 6 (by decide) (by decide) (1 : ℝ) (6 / 5) (1 / 10)
  refine ⟨dists, hd, ?_⟩
  intro d D h3 hD
  obtain ⟨_, rfl⟩ := dists_getElem 3 6 (by decide) _ _ _ dists hd d h3 D hD
  exact ⟨valR_nonneg_of_radius d _ _ _ (by norm_num), valR_le_twice d _ _ _ (by norm_num)⟩

end Hpx.Tightness

#print axioms Hpx.Tightness.cone_tight_rec
#print axioms Hpx.Tightness.largestC2VsWithRadius_debug
