/-
The hand-written finite tables of `Model/Topo.lean` / `Model/Hash.lean` equal the tables that the translator tabulates
from the source text (`Gen/TopoTables.lean`, regenerated on every run).  Every statement is over a finite domain and
is decided by the kernel.  A change of any arm of `ncp_/eqr_/spc_neighbour`, of the `lib.rs` base-cell tables, of the
direction tables or of `MainWind`'s methods changes the generated table and breaks the corresponding theorem here.
-/
import HpxVerif.Model.Hash
import HpxVerif.Gen.TopoTables

namespace Hpx.TopoGen
open Hpx Hpx.Topo

def lk {α : Type} (l : List α) (k : Nat) : Option α := l[k]?
def lk2 {α : Type} (l : List (List α)) (a b : Nat) : Option α := (l[a]?).bind (·[b]?)
def lk3 {α : Type} (l : List (List (List α))) (a b c : Nat) : Option α := ((l[a]?).bind (·[b]?)).bind (·[c]?)

def srcOfCode : Nat → Option Src
  | 0 => some .i | 1 => some .j | 2 => some .zero | 3 => some .m | _ => none

def decodeSeam (e : Option (Nat × Nat × Nat)) : Option (Nat × Src × Src) :=
  match e with
  | none => none
  | some (b, si, sj) => match srcOfCode si, srcOfCode sj with
    | some a, some c => some (b, a, c)
    | _, _ => none

theorem mem_all (w : MW) : w ∈ MW.all := by cases w <;> decide

theorem forall_mw {P : MW → Prop} (h : ∀ w ∈ MW.all, P w) (w : MW) : P w := h w (mem_all w)

theorem forall_lt_mw {n : Nat} {P : Nat → MW → Prop} (h : ∀ b, b < n → ∀ w ∈ MW.all, P b w) (b : Nat) (hb : b < n) (w : MW) :
    P b w := h b hb w (mem_all w)

theorem mw_index_roundtrip : ∀ w : MW, MW.ofIndex w.index = some w := forall_mw (by decide)

theorem mw_from_index : ∀ k, k < 9 → (lk Gen.mwFromIndex k).bind MW.ofIndex = MW.ofIndex k := by decide

theorem mw_opposite : ∀ w : MW, (lk Gen.mwOpposite w.index).bind MW.ofIndex = some w.opposite := forall_mw (by decide)

theorem mw_offsets : ∀ w : MW, lk Gen.mwOffsetSe w.index = some w.offsetSe ∧ lk Gen.mwOffsetSw w.index = some w.offsetSw :=
  forall_mw (by decide)

theorem mw_kinds : ∀ w : MW, lk Gen.mwIsCardinal w.index = some w.isCardinal ∧ lk Gen.mwIsOrdinal w.index = some w.isOrdinal :=
  forall_mw (by decide)

theorem mw_from_offsets : ∀ se sw : Fin 3,
    MW.ofOffsets ((se.val : Int) - 1) ((sw.val : Int) - 1) = (lk Gen.mwFromOffsets (3 * sw.val + se.val)).bind MW.ofIndex := by
  decide

theorem cardinal_cycles : ∀ c, c < 4 →
    lk Gen.cardNextClockwise c = some (Hash.nextClockwise c) ∧
    lk Gen.cardNextCounterClockwise c = some (Hash.nextCounterClockwise c) := by decide

/-- the three seam-rule functions of `nested/mod.rs` (through their dispatcher) are the model's `seamRule` -/
theorem seam_rules : ∀ b, b < 12 → ∀ w : MW, w ≠ .C →
    seamRule b w = decodeSeam ((lk2 Gen.seamRules b w.index).bind id) := forall_lt_mw (by decide)

/-- the base cell reached through a seam rule is `lib::neighbour` of the base cell (the two tables of the crate agree) -/
theorem seam_rules_base : ∀ b, b < 12 → ∀ w : MW, w ≠ .C →
    (seamRule b w).map (·.1) = (lk2 Gen.baseNeighbour b w.index).bind id := forall_lt_mw (by decide)

theorem direction_from_neighbour : ∀ b, b < 12 → ∀ w : MW,
    directionFromNeighbour b w = ((lk2 Gen.directionFromNeighbour b w.index).bind id).bind MW.ofIndex :=
  forall_lt_mw (by decide)

theorem edge_cell_direction_from_neighbour : ∀ b, b < 12 → ∀ inner nd : MW,
    edgeCellDirectionFromNeighbour b inner nd =
      ((lk3 Gen.edgeCellDirectionFromNeighbour b inner.index nd.index).bind id).bind MW.ofIndex := by
  have h : ∀ b, b < 12 → ∀ inner ∈ MW.all, ∀ nd ∈ MW.all,
      edgeCellDirectionFromNeighbour b inner nd =
        ((lk3 Gen.edgeCellDirectionFromNeighbour b inner.index nd.index).bind id).bind MW.ofIndex := by decide +kernel
  exact fun b hb i n => h b hb i (mem_all i) n (mem_all n)

end Hpx.TopoGen
