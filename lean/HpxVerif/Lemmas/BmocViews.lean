/-
The views of a well-formed BMOC agree (C09): `flat_iter`, `flat_iter_cell`, `deep_size`, `to_ranges`, `into_iter`
all describe the same set of cells of depth `depth_max`, namely `{x | stOf D cells x ≠ absent}`.
-/
import HpxVerif.Lemmas.BmocPack

namespace Hpx.Bmoc

def cellFlat (D : Nat) (c : Cell) : List Nat := (List.range (4 ^ (D - c.depth))).map (fun k => lo D c + k)

def flatOfCells (D : Nat) (cs : List Cell) : List Nat := cs.flatMap (cellFlat D)

theorem mem_cellFlat (D : Nat) (c : Cell) (x : Nat) : x ∈ cellFlat D c ↔ lo D c ≤ x ∧ x < hi D c := by
  unfold cellFlat
  rw [hi_eq_lo_add]
  simp only [List.mem_map, List.mem_range]
  constructor
  · rintro ⟨k, hk, rfl⟩; omega
  · intro ⟨h1, h2⟩; exact ⟨x - lo D c, by omega, by omega⟩

theorem cellFlat_sorted (D : Nat) (c : Cell) : (cellFlat D c).Pairwise (· < ·) := by
  unfold cellFlat
  rw [List.pairwise_map]
  exact List.Pairwise.imp (fun h => by omega) List.pairwise_lt_range

theorem flatOfCells_cons (D : Nat) (c : Cell) (cs : List Cell) :
    flatOfCells D (c :: cs) = cellFlat D c ++ flatOfCells D cs := by
  simp [flatOfCells]

theorem mem_flatOfCells (D : Nat) (cs : List Cell) (x : Nat) :
    x ∈ flatOfCells D cs ↔ ∃ c ∈ cs, lo D c ≤ x ∧ x < hi D c := by
  simp only [flatOfCells, List.mem_flatMap, mem_cellFlat]

theorem flatOfCells_spec (D : Nat) (cs : List Cell) (hw : WF D cs) :
    (flatOfCells D cs).Pairwise (· < ·) ∧ ∀ x, x ∈ flatOfCells D cs ↔ stOf D cs x ≠ .abs := by
  refine ⟨?_, fun x => by rw [mem_flatOfCells, stOf_ne_abs_iff]⟩
  induction cs with
  | nil => simp [flatOfCells]
  | cons c cs ih =>
    rw [flatOfCells_cons, List.pairwise_append]
    refine ⟨cellFlat_sorted D c, ih hw.tail, ?_⟩
    intro a ha b hb
    rw [mem_cellFlat] at ha
    rw [mem_flatOfCells] at hb
    obtain ⟨c', hc', hb1, _⟩ := hb
    have := hw.2.1 c' hc'
    omega

theorem entry_view {D : Nat} (hD : D ≤ 29) {raw : Nat} (hv : ValidRaw D raw) :
    (decode raw D).depth ≤ D ∧ (decode raw D).hash < 12 * 4 ^ (decode raw D).depth ∧
    raw = encode D (decode raw D) ∧ tz64 (raw >>> 1) >>> 1 = D - (decode raw D).depth := by
  obtain ⟨c, hd, hh, rfl⟩ := hv
  rw [decode_encode hd hD hh]
  exact ⟨hd, hh, rfl, tz_buildRaw c.depth c.hash c.full D (raw_fits hd hD hh)⟩

/-- the depth-`depth_max` cells that `flat_iter` produces for one entry -/
def entryFlat (raw : Nat) : List Nat :=
  let dd := tz64 (raw >>> 1) >>> 1
  let hash := raw >>> (2 + (dd <<< 1))
  (List.range (4 ^ dd)).map (fun k => (hash <<< (dd <<< 1)) + k)

theorem entryFlat_eq {D : Nat} (hD : D ≤ 29) {raw : Nat} (hv : ValidRaw D raw) :
    entryFlat raw = cellFlat D (decode raw D) := by
  obtain ⟨_, _, _, h4⟩ := entry_view hD hv
  have hh : raw >>> (2 + ((tz64 (raw >>> 1) >>> 1) <<< 1)) = (decode raw D).hash := rfl
  unfold entryFlat cellFlat lo
  simp only [hh, shl_eq_mul]
  rw [h4]

theorem flatIter_eq (b : BMOC) (hD : b.dmax ≤ 29) (hv : ∀ r ∈ b.entries, ValidRaw b.dmax r) :
    flatIter b = flatOfCells b.dmax b.cells := by
  show b.entries.flatMap entryFlat = (b.entries.map (decode · b.dmax)).flatMap (cellFlat b.dmax)
  rw [List.flatMap_map, List.flatMap_def, List.flatMap_def,
    List.map_congr_left fun r hr => entryFlat_eq hD (hv r hr)]

theorem flatIter_spec (b : BMOC) (hD : b.dmax ≤ 29) (hv : ∀ r ∈ b.entries, ValidRaw b.dmax r)
    (hw : WF b.dmax b.cells) :
    (flatIter b).Pairwise (· < ·) ∧ ∀ x, x ∈ flatIter b ↔ stOf b.dmax b.cells x ≠ .abs := by
  rw [flatIter_eq b hD hv]
  exact flatOfCells_spec b.dmax b.cells hw

theorem flatIterCell_eq (b : BMOC) :
    flatIterCell b = b.entries.flatMap fun raw => (entryFlat raw).map fun x => (raw, x, (decode raw b.dmax).full) := by
  simp [flatIterCell, entryFlat, decode, Function.comp_def]

theorem flatIterCell_spec (b : BMOC) (hD : b.dmax ≤ 29) (hv : ∀ r ∈ b.entries, ValidRaw b.dmax r)
    (hw : WF b.dmax b.cells) :
    (flatIterCell b).map (·.2.1) = flatIter b ∧
    ∀ raw x f, (raw, x, f) ∈ flatIterCell b →
      raw ∈ b.entries ∧ f = (decode raw b.dmax).full ∧
      lo b.dmax (decode raw b.dmax) ≤ x ∧ x < hi b.dmax (decode raw b.dmax) ∧
      stOf b.dmax b.cells x = Tri.ofFlag f := by
  rw [flatIterCell_eq]
  refine ⟨by simp only [List.map_flatMap, List.map_map, Function.comp_def, List.map_id']; rfl, ?_⟩
  intro raw x f hm
  obtain ⟨r, hr, hm⟩ := List.mem_flatMap.1 hm
  obtain ⟨y, hy, he⟩ := List.mem_map.1 hm
  cases he
  rw [entryFlat_eq hD (hv raw hr), mem_cellFlat] at hy
  exact ⟨hr, rfl, hy.1, hy.2, stOf_of_mem hw (List.mem_map.2 ⟨raw, hr, rfl⟩) hy.1 hy.2⟩

/-- so `to_flat_array`, which reserves `deep_size()` and pushes `flat_iter()`, fills its buffer exactly -/
theorem deepSize_eq_length (b : BMOC) (hD : b.dmax ≤ 29) (hv : ∀ r ∈ b.entries, ValidRaw b.dmax r) :
    deepSize b = (flatIter b).length := by
  show _ = (b.entries.flatMap entryFlat).length
  rw [List.length_flatMap]
  refine congrArg List.sum (List.map_congr_left fun r hr => ?_)
  rw [entryFlat, List.length_map, List.length_range, (entry_view hD (hv r hr)).2.2.2]
  rfl

theorem toRangesLoop_cons (D : Nat) (c : Cell) (rest : List Cell) (pmin pmax : Nat) :
    toRangesLoop D (c :: rest) pmin pmax =
      if lo D c = pmax then toRangesLoop D rest pmin (hi D c)
      else (if pmin ≠ pmax then [(pmin, pmax)] else []) ++ toRangesLoop D rest (lo D c) (hi D c) := by
  have hse : (if c.depth < D then
        (c.hash <<< ((D - c.depth) <<< 1), (c.hash + 1) <<< ((D - c.depth) <<< 1))
      else (c.hash, c.hash + 1)) = (lo D c, hi D c) := by
    unfold lo hi
    split
    · rw [shl_eq_mul, shl_eq_mul]
    · have : D - c.depth = 0 := by omega
      rw [this]; simp
  simp only [toRangesLoop, hse]
  simp

/-- the ranges pending in the state: nothing when `pmin = pmax` (only in the initial state `(0, 0)`) -/
theorem pending_spec (pmin pmax : Nat) (hle : pmin ≤ pmax) :
    (∀ p ∈ (if pmin ≠ pmax then [(pmin, pmax)] else []), p = (pmin, pmax) ∧ pmin < pmax) ∧
    ∀ x, (∃ p ∈ (if pmin ≠ pmax then [(pmin, pmax)] else []), p.1 ≤ x ∧ x < p.2) ↔ pmin ≤ x ∧ x < pmax := by
  by_cases h : pmin = pmax
  · simp only [h, ne_eq, not_true_eq_false, if_false]
    refine ⟨by simp, fun x => ?_⟩
    simp
  · simp only [ne_eq, h, not_false_eq_true, if_true]
    refine ⟨?_, fun x => by simp⟩
    intro p hp
    simp only [List.mem_singleton] at hp
    exact ⟨hp, by omega⟩

/-- loop invariant of `to_ranges`: state `[pmin, pmax)` pending, the remaining cells lie at or after `pmax` -/
theorem toRangesLoop_spec (D : Nat) (cs : List Cell) (pmin pmax : Nat) (hle : pmin ≤ pmax) (h : From D pmax cs) :
    (∀ p ∈ toRangesLoop D cs pmin pmax, p.1 < p.2) ∧
    (toRangesLoop D cs pmin pmax).Pairwise (fun p q => p.2 < q.1) ∧
    (∀ p ∈ toRangesLoop D cs pmin pmax, pmin ≤ p.1) ∧
    ∀ x, (∃ p ∈ toRangesLoop D cs pmin pmax, p.1 ≤ x ∧ x < p.2) ↔
      (pmin ≤ x ∧ x < pmax) ∨ ∃ c ∈ cs, lo D c ≤ x ∧ x < hi D c := by
  induction cs generalizing pmin pmax with
  | nil =>
    obtain ⟨q1, q2⟩ := pending_spec pmin pmax hle
    have e : toRangesLoop D [] pmin pmax = if pmin ≠ pmax then [(pmin, pmax)] else [] := by
      simp [toRangesLoop]
    rw [e]
    refine ⟨fun p hp => ?_, ?_, fun p hp => ?_, fun x => ?_⟩
    · obtain ⟨rfl, h⟩ := q1 p hp; exact h
    · split <;> simp
    · obtain ⟨rfl, h⟩ := q1 p hp; exact Nat.le_refl _
    · rw [q2 x]; simp
  | cons c rest ih =>
    have hlt := lo_lt_hi D c
    obtain ⟨_, hc, ht⟩ := h.uncons
    rw [toRangesLoop_cons D c rest pmin pmax]
    by_cases hs : lo D c = pmax
    · simp only [hs, if_true]
      obtain ⟨i1, i2, i3, i4⟩ := ih pmin (hi D c) (by omega) ht
      refine ⟨i1, i2, i3, fun x => ?_⟩
      rw [i4 x]
      simp only [List.mem_cons, exists_eq_or_imp]
      constructor
      · rintro (h | h)
        · by_cases hx : x < pmax
          · exact Or.inl ⟨h.1, hx⟩
          · exact Or.inr (Or.inl ⟨by omega, h.2⟩)
        · exact Or.inr (Or.inr h)
      · rintro (h | h | h)
        · exact Or.inl ⟨h.1, by omega⟩
        · exact Or.inl ⟨by omega, h.2⟩
        · exact Or.inr h
    · simp only [hs, if_false]
      obtain ⟨i1, i2, i3, i4⟩ := ih (lo D c) (hi D c) (by omega) ht
      obtain ⟨q1, q2⟩ := pending_spec pmin pmax hle
      refine ⟨fun p hp => ?_, ?_, fun p hp => ?_, fun x => ?_⟩
      · rcases List.mem_append.1 hp with hp | hp
        · obtain ⟨rfl, h⟩ := q1 p hp; exact h
        · exact i1 p hp
      · rw [List.pairwise_append]
        refine ⟨?_, i2, ?_⟩
        · split <;> simp
        · intro p hp q hq
          obtain ⟨rfl, _⟩ := q1 p hp
          have := i3 q hq
          show pmax < q.1
          omega
      · rcases List.mem_append.1 hp with hp | hp
        · obtain ⟨rfl, h⟩ := q1 p hp; exact Nat.le_refl _
        · have := i3 p hp; omega
      · have : (∃ p ∈ (if pmin ≠ pmax then [(pmin, pmax)] else []) ++ toRangesLoop D rest (lo D c) (hi D c),
            p.1 ≤ x ∧ x < p.2) ↔
            (∃ p ∈ (if pmin ≠ pmax then [(pmin, pmax)] else []), p.1 ≤ x ∧ x < p.2) ∨
            (∃ p ∈ toRangesLoop D rest (lo D c) (hi D c), p.1 ≤ x ∧ x < p.2) := by
          simp only [List.mem_append, or_and_right, exists_or]
        rw [this, q2 x, i4 x]
        simp only [List.mem_cons, exists_eq_or_imp]

theorem toRanges_spec (b : BMOC) (hD : b.dmax ≤ 29) (hv : ∀ r ∈ b.entries, ValidRaw b.dmax r)
    (hw : WF b.dmax b.cells) :
    (∀ p ∈ toRanges b, p.1 < p.2) ∧
    (toRanges b).Pairwise (fun p q => p.2 < q.1) ∧
    (∀ x, (∃ p ∈ toRanges b, p.1 ≤ x ∧ x < p.2) ↔ x ∈ flatIter b) ∧
    (∀ x, (∃ p ∈ toRanges b, p.1 ≤ x ∧ x < p.2) ↔ stOf b.dmax b.cells x ≠ .abs) := by
  obtain ⟨h1, h2, _, h4⟩ := toRangesLoop_spec b.dmax b.cells 0 0 (Nat.le_refl _) hw.from_zero
  have key : ∀ x, (∃ p ∈ toRanges b, p.1 ≤ x ∧ x < p.2) ↔ ∃ c ∈ b.cells, lo b.dmax c ≤ x ∧ x < hi b.dmax c := by
    intro x
    have := h4 x
    simp only [Nat.not_lt_zero, and_false, false_or] at this
    exact this
  refine ⟨h1, h2, fun x => ?_, fun x => ?_⟩
  · rw [key x, flatIter_eq b hD hv, mem_flatOfCells]
  · rw [key x, stOf_ne_abs_iff]

theorem toRangesLoop_bound (D B : Nat) (cs : List Cell) (hB : ∀ c ∈ cs, hi D c ≤ B)
    (pmin pmax : Nat) (hp : pmax ≤ B) : ∀ p ∈ toRangesLoop D cs pmin pmax, p.2 ≤ B := by
  induction cs generalizing pmin pmax with
  | nil =>
    intro p hp'
    simp only [toRangesLoop] at hp'
    split at hp'
    · simp only [List.mem_singleton] at hp'; subst hp'; exact hp
    · simp at hp'
  | cons c rest ih =>
    have ihr := ih (fun c' h' => hB c' (by simp [h']))
    rw [toRangesLoop_cons D c rest pmin pmax]
    intro p hp'
    split at hp'
    · exact ihr pmin (hi D c) (hB c (by simp)) p hp'
    · rcases List.mem_append.1 hp' with h | h
      · split at h
        · simp only [List.mem_singleton] at h; subst h; exact hp
        · simp at h
      · exact ihr (lo D c) (hi D c) (hB c (by simp)) p h

theorem views_bound (b : BMOC) (hD : b.dmax ≤ 29) (hv : ∀ r ∈ b.entries, ValidRaw b.dmax r) :
    (∀ x ∈ flatIter b, x < 12 * 4 ^ b.dmax) ∧ (∀ p ∈ toRanges b, p.2 ≤ 12 * 4 ^ b.dmax) := by
  have hc : ∀ c ∈ b.cells, hi b.dmax c ≤ 12 * 4 ^ b.dmax := by
    intro c hc
    obtain ⟨h1, h2⟩ := inRange_of_validRaw hD hv c hc
    exact (hi_le_iff_inRange h1).2 h2
  constructor
  · intro x hx
    rw [flatIter_eq b hD hv, mem_flatOfCells] at hx
    obtain ⟨c, hcm, _, h2⟩ := hx
    exact Nat.lt_of_lt_of_le h2 (hc c hcm)
  · exact toRangesLoop_bound b.dmax _ b.cells hc 0 0 (Nat.zero_le _)

/-- decoding the entries gives back the cells they were built from -/
theorem cells_of_encoded (b : BMOC) (hD : b.dmax ≤ 29) (cs : List Cell)
    (hc : ∀ c ∈ cs, c.depth ≤ b.dmax ∧ c.hash < 12 * 4 ^ c.depth) (he : b.entries = cs.map (encode b.dmax)) :
    b.cells = cs := by
  unfold BMOC.cells
  rw [he]
  exact cellsOf_map_encode b.dmax hD cs (fun c h => (hc c h).1) (fun c h => (hc c h).2)

/-- **`into_iter`**: the decoded cells of valid entries are in range and re-encode to the entries -/
theorem into_iter (b : BMOC) (hD : b.dmax ≤ 29) (hv : ∀ r ∈ b.entries, ValidRaw b.dmax r) :
    (∀ c ∈ b.cells, c.depth ≤ b.dmax ∧ c.hash < 12 * 4 ^ c.depth) ∧ b.cells.map (encode b.dmax) = b.entries :=
  ⟨inRange_of_validRaw hD hv, map_encode_cellsOf b.dmax hD b.entries hv⟩

/-- cells `[0,16)` full, `[16,20)` partial (adjacent), `[21,22)` full, `[23,24)` partial, at `depth_max = 2` -/
def exCells : List Cell := [⟨0, 0, true⟩, ⟨1, 4, false⟩, ⟨2, 21, true⟩, ⟨2, 23, false⟩]
def exBmoc : BMOC := { dmax := 2, entries := exCells.map (encode 2) }

example : exBmoc.entries = [33, 72, 87, 94] := by decide
example : exBmoc.cells = exCells := by decide
example : flatIter exBmoc = [0, 1, 2, 3, 4, 5, 6, 7, 8, 9, 10, 11, 12, 13, 14, 15, 16, 17, 18, 19, 21, 23] := by decide
example : deepSize exBmoc = 22 := by decide
example : toRanges exBmoc = [(0, 20), (21, 22), (23, 24)] := by decide
example : (flatIterCell exBmoc).drop 14 =
    [(33, 14, true), (33, 15, true), (72, 16, false), (72, 17, false), (72, 18, false), (72, 19, false),
     (87, 21, true), (94, 23, false)] := by decide
/-- first cell not at 0, two adjacent cells, a gap: the initial state `(0, 0)` emits nothing -/
example : toRanges { dmax := 2, entries := [⟨1, 1, true⟩, ⟨1, 2, false⟩, ⟨2, 21, true⟩, ⟨2, 22, false⟩].map (encode 2) } =
    [(4, 12), (21, 23)] := by decide
example : toRanges { dmax := 2, entries := [] } = [] := by decide

/-- the hypotheses of the theorems above hold for `exBmoc` -/
example : exBmoc.dmax ≤ 29 ∧ (∀ r ∈ exBmoc.entries, ValidRaw exBmoc.dmax r) ∧ WF exBmoc.dmax exBmoc.cells := by
  refine ⟨by decide, ?_, ?_⟩
  · intro r hr
    obtain ⟨c, hc, rfl⟩ := List.mem_map.1 hr
    refine ⟨c, ?_, ?_, rfl⟩ <;>
    · simp only [exCells, List.mem_cons, List.not_mem_nil, or_false] at hc
      rcases hc with rfl | rfl | rfl | rfl <;> decide
  · have : exBmoc.cells = exCells := by decide
    rw [this]
    simp [exCells, WF, lo, hi, exBmoc]

end Hpx.Bmoc

#print axioms Hpx.Bmoc.flatIter_spec
#print axioms Hpx.Bmoc.flatIterCell_spec
#print axioms Hpx.Bmoc.deepSize_eq_length
#print axioms Hpx.Bmoc.toRanges_spec
#print axioms Hpx.Bmoc.views_bound
#print axioms Hpx.Bmoc.cells_of_encoded
#print axioms Hpx.Bmoc.into_iter
