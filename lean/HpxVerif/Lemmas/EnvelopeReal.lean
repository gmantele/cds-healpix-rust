import HpxVerif.Lemmas.ProjReal
import HpxVerif.Lemmas.ConeReal
import Mathlib.Analysis.Convex.SpecificFunctions.Deriv

/-!
# C16 — the true centre-to-vertex distances of an equatorial cell, over ℝ

A cell of depth `d` (`δ = 1/2^d`) whose centre is the plane point `(x, y)` has the vertices
`N = (x, y + δ)`, `S = (x, y − δ)`, `E = (x + δ, y)`, `W = (x − δ, y)` (abscissa modulo 8).
When `|y| + δ ≤ 1` the five points are in the equatorial region, where `unproj (x, y) = (x·π/4, arcsin(2y/3))`, and the
angular distances (`Hpx.Cover.adist`) from the centre to the vertices are the closed forms `dN`, `dS`, `dE`, `dE`
(`true_c2v_eqr`).  `arcsin` is odd and convex on `[0, 1]`, so `dN δ` is even about `−δ/2` and grows with the distance from it
(`dN_mono`); `dS` is `dN` of the cell below (`dS_eq_dN`), hence `dS ≤ dN` for `y ≥ 0`; `dE` decreases.
-/

namespace Hpx.EnvelopeReal
open Hpx Hpx.Proj Hpx.Cover Real

/-! ## `unproj` in the equatorial band -/

theorem sgn_arcsin (y : ℝ) : sgn y (Real.arcsin (|y| * (2 / 3))) = Real.arcsin (y * (2 / 3)) := by
  by_cases h : y < 0
  · rw [sgn_of_neg h, abs_of_neg h, abs_of_nonneg (Real.arcsin_nonneg.mpr (by linarith)),
      show -y * (2 / 3) = -(y * (2 / 3)) by ring, Real.arcsin_neg, neg_neg]
  · rw [sgn_of_nonneg (not_lt.mp h), abs_of_nonneg (not_lt.mp h)]

theorem unproj_band (x y : ℝ) (hx0 : 0 ≤ x) (hx8 : x ≤ 8) (hy : |y| ≤ 1) :
    unproj (α := ℝ) x y = some ((if x < 8 then x else x - 8) * (π / 4), Real.arcsin (y * (2 / 3))) := by
  obtain ⟨k, hk, h1, h2⟩ := facet_exists x hx0 5 (by norm_num; linarith)
  rw [unproj_sym, abs_of_nonneg hx0, unproj_pos x |y| k (by omega) h1 h2 (abs_nonneg y) (by linarith), if_pos hy,
    Option.map_some]
  congr 2
  · rw [sgn_of_nonneg hx0]
    have hk' : k ≤ 4 := by omega
    interval_cases k <;> norm_num at h1 h2
    · rw [if_pos (by linarith)]; norm_num
    · rw [if_pos (by linarith)]; norm_num
    · rw [if_pos (by linarith)]; norm_num
    · rw [if_pos (by linarith)]; norm_num
    · rw [if_neg (by linarith)]; norm_num; ring
  · exact sgn_arcsin y

theorem band_lon (x : ℝ) : ∃ m : ℤ, (if x < 8 then x else x - 8) * (π / 4) = x * (π / 4) + 2 * π * m := by
  by_cases h : x < 8
  · exact ⟨0, by rw [if_pos h]; simp⟩
  · exact ⟨-1, by rw [if_neg h]; push_cast; ring⟩

/-! ## angular distances along a meridian and along a parallel -/

theorem adist_eq_of_cos (p q : ℝ × ℝ) (v : ℝ) (h0 : 0 ≤ v) (h1 : v ≤ π) (h : cos (adist p q) = cos v) :
    adist p q = v :=
  injOn_cos ⟨adist_nonneg p q, adist_le_pi p q⟩ ⟨h0, h1⟩ h

theorem adist_same_lon (l1 l2 a b : ℝ) (m : ℤ) (hl : l1 - l2 = 2 * π * m) (ha : |a| ≤ π / 2) (hb : |b| ≤ π / 2) :
    adist (l1, a) (l2, b) = |a - b| := by
  have hpi := Real.pi_pos
  obtain ⟨a1, a2⟩ := abs_le.mp ha
  obtain ⟨b1, b2⟩ := abs_le.mp hb
  apply adist_eq_of_cos _ _ _ (abs_nonneg _) (by rw [abs_le]; constructor <;> linarith)
  rw [cos_adist]
  simp only
  rw [hl, show 2 * π * (m : ℝ) = (m : ℝ) * (2 * π) by ring, Real.cos_int_mul_two_pi, cos_abs, cos_sub]
  ring

theorem adist_ge_lat_diff (l1 l2 a b : ℝ) (ha : |a| ≤ π / 2) (hb : |b| ≤ π / 2) : |a - b| ≤ adist (l1, a) (l2, b) := by
  have hpi := Real.pi_pos
  obtain ⟨a1, a2⟩ := abs_le.mp ha
  obtain ⟨b1, b2⟩ := abs_le.mp hb
  have hcc := mul_nonneg (Real.cos_nonneg_of_neg_pi_div_two_le_of_le a1 a2)
    (Real.cos_nonneg_of_neg_pi_div_two_le_of_le b1 b2)
  refine (Real.strictAntiOn_cos.le_iff_ge ⟨adist_nonneg _ _, adist_le_pi _ _⟩
    ⟨abs_nonneg _, by rw [abs_le]; constructor <;> linarith⟩).mp ?_
  rw [cos_adist, cos_abs, cos_sub a b]
  simp only
  nlinarith [Real.cos_le_one (l1 - l2)]

theorem cos_two_arcsin (t : ℝ) (h0 : -1 ≤ t) (h1 : t ≤ 1) : cos (2 * Real.arcsin t) = 1 - 2 * t ^ 2 := by
  rw [cos_two_mul, Real.cos_sq', Real.sin_arcsin h0 h1]; ring

theorem adist_same_lat (l1 l2 φ Δ : ℝ) (m : ℤ) (hl : l1 - l2 = Δ + 2 * π * m) (hφ : |φ| ≤ π / 2) :
    adist (l1, φ) (l2, φ) = 2 * Real.arcsin (cos φ * |sin (Δ / 2)|) := by
  have hpi := Real.pi_pos
  obtain ⟨a1, a2⟩ := abs_le.mp hφ
  have hc0 : 0 ≤ cos φ := Real.cos_nonneg_of_neg_pi_div_two_le_of_le a1 a2
  have hc1 : cos φ ≤ 1 := Real.cos_le_one φ
  have hs0 : 0 ≤ |sin (Δ / 2)| := abs_nonneg _
  have hs1 : |sin (Δ / 2)| ≤ 1 := Real.abs_sin_le_one _
  have ht0 : 0 ≤ cos φ * |sin (Δ / 2)| := mul_nonneg hc0 hs0
  have ht1 : cos φ * |sin (Δ / 2)| ≤ 1 := by nlinarith
  have hA0 : 0 ≤ Real.arcsin (cos φ * |sin (Δ / 2)|) := Real.arcsin_nonneg.mpr ht0
  have hA1 := Real.arcsin_le_pi_div_two (cos φ * |sin (Δ / 2)|)
  apply adist_eq_of_cos _ _ _ (by linarith) (by linarith)
  rw [cos_adist, cos_two_arcsin _ (by linarith) ht1]
  simp only
  rw [hl, show Δ + 2 * π * (m : ℝ) = Δ + (m : ℝ) * (2 * π) by ring, Real.cos_add_int_mul_two_pi]
  have h1 : cos Δ = 1 - 2 * sin (Δ / 2) ^ 2 := by
    have := Real.cos_sq' (Δ / 2)
    have h2 := cos_two_mul (Δ / 2)
    rw [show 2 * (Δ / 2) = Δ by ring] at h2
    linarith
  have h3 := Real.sin_sq_add_cos_sq φ
  rw [h1, mul_pow, sq_abs]
  linear_combination h3

/-! ## the closed forms -/

/-- latitude of the plane ordinate `y` (equatorial region) -/
noncomputable def latOf (y : ℝ) : ℝ := Real.arcsin (y * (2 / 3))
/-- centre → north vertex -/
noncomputable def dN (δ y : ℝ) : ℝ := Real.arcsin ((y + δ) * (2 / 3)) - Real.arcsin (y * (2 / 3))
/-- centre → south vertex -/
noncomputable def dS (δ y : ℝ) : ℝ := Real.arcsin (y * (2 / 3)) - Real.arcsin ((y - δ) * (2 / 3))
/-- centre → east (or west) vertex: same parallel, longitudes `δ·π/4` apart -/
noncomputable def dE (δ y : ℝ) : ℝ := 2 * Real.arcsin (cos (latOf y) * sin (δ * (π / 8)))

theorem latOf_abs_le (y : ℝ) : |latOf y| ≤ π / 2 :=
  abs_le.mpr ⟨Real.neg_pi_div_two_le_arcsin _, Real.arcsin_le_pi_div_two _⟩

theorem dN_nonneg (δ y : ℝ) (hδ : 0 ≤ δ) : 0 ≤ dN δ y :=
  sub_nonneg.mpr (Real.arcsin_le_arcsin (by nlinarith))
theorem dS_nonneg (δ y : ℝ) (hδ : 0 ≤ δ) : 0 ≤ dS δ y :=
  sub_nonneg.mpr (Real.arcsin_le_arcsin (by nlinarith))

theorem sin_step_nonneg (δ : ℝ) (h0 : 0 ≤ δ) (h1 : δ ≤ 1) : 0 ≤ sin (δ * (π / 8)) :=
  Real.sin_nonneg_of_nonneg_of_le_pi (by positivity) (by nlinarith [Real.pi_pos])

/-- the abscissa of the west vertex, reduced to `[0, 8)` as `ensures_x_is_positive` does -/
noncomputable def westX (x δ : ℝ) : ℝ := if x - δ < 0 then x - δ + 8 else x - δ

/-- **`true_c2v_eqr`** (C16): `dN`, `dS`, `dE` are the true centre-to-vertex distances of a cell whose four vertices are in
    the equatorial region (`|y| + δ ≤ 1`) -/
theorem true_c2v_eqr (x y δ : ℝ) (hδ0 : 0 < δ) (hδ1 : δ ≤ 1) (hx0 : 0 ≤ x) (hx8 : x + δ ≤ 8) (hy : |y| + δ ≤ 1) :
    ∃ c pN pS pE pW : ℝ × ℝ,
      unproj (α := ℝ) x y = some c ∧ unproj (α := ℝ) x (y + δ) = some pN ∧ unproj (α := ℝ) x (y - δ) = some pS ∧
      unproj (α := ℝ) (x + δ) y = some pE ∧ unproj (α := ℝ) (westX x δ) y = some pW ∧
      c.2 = latOf y ∧
      adist c pN = dN δ y ∧ adist c pS = dS δ y ∧ adist c pE = dE δ y ∧ adist c pW = dE δ y := by
  obtain ⟨y1, y2⟩ := abs_le.mp (show |y| ≤ 1 - δ by linarith)
  have hyc : |y| ≤ 1 := by linarith
  have hyN : |y + δ| ≤ 1 := abs_le.mpr ⟨by linarith, by linarith⟩
  have hyS : |y - δ| ≤ 1 := abs_le.mpr ⟨by linarith, by linarith⟩
  have hw0 : 0 ≤ westX x δ := by unfold westX; split_ifs with h <;> linarith
  have hw8 : westX x δ ≤ 8 := by unfold westX; split_ifs with h <;> linarith
  refine ⟨_, _, _, _, _, unproj_band x y hx0 (by linarith) hyc, unproj_band x (y + δ) hx0 (by linarith) hyN,
    unproj_band x (y - δ) hx0 (by linarith) hyS, unproj_band (x + δ) y (by linarith) hx8 hyc,
    unproj_band (westX x δ) y hw0 hw8 hyc, rfl, ?_, ?_, ?_, ?_⟩
  · show adist (_, latOf y) (_, latOf (y + δ)) = _
    rw [adist_same_lon _ _ _ _ 0 (by simp) (latOf_abs_le y) (latOf_abs_le (y + δ)), abs_sub_comm]
    exact abs_of_nonneg (dN_nonneg δ y hδ0.le)
  · show adist (_, latOf y) (_, latOf (y - δ)) = _
    rw [adist_same_lon _ _ _ _ 0 (by simp) (latOf_abs_le y) (latOf_abs_le (y - δ))]
    exact abs_of_nonneg (dS_nonneg δ y hδ0.le)
  · obtain ⟨m1, e1⟩ := band_lon x
    obtain ⟨m2, e2⟩ := band_lon (x + δ)
    show adist (_, latOf y) (_, latOf y) = _
    rw [adist_same_lat _ _ _ (-(δ * (π / 4))) (m1 - m2) (by rw [e1, e2]; push_cast; ring) (latOf_abs_le y)]
    rw [show -(δ * (π / 4)) / 2 = -(δ * (π / 8)) by ring, Real.sin_neg, abs_neg,
      abs_of_nonneg (sin_step_nonneg δ hδ0.le hδ1)]
    rfl
  · obtain ⟨m1, e1⟩ := band_lon x
    obtain ⟨m2, e2⟩ := band_lon (westX x δ)
    have hw : ∃ m3 : ℤ, westX x δ = x - δ + 8 * m3 := by
      unfold westX; split_ifs
      · exact ⟨1, by push_cast; ring⟩
      · exact ⟨0, by simp⟩
    obtain ⟨m3, e3⟩ := hw
    show adist (_, latOf y) (_, latOf y) = _
    rw [adist_same_lat _ _ _ (δ * (π / 4)) (m1 - m2 - m3) (by rw [e1, e2, e3]; push_cast; ring) (latOf_abs_le y)]
    rw [show δ * (π / 4) / 2 = δ * (π / 8) by ring, abs_of_nonneg (sin_step_nonneg δ hδ0.le hδ1)]
    rfl

/-! ## `arcsin` is convex on `[0, 1]` -/

/-- as the inverse of the concave increasing `sin` on `[0, π/2]` -/
theorem arcsin_convexOn : ConvexOn ℝ (Set.Icc 0 1) Real.arcsin := by
  refine ⟨convex_Icc 0 1, ?_⟩
  intro x hx y hy a b ha hb hab
  have hpi := Real.pi_pos
  have hX0 : 0 ≤ Real.arcsin x := Real.arcsin_nonneg.mpr hx.1
  have hY0 : 0 ≤ Real.arcsin y := Real.arcsin_nonneg.mpr hy.1
  have hX1 := Real.arcsin_le_pi_div_two x
  have hY1 := Real.arcsin_le_pi_div_two y
  have hc := strictConcaveOn_sin_Icc.concaveOn.2 (x := Real.arcsin x) (y := Real.arcsin y)
    ⟨hX0, by linarith⟩ ⟨hY0, by linarith⟩ ha hb hab
  simp only [smul_eq_mul] at hc ⊢
  rw [Real.sin_arcsin (by linarith [hx.1]) hx.2, Real.sin_arcsin (by linarith [hy.1]) hy.2] at hc
  have h0 : 0 ≤ a * Real.arcsin x + b * Real.arcsin y := by positivity
  have h1 : a * Real.arcsin x + b * Real.arcsin y ≤ π / 2 := by
    calc a * Real.arcsin x + b * Real.arcsin y ≤ a * (π / 2) + b * (π / 2) := by
          gcongr
      _ = π / 2 := by rw [← add_mul, hab, one_mul]
  have hm0 : 0 ≤ a * x + b * y := by have := hx.1; have := hy.1; positivity
  have hm1 : a * x + b * y ≤ 1 := by
    calc a * x + b * y ≤ a * 1 + b * 1 := by
          have := hx.2; have := hy.2; gcongr
      _ = 1 := by linarith
  rw [Real.arcsin_le_iff_le_sin ⟨by linarith, hm1⟩ ⟨by linarith, h1⟩]
  exact hc

theorem arcsin_incr_mono (a b h : ℝ) (ha : 0 ≤ a) (hab : a ≤ b) (hh : 0 ≤ h) (hb : b + h ≤ 1) :
    Real.arcsin (a + h) - Real.arcsin a ≤ Real.arcsin (b + h) - Real.arcsin b := by
  rcases eq_or_lt_of_le hh with rfl | hpos
  · simp
  have hL : 0 < b + h - a := by linarith
  set t := h / (b + h - a) with ht
  have ht0 : 0 ≤ t := div_nonneg hh hL.le
  have ht1 : t ≤ 1 := by rw [ht, div_le_one hL]; linarith
  have hA : a ∈ Set.Icc (0 : ℝ) 1 := ⟨ha, by linarith⟩
  have hB : b + h ∈ Set.Icc (0 : ℝ) 1 := ⟨by linarith, hb⟩
  have c1 := arcsin_convexOn.2 hA hB (sub_nonneg.mpr ht1) ht0 (by ring)
  have c2 := arcsin_convexOn.2 hA hB ht0 (sub_nonneg.mpr ht1) (by ring)
  simp only [smul_eq_mul] at c1 c2
  have e1 : (1 - t) * a + t * (b + h) = a + h := by rw [ht]; field_simp; ring
  have e2 : t * a + (1 - t) * (b + h) = b := by rw [ht]; field_simp; ring
  rw [e1] at c1
  rw [e2] at c2
  linarith

/-- the increment of `arcsin` over a step `h` is even about `−h/2` (`arcsin` is odd) and grows with the distance from it -/
theorem arcsin_incr_le (a b h : ℝ) (hb0 : 0 ≤ b) (h1 : -b - h ≤ a) (hab : a ≤ b) (hh : 0 ≤ h) (hb : b + h ≤ 1) :
    Real.arcsin (a + h) - Real.arcsin a ≤ Real.arcsin (b + h) - Real.arcsin b := by
  rcases le_or_gt 0 a with ha | ha
  · exact arcsin_incr_mono a b h ha hab hh hb
  rcases le_or_gt (a + h) 0 with hah | hah
  · -- the step lies below `0`: it is the step from `−a − h` to `−a`
    have := arcsin_incr_mono (-a - h) b h (by linarith) (by linarith) hh hb
    rw [show -a - h + h = -a by ring, Real.arcsin_neg, show -a - h = -(a + h) by ring, Real.arcsin_neg] at this
    linarith
  · -- the step straddles `0`: `arcsin (a + h) + arcsin (−a) ≤ arcsin h`, the increment at `0`
    have i1 := arcsin_incr_mono 0 (-a) (a + h) le_rfl (by linarith) hah.le (by linarith)
    have i2 := arcsin_incr_mono 0 b h le_rfl hb0 hh hb
    rw [Real.arcsin_zero, zero_add, sub_zero, show -a + (a + h) = h by ring, Real.arcsin_neg] at i1
    rw [Real.arcsin_zero, zero_add, sub_zero] at i2
    linarith

theorem arcsin_mul_le (c s : ℝ) (hc0 : 0 ≤ c) (hc1 : c ≤ 1) (hs0 : 0 ≤ s) (hs1 : s ≤ 1) :
    Real.arcsin (c * s) ≤ c * Real.arcsin s := by
  have := arcsin_convexOn.2 (x := s) (y := 0) ⟨hs0, hs1⟩ ⟨le_rfl, zero_le_one⟩ hc0 (sub_nonneg.mpr hc1) (by ring)
  simpa using this

/-! ## symmetries and monotonicity of the three distances -/

theorem latOf_neg (y : ℝ) : latOf (-y) = -latOf y := by
  unfold latOf; rw [show -y * (2 / 3) = -(y * (2 / 3)) by ring, Real.arcsin_neg]

theorem dN_neg (δ y : ℝ) : dN δ (-y) = dS δ y := by
  unfold dN dS
  rw [show (-y + δ) * (2 / 3) = -((y - δ) * (2 / 3)) by ring, show -y * (2 / 3) = -(y * (2 / 3)) by ring,
    Real.arcsin_neg, Real.arcsin_neg]
  ring

theorem dE_neg (δ y : ℝ) : dE δ (-y) = dE δ y := by
  unfold dE; rw [latOf_neg, Real.cos_neg]

theorem dE_abs (δ y : ℝ) : dE δ |y| = dE δ y := by
  rcases abs_choice y with h | h <;> rw [h]
  exact dE_neg δ y

theorem dS_eq_dN (δ y : ℝ) : dS δ y = dN δ (y - δ) := by
  unfold dS dN; rw [sub_add_cancel]

theorem dN_mono (δ y₁ y₂ : ℝ) (hδ : 0 ≤ δ) (h0 : 0 ≤ y₂) (h1 : -y₂ - δ ≤ y₁) (h12 : y₁ ≤ y₂) (h : y₂ + δ ≤ 3 / 2) :
    dN δ y₁ ≤ dN δ y₂ := by
  unfold dN
  have := arcsin_incr_le (y₁ * (2 / 3)) (y₂ * (2 / 3)) (δ * (2 / 3)) (by positivity) (by linarith) (by linarith)
    (by positivity) (by linarith)
  rwa [← add_mul, ← add_mul] at this

theorem dS_le_dN (δ y : ℝ) (hδ : 0 ≤ δ) (hy : 0 ≤ y) (h1 : y + δ ≤ 3 / 2) : dS δ y ≤ dN δ y := by
  rw [dS_eq_dN]; exact dN_mono δ (y - δ) y hδ hy (by linarith) (by linarith) h1

theorem latOf_nonneg (y : ℝ) (hy : 0 ≤ y) : 0 ≤ latOf y := Real.arcsin_nonneg.mpr (by positivity)
theorem latOf_le (y : ℝ) : latOf y ≤ π / 2 := Real.arcsin_le_pi_div_two _
theorem latOf_mono (y₁ y₂ : ℝ) (h : y₁ ≤ y₂) : latOf y₁ ≤ latOf y₂ := Real.arcsin_le_arcsin (by linarith)

theorem cos_latOf_nonneg (y : ℝ) : 0 ≤ cos (latOf y) := Real.cos_arcsin_nonneg _

theorem dE_anti (δ y₁ y₂ : ℝ) (hδ0 : 0 ≤ δ) (hδ1 : δ ≤ 1) (h0 : 0 ≤ y₁) (h12 : y₁ ≤ y₂) : dE δ y₂ ≤ dE δ y₁ := by
  unfold dE
  have hpi := Real.pi_pos
  have hc : cos (latOf y₂) ≤ cos (latOf y₁) :=
    Real.cos_le_cos_of_nonneg_of_le_pi (latOf_nonneg y₁ h0) (by linarith [latOf_le y₂]) (latOf_mono y₁ y₂ h12)
  have := Real.arcsin_le_arcsin (mul_le_mul_of_nonneg_right hc (sin_step_nonneg δ hδ0 hδ1))
  linarith

/-- the arc of parallel is longer than the great-circle arc -/
theorem dE_le (δ y : ℝ) (hδ0 : 0 ≤ δ) (hδ1 : δ ≤ 1) : dE δ y ≤ cos (latOf y) * (δ * (π / 4)) := by
  unfold dE
  have hpi := Real.pi_pos
  have h := arcsin_mul_le (cos (latOf y)) (sin (δ * (π / 8))) (cos_latOf_nonneg y) (Real.cos_le_one _)
    (sin_step_nonneg δ hδ0 hδ1) (Real.sin_le_one _)
  rw [Real.arcsin_sin (by nlinarith) (by nlinarith)] at h
  linarith

theorem dE_nonneg (δ y : ℝ) (hδ0 : 0 ≤ δ) (hδ1 : δ ≤ 1) : 0 ≤ dE δ y := by
  unfold dE
  have := Real.arcsin_nonneg.mpr (mul_nonneg (cos_latOf_nonneg y) (sin_step_nonneg δ hδ0 hδ1))
  linarith

theorem dE_equator (δ : ℝ) (hδ0 : 0 ≤ δ) (hδ1 : δ ≤ 1) : dE δ 0 = δ * (π / 4) := by
  unfold dE latOf
  have hpi := Real.pi_pos
  rw [zero_mul, Real.arcsin_zero, Real.cos_zero, one_mul, Real.arcsin_sin (by nlinarith) (by nlinarith)]
  ring

/-! ## the hypotheses of `true_c2v_eqr` are satisfiable -/

example : (0 : ℝ) < 1 / 4 ∧ (1 / 4 : ℝ) ≤ 1 ∧ (0 : ℝ) ≤ 3 ∧ (3 : ℝ) + 1 / 4 ≤ 8 ∧ |(1 / 2 : ℝ)| + 1 / 4 ≤ 1 := by
  rw [abs_of_pos (by norm_num : (0 : ℝ) < 1 / 2)]; norm_num

end Hpx.EnvelopeReal

#print axioms Hpx.EnvelopeReal.unproj_band
#print axioms Hpx.EnvelopeReal.true_c2v_eqr
#print axioms Hpx.EnvelopeReal.adist_ge_lat_diff
#print axioms Hpx.EnvelopeReal.arcsin_convexOn
#print axioms Hpx.EnvelopeReal.arcsin_incr_mono
#print axioms Hpx.EnvelopeReal.dS_le_dN
#print axioms Hpx.EnvelopeReal.dN_mono
#print axioms Hpx.EnvelopeReal.dE_anti
#print axioms Hpx.EnvelopeReal.dE_le
