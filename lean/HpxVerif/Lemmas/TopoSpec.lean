/-
C04 — the geometric specification of cell adjacency on the HEALPix sphere, written independently of the seam tables
of the code (`ncp_neighbour`, `eqr_neighbour`, `spc_neighbour`), for a grid of arbitrary side `n ≥ 1`
(`n = 2^depth` in the code).  Core Lean only; everything is executable, so every statement of
`Lemmas/Topo*.lean` can be (and has been) tested by evaluation at small `n`.

The HEALPix plane scaled by `n`: base cell `b` (row `r = b / 4`: 0 north cap, 1 equatorial, 2 south cap; column
`q = b % 4`) is the diamond of half-diagonal `n` centred at `((2q+1)n, n)`, `(2qn, 0)`, `((2q+1)n, −n)`; `x` is
taken modulo `8n`.  Cell `(b, i, j)` is the diamond of half-diagonal `1` centred at
`(X_b + i − j, Y_b + i + j − (n−1))`; its vertices are `S E N W = (x, y−1) (x+1, y) (x, y+1) (x−1, y)`.

Plane points are identified when they are the same point of the sphere (`key`):
* `|y| ≤ n` (equatorial belt): `(x mod 8n, y)`;
* `n < y < 2n` (north polar cap): the image of the sphere at height `y` is made of four segments (one per triangular
  facet, `|x − (2q+1)n| ≤ 2n − y`) separated by four gaps of width `2(y − n)`; the right end of a segment and the left
  end of the next one are the same point of the sphere: the right end is sent to the left end of the next segment;
* `y = 2n`: the north pole, one single point; symmetrically in the south.
-/
import HpxVerif.Model.Topo

namespace Hpx.TopoSpec
open Hpx MW

/-- `p` is a cell of the grid of side `n` -/
def Valid (n : Nat) (p : HashParts) : Prop := p.d0h < 12 ∧ p.i < n ∧ p.j < n

instance (n : Nat) (p : HashParts) : Decidable (Valid n p) := by unfold Valid; infer_instance

/-- abscissa of the centre of base cell `b` -/
def baseX (n : Int) (b : Nat) : Int :=
  if b / 4 = 1 then (2 * (b % 4 : Nat)) * n else (2 * (b % 4 : Nat) + 1) * n

/-- ordinate of the centre of base cell `b` -/
def baseY (n : Int) (b : Nat) : Int :=
  if b / 4 = 0 then n else if b / 4 = 1 then 0 else -n

/-- centre of the cell `p` in the plane (not reduced modulo `8n`) -/
def center (n : Nat) (p : HashParts) : Int × Int :=
  (baseX n p.d0h + ((p.i : Int) - (p.j : Int)), baseY n p.d0h + ((p.i : Int) + (p.j : Int)) - ((n : Int) - 1))

/-- the vertex of `p` named by a cardinal direction (the centre for the other directions) -/
def vertex (n : Nat) (p : HashParts) (v : MW) : Int × Int :=
  let c := center n p
  match v with
  | S => (c.1, c.2 - 1)
  | E => (c.1 + 1, c.2)
  | N => (c.1, c.2 + 1)
  | W => (c.1 - 1, c.2)
  | _ => c

/-- abscissa of the apex of the polar facet containing abscissa `x ∈ [0, 8n)` -/
def facetX (n x : Int) : Int :=
  if x < 2 * n then n else if x < 4 * n then 3 * n else if x < 6 * n then 5 * n else 7 * n

/-- canonical representative of the sphere point whose image in the plane is `pt` -/
def key (n : Int) (pt : Int × Int) : Int × Int :=
  let x := pt.1 % (8 * n)
  let y := pt.2
  if 2 * n ≤ y ∨ y ≤ -(2 * n) then (0, y)                       -- a pole
  else if n < y then                                            -- north cap: gaps of width `2 (y − n)`
    if x - facetX n x = 2 * n - y then ((x + 2 * (y - n)) % (8 * n), y) else (x, y)
  else if y < -n then                                           -- south cap: gaps of width `2 (−y − n)`
    if x - facetX n x = 2 * n + y then ((x + 2 * (-y - n)) % (8 * n), y) else (x, y)
  else (x, y)

/-- the four vertex names -/
def cardinals : List MW := [S, E, N, W]

/-- key of the vertex `v` of the cell `p` -/
def vkey (n : Nat) (p : HashParts) (v : MW) : Int × Int := key n (vertex n p v)

/-- the four vertex keys of `p` -/
def keys (n : Nat) (p : HashParts) : List (Int × Int) := cardinals.map (vkey n p)

/-- `p` and `q` have a vertex in common (as points of the sphere) -/
def Touch (n : Nat) (p q : HashParts) : Prop :=
  ∃ v ∈ cardinals, ∃ w ∈ cardinals, vkey n p v = vkey n q w

instance (n : Nat) (p q : HashParts) : Decidable (Touch n p q) := by unfold Touch; infer_instance

/-- the vertices of `p` (by name, in the order S E N W) that are also vertices of `q` -/
def shared (n : Nat) (p q : HashParts) : List MW :=
  cardinals.filter fun v => decide (vkey n p v ∈ keys n q)

/-- the vertices of a cell that belong to its side / corner in direction `dir` (in the order S E N W) -/
def edgeOf : MW → List MW
  | S => [S] | E => [E] | N => [N] | W => [W]
  | SE => [S, E] | SW => [S, W] | NE => [E, N] | NW => [N, W]
  | C => [S, E, N, W]

/-- the eight directions -/
def dirs8 : List MW := [S, SE, E, SW, NE, W, NW, N]

/-- all cells of the grid of side `n` -/
def allCells (n : Nat) : List HashParts :=
  (List.range 12).flatMap fun b => (List.range n).flatMap fun i => (List.range n).map fun j =>
    { d0h := b, i := i, j := j }

/-! ## sanity of the specification on its own (tests by kernel evaluation, independent of the model)

The identification `key` makes the `12 n²` diamonds a quadrangulation of a sphere: `12 n² + 2` distinct vertices (Euler:
`V − E + F = (12n² + 2) − 24n² + 12n² = 2`), each belonging to 4 cells, except 8 vertices that belong to 3 cells (the N
and S corners of the four equatorial base cells). -/

/-- number of cells having the key `k` among their vertices -/
def valence (n : Nat) (k : Int × Int) : Nat := ((allCells n).filter fun p => (keys n p).contains k).length

def sphereLike (n : Nat) : Bool :=
  let ks := ((allCells n).flatMap (keys n)).eraseDups
  ks.length == 12 * n * n + 2 && (ks.filter fun k => valence n k == 3).length == 8 &&
  ks.all fun k => valence n k == 4 || valence n k == 3

/-- **test** (`n = 1, 2`; `#eval` confirms `n ≤ 8`) -/
example : sphereLike 1 = true ∧ sphereLike 2 = true := by decide +kernel

end Hpx.TopoSpec
