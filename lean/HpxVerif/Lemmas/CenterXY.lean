import HpxVerif.Model.Layer

/-!
# `Layer.centerXY` in linear form

The integer centre of a NESTED cell, with the `let`s of the model gone: one product `(column offset)·nside` in the
abscissa, one `(row offset)·nside` in the ordinate, so that `omega` can take either as an atom.  No hypothesis on the
cell; core tactics only (the neighbour files that use it are free of Mathlib).
-/

namespace Hpx.Layer

theorem nside_eq (d : Nat) : nside d = 2 ^ d := by
  unfold nside; rw [Nat.shiftLeft_eq]; omega

/-- the base cell's centre is at abscissa `2·(b mod 4) + 1`, or `2·(b mod 4)` in the equatorial row `b/4 = 1`; a negative
    abscissa is brought back to `[0, 8·nside)` by adding `8·nside` -/
theorem centerXY_linear (d b i j : Nat) :
    centerXY d ⟨b, i, j⟩ =
      ((i : Int) - j + (2 * ((b % 4 : Nat) : Int) + (if b / 4 = 1 then 0 else 1)) * nside d
          + (if (i : Int) - j + (2 * ((b % 4 : Nat) : Int) + (if b / 4 = 1 then 0 else 1)) * nside d < 0
              then 8 * (nside d : Int) else 0),
       (i : Int) + j + 1 - nside d + (1 - ((b / 4 : Nat) : Int)) * nside d) := by
  unfold centerXY
  dsimp only
  have e : ((b % 4 * 2 : Nat) : Int) = 2 * ((b % 4 : Nat) : Int) := by omega
  rw [e]
  generalize (2 * ((b % 4 : Nat) : Int) + (if b / 4 = 1 then 0 else 1)) * (nside d : Int) = P
  generalize (1 - ((b / 4 : Nat) : Int)) * (nside d : Int) = Q
  apply Prod.ext <;> dsimp only
  · split <;> omega
  · omega

end Hpx.Layer
