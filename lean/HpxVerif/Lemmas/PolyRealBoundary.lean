/-
Point-in-polygon over the reals (C12): the genericity hypotheses of `contains_convex` lifted by perturbation, then examples
and counter-examples.
The tests made by `Polygon::contains` are stable under a small move of the point to the east (the longitude ranges are
closed at their western end and open at their eastern end) and under a small move in latitude (strict sign tests; an edge
whose great circle passes through the point without the point being on the edge has the point outside its longitude
range), so `contains_convex_final` holds for EVERY point of the sphere that is not on the boundary of the polygon: vertex
meridians, great circles of the edges and the two poles included.
-/
import HpxVerif.Lemmas.PolyRealConvex
import Mathlib.Tactic.IntervalCases
import Mathlib.Topology.Order.LeftRightNhds
import Mathlib.Topology.Algebra.Order.Field
import Mathlib.Analysis.SpecialFunctions.Trigonometric.Deriv

namespace Hpx.Sph
open Real Hpx.Proj Filter Topology

theorem eventually_forall_mem_list {α β : Type} (l : List α) (f : Filter β) (P : α → β → Prop)
    (h : ∀ a ∈ l, ∀ᶠ x in f, P a x) : ∀ᶠ x in f, ∀ a ∈ l, P a x :=
  (eventually_all_finite l.finite_toSet).mpr h

theorem eventually_small (δ : ℝ) (hδ : 0 < δ) : ∀ᶠ ε in 𝓝[>] (0 : ℝ), 0 < ε ∧ ε < δ :=
  Ioo_mem_nhdsGT hδ

theorem eventually_compare (c l : ℝ) : ∀ᶠ ε in 𝓝[>] (0 : ℝ), (c ≤ l + ε ↔ c ≤ l) ∧ l + ε ≠ c := by
  by_cases h : c ≤ l
  · filter_upwards [eventually_small 1 one_pos] with ε hε
    exact ⟨⟨fun _ => h, fun _ => by linarith⟩, by linarith⟩
  · have h' : l < c := not_le.mp h
    filter_upwards [eventually_small (c - l) (by linarith)] with ε hε
    exact ⟨⟨fun h1 => by linarith, fun h1 => by linarith⟩, by linarith⟩

theorem lonRange_east (a b l : ℝ) : ∀ᶠ ε in 𝓝[>] (0 : ℝ), (LonRange a b (l + ε) ↔ LonRange a b l) := by
  filter_upwards [eventually_compare a l, eventually_compare b l] with ε h1 h2
  unfold LonRange
  simp only [min_le_iff, max_le_iff, ← not_le, h1.1, h2.1]

noncomputable def pert (p : Coo ℝ) (b ε : ℝ) : Coo ℝ := cooOf (p.lon + ε, p.lat + b * ε)

theorem dot_pert_tendsto {p : Coo ℝ} (hp : p.Valid) (b : ℝ) (N : ℝ × ℝ × ℝ) :
    Tendsto (fun ε => dot (pert p b ε) N) (𝓝 0) (𝓝 (dot p N)) := by
  have hc : Continuous fun ε : ℝ => cos (p.lat + b * ε) * cos (p.lon + ε) * N.1 +
      cos (p.lat + b * ε) * sin (p.lon + ε) * N.2.1 + sin (p.lat + b * ε) * N.2.2 := by fun_prop
  have := hc.tendsto 0
  simp only [mul_zero, add_zero] at this
  rw [hp.dot_eq]
  exact this

theorem sign_stable {p : Coo ℝ} (hp : p.Valid) (b : ℝ) (N : ℝ × ℝ × ℝ) (h : dot p N ≠ 0) :
    ∀ᶠ ε in 𝓝[>] (0 : ℝ), 0 < dot (pert p b ε) N * dot p N :=
  (((dot_pert_tendsto hp b N).mul_const (dot p N)).mono_left nhdsWithin_le_nhds).eventually_const_lt
    (mul_self_pos.mpr h)

theorem pos_iff_of_same_sign {c x y : ℝ} (hc : c ≠ 0) (h : 0 < x * y) : 0 < c * x ↔ 0 < c * y :=
  pos_iff_pos_of_mul_pos (by rw [mul_mul_mul_comm]; exact mul_pos (mul_self_pos.mpr hc) h)

theorem contains_congr (poly : Polygon ℝ) (hb : poly.Built) (p p' : Coo ℝ)
    (h : ∀ e ∈ edges poly.vertices,
      (isInLonRange p e.1 e.2 && Num.gt (dot p (npCross e.1 e.2)) (Num.zero : ℝ)) =
      (isInLonRange p' e.1 e.2 && Num.gt (dot p' (npCross e.1 e.2)) (Num.zero : ℝ))) :
    poly.contains p = poly.contains p' := by
  rw [contains_eq_count poly hb, contains_eq_count poly hb, List.countP_congr fun e he => by rw [h e he]]

theorem pert_lon (p : Coo ℝ) (b ε : ℝ) : (pert p b ε).lon = p.lon + ε := rfl

/-- transfer of the theorem from a class `Q` of points to a point `p`, not on the boundary, all of whose small perturbations
    are in `Q`.  Each edge either has `p` off its great circle (the sign tests are stable) or has `p` outside its longitude
    range (`hedge`; the test is `false` before and after).  Off the great circles the moved point is on the same side as
    `p`, so it is in all the open half-spaces iff `p` is, and it is not on the boundary either. -/
theorem contains_convex_transfer (poly : Polygon ℝ) (hb : poly.Built) (o : ℝ) (p : Coo ℝ) (hp : p.Valid)
    (ho : o ≠ 0) (b : ℝ) (Q : Coo ℝ → Prop)
    (hedge : ∀ e ∈ edges poly.vertices, dot p (cross e.1 e.2) = 0 → ¬ LonRange e.1.lon e.2.lon p.lon)
    (hnb : (∀ e ∈ edges poly.vertices, 0 ≤ o * dot p (cross e.1 e.2)) →
      ∀ e ∈ edges poly.vertices, 0 < o * dot p (cross e.1 e.2))
    (hQ : ∀ᶠ ε in 𝓝[>] (0 : ℝ), Q (pert p b ε))
    (known : ∀ p', Q p' →
      ((∀ e ∈ edges poly.vertices, 0 ≤ o * dot p' (cross e.1 e.2)) → ∀ e ∈ edges poly.vertices, 0 < o * dot p' (cross e.1 e.2)) →
      (poly.contains p' = true ↔ ∀ e ∈ edges poly.vertices, 0 < o * dot p' (cross e.1 e.2))) :
    poly.contains p = true ↔ ∀ e ∈ edges poly.vertices, 0 < o * dot p (cross e.1 e.2) := by
  have s : ∀ᶠ ε in 𝓝[>] (0 : ℝ), ∀ e ∈ edges poly.vertices, dot p (cross e.1 e.2) ≠ 0 →
      0 < dot (pert p b ε) (cross e.1 e.2) * dot p (cross e.1 e.2) := by
    apply eventually_forall_mem_list
    intro e _
    by_cases hne : dot p (cross e.1 e.2) = 0
    · exact Eventually.of_forall (fun ε h => absurd hne h)
    · exact (sign_stable hp b _ hne).mono (fun ε h _ => h)
  have hlon : ∀ᶠ ε in 𝓝[>] (0 : ℝ), ∀ e ∈ edges poly.vertices,
      (LonRange e.1.lon e.2.lon (p.lon + ε) ↔ LonRange e.1.lon e.2.lon p.lon) :=
    eventually_forall_mem_list _ _ _ fun e _ => lonRange_east _ _ _
  obtain ⟨ε, h1, h2, h3⟩ := (hlon.and (hQ.and s)).exists
  have hc : poly.contains p = poly.contains (pert p b ε) := by
    refine contains_congr poly hb _ _ fun e he => Bool.eq_iff_iff.mpr ?_
    rw [edge_test_iff, edge_test_iff, pert_lon, h1 e he]
    by_cases hne : dot p (cross e.1 e.2) = 0
    · exact iff_of_false (fun g => hedge e he hne g.1) (fun g => hedge e he hne g.1)
    · obtain ⟨c, hc0, hc⟩ := dot_npCross e.1 e.2
      rw [hc, hc]
      exact and_congr_right fun _ => (pos_iff_of_same_sign hc0 (h3 e he hne)).symm
  -- the moved point in all the closed half-spaces ⇒ `p` in all the closed ones, hence (`hnb`) in all the open ones
  have back : (∀ e ∈ edges poly.vertices, 0 ≤ o * dot (pert p b ε) (cross e.1 e.2)) →
      ∀ e ∈ edges poly.vertices, 0 < o * dot p (cross e.1 e.2) := fun hC => hnb fun e he => by
    by_cases hne : dot p (cross e.1 e.2) = 0
    · rw [hne, mul_zero]
    · have hs := h3 e he hne
      exact ((pos_iff_of_same_sign ho hs).mp
        (lt_of_le_of_ne (hC e he) (mul_ne_zero ho (left_ne_zero_of_mul hs.ne')).symm)).le
  have fwd : (∀ e ∈ edges poly.vertices, 0 < o * dot p (cross e.1 e.2)) →
      ∀ e ∈ edges poly.vertices, 0 < o * dot (pert p b ε) (cross e.1 e.2) := fun hI e he =>
    (pos_iff_of_same_sign ho (h3 e he (right_ne_zero_of_mul (hI e he).ne'))).mpr (hI e he)
  rw [hc, known _ h2 fun hC => fwd (back hC)]
  exact ⟨fun h => back fun e he => (h e he).le, fwd⟩

theorem valid_eq_cooOf {p : Coo ℝ} (hp : p.Valid) : p = cooOf (p.lon, p.lat) := by
  cases p
  simp only [cooOf, Coo.mk.injEq]
  exact ⟨hp.hx, hp.hy, hp.hz, trivial, trivial⟩

theorem lonRange_closed_point {u w : Coo ℝ} (hu : u.Valid) (hw : w.Valid) (hun : u.NonPole) (hwn : w.NonPole)
    (l : ℝ) (hl0 : 0 ≤ l) (hl1 : l < 2 * π) (hR : LonRange u.lon w.lon l) (hs : sin (w.lon - u.lon) ≠ 0) :
    ∃ s t : ℝ, 0 ≤ s ∧ 0 ≤ t ∧ s * u.x + t * w.x = cos l ∧ s * u.y + t * w.y = sin l := by
  have hcu := hun.cos_pos
  have hcw := hwn.cos_pos
  by_cases h1 : l = u.lon
  · exact ⟨(cos u.lat)⁻¹, 0, (inv_pos.mpr hcu).le, le_refl _,
      by rw [hu.hx, h1, inv_mul_cancel_left₀ hcu.ne', zero_mul, add_zero],
      by rw [hu.hy, h1, inv_mul_cancel_left₀ hcu.ne', zero_mul, add_zero]⟩
  · by_cases h2 : l = w.lon
    · exact ⟨0, (cos w.lat)⁻¹, le_refl _, (inv_pos.mpr hcw).le,
        by rw [hw.hx, h2, inv_mul_cancel_left₀ hcw.ne', zero_mul, zero_add],
        by rw [hw.hy, h2, inv_mul_cancel_left₀ hcw.ne', zero_mul, zero_add]⟩
    · obtain ⟨_, s, t, hs', ht', ex, ey, _⟩ := (lonRange_iff_meetsV hu hw hun hwn l hl0 hl1 h1 h2).mp ⟨hR, hs⟩
      exact ⟨s, t, hs'.le, ht'.le, ex, ey⟩

theorem closed_of_lonRange_of_dot_zero {o : ℝ} {vs : List (Coo ℝ)} (h : ConvexNoPole o vs) (p : Coo ℝ) (hp : p.Valid)
    (hpn : p.NonPole) (e : Coo ℝ × Coo ℝ) (he : e ∈ edges vs) (h0 : dot p (cross e.1 e.2) = 0)
    (hR : LonRange e.1.lon e.2.lon p.lon) : ∀ e' ∈ edges vs, 0 ≤ o * dot p (cross e'.1 e'.2) := by
  obtain ⟨⟨hu, hun⟩, ⟨hw, hwn⟩⟩ := h.edge_valid he
  have hs := sin_ne_zero_of_lonRange hu hw (h.no_opposite e he) hR
  have hz : edgeZ o e ≠ 0 := mul_ne_zero h.o_ne_zero (cross_z_ne_zero hu hw hun hwn hs)
  obtain ⟨s, t, hs0, ht0, ex, ey⟩ := lonRange_closed_point hu hw hun hwn p.lon hp.lon0 hp.lon1 hR hs
  -- the point of the arc on the meridian of `p` and `p` are two points of that meridian in the plane of `e`: they are equal
  have hq : edgeA o p.lon e + (s * e.1.z + t * e.2.z) * edgeZ o e = 0 := lin_self_of_meetsV s t ex ey rfl o
  have hp0 : edgeA o p.lon e + tan p.lat * edgeZ o e = 0 := by
    have := dot_eq_lin hp hpn o e
    rw [h0, mul_zero] at this
    exact (mul_eq_zero.mp this.symm).resolve_left hpn.cos_pos.ne'
  have hτ : tan p.lat = s * e.1.z + t * e.2.z := mul_right_cancel₀ hz (by linarith)
  intro e' he'
  rw [dot_nonneg_iff_lin hp hpn, hτ, lin_of_meetsV s t ex ey rfl]
  exact add_nonneg (mul_nonneg hs0 (h.hconv.vertex_edge (mem_edges he).1 he'))
    (mul_nonneg ht0 (h.hconv.vertex_edge (mem_edges he).2 he'))

/-- **`Polygon::contains` on convex polygons, final form.**  For a polygon as built by `Polygon::new` from a strictly
    convex list of at least 3 vertices (either winding), contained in an open hemisphere, with neither pole in the closed
    polygon, and EVERY point `p` of the sphere (poles, vertex meridians, great circles of the edges included) that is
    not on the boundary of the polygon (`hnb`: if `p` is in all the closed half-spaces then it is in all the open ones):
    `contains p = true` iff `p` is strictly inside all the half-spaces of the edges.  (A point whose meridian passes
    through a vertex is the case of the bug fixed in release 0.3.0 of the crate.) -/
theorem contains_convex_final (poly : Polygon ℝ) (hb : poly.Built) (o : ℝ) (h : ConvexNoPole o poly.vertices)
    (p : Coo ℝ) (hp : p.Valid)
    (hnb : (∀ e ∈ edges poly.vertices, 0 ≤ o * dot p (cross e.1 e.2)) →
      ∀ e ∈ edges poly.vertices, 0 < o * dot p (cross e.1 e.2)) :
    poly.contains p = true ↔ ∀ e ∈ edges poly.vertices, 0 < o * dot p (cross e.1 e.2) := by
  have hpi := pi_pos
  -- the point is moved a little to the east and, at a pole, along its meridian towards the equator
  obtain ⟨c, hc⟩ : ∃ c : ℝ, ∀ᶠ ε in 𝓝[>] (0 : ℝ), -(π / 2) < p.lat + c * ε ∧ p.lat + c * ε < π / 2 := by
    rcases eq_or_lt_of_le hp.lat1 with g | g
    · exact ⟨-1, by filter_upwards [eventually_small π hpi] with ε h1; constructor <;> linarith⟩
    · rcases eq_or_lt_of_le hp.lat0 with g' | g'
      · exact ⟨1, by filter_upwards [eventually_small π hpi] with ε h1; constructor <;> linarith⟩
      · exact ⟨0, Eventually.of_forall fun ε => by rw [zero_mul, add_zero]; exact ⟨g', g⟩⟩
  refine contains_convex_transfer poly hb o p hp h.o_ne_zero c
    (fun p' => p'.Valid ∧ p'.NonPole ∧ ∀ v ∈ poly.vertices, p'.lon ≠ v.lon) ?_ hnb ?_
    (fun p' q hg => contains_convex poly hb o h p' q.1 q.2.1 q.2.2 hg)
  · intro e he h0 hR
    obtain ⟨⟨hu, hun⟩, ⟨hw, hwn⟩⟩ := h.edge_valid he
    have hz := cross_z_ne_zero hu hw hun hwn (sin_ne_zero_of_lonRange hu hw (h.no_opposite e he) hR)
    by_cases hpn : p.NonPole
    · have := hnb (closed_of_lonRange_of_dot_zero h p hp hpn e he h0 hR) e he
      rw [h0, mul_zero] at this
      exact lt_irrefl _ this
    · -- at a pole `p · N = ± N.z`, and the plane of an edge that has a longitude range is not vertical
      rw [hp.dot_eq] at h0
      rcases not_and_or.mp hpn with g | g
      · rw [le_antisymm (not_lt.mp g) hp.lat0, cos_neg, sin_neg, cos_pi_div_two, sin_pi_div_two] at h0
        exact hz (by linarith)
      · rw [le_antisymm hp.lat1 (not_lt.mp g), cos_pi_div_two, sin_pi_div_two] at h0
        exact hz (by linarith)
  · have hgenl : ∀ᶠ ε in 𝓝[>] (0 : ℝ), ∀ v ∈ poly.vertices, p.lon + ε ≠ v.lon :=
      eventually_forall_mem_list _ _ _ (fun v _ => (eventually_compare v.lon p.lon).mono (fun ε h => h.2))
    filter_upwards [eventually_small (2 * π - p.lon) (by linarith [hp.lon1]), hgenl, hc] with ε h1 h2 h3
    refine ⟨cooOf_valid _ ?_ ?_ h3.1.le h3.2.le, h3, fun v hv => ?_⟩
    · exact add_nonneg hp.lon0 h1.1.le
    · linarith [h1.2]
    · exact h2 v hv

theorem contains_convex_all (poly : Polygon ℝ) (hb : poly.Built) (o : ℝ) (h : ConvexNoPole o poly.vertices)
    (p : Coo ℝ) (hp : p.Valid) (hgc : ∀ e ∈ edges poly.vertices, dot p (cross e.1 e.2) ≠ 0) :
    poly.contains p = true ↔ ∀ e ∈ edges poly.vertices, 0 < o * dot p (cross e.1 e.2) := by
  exact contains_convex_final poly hb o h p hp
    (fun hall e he => lt_of_le_of_ne (hall e he) (Ne.symm (mul_ne_zero h.o_ne_zero (hgc e he))))

theorem contains_convex_final_new (dbg : Bool) (lls : List (ℝ × ℝ))
    (hr : ∀ ll ∈ lls, 0 ≤ ll.1 ∧ ll.1 < 2 * π ∧ -(π / 2) ≤ ll.2 ∧ ll.2 ≤ π / 2)
    (o : ℝ) (h : ConvexNoPole o (lls.map cooOf)) (p : Coo ℝ) (hp : p.Valid)
    (hnb : (∀ e ∈ edges (lls.map cooOf), 0 ≤ o * dot p (cross e.1 e.2)) →
      ∀ e ∈ edges (lls.map cooOf), 0 < o * dot p (cross e.1 e.2)) :
    ∃ poly, Polygon.new dbg lls = some poly ∧
      (poly.contains p = true ↔ ∀ e ∈ edges (lls.map cooOf), 0 < o * dot p (cross e.1 e.2)) := by
  have hne : lls ≠ [] := by
    intro h0; have := h.hn; rw [h0] at this; simp at this
  obtain ⟨poly, hnew, hvs, hb⟩ := polygon_new_real dbg lls hne hr
  refine ⟨poly, hnew, ?_⟩
  rw [← hvs] at h hnb ⊢
  exact contains_convex_final poly hb o h p hp hnb

/-- `contains_convex` on the value returned by `Polygon::new` -/
theorem contains_convex_new (dbg : Bool) (lls : List (ℝ × ℝ))
    (hr : ∀ ll ∈ lls, 0 ≤ ll.1 ∧ ll.1 < 2 * π ∧ -(π / 2) ≤ ll.2 ∧ ll.2 ≤ π / 2)
    (o : ℝ) (h : ConvexNoPole o (lls.map cooOf))
    (p : Coo ℝ) (hp : p.Valid) (hpn : p.NonPole) (hgen : ∀ ll ∈ lls, p.lon ≠ ll.1)
    (hnb : (∀ e ∈ edges (lls.map cooOf), 0 ≤ o * dot p (cross e.1 e.2)) →
      ∀ e ∈ edges (lls.map cooOf), 0 < o * dot p (cross e.1 e.2)) :
    ∃ poly, Polygon.new dbg lls = some poly ∧
      (poly.contains p = true ↔ ∀ e ∈ edges (lls.map cooOf), 0 < o * dot p (cross e.1 e.2)) :=
  contains_convex_final_new dbg lls hr o h p hp hnb

end Hpx.Sph

namespace Hpx.Sph
open Real Hpx.Proj

/-! ## a concrete triangle: `(0, 0)`, `(π/2, 0)`, `(π/4, π/4)` (counter-clockwise) -/

noncomputable def triLL : List (ℝ × ℝ) := [(0, 0), (π / 2, 0), (π / 4, π / 4)]

noncomputable def triA : Coo ℝ := { x := 1, y := 0, z := 0, lon := 0, lat := 0 }
noncomputable def triB : Coo ℝ := { x := 0, y := 1, z := 0, lon := π / 2, lat := 0 }
noncomputable def triC : Coo ℝ := { x := 1 / 2, y := 1 / 2, z := √2 / 2, lon := π / 4, lat := π / 4 }

theorem sqrt2_sq : (√2 : ℝ) * √2 = 2 := Real.mul_self_sqrt (by norm_num)
theorem sqrt3_sq : (√3 : ℝ) * √3 = 3 := Real.mul_self_sqrt (by norm_num)
theorem half_sqrt2_sq : (√2 / 2 : ℝ) * (√2 / 2) = 1 / 2 := by rw [div_mul_div_comm, sqrt2_sq]; norm_num

theorem triLL_range : ∀ ll ∈ triLL, 0 ≤ ll.1 ∧ ll.1 < 2 * π ∧ -(π / 2) ≤ ll.2 ∧ ll.2 ≤ π / 2 := by
  have hpi := pi_pos
  simp only [triLL, List.forall_mem_cons, List.not_mem_nil, false_imp_iff, implies_true, and_true]
  exact ⟨⟨le_refl _, by linarith, by linarith, by linarith⟩, ⟨by linarith, by linarith, by linarith, by linarith⟩,
    by linarith, by linarith, by linarith, by linarith⟩

theorem triLL_map : triLL.map cooOf = [triA, triB, triC] := by
  simp only [triLL, List.map_cons, List.map_nil, cooOf, triA, triB, triC, cos_zero, sin_zero, cos_pi_div_two,
    sin_pi_div_two, cos_pi_div_four, sin_pi_div_four]
  rw [half_sqrt2_sq]
  norm_num

theorem edges_three (a b c : Coo ℝ) : edges [a, b, c] = [(c, a), (a, b), (b, c)] := rfl

theorem tri_convex : ConvexNoPole 1 [triA, triB, triC] := by
  have hpi := pi_pos
  have h2 := sqrt2_sq
  have h2p : (0 : ℝ) < √2 := Real.sqrt_pos.mpr (by norm_num)
  refine ⟨Or.inl rfl, by simp, ?_, ?_, ⟨(1, 1, 1), ?_⟩, ⟨(triA, triB), by simp [edges_three], ?_⟩,
    ⟨(triB, triC), by simp [edges_three], ?_⟩⟩
  · -- the three vertices are the unit vectors of the positions `triLL`
    rw [← triLL_map]
    intro v hv
    refine ⟨valid_map_cooOf triLL_range v hv, ?_⟩
    obtain ⟨ll, hll, rfl⟩ := List.mem_map.mp hv
    simp only [triLL, List.mem_cons, List.not_mem_nil, or_false] at hll
    rcases hll with rfl | rfl | rfl <;> constructor <;> simp only [cooOf] <;> linarith
  · intro i k hi hk h1 h2'
    simp only [List.length_cons, List.length_nil] at hi hk h1 h2'
    interval_cases i <;> interval_cases k <;> simp [prevIdx] at h1 h2' ⊢ <;>
      simp [dot, cross, triA, triB, triC]
  · intro v hv
    simp only [List.mem_cons, List.not_mem_nil, or_false] at hv
    rcases hv with rfl | rfl | rfl
    · simp [dot, triA]
    · simp [dot, triB]
    · simp [dot, triC]; positivity
  · simp [cross, triA, triB]
  · simp [cross, triB, triC]

/-- the hypotheses of `contains_convex_all` hold for a concrete polygon and a concrete point **on the meridian of a
    vertex**; end to end: `Polygon::new` on the three positions, then `contains (π/4, π/6) = true` -/
example : ∃ poly, Polygon.new false triLL = some poly ∧ poly.contains (cooOf (π / 4, π / 6)) = true := by
  have hpi := pi_pos
  have h2 := sqrt2_sq
  have h3 := sqrt3_sq
  have h2p : (0 : ℝ) < √2 := Real.sqrt_pos.mpr (by norm_num)
  have h3p : (0 : ℝ) < √3 := Real.sqrt_pos.mpr (by norm_num)
  have h3g : (1 : ℝ) < √3 := by nlinarith
  obtain ⟨poly, hnew, hvs, hb⟩ := polygon_new_real false triLL (List.cons_ne_nil _ _) triLL_range
  refine ⟨poly, hnew, ?_⟩
  rw [triLL_map] at hvs
  have hp : (cooOf (π / 4, π / 6)).Valid := cooOf_valid _ (by simp; linarith) (by simp; linarith) (by simp; linarith)
    (by simp; linarith)
  have hdots : ∀ e ∈ edges poly.vertices, 0 < 1 * dot (cooOf (π / 4, π / 6)) (cross e.1 e.2) := by
    intro e he
    rw [hvs, edges_three] at he
    simp only [List.mem_cons, List.not_mem_nil, or_false] at he
    rcases he with rfl | rfl | rfl <;>
      simp [dot, cross, cooOf, triA, triB, triC, cos_pi_div_four, sin_pi_div_four, cos_pi_div_six, sin_pi_div_six] <;>
      nlinarith
  rw [contains_convex_all poly hb 1 (by rw [hvs]; exact tri_convex) _ hp
    (fun e he => by have := hdots e he; rw [one_mul] at this; exact this.ne')]
  exact hdots

/-! ## outside the domain of the theorem

1. **A convex polygon that contains the south pole with half of its vertices in the northern hemisphere**: the heuristic
   `Basic::contains_south_pole` (more than half of the vertices in the south) answers `false`, and every answer of
   `contains` is inverted.  The quadrilateral below is strictly convex, counter-clockwise, contained in an open hemisphere
   and has the south pole strictly inside; `(1.0, -1.5)` and `(1.0, 0.0)` are inside all four half-spaces, `(1.0, 1.0)`
   and `(4.0, 0.5)` are outside.  (Checked on the `Float` instance, i.e. the model run that is compared with the crate.)
   The property C12 excludes polygons that reach a pole; this is the documented heuristic.
2. **An edge whose end points are on exactly opposite meridians** (`|Δlon| = π`): the arc passes over a pole, `(u × w).z = 0`,
   the normal is not re-oriented and the longitude range is taken as `[min, max)`; `crossing_test_geometric` excludes this
   case and the test is then not the geometric one (over ℝ: for the triangle `(0, π/4), (π/2, 0), (π, π/4)` and the point
   `(π/4, -π/4)`, the edge `(π, π/4) → (0, π/4)` is counted although the arc does not meet the meridian of the point).  In
   double precision `π` is not representable, `(u × w).z` is a rounding residue and the answer depends on its sign.
-/

noncomputable def degLL : List (ℝ × ℝ) := [(0, π / 4), (π / 2, 0), (π, π / 4)]
noncomputable def degU : Coo ℝ := { x := √2 / 2, y := 0, z := √2 / 2, lon := 0, lat := π / 4 }
noncomputable def degV : Coo ℝ := { x := 0, y := 1, z := 0, lon := π / 2, lat := 0 }
noncomputable def degW : Coo ℝ := { x := -(√2 / 2), y := 0, z := √2 / 2, lon := π, lat := π / 4 }
noncomputable def degP : Coo ℝ := { x := 1 / 2, y := 1 / 2, z := -(√2 / 2), lon := π / 4, lat := -(π / 4) }

theorem degLL_map : degLL.map cooOf = [degU, degV, degW] := by
  simp [degLL, cooOf, degU, degV, degW]

theorem degP_eq : cooOf (π / 4, -(π / 4)) = degP := by
  simp only [cooOf, degP, cos_neg, sin_neg, cos_pi_div_four, sin_pi_div_four]
  rw [half_sqrt2_sq]

/-- **counter-example outside the domain (edge over the north pole, `|Δlon| = π` exactly).**  Over the reals, for the
    triangle `(0, π/4), (π/2, 0), (π, π/4)` the predicate answers `true` at `(π/4, -π/4)`, a point of the southern
    hemisphere which is on the wrong side of the edge `(0, π/4) → (π/2, 0)` for the counter-clockwise reading and on the
    wrong side of the edge `(π, π/4) → (0, π/4)` for the clockwise one: it is in the triangle for neither winding. -/
example : ∃ poly, Polygon.new false degLL = some poly ∧ poly.contains (cooOf (π / 4, -(π / 4))) = true ∧
    dot (cooOf (π / 4, -(π / 4))) (cross degU degV) < 0 ∧ 0 < dot (cooOf (π / 4, -(π / 4))) (cross degW degU) := by
  have hpi := pi_pos
  have h2 := sqrt2_sq
  have h2p : (0 : ℝ) < √2 := Real.sqrt_pos.mpr (by norm_num)
  obtain ⟨poly, hnew, hvs, hb⟩ := polygon_new_real false degLL (List.cons_ne_nil _ _) (by
    simp only [degLL, List.forall_mem_cons, List.not_mem_nil, false_imp_iff, implies_true, and_true]
    exact ⟨⟨le_refl _, by linarith, by linarith, by linarith⟩, ⟨by linarith, by linarith, by linarith, by linarith⟩,
      by linarith, by linarith, by linarith, by linarith⟩)
  rw [degLL_map] at hvs
  rw [degP_eq]
  refine ⟨poly, hnew, ?_, ?_, ?_⟩
  · rw [contains_eq_count poly hb, hvs, edges_three]
    have t1 : (isInLonRange degP degW degU && Num.gt (dot degP (npCross degW degU)) (Num.zero : ℝ)) = true := by
      rw [edge_test_iff]
      constructor
      · show LonRange π 0 (π / 4)
        rw [lonRange_nowrap _ _ _ (by rw [abs_le]; constructor <;> linarith), min_eq_right (by linarith),
          max_eq_left (by linarith)]
        constructor <;> linarith
      · have hc : cross degW degU = (0, 1, 0) := by
          simp only [cross, degW, degU, Prod.mk.injEq]
          refine ⟨by ring, by nlinarith, by ring⟩
        unfold npCross
        rw [hc]
        simp [dot, degP]
    have t2 : (isInLonRange degP degU degV && Num.gt (dot degP (npCross degU degV)) (Num.zero : ℝ)) = false := by
      rw [Bool.and_eq_false_iff]
      right
      rw [r_gt, r_zero, decide_eq_false_iff_not, not_lt]
      have hc : cross degU degV = (-(√2 / 2), 0, √2 / 2) := by
        simp only [cross, degU, degV, Prod.mk.injEq]
        refine ⟨by ring, by ring, by ring⟩
      unfold npCross
      rw [hc]
      rw [if_neg (by simp; positivity)]
      simp only [dot, degP]
      nlinarith
    have t3 : (isInLonRange degP degV degW && Num.gt (dot degP (npCross degV degW)) (Num.zero : ℝ)) = false := by
      rw [Bool.and_eq_false_iff]
      left
      rw [← Bool.not_eq_true, is_in_lon_range_spec]
      show ¬ LonRange (π / 2) π (π / 4)
      rw [lonRange_nowrap _ _ _ (by rw [abs_le]; constructor <;> linarith), min_eq_left (by linarith),
        max_eq_right (by linarith)]
      intro h; linarith [h.1]
    have hcsp : containsSouthPoleBasic [degU, degV, degW] = false := by
      rw [csp_eq]
      have n1 : ¬ (π / 4 < 0) := by linarith
      simp [List.foldl, cspStep, degU, degV, degW, n1]
    simp [t1, t2, t3, hcsp, oddB]
  · simp only [dot, cross, degP, degU, degV]
    nlinarith
  · simp only [dot, cross, degP, degU, degW]
    nlinarith

/-! ### the south-pole heuristic, on the `Float` instance -/

private def fcontains (vs : List (Float × Float)) (p : Float × Float) : Option Bool :=
  match Polygon.new (α := Float) false vs, fromSphCoo false p.1 p.2 with
  | some poly, some c => some (poly.contains c)
  | _, _ => none

#guard (Polygon.new (α := Float) false [(1.14, 0.21), (0.59, 0.24), (5.04, -1.47), (2.30, -0.91)]).map (·.containsSouthPole) == some false
#guard fcontains [(1.14, 0.21), (0.59, 0.24), (5.04, -1.47), (2.30, -0.91)] (1.0, -1.5) == some false  -- inside
#guard fcontains [(1.14, 0.21), (0.59, 0.24), (5.04, -1.47), (2.30, -0.91)] (1.0, 0.0) == some false   -- inside
#guard fcontains [(1.14, 0.21), (0.59, 0.24), (5.04, -1.47), (2.30, -0.91)] (1.0, 1.0) == some true    -- outside
#guard fcontains [(1.14, 0.21), (0.59, 0.24), (5.04, -1.47), (2.30, -0.91)] (4.0, 0.5) == some true    -- outside

end Hpx.Sph
