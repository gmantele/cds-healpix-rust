/-
`pack` (compaction of four full siblings): semantics and well-formedness are preserved, the result has no four
full siblings left (C15, C09, C07).  Last section (`ConeBmoc.pack_closure`): `pack` only replaces four full siblings by their
full parent, so a property of cells that passes from four full siblings to their parent, and holds of the entries of a list,
holds of the entries of the compacted list.
-/
import HpxVerif.Lemmas.BmocEnc
import Mathlib.Tactic.Ring

namespace Hpx.Bmoc

def ValidRaw (dm raw : Nat) : Prop := ∃ c : Cell, c.depth ≤ dm ∧ c.hash < 12 * 4 ^ c.depth ∧ raw = encode dm c

theorem raw_parts {dm : Nat} (hdm : dm ≤ 29) {c : Cell} (hd : c.depth ≤ dm) (hh : c.hash < 12 * 4 ^ c.depth) :
    getDepthRaw (encode dm c) dm = c.depth ∧ hashFromDeltaDepth (encode dm c) (dm - c.depth) = c.hash ∧
    isPartialRaw (encode dm c) = !c.full ∧ decode (encode dm c) dm = c := by
  have htz := tz_buildRaw c.depth c.hash c.full dm (raw_fits hd hdm hh)
  refine ⟨?_, buildRaw_shr_hash _ _ _ _, ?_, decode_encode hd hdm hh⟩
  · unfold getDepthRaw encode; rw [htz]; omega
  · unfold isPartialRaw encode; rw [buildRaw_and_one]; cases c.full <;> rfl

theorem validRaw_buildRaw {dm d h : Nat} (f : Bool) (hd : d ≤ dm) (hh : h < 12 * 4 ^ d) : ValidRaw dm (buildRaw d h f dm) :=
  ⟨⟨d, h, f⟩, hd, hh, rfl⟩

theorem and3_eq_mod (h : Nat) : h &&& 3 = h % 4 := Nat.and_two_pow_sub_one_eq_mod h 2

theorem or_eq_add_of_and3 (h k : Nat) (h0 : h &&& 3 = 0) (hk : k < 4) : h ||| k = h + k := by
  have hm : h % 4 = 0 := and3_eq_mod h ▸ h0
  have e : h = (h / 4) <<< 2 := by rw [Nat.shiftLeft_eq]; omega
  rw [e, Nat.shiftLeft_eq]
  have := Nat.shiftLeft_add_eq_or_of_lt (i := 2) (b := k) (by omega) (h / 4)
  rw [Nat.shiftLeft_eq] at this
  omega

theorem parent_bounds (D d h : Nat) (hd : 0 < d) (hdD : d ≤ D) (h4 : h % 4 = 0) :
    lo D ⟨d - 1, h / 4, true⟩ = lo D ⟨d, h, true⟩ ∧ hi D ⟨d - 1, h / 4, true⟩ = hi D ⟨d, h + 3, true⟩ := by
  obtain ⟨e1, e2⟩ := parent_interval D d h true hd hdD
  rw [e1, e2]
  constructor
  · show _ = h * 4 ^ (D - d); congr 1; omega
  · show _ = (h + 3 + 1) * 4 ^ (D - d); congr 1; omega

theorem stOf_four_siblings (D d h : Nat) (hd : 0 < d) (hdD : d ≤ D) (h4 : h % 4 = 0) (R : List Cell) (x : Nat) :
    stOf D (⟨d, h, true⟩ :: ⟨d, h + 1, true⟩ :: ⟨d, h + 2, true⟩ :: ⟨d, h + 3, true⟩ :: R) x =
    stOf D (⟨d - 1, h / 4, true⟩ :: R) x := by
  simp only [stOf, covers_parent D d h true true true true true hd hdD h4 x]
  cases covers D ⟨d, h, true⟩ x <;> cases covers D ⟨d, h + 1, true⟩ x <;> cases covers D ⟨d, h + 2, true⟩ x <;>
    cases covers D ⟨d, h + 3, true⟩ x <;> rfl

def cellsOf (dm : Nat) (l : List Nat) : List Cell := l.map (decode · dm)

theorem cellsOf_cons (dm r : Nat) (l : List Nat) : cellsOf dm (r :: l) = decode r dm :: cellsOf dm l := rfl

theorem siblingsFollow_spec (dm d h : Nat) (rest : List Nat) (hs : siblingsFollow dm d h rest = true) :
    ∃ rest', rest = buildRaw d (h ||| 1) true dm :: buildRaw d (h ||| 2) true dm :: buildRaw d (h ||| 3) true dm :: rest' := by
  match rest, hs with
  | s1 :: s2 :: s3 :: rest', hs =>
    simp only [siblingsFollow, Bool.and_eq_true, beq_iff_eq] at hs
    exact ⟨rest', by rw [hs.1.1, hs.1.2, hs.2]⟩

theorem raw_of_decode {dm : Nat} (hdm : dm ≤ 29) {r : Nat} (hv : ValidRaw dm r) {c : Cell} (hdec : decode r dm = c) :
    r = encode dm c ∧ c.depth ≤ dm ∧ c.hash < 12 * 4 ^ c.depth := by
  obtain ⟨c0, h1, h2, rfl⟩ := hv
  rw [decode_encode h1 hdm h2] at hdec
  subst hdec
  exact ⟨rfl, h1, h2⟩

def FourAt (c : Cell) (l : List Cell) : Prop :=
  0 < c.depth ∧ c.full = true ∧ c.hash % 4 = 0 ∧
    ∃ t, l = ⟨c.depth, c.hash + 1, true⟩ :: ⟨c.depth, c.hash + 2, true⟩ :: ⟨c.depth, c.hash + 3, true⟩ :: t

/-- what one pass of `pack` does to the decoded cells -/
inductive PackStep (dm : Nat) : List Cell → List Cell → Prop
  | nil : PackStep dm [] []
  | keep (c : Cell) {l l' : List Cell} : ¬ FourAt c l → PackStep dm l l' → PackStep dm (c :: l) (c :: l')
  | merge {d h : Nat} {l l' : List Cell} (hd : 0 < d) (hdm : d ≤ dm) (h4 : h % 4 = 0) (hh : h < 12 * 4 ^ d) :
      PackStep dm l l' →
      PackStep dm (⟨d, h, true⟩ :: ⟨d, h + 1, true⟩ :: ⟨d, h + 2, true⟩ :: ⟨d, h + 3, true⟩ :: l) (⟨d - 1, h / 4, true⟩ :: l')

theorem packPass_step (dm : Nat) (hdm : dm ≤ 29) (l : List Nat) (hv : ∀ r ∈ l, ValidRaw dm r) :
    PackStep dm (cellsOf dm l) (cellsOf dm (packPass dm l)) ∧ ∀ r ∈ packPass dm l, ValidRaw dm r := by
  -- what the pass reads from an entry, in terms of the decoded cell, and what its test then says
  have parts : ∀ c ∈ l, (decode c dm).depth ≤ dm ∧ (decode c dm).hash < 12 * 4 ^ (decode c dm).depth ∧
      ((getDepthRaw c dm == 0 || isPartialRaw c || hashFromDeltaDepth c (dm - getDepthRaw c dm) &&& 3 != 0) = false ↔
        0 < (decode c dm).depth ∧ (decode c dm).full = true ∧ (decode c dm).hash % 4 = 0) ∧
      decode c dm = ⟨getDepthRaw c dm, hashFromDeltaDepth c (dm - getDepthRaw c dm), !isPartialRaw c⟩ := by
    intro c hc
    obtain ⟨c0, hc0d, hc0h, rfl⟩ := hv c hc
    obtain ⟨p1, p2, p3, p4⟩ := raw_parts hdm hc0d hc0h
    rw [p4, p1, p2, p3, and3_eq_mod]
    refine ⟨hc0d, hc0h, ?_, by simp⟩
    simp [Nat.pos_iff_ne_zero, and_assoc]
  fun_induction packPass dm l with
  | case1 => exact ⟨.nil, by simp⟩
  | case2 c rest d h hc ih =>
    obtain ⟨i1, i2⟩ := ih (fun r hr => hv r (by simp [hr])) (fun r hr => parts r (by simp [hr]))
    rw [cellsOf_cons, cellsOf_cons]
    refine ⟨.keep _ (fun hf => ?_) i1, List.forall_mem_cons.2 ⟨hv c (by simp), i2⟩⟩
    rw [(parts c (by simp)).2.2.1.2 ⟨hf.1, hf.2.1, hf.2.2.1⟩] at hc
    cases hc
  | case3 c rest d h hc hs ih =>
    obtain ⟨rest', hrest⟩ := siblingsFollow_spec dm d h rest hs
    subst hrest
    obtain ⟨q1, q2, q3, q4⟩ := parts c (by simp)
    obtain ⟨hd0, hfull, hm4⟩ := q3.1 (by simpa using hc)
    have dc : decode c dm = ⟨d, h, true⟩ := by rw [q4, show isPartialRaw c = false by rw [q4] at hfull; simpa using hfull]; rfl
    rw [dc] at q1 q2 hd0 hm4
    simp only at q1 q2 hd0 hm4
    have h3 : h &&& 3 = 0 := (and3_eq_mod h).trans hm4
    have hpow : 12 * 4 ^ d = 4 * (12 * 4 ^ (d - 1)) := by
      rw [show d = (d - 1) + 1 by omega, Nat.pow_succ]; simp; ring
    have hk : ∀ k, k < 4 → h + k < 12 * 4 ^ d := by intro k hk; omega
    have hpar : h >>> 2 < 12 * 4 ^ (d - 1) := by rw [Nat.shiftRight_eq_div_pow]; omega
    have hdrop : (buildRaw d (h ||| 1) true dm :: buildRaw d (h ||| 2) true dm :: buildRaw d (h ||| 3) true dm :: rest').drop 3 = rest' := rfl
    rw [hdrop] at ih ⊢
    obtain ⟨i1, i2⟩ := ih (fun r hr => hv r (by simp [hr])) (fun r hr => parts r (by simp [hr]))
    have ds : ∀ k, k < 4 → decode (buildRaw d (h + k) true dm) dm = ⟨d, h + k, true⟩ := fun k hk4 =>
      decode_buildRaw d (h + k) true dm q1 (raw_fits q1 hdm (hk k hk4))
    have dp : decode (buildRaw (d - 1) (h >>> 2) true dm) dm = ⟨d - 1, h / 4, true⟩ := by
      rw [decode_buildRaw (d - 1) (h >>> 2) true dm (by omega) (raw_fits (by omega) hdm hpar), Nat.shiftRight_eq_div_pow]
    rw [or_eq_add_of_and3 h 1 h3 (by omega), or_eq_add_of_and3 h 2 h3 (by omega), or_eq_add_of_and3 h 3 h3 (by omega)]
    simp only [cellsOf_cons]
    rw [dc, ds 1 (by omega), ds 2 (by omega), ds 3 (by omega), dp]
    exact ⟨.merge hd0 q1 hm4 q2 i1, List.forall_mem_cons.2 ⟨validRaw_buildRaw true (by omega) hpar, i2⟩⟩
  | case4 c rest d h hc hs ih =>
    obtain ⟨i1, i2⟩ := ih (fun r hr => hv r (by simp [hr])) (fun r hr => parts r (by simp [hr]))
    rw [cellsOf_cons, cellsOf_cons]
    refine ⟨.keep _ (fun hf => hs ?_) i1, List.forall_mem_cons.2 ⟨hv c (by simp), i2⟩⟩
    -- three entries that decode to the three siblings are their encodings
    obtain ⟨_, _, hm4, t, ht⟩ := hf
    obtain ⟨r1, t1, rfl, d1, ht⟩ := List.map_eq_cons_iff.mp ht
    obtain ⟨r2, t2, rfl, d2, ht⟩ := List.map_eq_cons_iff.mp ht
    obtain ⟨r3, t3, rfl, d3, _⟩ := List.map_eq_cons_iff.mp ht
    obtain ⟨e1, _, _⟩ := raw_of_decode hdm (hv r1 (by simp)) d1
    obtain ⟨e2, _, _⟩ := raw_of_decode hdm (hv r2 (by simp)) d2
    obtain ⟨e3, _, _⟩ := raw_of_decode hdm (hv r3 (by simp)) d3
    rw [(parts c (by simp)).2.2.2] at hm4 e1 e2 e3
    have h3 : h &&& 3 = 0 := (and3_eq_mod h).trans hm4
    simp only [siblingsFollow, Bool.and_eq_true, beq_iff_eq]
    rw [or_eq_add_of_and3 h 1 h3 (by omega), or_eq_add_of_and3 h 2 h3 (by omega), or_eq_add_of_and3 h 3 h3 (by omega)]
    exact ⟨⟨e1, e2⟩, e3⟩

theorem PackStep.sem {dm : Nat} {l l' : List Cell} (h : PackStep dm l l') :
    (∀ x, stOf dm l' x = stOf dm l x) ∧ ∀ B, From dm B l → From dm B l' := by
  induction h with
  | nil => exact ⟨fun _ => rfl, fun _ h => h⟩
  | keep c _ _ ih =>
    refine ⟨fun x => by rw [stOf_cons, stOf_cons, ih.1 x], fun B hB => ?_⟩
    obtain ⟨h1, h2, h3⟩ := hB.uncons
    exact From.cons h1 h2 (ih.2 _ h3)
  | @merge d h _ _ hd hdm h4 _ _ ih =>
    refine ⟨fun x => by rw [stOf_four_siblings dm d h hd hdm h4, stOf_cons, stOf_cons, ih.1 x], fun B hB => ?_⟩
    -- the parent starts where the first sibling starts and ends where the last one ends
    obtain ⟨_, hB0, h0⟩ := hB.uncons
    obtain ⟨pb1, pb2⟩ := parent_bounds dm d h hd hdm h4
    refine From.cons (by show d - 1 ≤ dm; omega) (by rw [pb1]; exact hB0) ?_
    rw [pb2]
    exact ih.2 _ h0.uncons.2.2.uncons.2.2.uncons.2.2

theorem PackStep.closure {G : Cell → Prop} {dm : Nat}
    (hG : ∀ d h, 0 < d → d ≤ dm → h % 4 = 0 → h < 12 * 4 ^ d → G ⟨d, h, true⟩ → G ⟨d, h + 1, true⟩ →
      G ⟨d, h + 2, true⟩ → G ⟨d, h + 3, true⟩ → G ⟨d - 1, h / 4, true⟩)
    {a b : List Cell} (st : PackStep dm a b) : (∀ c ∈ a, G c) → ∀ c ∈ b, G c := by
  induction st with
  | nil => exact fun h => h
  | keep c _ _ ih =>
    intro h
    exact List.forall_mem_cons.2 ⟨h c (by simp), ih (fun c' hc' => h c' (by simp [hc']))⟩
  | merge hd hdm h4 hh _ ih =>
    intro h
    exact List.forall_mem_cons.2 ⟨hG _ _ hd hdm h4 hh (h _ (by simp)) (h _ (by simp)) (h _ (by simp)) (h _ (by simp)),
      ih (fun c' hc' => h c' (by simp [hc']))⟩

theorem packFuel_induct {dm : Nat} (hdm : dm ≤ 29) {Q : List Cell → Prop}
    (hQ : ∀ {a b : List Cell}, PackStep dm a b → Q a → Q b) : ∀ (fuel : Nat) (l : List Nat),
    (∀ r ∈ l, ValidRaw dm r) → Q (cellsOf dm l) →
      (∀ r ∈ packFuel dm fuel l, ValidRaw dm r) ∧ Q (cellsOf dm (packFuel dm fuel l)) := by
  intro fuel
  induction fuel with
  | zero => exact fun l hv hq => ⟨hv, hq⟩
  | succ f ih =>
    intro l hv hq
    obtain ⟨st, hv'⟩ := packPass_step dm hdm l hv
    simp only [packFuel]
    split
    · exact ⟨hv', hQ st hq⟩
    · exact ih _ hv' (hQ st hq)

theorem pack_sem (dm : Nat) (hdm : dm ≤ 29) (l : List Nat) (hv : ∀ r ∈ l, ValidRaw dm r) :
    (∀ x, stOf dm (cellsOf dm (pack dm l)) x = stOf dm (cellsOf dm l) x) ∧
    (∀ r ∈ pack dm l, ValidRaw dm r) ∧
    (WF dm (cellsOf dm l) → WF dm (cellsOf dm (pack dm l))) :=
  have h := packFuel_induct hdm
    (Q := fun cs => (∀ x, stOf dm cs x = stOf dm (cellsOf dm l) x) ∧ ∀ B, From dm B (cellsOf dm l) → From dm B cs)
    (fun st hq => ⟨fun x => (st.sem.1 x).trans (hq.1 x), fun B hB => st.sem.2 B (hq.2 B hB)⟩) (l.length + 1) l hv
    ⟨fun _ => rfl, fun _ h => h⟩
  ⟨h.2.1, h.1, fun hw => (h.2.2 0 hw.from_zero).1⟩

theorem packPass_length (dm : Nat) (l : List Nat) : (packPass dm l).length ≤ l.length := by
  fun_induction packPass dm l with
  | case1 => simp
  | case2 c rest d h hc ih => simp only [List.length_cons]; omega
  | case3 c rest d h hc hs ih =>
    simp only [List.length_cons, List.length_drop] at ih ⊢; omega
  | case4 c rest d h hc hs ih => simp only [List.length_cons]; omega

theorem packPass_fix_of_length (dm : Nat) (l : List Nat) (h : (packPass dm l).length = l.length) : packPass dm l = l := by
  fun_induction packPass dm l with
  | case1 => rfl
  | case2 c rest d hh hc ih =>
    simp only [List.length_cons] at h
    rw [ih (by omega)]
  | case3 c rest d hh hc hs ih =>
    have := packPass_length dm (List.drop 3 rest)
    simp only [List.length_cons, List.length_drop] at h this
    have hr : 3 ≤ rest.length := by
      match rest, hs with
      | _ :: _ :: _ :: _, _ => simp
    omega
  | case4 c rest d hh hc hs ih =>
    simp only [List.length_cons] at h
    rw [ih (by omega)]

theorem packFuel_stable (dm : Nat) (fuel : Nat) (l : List Nat) (hf : l.length < fuel) :
    (packPass dm (packFuel dm fuel l)).length = (packFuel dm fuel l).length := by
  induction fuel generalizing l with
  | zero => omega
  | succ f ih =>
    simp only [packFuel]
    split
    · rename_i heq
      have : packPass dm l = l := packPass_fix_of_length dm l (by simpa using heq)
      rw [this, this]
    · rename_i hne
      have hle := packPass_length dm l
      have : (packPass dm l).length < l.length := by
        simp only [beq_iff_eq] at hne; omega
      exact ih _ (by omega)

theorem pack_fixpoint_pass (dm : Nat) (l : List Nat) : packPass dm (pack dm l) = pack dm l :=
  packPass_fix_of_length dm _ (packFuel_stable dm (l.length + 1) l (by omega))

theorem cellsOf_map_encode (dm : Nat) (hdm : dm ≤ 29) (cells : List Cell) (hd : ∀ c ∈ cells, c.depth ≤ dm)
    (hr : ∀ c ∈ cells, c.hash < 12 * 4 ^ c.depth) : cellsOf dm (cells.map (encode dm)) = cells := by
  induction cells with
  | nil => rfl
  | cons c l ih =>
    simp only [List.map_cons, cellsOf_cons]
    rw [decode_encode (hd c (by simp)) hdm (hr c (by simp)), ih (fun c' h' => hd c' (by simp [h'])) (fun c' h' => hr c' (by simp [h']))]

theorem validRaw_map_encode {dm : Nat} {cells : List Cell} (hd : ∀ c ∈ cells, c.depth ≤ dm)
    (hr : ∀ c ∈ cells, c.hash < 12 * 4 ^ c.depth) : ∀ r ∈ cells.map (encode dm), ValidRaw dm r := by
  intro r hr'
  obtain ⟨c, hc, rfl⟩ := List.mem_map.1 hr'
  exact ⟨c, hd c hc, hr c hc, rfl⟩

theorem map_encode_cellsOf (dm : Nat) (hdm : dm ≤ 29) (l : List Nat) (hv : ∀ r ∈ l, ValidRaw dm r) :
    (cellsOf dm l).map (encode dm) = l := by
  induction l with
  | nil => rfl
  | cons r l ih =>
    simp only [cellsOf_cons, List.map_cons]
    obtain ⟨e, _, _⟩ := raw_of_decode hdm (hv r (by simp)) rfl
    rw [← e, ih (fun r' h' => hv r' (by simp [h']))]

theorem inRange_of_validRaw {dm : Nat} (hdm : dm ≤ 29) {l : List Nat} (hv : ∀ r ∈ l, ValidRaw dm r) :
    ∀ c ∈ cellsOf dm l, c.depth ≤ dm ∧ c.hash < 12 * 4 ^ c.depth := by
  intro c hc
  obtain ⟨r, hr, rfl⟩ := List.mem_map.1 hc
  exact (raw_of_decode hdm (hv r hr) rfl).2

theorem wf_encode_increasing (dm : Nat) (l : List Cell) (h : WF dm l) : (l.map (encode dm)).Pairwise (· < ·) := by
  induction l with
  | nil => simp
  | cons c l ih =>
    simp only [List.map_cons, List.pairwise_cons]
    refine ⟨?_, ih h.tail⟩
    intro r hr
    obtain ⟨c', hc', rfl⟩ := List.mem_map.1 hr
    exact encode_lt (h.2.1 c' hc')

theorem PackStep.no_four {dm : Nat} {l l' : List Cell} (h : PackStep dm l l') (he : l' = l) :
    ∀ pre c rest, l = pre ++ c :: rest → ¬ FourAt c rest := by
  induction h with
  | nil => intro pre c rest h; simp at h
  | keep c0 hno _ ih =>
    intro pre c rest hl
    cases pre with
    | nil =>
      simp only [List.nil_append, List.cons.injEq] at hl
      obtain ⟨rfl, rfl⟩ := hl
      exact hno
    | cons p pre' =>
      simp only [List.cons_append, List.cons.injEq] at hl
      exact ih (List.cons.inj he).2 pre' c rest hl.2
  | merge hd _ _ _ _ _ =>
    -- the parent is not the first sibling
    have := congrArg Cell.depth (List.cons.inj he).1
    simp only at this
    omega

theorem fix_no_four_full (dm : Nat) (hdm : dm ≤ 29) (m : List Nat) (hv : ∀ r ∈ m, ValidRaw dm r)
    (hfix : packPass dm m = m) (pre rest : List Cell) (d h : Nat) (hd : 0 < d) (h4 : h % 4 = 0) :
    cellsOf dm m ≠ pre ++ ⟨d, h, true⟩ :: ⟨d, h + 1, true⟩ :: ⟨d, h + 2, true⟩ :: ⟨d, h + 3, true⟩ :: rest := by
  intro heq
  have st := (packPass_step dm hdm m hv).1
  rw [hfix] at st
  exact st.no_four rfl pre _ _ heq ⟨hd, rfl, h4, rest, rfl⟩

end Hpx.Bmoc

/-! ## what passes from four full siblings to their parent survives the compaction -/

namespace Hpx.ConeBmoc
open Hpx Hpx.Bmoc

theorem pack_closure (G : Cell → Prop) (dm : Nat) (hdm : dm ≤ 29)
    (hG : ∀ d h, 0 < d → d ≤ dm → h % 4 = 0 → h < 12 * 4 ^ d → G ⟨d, h, true⟩ → G ⟨d, h + 1, true⟩ →
      G ⟨d, h + 2, true⟩ → G ⟨d, h + 3, true⟩ → G ⟨d - 1, h / 4, true⟩)
    (l : List Nat) (hv : ∀ r ∈ l, ValidRaw dm r) (hl : ∀ r ∈ l, G (decode r dm)) :
    ∀ r ∈ pack dm l, G (decode r dm) :=
  fun r hr => (packFuel_induct hdm (Q := fun cs => ∀ c ∈ cs, G c) (fun st => st.closure hG) _ l hv
    (fun c hc => by obtain ⟨r, hr, rfl⟩ := List.mem_map.1 hc; exact hl r hr)).2 _ (List.mem_map.2 ⟨r, hr, rfl⟩)

end Hpx.ConeBmoc

#print axioms Hpx.ConeBmoc.pack_closure
