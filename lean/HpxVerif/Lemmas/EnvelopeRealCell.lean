import HpxVerif.Lemmas.EnvelopeRealEqr
import HpxVerif.Lemmas.CellReal

/-!
# C16 — end to end on the cells of the NESTED scheme, over ℝ

The centre ordinate of a cell is a multiple of `1/n`, so a centre strictly inside the equatorial band (`|cellCy| < 1`, i.e.
`|lat| < TRANSITION_LATITUDE`) has `|cellCy| ≤ 1 − 1/n`: the four vertices are in the closed equatorial region, and
`true_c2v_eqr`, `envelope_dominates_eqr` apply to `center(d, hash)` and `vertices(d, hash)` (`largestC2V_dominates_cell`).
-/

namespace Hpx.EnvelopeReal
open Hpx Hpx.Hash Hpx.C2V Hpx.Cover Hpx.CellReal

theorem cellCy_int (d b i j : ℕ) : ∃ Z : ℤ, cellCy d b i j = (Z : ℝ) / 2 ^ d :=
  ⟨_, by rw [(centerXY_real d b i j).2]; field_simp⟩

theorem cellCy_band (d b i j : ℕ) (h : |cellCy d b i j| < 1) : |cellCy d b i j| + 1 / 2 ^ d ≤ 1 := by
  obtain ⟨Z, hy⟩ := cellCy_int d b i j
  have hp := pow_pos' d
  rw [hy, abs_div, abs_of_pos hp] at h ⊢
  rw [div_lt_one hp] at h
  have h2 : |Z| < 2 ^ d := by exact_mod_cast h
  have h4 : |(Z : ℝ)| + 1 ≤ 2 ^ d := by exact_mod_cast (by omega : |Z| + 1 ≤ 2 ^ d)
  rwa [← add_div, div_le_one hp]

theorem westX_eq (d b i j : ℕ) (hb : b < 12) (hi : i < 2 ^ d) (hj : j < 2 ^ d) :
    norm8 (cellCx d b i j - 1 / 2 ^ d) = westX (norm8 (cellCx d b i j)) (1 / 2 ^ d) := by
  have ho : 0 < 1 / (2 : ℝ) ^ d := by positivity
  rw [sub_eq_add_neg, ← norm8_center_add d b i j hb hi hj _ le_rfl (by linarith only [ho]), ← sub_eq_add_neg]
  rfl

theorem cell_true_c2v (cfg : Cfg) (d hash b i j : ℕ) (hh : hash < Layer.nHash d)
    (hdec : Layer.decodeHash cfg d hash = some ⟨b, i, j⟩) (hb : b < 12) (hi : i < 2 ^ d) (hj : j < 2 ^ d)
    (hband : |cellCy d b i j| < 1) :
    ∃ c s e n w : ℝ × ℝ, center (α := ℝ) cfg d hash = some c ∧ vertices (α := ℝ) cfg d hash = some [s, e, n, w] ∧
      c.2 = latOf (cellCy d b i j) ∧
      adist c s = dS (1 / 2 ^ d) (cellCy d b i j) ∧ adist c e = dE (1 / 2 ^ d) (cellCy d b i j) ∧
      adist c n = dN (1 / 2 ^ d) (cellCy d b i j) ∧ adist c w = dE (1 / 2 ^ d) (cellCy d b i j) := by
  obtain ⟨n0, n8⟩ := norm8_center_range d b i j hb hi hj
  obtain ⟨hδ0, hδ1⟩ := C2VReal.distCw_range d
  have hy := cellCy_band d b i j hband
  obtain ⟨c, pN, pS, pE, pW, uc, uN, uS, uE, uW, hlat, aN, aS, aE, aW⟩ :=
    true_c2v_eqr (norm8 (cellCx d b i j)) (cellCy d b i j) (1 / 2 ^ d) hδ0 hδ1 n0 (by linarith) hy
  rw [← westX_eq d b i j hb hi hj] at uW
  -- `center` and `vertices` (S, E, N, W) are the `unproj` of the plane centre and of the four plane vertices
  have e : ∀ k p, Proj.unproj (α := ℝ) (vtx d b i j k).1 (vtx d b i j k).2 = some p →
      unprojT (vtx d b i j k).1 (vtx d b i j k).2 = p := fun k p h =>
    Option.some.inj ((unproj_eq _ _ (vtx_y_range d b i j k hb hi hj).1 (vtx_y_range d b i j k hb hi hj).2).symm.trans h)
  have hy1 := vtx_y_range d b i j 1 hb hi hj
  refine ⟨c, pS, pE, pN, pW,
    (center_plane cfg d hash b i j hh hdec hb hi hj).trans ((unproj_eq _ _ hy1.1 hy1.2).symm.trans uc), ?_,
    hlat, aS, aE, aN, aW⟩
  rw [vertices_plane cfg d hash b i j hh hdec hb hi hj, e 0 pS uS, e 1 pE uE, e 2 pN uN, e 3 pW uW]

/-- C16 `envelope_dominates_every_equatorial_cell` -/
theorem largestC2V_dominates_cell (cfg : Cfg) (d hash b i j : ℕ) (hd1 : 1 ≤ d) (hd2 : d ≤ 29) (hh : hash < Layer.nHash d)
    (hdec : Layer.decodeHash cfg d hash = some ⟨b, i, j⟩) (hb : b < 12) (hi : i < 2 ^ d) (hj : j < 2 ^ d)
    (hband : |cellCy d b i j| < 1) :
    ∃ (c s e n w : ℝ × ℝ) (v : ℝ), center (α := ℝ) cfg d hash = some c ∧
      vertices (α := ℝ) cfg d hash = some [s, e, n, w] ∧ largestC2V false d c.1 c.2 = some v ∧
      adist c s ≤ v ∧ adist c e ≤ v ∧ adist c n ≤ v ∧ adist c w ≤ v := by
  obtain ⟨c, s, e, n, w, hc, hv, hlat, aS, aE, aN, aW⟩ := cell_true_c2v cfg d hash b i j hh hdec hb hi hj hband
  obtain ⟨v, hval, bN, bS, bE⟩ := exists_of_max_le (C2VReal.largestC2V_eq d hd1 hd2 c.1 _)
    (envelope_dominates_eqr d hd1 c.1 (cellCy d b i j) (cellCy_band d b i j hband))
  refine ⟨c, s, e, n, w, v, hc, hv, by rw [hlat]; exact hval, ?_, ?_, ?_, ?_⟩
  · rw [aS]; exact bS
  · rw [aE]; exact bE
  · rw [aN]; exact bN
  · rw [aW]; exact bE

/-! ## example: the hypotheses are satisfiable -/

/-- depth 2, cell 77 = base cell 4, `(i, j) = (3, 2)`: centre ordinate `1/2` -/
example : ∃ (c s e n w : ℝ × ℝ) (v : ℝ), center (α := ℝ) {} 2 77 = some c ∧
      vertices (α := ℝ) {} 2 77 = some [s, e, n, w] ∧ largestC2V false 2 c.1 c.2 = some v ∧
      adist c s ≤ v ∧ adist c e ≤ v ∧ adist c n ≤ v ∧ adist c w ≤ v :=
  largestC2V_dominates_cell {} 2 77 4 3 2 (by decide) (by decide) (by decide) (by decide +kernel) (by decide) (by decide)
    (by decide) (by unfold cellCy baseY; norm_num [abs_lt])

end Hpx.EnvelopeReal

#print axioms Hpx.EnvelopeReal.cell_true_c2v
#print axioms Hpx.EnvelopeReal.largestC2V_dominates_cell
