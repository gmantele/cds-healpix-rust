import HpxVerif.Gen.BestDepth
import HpxVerif.Model.C2V

/-!
The unrolled binary search of `best_starting_depth` (`Gen.bestStartingDepthTree`) is made of pivots and leaves: what a
subtree returns, stated for any comparison and any table; hence the depth that `best_starting_depth` returns is at most 29
for every numeric instance (`CoverAll.bestDepth_le`).
-/

namespace Hpx.C16

/-- what a subtree of the search returns (`t`) when it is entered for the depths `lo … hi − 1` -/
def SearchSpec {α : Type} (lt : α → α → Bool) (T : Nat → α) (r : α) (lo hi t : Nat) : Prop :=
  lo ≤ t ∧ t < hi ∧ (lt r (T lo) = true → lt r (T t) = true) ∧ (lt r (T hi) = false → lt r (T (t + 1)) = false)

theorem searchSpec_leaf {α : Type} (lt : α → α → Bool) (T : Nat → α) (r : α) (lo : Nat) :
    SearchSpec lt T r lo (lo + 1) lo :=
  ⟨Nat.le_refl _, Nat.lt_succ_self lo, id, id⟩

theorem searchSpec_node {α : Type} (lt : α → α → Bool) (T : Nat → α) (r : α) {lo m hi a b : Nat}
    (ha : SearchSpec lt T r m hi a) (hb : SearchSpec lt T r lo m b) :
    SearchSpec lt T r lo hi (if lt r (T m) = true then a else b) := by
  obtain ⟨a1, a2, a3, a4⟩ := ha
  obtain ⟨b1, b2, b3, b4⟩ := hb
  by_cases h : lt r (T m) = true
  · rw [if_pos h]; exact ⟨by omega, a2, fun _ => a3 h, a4⟩
  · rw [if_neg h]; exact ⟨b1, by omega, b3, fun _ => b4 (Bool.eq_false_iff.mpr h)⟩

theorem searchSpec_top {α : Type} (lt : α → α → Bool) (T : Nat → α) (r : α) {t : Nat} (h : ¬ lt r (T 29) = true)
    (H : SearchSpec lt T r 0 29 t) :
    t ≤ 29 ∧ (lt r (T 0) = true → lt r (T t) = true) ∧ (t = 29 ∨ lt r (T (t + 1)) = false) :=
  ⟨Nat.le_of_lt H.2.1, H.2.2.1, Or.inr (H.2.2.2 (Bool.eq_false_iff.mpr h))⟩

end Hpx.C16

namespace Hpx.SearchTree
open Hpx.C16

theorem bestStartingDepthTree_spec {α : Type} (lt : α → α → Bool) (T : Nat → α) (r : α) :
    Gen.bestStartingDepthTree lt T r ≤ 29 ∧
    (lt r (T 0) = true → lt r (T (Gen.bestStartingDepthTree lt T r)) = true) ∧
    (Gen.bestStartingDepthTree lt T r = 29 ∨ lt r (T (Gen.bestStartingDepthTree lt T r + 1)) = false) := by
  unfold Gen.bestStartingDepthTree
  by_cases h : lt r (T 29) = true
  · rw [if_pos h]; exact ⟨Nat.le_refl _, fun _ => h, Or.inl rfl⟩
  · rw [if_neg h]
    -- the rest of the tree is made of pivots and leaves
    refine searchSpec_top lt T r h ?_
    repeat' first | exact searchSpec_leaf lt T r _ | apply searchSpec_node

end Hpx.SearchTree

namespace Hpx.CoverAll
open Hpx

theorem bestDepth_le {α : Type} [Num α] (r : α) (ds : Nat) (h : C2V.bestStartingDepth r = some ds) : ds ≤ 29 := by
  unfold C2V.bestStartingDepth at h
  split at h
  · simp at h
  · simp only [Option.some.injEq] at h
    subst h
    exact (SearchTree.bestStartingDepthTree_spec _ _ _).1

end Hpx.CoverAll
