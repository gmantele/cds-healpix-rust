import HpxVerif.Model.SphGeom

/-!
`cone_coverage_approx_internal` and `elliptical_cone_coverage_internal` are one program run with two classifiers: unless they
answer "all sky", both return what the relation `Internal` lists, and the two `custom` queries finish that list in the same
way (`finishCoverage`).  Each model function is unfolded once, here; what holds of the lists is proved on the relation.
-/

namespace Hpx.Cover
open Hpx.Bmoc

variable {α : Type} [Num α]

/-- what the two `*_internal` functions return when they do not answer "all sky": with `κ dists` the classifier and
    `keep ds dist` the test of the small-region branch.
    * `base`: no starting depth; the descents from the twelve base cells;
    * `deep`: starting depth `ds < depth`; the descents from the sorted neighbourhood of the cell of `(lon, lat)`;
    * `small`: `depth ≤ ds`; the ancestors at `depth` of the neighbours that pass `keep`, all partial. -/
inductive Internal (cfg : Cfg) (depth : Nat) (lon lat r : α) (κ : List α → Nat → Nat → Nat → Option Verdict)
    (keep : Nat → α → MW × Nat → Option Bool) : List Cell → Prop
  | base {dists cells} : C2V.hasBestStartingDepth r = false →
      C2V.largestC2VsWithRadius cfg.debug 0 (depth + 1) lon lat r = some dists →
      (List.range 12).foldlM (fun acc h => (coverRec depth (κ dists) (depth + 2) 0 h 0).map (acc ++ ·)) [] = some cells →
      Internal cfg depth lon lat r κ keep cells
  | deep {ds h0 nm dists cells} : C2V.hasBestStartingDepth r = true → C2V.bestStartingDepth r = some ds → ds < depth →
      Hash.hashV2 cfg ds lon lat = some h0 → Topo.neighbours cfg ds h0 true = some nm →
      C2V.largestC2VsWithRadius cfg.debug ds (depth + 1) lon lat r = some dists →
      (sortNat (nm.map (·.2))).foldlM (fun acc h => (coverRec depth (κ dists) (depth + 2) ds h 0).map (acc ++ ·)) []
        = some cells →
      Internal cfg depth lon lat r κ keep cells
  | small {ds h0 nm dist l} : C2V.hasBestStartingDepth r = true → C2V.bestStartingDepth r = some ds → depth ≤ ds →
      Hash.hashV2 cfg ds lon lat = some h0 → Topo.neighbours cfg ds h0 true = some nm →
      C2V.largestC2VWithRadius cfg.debug ds lon lat r = some dist →
      nm.foldlM (fun acc e => (keep ds dist e).map fun k => if k = true then acc ++ [e.2 >>> ((ds - depth) <<< 1)] else acc) []
        = some l →
      Internal cfg depth lon lat r κ keep ((dedupAdj (sortNat l)).map fun h => { depth := depth, hash := h, full := false })

theorem Internal.start {cfg : Cfg} {depth : Nat} {lon lat r : α} {κ : List α → Nat → Nat → Nat → Option Verdict}
    {keep : Nat → α → MW × Nat → Option Bool} {cells : List Cell} (h : Internal cfg depth lon lat r κ keep cells)
    (hb : C2V.hasBestStartingDepth r = true) : ∃ ds h0 nm, C2V.bestStartingDepth r = some ds ∧
      Hash.hashV2 cfg ds lon lat = some h0 ∧ Topo.neighbours cfg ds h0 true = some nm := by
  cases h with
  | base hnb _ _ => rw [hnb] at hb; cases hb
  | deep _ hds _ hh0 hnm _ _ => exact ⟨_, _, _, hds, hh0, hnm⟩
  | small _ hds _ hh0 hnm _ _ => exact ⟨_, _, _, hds, hh0, hnm⟩

def coneSmallTest (cfg : Cfg) (lon lat r : α) (ds : Nat) (c2v : α) (e : MW × Nat) : Option Bool :=
  (Hash.center (α := α) cfg ds e.2).map fun c =>
    Num.le (C2V.squaredHalfSegment (c.1 - lon) (c.2 - lat) (Num.cos c.2) (Num.cos lat)) (C2V.toSquaredHalfSegment (r + c2v))

theorem coneInternal_cases (cfg : Cfg) (depth : Nat) (lon lat r : α) (cells : List Cell)
    (h : coneInternal cfg depth lon lat r = some cells) :
    (Num.ge r (Num.pi : α) = true ∧
      cells = (List.range 12).map fun h => ({ depth := 0, hash := h, full := true } : Cell)) ∨
    Internal cfg depth lon lat r (fun dists => coneClassifier cfg lon lat (Num.cos lat) (dists.map (toShsMinMax r)))
      (coneSmallTest cfg lon lat r) cells := by
  unfold coneInternal at h
  split at h
  · exact Or.inl ⟨‹_›, (Option.some.inj h).symm⟩
  · right
    simp only [] at h
    split at h
    · rename_i hnb
      split at h
      · simp at h
      · exact .base (by simpa using hnb) ‹_› h
    · rename_i hnb
      split at h
      · simp at h
      · rename_i ds hds
        split at h
        · rename_i hge
          split at h
          · simp at h
          · rename_i c2v hc2v
            split at h
            · simp at h
            · rename_i h0 hh0
              split at h
              · simp at h
              · rename_i nm hnm
                simp only [Option.map_eq_some_iff] at h
                obtain ⟨l, hl, rfl⟩ := h
                refine .small (by simpa using hnb) hds hge hh0 hnm hc2v ?_
                rw [← hl]
                congr 1
                funext acc e
                unfold coneSmallTest
                cases Hash.center (α := α) cfg ds e.2 with
                | none => rfl
                | some c =>
                  simp only [Option.map_some]
                  split <;> simp_all
        · rename_i hlt
          split at h
          · simp at h
          · rename_i dists hdists
            split at h
            · simp at h
            · rename_i h0 hh0
              split at h
              · simp at h
              · rename_i nm hnm
                exact .deep (by simpa using hnb) hds (by omega) hh0 hnm hdists h

end Hpx.Cover

namespace Hpx.Sph
open Hpx.Bmoc Hpx.Cover

variable {α : Type} [Num α]

def ellSmallTest (cfg : Cfg) (e : ECone α) (ds : Nat) (dist : α) (en : MW × Nat) : Option Bool :=
  match Hash.center (α := α) cfg ds en.2 with
  | none => none
  | some c => if e.contains c.1 c.2 = true then some true else e.overlapCone c.1 c.2 dist

theorem ellInternal_cases (cfg : Cfg) (depth : Nat) (lon lat a b pa : α) (cells : List Cell)
    (h : ellInternal cfg depth lon lat a b pa = some cells) :
    Num.ge a (Num.halfPi : α) = false ∧
    ((Num.ge b (Num.pi : α) = true ∧
      cells = (List.range 12).map fun h => ({ depth := 0, hash := h, full := true } : Cell)) ∨
    Internal cfg depth lon lat a (ellClassifier cfg depth (ECone.new lon lat a b pa))
      (ellSmallTest cfg (ECone.new lon lat a b pa)) cells) := by
  unfold ellInternal at h
  split at h
  · simp at h
  · rename_i ha
    refine ⟨by simpa using ha, ?_⟩
    split at h
    · exact Or.inl ⟨‹_›, (Option.some.inj h).symm⟩
    · right
      simp only [] at h
      split at h
      · rename_i hnb
        split at h
        · simp at h
        · exact .base (by simpa using hnb) ‹_› h
      · rename_i hnb
        split at h
        · simp at h
        · rename_i ds hds
          split at h
          · simp at h
          · rename_i h0 hh0
            split at h
            · rename_i hge
              split at h
              · rename_i dist nm hdist hnm
                simp only [Option.map_eq_some_iff] at h
                obtain ⟨l, hl, rfl⟩ := h
                refine .small (by simpa using hnb) hds hge hh0 hnm hdist ?_
                rw [← hl]
                congr 1
                funext acc en
                unfold ellSmallTest
                cases Hash.center (α := α) cfg ds en.2 <;> rfl
              · simp at h
            · rename_i hlt
              split at h
              · rename_i dists nm hdists hnm
                exact .deep (by simpa using hnb) hds (by omega) hh0 hnm hdists h
              · simp at h

end Hpx.Sph

namespace Hpx.Cover
open Hpx.Bmoc

variable {α : Type} [Num α]

/-- the common end of the coverage queries: compaction of the list of depth `depth` (`cone_coverage_approx`, and the two
    `custom` queries at `delta_depth = 0`), or, for `delta_depth ≠ 0`, of the list of depth `depth + delta_depth` followed by
    `to_lower_depth` -/
def finishCoverage (internal : Nat → Option (List Cell)) (depth deltaDepth : Nat) : Option BMOC :=
  if depth > 29 then none else
  if deltaDepth == 0 then
    (internal depth).map fun cells => { dmax := depth, entries := pack depth (cells.map (encode depth)) }
  else
    let deep := depth + deltaDepth
    if deep > 29 then none else
    match internal deep with
    | none => none
    | some cells => (toLowerDepth deep depth (pack deep (cells.map (encode deep)))).map fun e => { dmax := depth, entries := e }

theorem coneCoverageApprox_eq (cfg : Cfg) (depth : Nat) (lon lat r : α) :
    coneCoverageApprox cfg depth lon lat r = finishCoverage (fun d => coneInternal cfg d lon lat r) depth 0 := rfl

theorem coneCoverageApproxCustom_eq (cfg : Cfg) (depth deltaDepth : Nat) (lon lat r : α) :
    coneCoverageApproxCustom cfg depth deltaDepth lon lat r =
      finishCoverage (fun d => coneInternal cfg d lon lat r) depth deltaDepth := by
  unfold coneCoverageApproxCustom finishCoverage coneCoverageApprox
  split
  · rfl
  · split
    · simp_all
    · rfl

theorem ellipticalConeCoverageCustom_eq (cfg : Cfg) (depth deltaDepth : Nat) (lon lat a b pa : α) :
    Sph.ellipticalConeCoverageCustom cfg depth deltaDepth lon lat a b pa =
      finishCoverage (fun d => Sph.ellInternal cfg d lon lat a b pa) depth deltaDepth := rfl

theorem finishCoverage_cases (internal : Nat → Option (List Cell)) (depth deltaDepth : Nat) (b : BMOC)
    (h : finishCoverage internal depth deltaDepth = some b) :
    (deltaDepth = 0 ∧ depth ≤ 29 ∧ ∃ cells, internal depth = some cells ∧
      b = { dmax := depth, entries := pack depth (cells.map (encode depth)) }) ∨
    (deltaDepth ≠ 0 ∧ depth + deltaDepth ≤ 29 ∧ ∃ cells, internal (depth + deltaDepth) = some cells ∧
      b = { dmax := depth, entries := (toLowerLoop (depth + deltaDepth) depth
        (pack (depth + deltaDepth) (cells.map (encode (depth + deltaDepth)))) none) }) := by
  unfold finishCoverage at h
  split at h
  · simp at h
  · split at h
    · rename_i h0
      simp only [Option.map_eq_some_iff] at h
      obtain ⟨cells, hcells, rfl⟩ := h
      exact Or.inl ⟨by simpa using h0, by omega, cells, hcells, rfl⟩
    · rename_i h0
      simp only [] at h
      split at h
      · simp at h
      · split at h
        · simp at h
        · rename_i cells hcells
          simp only [Option.map_eq_some_iff] at h
          obtain ⟨e, he, rfl⟩ := h
          refine Or.inr ⟨by simpa using h0, by omega, cells, hcells, ?_⟩
          unfold toLowerDepth at he
          split at he
          · simp at he
          · cases he; rfl

theorem coneCoverageApprox_unfold (cfg : Cfg) (depth : Nat) (lon lat r : α) (b : BMOC)
    (h : coneCoverageApprox cfg depth lon lat r = some b) :
    depth ≤ 29 ∧ ∃ cells, coneInternal cfg depth lon lat r = some cells ∧
      b = { dmax := depth, entries := pack depth (cells.map (encode depth)) } := by
  rcases finishCoverage_cases _ depth 0 b ((coneCoverageApprox_eq cfg depth lon lat r).symm.trans h) with ⟨_, h⟩ | ⟨h0, _⟩
  · exact h
  · exact absurd rfl h0

end Hpx.Cover
