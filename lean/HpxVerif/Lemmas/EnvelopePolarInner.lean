import HpxVerif.Lemmas.CapChart
import HpxVerif.Lemmas.EnvelopePolarConsts

/-!
# C16 — polar caps: the inner half of every base cell

The value at the centre dominates all four centre-to-vertex distances for the cells whose offset from the central
meridian of the base cell is at most half of what the Collignon triangle allows at the ordinate of their north vertex:
`2·|t| ≤ σ − δ` (in cell indices `2·|i − j| ≤ 2·nside − 2 − i − j`), every depth `3 … 29`, both caps.

With `a = dMinP δ = intercept_npc`, `M = dMaxP δ`, `m = rise δ = slope_npc·π/4 = (M − a)/(1 − δ)`, the argument is: the concavity
of `cos` on `[0, π/2]` gives `cos(a + x) ≤ cos a − x·sin a`; `cos(dist) ≥ cos(Δlat) − cos φ₁·cos φ₂·Δlon²/2`; and the lower
bound `π²/96·δ² ≤ m·sin a` on the slope (`rise_sin_ge`, `δ ≤ 1/8`) absorbs the longitude term of a "vertical" plane segment
`(t, σ₁) – (t, σ₂)`, `σ₁ = σ₂ + δ`, `2·|t| ≤ σ₂`, whose great-circle length is therefore at most `a + m·|t|/σ₁` (`seg_le`).
-/

namespace Hpx.EnvelopePolar
open Hpx Hpx.Hash Hpx.Proj Hpx.Cover Hpx.C2V Hpx.C2VReal Hpx.EnvelopeReal Hpx.CellReal Real

/-- `sin a ≥ a − a³/6`, `0.873·δ ≤ a ≤ 0.9·δ` -/
theorem sin_dMinP_ge (δ : ℝ) (h0 : 0 < δ) (h1 : δ ≤ 1 / 8) : 87 / 100 * δ ≤ sin (dMinP δ) := by
  have ha := dMinP_ge_small δ h0.le h1
  have hn := dMinP_nonneg δ h0.le
  have hle := dMinP_le_lin δ h0.le (by linarith)
  have hsin := Real.sin_ge_sub_cube hn
  generalize dMinP δ = a at *
  have h2 : a ^ 2 ≤ 13 / 1000 := (pow_le_pow_left₀ hn (by linarith : a ≤ 9 / 80) 2).trans (by norm_num)
  have hcube : a ^ 3 = a * a ^ 2 := by ring
  linarith [mul_le_mul_of_nonneg_left h2 hn]

theorem one_sub_cos_ge (x : ℝ) (h0 : 0 ≤ x) (h : x ^ 2 ≤ 1 / 100) : x ^ 2 / 2 * (99 / 100) ≤ 1 - cos x := by
  have hq := cos_le_quartic x h0 (by nlinarith)
  rw [show x ^ 4 = x ^ 2 * x ^ 2 by ring] at hq
  linarith [mul_le_mul_of_nonneg_left h (sq_nonneg x), sq_nonneg x]

/-- the arithmetic core of `rise_sin_ge` (`P = π²`, `S = sin a`, `T = sin M`, `W = 1 − cos(δπ/4)`, `C = C0`):
    `D·δ ≥ D·T/1.073 ≥ C·W/1.073` and `D·S ≥ 0.87·D·δ` -/
theorem slope_arith (P δ D C S T W : ℝ) (hP0 : 0 < P) (hS : 87 / 100 * δ ≤ S) (hT0 : 0 < T)
    (hT1 : T ≤ 1073 / 1000 * δ) (hC : 5 / 9 * (7 / 8) ≤ C) (hW : P * δ ^ 2 / 16 / 2 * (99 / 100) ≤ W)
    (hkey : C * W ≤ D * T) : P / 96 * δ ^ 2 ≤ D * S := by
  have hw0 : 0 ≤ P * δ ^ 2 / 16 / 2 * (99 / 100) := by positivity
  have h1 : 5 / 9 * (7 / 8) * (P * δ ^ 2 / 16 / 2 * (99 / 100)) ≤ C * W := mul_le_mul hC hW hw0 (by linarith)
  have hD0 : 0 ≤ D := by
    by_contra h
    linarith [mul_neg_of_neg_of_pos (not_le.mp h) hT0, mul_nonneg (by norm_num : (0 : ℝ) ≤ 5 / 9 * (7 / 8)) hw0]
  have h2 := mul_le_mul_of_nonneg_left hT1 hD0
  have h3 := mul_le_mul_of_nonneg_left hS hD0
  have hPδ : 0 ≤ P * δ ^ 2 := by positivity
  linarith

/-- a lower bound on `slope_npc` (depth `≥ 3`): the concavity of `cos` gives
    `C0·(1 − cos(πδ/4)) = cos a − cos M ≤ (M − a)·sin M` -/
theorem rise_sin_ge (δ : ℝ) (hδ0 : 0 < δ) (hδ8 : δ ≤ 1 / 8) : π ^ 2 / 96 * δ ^ 2 ≤ rise δ * sin (dMinP δ) := by
  have hpi := Real.pi_gt_three
  have ha0 : 0 < dMinP δ := dMinP_pos δ hδ0 (by linarith)
  have hgap := dMinP_le_dMaxP δ hδ0.le (by linarith)
  have hM1 := dMaxP_le_small δ hδ0 hδ8
  have hsa := sin_dMinP_ge δ hδ0 hδ8
  have hC := (C0_bounds δ hδ0.le (by linarith)).1
  have hkey := cos_sub_cos_le (dMinP δ) (dMaxP δ) ha0.le hgap (by linarith)
  rw [cos_dMaxP] at hkey
  have hsM0 : 0 < sin (dMaxP δ) := Real.sin_pos_of_pos_of_lt_pi (by linarith) (by linarith)
  have hsM1 : sin (dMaxP δ) ≤ 1073 / 1000 * δ := (Real.sin_le (by linarith)).trans hM1
  have hx2e : (π / 4 * δ) ^ 2 = π ^ 2 * δ ^ 2 / 16 := by ring
  have hx2s : (π / 4 * δ) ^ 2 ≤ 1 / 100 := by
    rw [hx2e]
    have := mul_le_mul pi_sq_le (pow_le_pow_left₀ hδ0.le hδ8 2) (sq_nonneg δ) (by norm_num)
    norm_num at this ⊢
    linarith
  have h1c := one_sub_cos_ge (π / 4 * δ) (by positivity) hx2s
  rw [hx2e] at h1c
  have hcore := slope_arith (π ^ 2) δ (dMaxP δ - dMinP δ) (cos tl * cos (capLat (1 + δ))) (sin (dMinP δ))
    (sin (dMaxP δ)) (1 - cos (π / 4 * δ)) (by positivity) hsa hsM0 hsM1 (by linarith) h1c (by linarith)
  have hm2 : dMaxP δ - dMinP δ ≤ rise δ := by
    rw [rise, le_div_iff₀ (by linarith)]
    linarith [mul_nonneg (sub_nonneg.mpr hgap) hδ0.le]
  exact hcore.trans (mul_le_mul_of_nonneg_right hm2 (le_trans (by positivity) hsa))

/-! ## a vertical plane segment in the inner half of the Collignon triangle -/

theorem rise_le_lin (δ : ℝ) (hδ0 : 0 < δ) (hδ8 : δ ≤ 1 / 8) : rise δ ≤ 2 * δ := by
  rw [rise, div_le_iff₀ (by linarith)]
  linarith [dMaxP_le_small δ hδ0 hδ8, dMinP_nonneg δ hδ0.le, mul_le_mul_of_nonneg_left hδ8 hδ0.le]

theorem seg_dlon_sq (δ σ₁ σ₂ t : ℝ) (h1 : 0 < σ₁) (h2 : 0 < σ₂) (h12 : σ₁ = σ₂ + δ) :
    ((t / σ₂ - t / σ₁) * (π / 4)) ^ 2 / 2 * (2 / 3 * (σ₁ * σ₂)) = π ^ 2 * δ ^ 2 / 48 * ((t / σ₁) * (t / σ₂)) := by
  have : t / σ₂ - t / σ₁ = t * δ / (σ₁ * σ₂) := by
    rw [show δ = σ₁ - σ₂ by rw [h12]; ring]; field_simp
  rw [this]
  field_simp
  ring

theorem seg_dlon_le (δ σ₁ σ₂ t : ℝ) (h2 : 0 < σ₂) (h12 : σ₁ = σ₂ + δ) (hδ : 0 ≤ δ) (h1 : σ₁ ≤ 1) (ht0 : 0 ≤ t)
    (ht : 2 * t ≤ σ₂) :
    cos (capLat (2 - σ₁)) * cos (capLat (2 - σ₂)) * (((t / σ₂ - t / σ₁) * (π / 4)) ^ 2 / 2) ≤
      π ^ 2 / 96 * δ ^ 2 * (t / σ₁) := by
  have hσ1 : 0 < σ₁ := by linarith
  have hρ0 : 0 ≤ t / σ₁ := div_nonneg ht0 hσ1.le
  have hu1 : t / σ₂ ≤ 1 / 2 := by rw [div_le_iff₀ h2]; linarith
  calc _ ≤ 2 / 3 * (σ₁ * σ₂) * (((t / σ₂ - t / σ₁) * (π / 4)) ^ 2 / 2) :=
        mul_le_mul_of_nonneg_right (cos_mul_cos_capLat_le σ₁ σ₂ hσ1.le h1 h2.le (by linarith)) (by positivity)
    _ = π ^ 2 * δ ^ 2 / 48 * ((t / σ₁) * (t / σ₂)) := by rw [mul_comm, seg_dlon_sq δ σ₁ σ₂ t hσ1 h2 h12]
    _ ≤ π ^ 2 * δ ^ 2 / 48 * ((t / σ₁) * (1 / 2)) :=
        mul_le_mul_of_nonneg_left (mul_le_mul_of_nonneg_left hu1 hρ0) (by positivity)
    _ = _ := by ring

/-- `cos(dist) ≥ cos(Δlat) − cos φ₁·cos φ₂·Δlon²/2 ≥ cos a − m·(t/σ₁)·sin a ≥ cos(a + m·t/σ₁)`, `a = dMinP δ`, `m = rise δ` -/
theorem seg_le (δ σ₁ σ₂ t : ℝ) (hδ0 : 0 < δ) (hδ8 : δ ≤ 1 / 8) (h2 : 0 < σ₂) (h12 : σ₁ = σ₂ + δ) (h1 : σ₁ ≤ 1) (ht0 : 0 ≤ t)
    (ht : 2 * t ≤ σ₂) :
    gcDist (capLat (2 - σ₁)) (capLat (2 - σ₂)) ((t / σ₂ - t / σ₁) * (π / 4)) ≤ capVal δ (t / σ₁) := by
  have hpi := Real.pi_gt_three
  have hσ1 : 0 < σ₁ := by linarith
  have hρ0 : 0 ≤ t / σ₁ := div_nonneg ht0 hσ1.le
  have hρ1 : t / σ₁ ≤ 1 / 2 := by rw [div_le_iff₀ hσ1]; linarith
  have ha0 := dMinP_nonneg δ hδ0.le
  have ha1 := dMinP_le_lin δ hδ0.le (by linarith)
  have hx0 : 0 ≤ rise δ * (t / σ₁) := mul_nonneg (rise_nonneg δ hδ0.le (by linarith)) hρ0
  have hx1 : rise δ * (t / σ₁) ≤ 2 * δ * (1 / 2) := mul_le_mul (rise_le_lin δ hδ0 hδ8) hρ1 hρ0 (by linarith)
  have hA := cos_add_le (dMinP δ) (rise δ * (t / σ₁)) ha0 hx0 (by linarith)
  have hB := cos_gcDist_ge (capLat (2 - σ₁)) (capLat (2 - σ₂)) ((t / σ₂ - t / σ₁) * (π / 4))
    (mul_nonneg (cos_capLat_nonneg _ (by linarith) (by linarith)) (cos_capLat_nonneg _ (by linarith) (by linarith)))
  have hlat1 := capLat_sub_le δ σ₁ hδ0.le (by linarith) h1
  rw [show 2 - σ₁ + δ = 2 - σ₂ by rw [h12]; ring] at hlat1
  have hcosφ := Real.cos_le_cos_of_nonneg_of_le_pi
    (sub_nonneg.mpr (capLat_mono (2 - σ₁) (2 - σ₂) (by linarith))) (by linarith) hlat1
  have hCΔ := seg_dlon_le δ σ₁ σ₂ t h2 h12 hδ0.le h1 ht0 ht
  have hmρ := mul_le_mul_of_nonneg_right (rise_sin_ge δ hδ0 hδ8) hρ0
  rw [capVal, abs_of_nonneg hρ0]
  exact le_of_cos_le (gcDist_le_pi _ _ _) (by linarith) (by linarith only [hA, hB, hcosφ, hCΔ, hmρ])

theorem dNc_abs (δ t σ : ℝ) : dNc δ t σ = dNc δ |t| σ := by
  rcases le_or_gt 0 t with h | h
  · rw [abs_of_nonneg h]
  · rw [abs_of_neg h, dNc_neg]

theorem dNc_inner_le (δ t σ : ℝ) (hδ0 : 0 < δ) (hδ8 : δ ≤ 1 / 8) (hσ : δ ≤ σ) (h1 : σ ≤ 1) (hin : 2 * |t| ≤ σ - δ) :
    dNc δ t σ ≤ capVal δ (t / σ) := by
  rw [dNc_abs, show capVal δ (t / σ) = capVal δ (|t| / σ) by rw [capVal, capVal, abs_div, abs_div, abs_abs]]
  rcases eq_or_lt_of_le hσ with heq | hlt
  · -- the north vertex is the pole: `t = 0`
    rw [show |t| = 0 from le_antisymm (by linarith) (abs_nonneg t)]
    exact (dNc_central_le _ _ hδ0.le hσ h1).trans (dMinP_le_capVal _ _ hδ0.le (by linarith))
  · have := seg_le δ σ (σ - δ) |t| hδ0 hδ8 (by linarith) (by ring) h1 (abs_nonneg t) hin
    rwa [← show 2 - σ + δ = 2 - (σ - δ) by ring] at this

theorem dSc_inner_le (δ t σ : ℝ) (hδ0 : 0 < δ) (hδ8 : δ ≤ 1 / 8) (hσ : 0 < σ) (h1 : σ + δ ≤ 1) (hin : 2 * |t| ≤ σ) :
    dSc δ t σ ≤ capVal δ (t / σ) := by
  rw [dSc_eq_dNc]
  -- the function takes at `(t, σ + δ)` at most the value it takes at `(t, σ)`
  refine (dNc_inner_le δ t _ hδ0 hδ8 (by linarith) h1 (by linarith)).trans (capVal_mono δ hδ0.le (by linarith) ?_)
  rw [abs_div, abs_div, abs_of_pos hσ, abs_of_pos (hσ.trans (lt_add_of_pos_right σ hδ0))]
  exact div_le_div_of_nonneg_left (abs_nonneg t) hσ (by linarith)

theorem cap_cell_dominates_inner (cfg : Cfg) (d hash b i j : ℕ) (hd1 : 3 ≤ d) (hd2 : d ≤ 29) (hh : hash < Layer.nHash d)
    (hdec : Layer.decodeHash cfg d hash = some ⟨b, i, j⟩) (s : ℝ) (k m : ℕ) (hc : CapCell d b i j s k m)
    (hm : m + 1 ≤ 2 ^ d) (hin1 : 2 * i + 1 ≤ m + 2 * j) (hin2 : 2 * j + 1 ≤ m + 2 * i) :
    ∃ (c s e n w : ℝ × ℝ) (v : ℝ), center (α := ℝ) cfg d hash = some c ∧
      vertices (α := ℝ) cfg d hash = some [s, e, n, w] ∧ largestC2V false d c.1 c.2 = some v ∧
      adist c s ≤ v ∧ adist c e ≤ v ∧ adist c n ≤ v ∧ adist c w ≤ v := by
  obtain ⟨c, s', e, n, w, v, rfl, hcen, hver, hv, bE, bW, bNS⟩ :=
    cap_cell_dominates cfg d hash b i j (by omega) hd2 hh hdec s k m hc hm
  obtain ⟨-, -, -, -, ht, -, -⟩ := hc.plane
  have hσ1 := step_mul_inside hm
  obtain ⟨hδ0, hδ8⟩ := eighth_pow_range d hd1
  have h1 : 2 * (i : ℝ) + 1 ≤ m + 2 * j := by exact_mod_cast hin1
  have h2 : 2 * (j : ℝ) + 1 ≤ m + 2 * i := by exact_mod_cast hin2
  have p1 := mul_le_mul_of_nonneg_right h1 hδ0.le
  have p2 := mul_le_mul_of_nonneg_right h2 hδ0.le
  have hin : 2 * |((i : ℝ) - j) * (1 / 2 ^ d)| ≤ m * (1 / 2 ^ d) - 1 / 2 ^ d := by
    rw [← abs_two, ← abs_mul, abs_le]; constructor <;> linarith only [p1, p2]
  generalize ((i : ℝ) - j) * (1 / 2 ^ d) = t at *
  generalize (m : ℝ) * (1 / 2 ^ d) = σ at *
  have hta := abs_nonneg t
  obtain ⟨bS, bN⟩ := bNS (dNc_inner_le _ t σ hδ0 hδ8 (by linarith) (by linarith) hin)
    (dSc_inner_le _ t σ hδ0 hδ8 (by linarith) hσ1 (by linarith))
  exact ⟨c, s', e, n, w, _, hcen, hver, hv, bS, bE, bN, bW⟩

/-- C16, the inner half (ℝ, release profile, every depth `3 … 29`, north base cells `b < 4`, every
    cell whose centre is strictly inside the cap, `nside ≤ i + j`, and in the inner half of the base cell:
    `2·|i − j| ≤ 2·nside − 2 − i − j`, written `3i + 2 ≤ 2·nside + j` and `3j + 2 ≤ 2·nside + i`).
    `largest_center_to_vertex_distance` evaluated at `center(d, hash)` is at least the angular distance from the centre to
    each of the four `vertices(d, hash)`. -/
theorem polar_envelope_dominates_at_centres_inner (cfg : Cfg) (d hash b i j : ℕ) (hd1 : 3 ≤ d) (hd2 : d ≤ 29)
    (hh : hash < Layer.nHash d) (hdec : Layer.decodeHash cfg d hash = some ⟨b, i, j⟩) (hb : b < 4)
    (hi : i < 2 ^ d) (hj : j < 2 ^ d) (hcap : 2 ^ d ≤ i + j)
    (hin1 : 3 * i + 2 ≤ 2 * 2 ^ d + j) (hin2 : 3 * j + 2 ≤ 2 * 2 ^ d + i) :
    ∃ (c s e n w : ℝ × ℝ) (v : ℝ), center (α := ℝ) cfg d hash = some c ∧
      vertices (α := ℝ) cfg d hash = some [s, e, n, w] ∧ largestC2V false d c.1 c.2 = some v ∧
      adist c s ≤ v ∧ adist c e ≤ v ∧ adist c n ≤ v ∧ adist c w ≤ v :=
  cap_cell_dominates_inner cfg d hash b i j hd1 hd2 hh hdec 1 b (2 * 2 ^ d - 1 - i - j)
    ⟨hb, hi, hj, by omega, Or.inl ⟨rfl, rfl, by omega⟩⟩ (by omega) (by omega) (by omega)

/-- C16, the inner half, south cap (ℝ, release profile, every depth `3 … 29`, south base cells `k + 8`,
    every cell whose centre is strictly inside the south cap, `i + j + 2 ≤ nside`, and in the inner half of the base cell:
    `2·|i − j| ≤ i + j`, written `i ≤ 3j` and `j ≤ 3i`): the value at `center(d, hash)` is at least the angular distance
    from the centre to each of the four `vertices(d, hash)`. -/
theorem polar_envelope_dominates_at_centres_inner_south (cfg : Cfg) (d hash k i j : ℕ) (hd1 : 3 ≤ d) (hd2 : d ≤ 29)
    (hh : hash < Layer.nHash d) (hdec : Layer.decodeHash cfg d hash = some ⟨k + 8, i, j⟩) (hk : k < 4)
    (hi : i < 2 ^ d) (hj : j < 2 ^ d) (hcap : i + j + 2 ≤ 2 ^ d) (hin1 : i ≤ 3 * j) (hin2 : j ≤ 3 * i) :
    ∃ (c s e n w : ℝ × ℝ) (v : ℝ), center (α := ℝ) cfg d hash = some c ∧
      vertices (α := ℝ) cfg d hash = some [s, e, n, w] ∧ largestC2V false d c.1 c.2 = some v ∧
      adist c s ≤ v ∧ adist c e ≤ v ∧ adist c n ≤ v ∧ adist c w ≤ v :=
  cap_cell_dominates_inner cfg d hash (k + 8) i j hd1 hd2 hh hdec (-1) k (i + j + 1)
    ⟨hk, hi, hj, by omega, Or.inr ⟨rfl, rfl, rfl⟩⟩ (by omega) (by omega) (by omega)

/-- depth 3, cell 49 = base cell 0, `(i, j) = (5, 4)`: in the inner half (`3·5 + 2 ≤ 16 + 4`) -/
example : ∃ (c s e n w : ℝ × ℝ) (v : ℝ), center (α := ℝ) {} 3 49 = some c ∧
      vertices (α := ℝ) {} 3 49 = some [s, e, n, w] ∧ largestC2V false 3 c.1 c.2 = some v ∧
      adist c s ≤ v ∧ adist c e ≤ v ∧ adist c n ≤ v ∧ adist c w ≤ v :=
  polar_envelope_dominates_at_centres_inner {} 3 49 0 5 4 (by decide) (by decide) (by decide) (by decide +kernel)
    (by decide) (by decide) (by decide) (by decide) (by decide) (by decide)

/-- depth 3, cell 526 = base cell 8, `(i, j) = (2, 3)` -/
example : ∃ (c s e n w : ℝ × ℝ) (v : ℝ), center (α := ℝ) {} 3 526 = some c ∧
      vertices (α := ℝ) {} 3 526 = some [s, e, n, w] ∧ largestC2V false 3 c.1 c.2 = some v ∧
      adist c s ≤ v ∧ adist c e ≤ v ∧ adist c n ≤ v ∧ adist c w ≤ v :=
  polar_envelope_dominates_at_centres_inner_south {} 3 526 0 2 3 (by decide) (by decide) (by decide)
    (by decide +kernel) (by decide) (by decide) (by decide) (by decide) (by decide) (by decide)

end Hpx.EnvelopePolar

#print axioms Hpx.EnvelopePolar.rise_sin_ge
#print axioms Hpx.EnvelopePolar.seg_le
#print axioms Hpx.EnvelopePolar.polar_envelope_dominates_at_centres_inner
#print axioms Hpx.EnvelopePolar.polar_envelope_dominates_at_centres_inner_south
