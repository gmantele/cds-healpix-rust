/-
C04 — the geometric specification (`TopoSpec`) in linear form: its centre is `Layer.centerXY` (`centerXY_eq`), its `key` has no
`%` by a variable (`key_eq`, `vkey_eq`).  The key commutes with the quarter turn (`Kp_rot1`) and with the mirror in the equator
(`Kp_mir`), so the key of the lattice corner `(a, c) ∈ [0, n]²` of a base cell is computed for the base cells `0` and `4` and
carried to the ten others.  `Glue` is the gluing relation of the twelve closed base cells (proved equivalent to key equality in
`TopoGlue.lean`).
-/
import HpxVerif.Lemmas.TopoNeigh
import HpxVerif.Lemmas.CenterXY

namespace Hpx.TopoNeigh
open Hpx Hpx.Topo Hpx.TopoSpec MW

/-! ## tie with `Layer.centerXY` (the centre used by the rest of the development) -/

/-- the `if`: `Layer.centerXY` reduces the abscissa to `[0, 8n)` -/
theorem centerXY_eq (d : Nat) (p : HashParts) (hb : p.d0h < 12) :
    Layer.centerXY d p =
      ((if (center (Layer.nside d) p).1 < 0 then (center (Layer.nside d) p).1 + 8 * (Layer.nside d : Int)
        else (center (Layer.nside d) p).1), (center (Layer.nside d) p).2) := by
  obtain ⟨b, i, j⟩ := p
  simp only at hb
  rw [Layer.centerXY_linear]
  unfold center baseX baseY
  dsimp only
  have hK : b / 4 = 0 ∨ b / 4 = 1 ∨ b / 4 = 2 := by omega
  rcases hK with h | h | h <;> rw [h]
  all_goals simp only [Nat.reduceEqDiff, if_true, if_false, Int.add_zero, Int.natCast_zero, Int.natCast_one,
    Int.sub_zero, Int.sub_self, Int.one_mul, Int.zero_mul]
  all_goals generalize (2 * ((b % 4 : Nat) : Int) + 1) * (Layer.nside d : Int) = P
  all_goals (apply Prod.ext <;> dsimp only)
  all_goals (try split)
  all_goals omega

/-! ## the key in linear form -/

/-- `x mod 8n` for `−8n ≤ x < 16n` -/
def wrap (n x : Int) : Int := if x < 0 then x + 8 * n else if x < 8 * n then x else x - 8 * n

def keyX (n x y : Int) : Int :=
  let xw := wrap n x
  if 2 * n ≤ y ∨ y ≤ -(2 * n) then 0
  else if n < y then (if xw - facetX n xw = 2 * n - y then wrap n (xw + 2 * (y - n)) else xw)
  else if y < -n then (if xw - facetX n xw = 2 * n + y then wrap n (xw + 2 * (-y - n)) else xw)
  else xw

theorem emod_wrap (n x : Int) (h1 : -(8 * n) ≤ x) (h2 : x < 16 * n) : x % (8 * n) = wrap n x := by
  unfold wrap
  split
  · rw [← Int.add_mul_emod_self_left x (8 * n) 1, Int.emod_eq_of_lt] <;> omega
  · split
    · rw [Int.emod_eq_of_lt] <;> omega
    · rw [← Int.add_mul_emod_self_left x (8 * n) (-1), Int.emod_eq_of_lt] <;> omega

theorem wrap_range (n x : Int) (h1 : -(8 * n) ≤ x) (h2 : x < 16 * n) : 0 ≤ wrap n x ∧ wrap n x < 8 * n := by
  unfold wrap; split
  · omega
  · split <;> omega

theorem wrap_id (n x : Int) (h1 : 0 ≤ x) (h2 : x < 8 * n) : wrap n x = x := by unfold wrap; omega

theorem facetX_lt (n x : Int) (h : x < 2 * n) : facetX n x = n := by unfold facetX; omega

theorem key_eq (n x y x' y' : Int) (h1 : -(8 * n) ≤ x) (h2 : x < 16 * n) (ex : x = x') (ey : y = y') :
    key n (x, y) = (keyX n x' y', y') := by
  subst ex ey
  have hw := wrap_range n x h1 h2
  have e1 := emod_wrap n x h1 h2
  have e2 : ∀ d : Int, 0 ≤ d → d < 8 * n → (wrap n x + d) % (8 * n) = wrap n (wrap n x + d) :=
    fun d hd1 hd2 => emod_wrap n _ (by omega) (by omega)
  simp only [key, keyX, e1]
  split
  · rfl
  · split
    · split
      · rw [e2 _ (by omega) (by omega)]
      · rfl
    · split
      · split
        · rw [e2 _ (by omega) (by omega)]
        · rfl
      · rfl

/-! ## lattice corners of a base cell

The corner `(a, c)`, `0 ≤ a, c ≤ n`, of base cell `b` is the S vertex of the (possibly virtual) cell `(b, a, c)`:
the cell `(b, i, j)` has vertices `S = (i, j)`, `E = (i+1, j)`, `N = (i+1, j+1)`, `W = (i, j+1)`. -/

def cX (n : Int) (b : Nat) (a c : Int) : Int := baseX n b + (a - c)
def cY (n : Int) (b : Nat) (a c : Int) : Int := baseY n b + (a + c) - n
def KX (n : Int) (b : Nat) (a c : Int) : Int := keyX n (cX n b a c) (cY n b a c)
def Kp (n : Int) (b : Nat) (a c : Int) : Int × Int := (KX n b a c, cY n b a c)

def dA : MW → Int | E | N => 1 | _ => 0
def dC : MW → Int | N | W => 1 | _ => 0

theorem baseX_range (n : Int) (b : Nat) (hn : 0 < n) (hb : b < 12) : 0 ≤ baseX n b ∧ baseX n b ≤ 7 * n := by
  obtain rfl | rfl | rfl | rfl | rfl | rfl | rfl | rfl | rfl | rfl | rfl | rfl := b12 b hb <;>
  simp [baseX] <;> omega

theorem vkey_eq (n : Nat) (p : HashParts) (v : MW) (hn : 1 ≤ n) (hp : Valid n p) (hv : v ∈ cardinals) :
    vkey n p v = Kp n p.d0h (p.i + dA v) (p.j + dC v) := by
  obtain ⟨hb, hi, hj⟩ := hp
  have hx := baseX_range n p.d0h (by omega) hb
  simp only [cardinals, List.mem_cons, List.not_mem_nil, or_false] at hv
  rcases hv with rfl | rfl | rfl | rfl <;>
  · simp only [vkey, vertex, center, Kp, KX, cX, cY, dA, dC]
    exact key_eq _ _ _ _ _ (by omega) (by omega) (by omega) (by omega)

/-! ### simplified corner keys, base cell by base cell (`o = 2 (b % 4) n`) -/

/-- `x mod 8n` for `0 ≤ x < 16n` (`wr`) and for `−8n ≤ x < 8n` (`wl`) -/
def wr (n x : Int) : Int := if 8 * n ≤ x then x - 8 * n else x
def wl (n x : Int) : Int := if x < 0 then x + 8 * n else x
/-- north polar cap: `y = a + c`; pole `a = c = n`; right side of the facet `a = n` -/
def KXn (n o a c : Int) : Int :=
  if 2 * n ≤ a + c then 0 else if n < a + c ∧ a = n then wr n (o + 2 * n + c) else wr n (o + n + (a - c))
def KXe (n o a c : Int) : Int := wl n (o + (a - c))
/-- south polar cap (`y = a + c − 2n`): the north one mirrored in the equator (`Kp_mir`) -/
def KXs (n o a c : Int) : Int := KXn n o (n - c) (n - a)

/-! ### a quarter turn to the east

The keys commute with it (`Kp_rot1`, from the definition of `key`: `keyX_sh`), so the corner keys are computed for the base
cells `0` and `4` of column 0 (`Kp_0`, `Kp_4`) and moved to the other columns. -/

def sh (n X : Int) : Int := if X + 2 * n < 8 * n then X + 2 * n else X - 6 * n

theorem wrap_sh (n x x' : Int) (h2 : x < 14 * n) (e : x' = x + 2 * n ∨ x' = x - 6 * n)
    (h3 : -(8 * n) ≤ x') : wrap n x' = sh n (wrap n x) := by
  unfold wrap sh; omega

theorem facet_sh (n X : Int) (h1 : 0 ≤ X) (h2 : X < 8 * n) :
    sh n X - facetX n (sh n X) = X - facetX n X := by
  unfold sh facetX; omega

theorem wrap_add_sh (n X d : Int) (h3 : 0 ≤ d) (h4 : d ≤ 2 * n) :
    wrap n (sh n X + d) = sh n (wrap n (X + d)) := by
  unfold wrap sh; omega

/-- the key of a point after a quarter turn to the east (the poles stay where they are) -/
def rotK (n : Int) (K : Int × Int) : Int × Int :=
  (if 2 * n ≤ K.2 ∨ K.2 ≤ -(2 * n) then 0 else sh n K.1, K.2)

theorem keyX_sh (n x x' y : Int) (h1 : -(8 * n) ≤ x) (h2 : x < 14 * n)
    (e : x' = x + 2 * n ∨ x' = x - 6 * n) (h3 : -(8 * n) ≤ x') :
    (keyX n x' y, y) = rotK n (keyX n x y, y) := by
  have hw := wrap_range n x h1 (by omega)
  unfold keyX rotK
  simp only [wrap_sh n x x' h2 e h3, facet_sh n _ hw.1 hw.2]
  split
  · rfl
  · split
    · split
      · rw [wrap_add_sh n _ _ (by omega) (by omega)]
      · rfl
    · split
      · split
        · rw [wrap_add_sh n _ _ (by omega) (by omega)]
        · rfl
      · rfl

theorem baseX_rot (n : Int) (b : Nat) (hb : b < 12) :
    baseX n (rotB 1 b) = baseX n b + 2 * n ∨ baseX n (rotB 1 b) = baseX n b - 6 * n := by
  obtain rfl | rfl | rfl | rfl | rfl | rfl | rfl | rfl | rfl | rfl | rfl | rfl := b12 b hb <;>
  simp [baseX, rotB] <;> omega

section
variable (n a c : Int) (hn : 0 < n) (ha : 0 ≤ a) (ha' : a ≤ n) (hc : 0 ≤ c) (hc' : c ≤ n)
include hn ha ha' hc hc'

theorem Kp_rot1 (b : Nat) (hb : b < 12) : Kp n (rotB 1 b) a c = rotK n (Kp n b a c) := by
  have hx := baseX_range n b hn hb
  have hx' := baseX_range n (rotB 1 b) hn ((rotB_lt 1 b).2 hb)
  have e := baseX_rot n b hb
  unfold Kp KX cX cY baseY
  rw [rotB_row]
  exact keyX_sh n _ _ _ (by omega) (by omega) (by omega) (by omega)

theorem Kp_0 : Kp n 0 a c = (KXn n 0 a c, a + c) := by
  have ex : cX n 0 a c = n + (a - c) := by simp [cX, baseX]
  have ey : cY n 0 a c = a + c := by simp [cY, baseY]; omega
  unfold Kp KX keyX KXn
  -- the abscissa `n + (a − c) ∈ [0, 2n]` does not wrap; then the pole, the polar cap (first facet, `2n` only at `y = n`), the belt
  rw [ex, ey, wrap_id n _ (by omega) (by omega)]
  by_cases hp : 2 * n ≤ a + c
  · rw [if_pos (Or.inl hp), if_pos hp]
  · rw [if_neg (by omega), if_neg hp]
    by_cases hN : n < a + c
    · rw [if_pos hN, facetX_lt n _ (by omega), wrap_id n _ (by omega) (by omega)]
      unfold wr; congr 1; omega
    · rw [if_neg hN, if_neg (by omega), if_neg (by omega)]
      unfold wr; congr 1; omega
theorem Kp_4 : Kp n 4 a c = (KXe n 0 a c, a + c - n) := by
  simp only [Kp, KX, cX, cY, baseX, baseY, keyX, wrap, facetX, KXe, wl]; simp; omega
/-- the abscissas of base cell 0 do not wrap: the form of `Kp_0` that `glue_0` compares with the twelve others (`omega` splits on every
    `if`, those of `wr` included) -/
theorem Kp_0' : Kp n 0 a c =
    (if 2 * n ≤ a + c then 0 else if n < a + c ∧ a = n then 2 * n + c else n + (a - c), a + c) := by
  rw [Kp_0 n a c hn ha ha' hc hc']
  unfold KXn wr
  congr 1
  omega

end

/-! ### the mirror in the equator

`key` treats the two polar caps alike, so the keys commute with the reflection `y ↦ −y` (`Kp_mir`): it moves base cell `b` to
`mirB b` (same column, the polar caps exchanged) and the corner `(a, c)` to `(n − c, n − a)`.  The south polar cap is the
mirror image of the north polar cap: `Kp_8 … Kp_11` from `Kp_0 … Kp_3`, and in `TopoGlue.lean` the gluing of base cell 8 from
that of base cell 0. -/

def mirB (b : Nat) : Nat := 4 * (2 - b / 4) + b % 4

theorem keyX_neg (n x y : Int) : keyX n x (-y) = keyX n x y := by
  unfold keyX
  simp only [Int.neg_neg]
  omega

theorem base_mir (n : Int) (b : Nat) (hb : b < 12) :
    baseX n (mirB b) = baseX n b ∧ baseY n (mirB b) = -baseY n b := by
  obtain rfl | rfl | rfl | rfl | rfl | rfl | rfl | rfl | rfl | rfl | rfl | rfl := b12 b hb <;>
  simp [baseX, baseY, mirB]

theorem Kp_mir (n : Int) (b : Nat) (a c : Int) (hb : b < 12) :
    Kp n b a c = ((Kp n (mirB b) (n - c) (n - a)).1, -(Kp n (mirB b) (n - c) (n - a)).2) := by
  obtain ⟨e1, e2⟩ := base_mir n b hb
  unfold Kp KX cX cY
  rw [e1, e2, show baseX n b + (n - c - (n - a)) = baseX n b + (a - c) by omega,
    show -baseY n b + (n - c + (n - a)) - n = -(baseY n b + (a + c) - n) by omega, keyX_neg, Int.neg_neg]

theorem Kp_of_mir (n a c o : Int) (b b₀ : Nat) (hb : b < 12) (e : mirB b = b₀)
    (h : Kp n b₀ (n - c) (n - a) = (KXn n o (n - c) (n - a), n - c + (n - a))) :
    Kp n b a c = (KXs n o a c, a + c - 2 * n) := by
  rw [Kp_mir n b a c hb, e, h]
  exact Prod.ext rfl (by dsimp only; omega)

theorem sh_wr (n z : Int) (h2 : z < 14 * n) : sh n (wr n z) = wr n (z + 2 * n) := by
  unfold sh wr; omega

theorem sh_wl (n z : Int) (h2 : z < 6 * n) : sh n (wl n z) = wl n (z + 2 * n) := by
  unfold sh wl; omega

theorem rotK_n (n o a c : Int) (ha : 0 ≤ a) (hc : 0 ≤ c) (ho' : o ≤ 4 * n) :
    rotK n (KXn n o a c, a + c) = (KXn n (o + 2 * n) a c, a + c) := by
  unfold rotK KXn
  split
  · rw [if_pos (by omega)]
  · rw [if_neg (by omega)]
    split
    · rw [sh_wr n _ (by omega)]; congr 2; omega
    · rw [sh_wr n _ (by omega)]; congr 2; omega

theorem rotK_e (n o a c : Int) (hn : 0 < n) (ha : 0 ≤ a) (ha' : a ≤ n) (hc : 0 ≤ c) (hc' : c ≤ n)
    (ho' : o ≤ 4 * n) : rotK n (KXe n o a c, a + c - n) = (KXe n (o + 2 * n) a c, a + c - n) := by
  unfold rotK KXe
  rw [if_neg (by omega), sh_wl n _ (by omega)]; congr 2; omega

section
variable (n a c : Int) (hn : 0 < n) (ha : 0 ≤ a) (ha' : a ≤ n) (hc : 0 ≤ c) (hc' : c ≤ n)
include hn ha ha' hc hc'

theorem Kp_1 : Kp n 1 a c = (KXn n (2 * n) a c, a + c) := by
  rw [show (1 : Nat) = rotB 1 0 from rfl, Kp_rot1 n a c hn ha ha' hc hc' 0 (by decide), Kp_0 n a c hn ha ha' hc hc',
    rotK_n n 0 a c ha hc (by omega), show 0 + 2 * n = 2 * n by omega]
theorem Kp_2 : Kp n 2 a c = (KXn n (4 * n) a c, a + c) := by
  rw [show (2 : Nat) = rotB 1 1 from rfl, Kp_rot1 n a c hn ha ha' hc hc' 1 (by decide), Kp_1 n a c hn ha ha' hc hc',
    rotK_n n (2 * n) a c ha hc (by omega), show 2 * n + 2 * n = 4 * n by omega]
theorem Kp_3 : Kp n 3 a c = (KXn n (6 * n) a c, a + c) := by
  rw [show (3 : Nat) = rotB 1 2 from rfl, Kp_rot1 n a c hn ha ha' hc hc' 2 (by decide), Kp_2 n a c hn ha ha' hc hc',
    rotK_n n (4 * n) a c ha hc (by omega), show 4 * n + 2 * n = 6 * n by omega]
theorem Kp_5 : Kp n 5 a c = (KXe n (2 * n) a c, a + c - n) := by
  rw [show (5 : Nat) = rotB 1 4 from rfl, Kp_rot1 n a c hn ha ha' hc hc' 4 (by decide), Kp_4 n a c hn ha ha' hc hc',
    rotK_e n 0 a c hn ha ha' hc hc' (by omega), show 0 + 2 * n = 2 * n by omega]
theorem Kp_6 : Kp n 6 a c = (KXe n (4 * n) a c, a + c - n) := by
  rw [show (6 : Nat) = rotB 1 5 from rfl, Kp_rot1 n a c hn ha ha' hc hc' 5 (by decide), Kp_5 n a c hn ha ha' hc hc',
    rotK_e n (2 * n) a c hn ha ha' hc hc' (by omega), show 2 * n + 2 * n = 4 * n by omega]
theorem Kp_7 : Kp n 7 a c = (KXe n (6 * n) a c, a + c - n) := by
  rw [show (7 : Nat) = rotB 1 6 from rfl, Kp_rot1 n a c hn ha ha' hc hc' 6 (by decide), Kp_6 n a c hn ha ha' hc hc',
    rotK_e n (4 * n) a c hn ha ha' hc hc' (by omega), show 4 * n + 2 * n = 6 * n by omega]
theorem Kp_8 : Kp n 8 a c = (KXs n 0 a c, a + c - 2 * n) :=
  Kp_of_mir n a c _ 8 0 (by decide) rfl (Kp_0 n _ _ hn (by omega) (by omega) (by omega) (by omega))
theorem Kp_9 : Kp n 9 a c = (KXs n (2 * n) a c, a + c - 2 * n) :=
  Kp_of_mir n a c _ 9 1 (by decide) rfl (Kp_1 n _ _ hn (by omega) (by omega) (by omega) (by omega))
theorem Kp_10 : Kp n 10 a c = (KXs n (4 * n) a c, a + c - 2 * n) :=
  Kp_of_mir n a c _ 10 2 (by decide) rfl (Kp_2 n _ _ hn (by omega) (by omega) (by omega) (by omega))
theorem Kp_11 : Kp n 11 a c = (KXs n (6 * n) a c, a + c - 2 * n) :=
  Kp_of_mir n a c _ 11 3 (by decide) rfl (Kp_3 n _ _ hn (by omega) (by omega) (by omega) (by omega))

end

/-! ## gluing of the twelve closed base cells

`Glue n b b' a c a' c'`: the corner `(a, c)` of base cell `b` and the corner `(a', c')` of base cell `b'` are the same
point of the sphere.  Written by rows (`b / 4`, `b' / 4`) and column difference (`(b' − b) mod 4`); *proved* equivalent
to the equality of keys in `Lemmas/TopoGlue.lean`. -/

def Glue (n : Int) (b b' : Nat) (a c a' c' : Int) : Prop :=
  let d := (b' % 4 + 4 - b % 4) % 4
  match b / 4 with
  | 0 =>
    match b' / 4 with
    | 0 =>
      match d with
      | 0 => a = a' ∧ c = c'
      | 1 => a = n ∧ c' = n ∧ a' = c
      | 2 => a = n ∧ c = n ∧ a' = n ∧ c' = n
      | 3 => c = n ∧ a' = n ∧ c' = a
      | _ => False
    | 1 =>
      match d with
      | 0 => a = 0 ∧ a' = n ∧ c' = c
      | 1 => c = 0 ∧ c' = n ∧ a' = a
      | _ => False
    | 2 =>
      match d with
      | 0 => a = 0 ∧ c = 0 ∧ a' = n ∧ c' = n
      | _ => False
    | _ => False
  | 1 =>
    match b' / 4 with
    | 0 =>
      match d with
      | 0 => a = n ∧ a' = 0 ∧ c' = c
      | 3 => c = n ∧ c' = 0 ∧ a' = a
      | _ => False
    | 1 =>
      match d with
      | 0 => a = a' ∧ c = c'
      | 1 => a = n ∧ c = 0 ∧ a' = 0 ∧ c' = n
      | 3 => a = 0 ∧ c = n ∧ a' = n ∧ c' = 0
      | _ => False
    | 2 =>
      match d with
      | 0 => c = 0 ∧ c' = n ∧ a' = a
      | 3 => a = 0 ∧ a' = n ∧ c' = c
      | _ => False
    | _ => False
  | 2 =>
    match b' / 4 with
    | 0 =>
      match d with
      | 0 => a = n ∧ c = n ∧ a' = 0 ∧ c' = 0
      | _ => False
    | 1 =>
      match d with
      | 0 => c = n ∧ c' = 0 ∧ a' = a
      | 1 => a = n ∧ a' = 0 ∧ c' = c
      | _ => False
    | 2 =>
      match d with
      | 0 => a = a' ∧ c = c'
      | 1 => c = 0 ∧ a' = 0 ∧ c' = a
      | 2 => a = 0 ∧ c = 0 ∧ a' = 0 ∧ c' = 0
      | 3 => a = 0 ∧ c' = 0 ∧ a' = c
      | _ => False
    | _ => False
  | _ => False

theorem Glue_rot (n : Int) (k b b' : Nat) (a c a' c' : Int) :
    Glue n (rotB k b) (rotB k b') a c a' c' = Glue n b b' a c a' c' := by
  unfold Glue
  rw [rotB_row, rotB_row, show (rotB k b' % 4 + 4 - rotB k b % 4) % 4 = (b' % 4 + 4 - b % 4) % 4 by unfold rotB; omega]

end Hpx.TopoNeigh
