/-
C14 — external edges, at the level of parts: the direction `from_` computed by `external_edge_generic` /
`external_edge_struct` (`direction.opposite()` inside a base cell, `direction_from_neighbour` at depth 0,
`edge_cell_direction_from_neighbour(d0h, direction_in_base_cell_border, direction)` on a base-cell border) IS the
direction from which the neighbour sees the cell: `from_dir_spec`, for every grid side `1 ≤ n ≤ 2^32` (`n = 2^depth` in the
code).
-/
import HpxVerif.Lemmas.TopoComplete

namespace Hpx.EdgeExternal
open Hpx Hpx.Topo Hpx.TopoSpec Hpx.TopoNeigh MW

/-- position class of a coordinate in its base cell: `0` first, `2` last, `1` otherwise (as computed by
    `direction_in_base_cell_border`: the test `= 0` comes first) -/
def cls (n c : Nat) : Nat := if c = 0 then 0 else if c + 1 = n then 2 else 1

/-- `direction_in_base_cell_border` on coordinates -/
def innerDir (n i j : Nat) : Option MW := MW.ofIndex (3 * cls n j + cls n i)

/-- the direction `from_` computed by `external_edge_generic`, on parts -/
def fromDir (n : Nat) (p : HashParts) (dir : MW) (q : HashParts) : Option MW :=
  if p.d0h = q.d0h then some dir.opposite
  else if n = 1 then directionFromNeighbour p.d0h dir
  else (innerDir n p.i p.j).bind fun inner => edgeCellDirectionFromNeighbour p.d0h inner dir

/-! ## the way back, from the turn of the seam

Seen from the neighbour `q` found at the offsets of `dir` across a seam that turns the chart by `t` quarter turns, the cell
is in direction `back t dir`: the opposite direction, turned back.  `shared_back` proves it for every `n` from
`neighbour_vertex`; that the direction tables of the code (`direction_from_neighbour`, `edge_cell_direction_from_neighbour`
applied to the position on the border) contain exactly `back` of the turn of each seam is a finite fact about the
tables (`table_one`, `table_border`). -/

def back (t : Nat) (dir : MW) : MW := rhoN ((4 - t) % 4) dir.opposite

/-- the compass only: the vertices of the neighbour that the cell has too -/
theorem edge_back : ∀ t < 4, ∀ dir ∈ dirs8, ∀ w ∈ cardinals,
    (∃ v ∈ cardinals, dA v = dir.offsetSe + dA (rhoN t w) ∧ dC v = dir.offsetSw + dC (rhoN t w)) ↔
      w ∈ edgeOf (back t dir) := by
  decide

theorem back_kind : ∀ t < 4, ∀ dir ∈ dirs8, (back t dir).isCardinal = dir.isCardinal ∧ back t dir ≠ C := by decide

theorem shared_back (n : Nat) (p q : HashParts) (dir : MW) (hn : 1 ≤ n) (hn2 : n ≤ 4294967296) (hp : Valid n p)
    (hdir : dir ≠ C) (h : neighbourParts n p dir = some q) :
    shared n q p = edgeOf (back (turn p.d0h (zone n (p.i + dir.offsetSe)) (zone n (p.j + dir.offsetSw))) dir) := by
  rw [← filter_edgeOf]
  unfold shared
  apply List.filter_congr
  intro w hw
  rw [decide_eq_decide, ← edge_back _ (turn_lt _ _ _) dir ((mem_dirs8_iff dir).2 hdir) w hw, keys, List.mem_map]
  exact exists_congr fun v => and_congr_right fun hv => neighbour_vertex n p q dir v w hn hn2 hp hv hw h

/-- the way back in closed form: it is the direction whose side / corner of `q` is shared with `p` -/
theorem neighbour_back (n : Nat) (p q : HashParts) (dir : MW) (hn : 1 ≤ n) (hn2 : n ≤ 4294967296) (hp : Valid n p)
    (hdir : dir ≠ C) (h : neighbourParts n p dir = some q) :
    neighbourParts n q (back (turn p.d0h (zone n (p.i + dir.offsetSe)) (zone n (p.j + dir.offsetSw))) dir) = some p := by
  obtain ⟨dir', -, hd'⟩ := neighbourParts_symmetric n p q dir hn hn2 hp hdir h
  have e := (neighbour_labelled n q p dir' hn hn2 (neighbourParts_valid n p q dir hn hn2 hp h) hd').symm.trans
    (shared_back n p q dir hn hn2 hp hdir h)
  rwa [edgeOf_injective e] at hd'

/-- the border of its base cell that the step `dir` crosses from a cell of position classes `ci`, `cj` (`C`: none): a
    coordinate leaves the base cell iff the cell is on the border on the side it moves to -/
def crossing (ci cj : Nat) (dir : MW) : Option MW :=
  MW.ofOffsets (if (ci : Int) - 1 = dir.offsetSe then dir.offsetSe else 0)
    (if (cj : Int) - 1 = dir.offsetSw then dir.offsetSw else 0)

/-- depth 0, where the step `dir` crosses the border `dir` -/
theorem table_one : ∀ dir ∈ dirs8, ∀ D ∈ MW.ofOffsets dir.offsetSe dir.offsetSw, ∀ b < 12, ∀ _t ∈ seamRule b D,
    directionFromNeighbour b dir = some (back (turn b D.offsetSe D.offsetSw) dir) := by
  decide

theorem table_border : ∀ ci < 3, ∀ cj < 3, ∀ dir ∈ dirs8, ∀ D ∈ crossing ci cj dir, ∀ b < 12, ∀ _t ∈ seamRule b D,
    (MW.ofIndex (3 * cj + ci)).bind (edgeCellDirectionFromNeighbour b · dir) =
      some (back (turn b D.offsetSe D.offsetSw) dir) := by
  decide

theorem cls_cases (n c : Nat) :
    (c = 0 ∧ cls n c = 0) ∨ (c ≠ 0 ∧ c + 1 = n ∧ cls n c = 2) ∨ (c ≠ 0 ∧ c + 1 ≠ n ∧ cls n c = 1) := by
  unfold cls; split
  · exact .inl ⟨‹_›, rfl⟩
  · split
    · exact .inr (.inl ⟨‹_›, ‹_›, rfl⟩)
    · exact .inr (.inr ⟨‹_›, ‹_›, rfl⟩)

theorem zone_inner (n c : Nat) (o : Int) (hn : 2 ≤ n) (hc : c < n) (ho : -1 ≤ o) (ho' : o ≤ 1) :
    zone n (c + o) = if (cls n c : Int) - 1 = o then o else 0 := by
  have := cls_cases n c
  have := zone_cases n (c + o)
  split <;> omega

theorem turn_zero (b : Nat) : turn b 0 0 = 0 := by
  unfold turn; split <;> simp_all

theorem fromDir_back (n b i j : Nat) (dir : MW) (q : HashParts) (hb : b < 12) (hi : i < n) (hj : j < n)
    (hdir : dir ≠ C) (h : nbAt n b ((i : Int) + dir.offsetSe) ((j : Int) + dir.offsetSw) = some q) :
    fromDir n ⟨b, i, j⟩ dir q =
      some (back (turn b (zone n ((i : Int) + dir.offsetSe)) (zone n ((j : Int) + dir.offsetSw))) dir) := by
  obtain ⟨o1, o1', o2, o2'⟩ := offsets_range dir
  have hd8 := (mem_dirs8_iff dir).2 hdir
  obtain ⟨D, hD, e1, e2, e⟩ := nbAt_eq n (i + dir.offsetSe) (j + dir.offsetSw)
  rw [e] at h
  unfold fromDir
  split at h
  · -- inside the base cell: no turn
    next hz =>
    obtain rfl := Option.some.inj h
    rw [if_pos rfl, hz.1, hz.2, turn_zero]
    rfl
  · rw [← e1, ← e2]
    obtain ⟨t, ht, rfl⟩ := Option.map_eq_some_iff.1 h
    rw [if_neg (seam_tgt b hb D (mem_all D) t ht).2.symm]
    by_cases h1 : n = 1
    · -- depth 0: the zone is the direction itself
      subst h1
      rw [show zone 1 (i + dir.offsetSe) = dir.offsetSe by unfold zone; omega,
        show zone 1 (j + dir.offsetSw) = dir.offsetSw by unfold zone; omega] at hD
      rw [if_pos rfl]
      exact table_one dir hd8 D hD b hb t ht
    · have hn : 2 ≤ n := by omega
      rw [if_neg h1]
      dsimp only [innerDir]
      refine table_border _ ?_ _ ?_ dir hd8 D ?_ b hb t ht
      · have := cls_cases n i; omega
      · have := cls_cases n j; omega
      · rw [crossing, ← zone_inner n i _ hn hi o1 o1', ← zone_inner n j _ hn hj o2 o2']
        exact hD

/-- **C14, `from_dir_spec`** (the heart of the external edge): if `q` is the neighbour of the cell `p` in direction
    `dir`, the direction computed by the code (`fromDir`: `dir.opposite` inside a base cell, the table
    `direction_from_neighbour` at `n = 1`, the table `edge_cell_direction_from_neighbour` applied to the position of
    `p` on the border of its base cell otherwise) exists (no table lookup fails), leads back from `q` to `p`, and is
    cardinal iff `dir` is.  Every `1 ≤ n ≤ 2^32`. -/
theorem from_dir_spec (n : Nat) (p q : HashParts) (dir : MW) (hn : 1 ≤ n) (hn2 : n ≤ 4294967296) (hp : Valid n p)
    (hdir : dir ≠ C) (h : neighbourParts n p dir = some q) :
    ∃ f, fromDir n p dir q = some f ∧ neighbourParts n q f = some p ∧ f.isCardinal = dir.isCardinal ∧ f ≠ C := by
  refine ⟨_, ?_, neighbour_back n p q dir hn hn2 hp hdir h, back_kind _ (turn_lt _ _ _) dir ((mem_dirs8_iff dir).2 hdir)⟩
  rw [neighbourParts_eq_nbAt] at h
  exact fromDir_back n p.d0h p.i p.j dir q hp.1 hp.2.1 hp.2.2 hdir h

/-- C14: the way back is unique, and the vertices of `q` shared with `p` are those of its side / corner `from_` -/
theorem from_dir_unique (n : Nat) (p q : HashParts) (dir f f' : MW) (hn : 1 ≤ n) (hn2 : n ≤ 4294967296)
    (hp : Valid n p) (hdir : dir ≠ C) (h : neighbourParts n p dir = some q) (hf : fromDir n p dir q = some f)
    (hf' : neighbourParts n q f' = some p) : f' = f ∧ shared n q p = edgeOf f := by
  obtain ⟨g, hg, hg2, _, _⟩ := from_dir_spec n p q dir hn hn2 hp hdir h
  rw [hf] at hg
  cases hg
  have hq := neighbourParts_valid n p q dir hn hn2 hp h
  exact ⟨neighbours_distinct n q p f' f hn hn2 hq hf' hg2, neighbour_labelled n q p f hn hn2 hq hg2⟩

-- not used by any proof: the way back for one direction `D` checked directly, zone by zone over the twelve base cells
local macro "rev_tac" n:ident b:ident i:ident j:ident q:ident D:ident I:term:max J:term:max hb:ident hi:ident hj:ident hn:ident P:term : tactic =>
  `(tactic| (
    intro h
    revert h
    unfold nbAt
    have hn1 : ¬ ($n = 1) := by omega
    rcases cls_cases $n $i $hn $hi with ⟨ci0, ci⟩ | ⟨ci0, ci1, ci⟩ | ⟨ci0, ci⟩ <;>
    rcases cls_cases $n $j $hn $hj with ⟨cj0, cj⟩ | ⟨cj0, cj1, cj⟩ | ⟨cj0, cj⟩ <;>
    rcases zone_cases $n $I with ⟨h1, hz⟩ | ⟨h1, h2, hz⟩ | ⟨h1, h2, hz⟩ <;>
    rcases zone_cases $n $J with ⟨h3, hz'⟩ | ⟨h3, h4, hz'⟩ | ⟨h3, h4, hz'⟩ <;>
    (try omega) <;>
    rw [hz, hz'] <;>
    first
    | exact fun h => rev_interior $n $b $i $j $D $q $hi $hj (by decide) h1 h2 h3 h4 h
    | (refine b12 (P := $P) $b $hb ?_ ?_ ?_ ?_ ?_ ?_ ?_ ?_ ?_ ?_ ?_ ?_ <;>
       simp only [nbZ, ofOffsets, ofIndex, seamRule, ncpRule, eqrRule, spcRule, baseCell, next, prev, oppo, Src.eval] <;>
       simp <;>
       · intro hq; subst hq
         simp only [RevOK, fromDir, innerDir, ci, cj, ofIndex, edgeCellDirectionFromNeighbour, npcEdgeDirFromNeighbour,
           spcEdgeDirFromNeighbour, opposite, Nat.reduceDiv, Nat.reduceMul, Nat.reduceAdd, Nat.reduceEqDiff,
           if_false, if_true, Option.bind_some, hn1, reduceCtorEq, offsetSe, offsetSw, isCardinal,
           BEq.rfl, Bool.or_true, Bool.true_or, beq_iff_eq, Bool.or_false, Bool.false_or,
           ne_eq, not_false_eq_true, and_true]
         apply nbAt_some'
         intro zx zy hx hy
         rcases hx with ⟨a1, e1⟩ | ⟨a1, a2, e1⟩ | ⟨a1, a2, e1⟩ <;>
         rcases hy with ⟨a3, e2⟩ | ⟨a3, a4, e2⟩ | ⟨a3, a4, e2⟩ <;>
         (try omega) <;>
         subst e1 e2 <;>
         simp only [nbZ, ofOffsets, ofIndex, seamRule, ncpRule, eqrRule, spcRule, baseCell, next, prev, oppo, Src.eval] <;>
         simp <;> omega)))

/-- non-vacuity and a concrete instance: depth 1 (`n = 2`), the cell `(2, 0, 1)` (number 10) and its `N` neighbour
    `(1, 1, 1)` (number 7), seen from there in direction `E` -/
example : Valid 2 ⟨2, 0, 1⟩ ∧ neighbourParts 2 ⟨2, 0, 1⟩ N = some ⟨1, 1, 1⟩ ∧ fromDir 2 ⟨2, 0, 1⟩ N ⟨1, 1, 1⟩ = some E ∧
    neighbourParts 2 ⟨1, 1, 1⟩ E = some ⟨2, 0, 1⟩ := by decide

end Hpx.EdgeExternal

#print axioms Hpx.EdgeExternal.from_dir_spec
#print axioms Hpx.EdgeExternal.from_dir_unique
