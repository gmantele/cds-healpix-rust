/-
`or` and `xor` are one merge of two sorted cell lists.  The current cells are compared (`cellRel`); a cell that lies
before the other operand's current cell is copied; a cell that contains it is handled together with everything the other
operand has under it; a cell present on both sides is combined.  Only the last two differ between the operators
(`MergeOps`).  `mergeLoop_spec`: if those two pieces denote `op` over the interval of the cell (`MergeOps.Sound`), the loop
does not panic and its output denotes `op` of the operands, for any three-valued `op` that is commutative with `absent`
neutral.
-/
import HpxVerif.Lemmas.BmocNot
import HpxVerif.Lemmas.BmocRel

namespace Hpx.Bmoc

/-- the not yet consumed part of an operand: current cell (if any) followed by the iterator -/
def rem : Option Cell → List Cell → List Cell
  | none, _ => []
  | some c, l => c :: l

@[simp] theorem rem_head_tail (l : List Cell) : rem l.head? l.tail = l := by cases l <;> rfl
@[simp] theorem rem_some (c : Cell) (l : List Cell) : rem (some c) l = c :: l := rfl
@[simp] theorem rem_none (l : List Cell) : rem none l = [] := rfl

structure TriOp (op : Tri → Tri → Tri) : Prop where
  right_abs : ∀ t, op t .abs = t
  comm : ∀ s t, op s t = op t s

structure Ops (D lb : Nat) (A : List Cell) : Prop where
  wf : WF D A
  inr : ∀ c ∈ A, InR c
  lb : ∀ c ∈ A, lb ≤ lo D c

theorem Ops.nil (D lb : Nat) : Ops D lb [] :=
  ⟨trivial, fun c hc => by simp at hc, fun c hc => by simp at hc⟩

theorem Ops.tail {D lb : Nat} {c : Cell} {l : List Cell} (h : Ops D lb (c :: l)) : Ops D (hi D c) l :=
  ⟨h.wf.tail, fun c' hc' => h.inr c' (List.mem_cons_of_mem _ hc'), fun c' hc' => h.wf.2.1 c' hc'⟩

theorem Ops.newlb {D lb lb' : Nat} {A : List Cell} (h : Ops D lb A) (hb : ∀ c ∈ A, lb' ≤ lo D c) : Ops D lb' A :=
  ⟨h.wf, h.inr, hb⟩

theorem stOf_abs_of_lb {D : Nat} {l : List Cell} {m x : Nat} (h : ∀ c ∈ l, m ≤ lo D c) (hx : x < m) :
    stOf D l x = .abs :=
  stOf_absent_of_lt (fun c hc => Nat.lt_of_lt_of_le hx (h c hc))

theorem seg_cell {D : Nat} (c : Cell) (hc : c.depth ≤ D) (g : Nat → Tri)
    (hg : ∀ x, lo D c ≤ x → x < hi D c → g x = Tri.ofFlag c.full) : Seg D [c] (lo D c) (hi D c) g :=
  (Seg.single D c.depth c.hash c.full hc).mono_g (fun x h1 h2 => (hg x h1 h2).symm)

def Merged (op : Tri → Tri → Tri) (D lb : Nat) (A B : List Cell) (res : Option (List Cell)) : Prop :=
  ∃ out, res = some out ∧ Seg D out lb (12 * 4 ^ D) (fun x => op (stOf D A x) (stOf D B x))

def MergeGoal (op : Tri → Tri → Tri) (D : Nat) (A B : List Cell) (res : Option (List Cell)) : Prop :=
  ∀ lb, Ops D lb A → Ops D lb B → Merged op D lb A B res

variable {op : Tri → Tri → Tri}

/-- the operands may be exchanged: the steps below are stated for the left operand, and used for the right one through
    this -/
theorem Merged.symm (hop : TriOp op) {D lb : Nat} {A B : List Cell} {res : Option (List Cell)}
    (h : Merged op D lb A B res) : Merged op D lb B A res := by
  obtain ⟨out, e, s⟩ := h
  exact ⟨out, e, s.mono_g (fun x _ _ => hop.comm _ _)⟩

theorem MergeGoal.symm (hop : TriOp op) {D : Nat} {A B : List Cell} {res : Option (List Cell)}
    (h : MergeGoal op D A B res) : MergeGoal op D B A res :=
  fun lb hB hA => (h lb hA hB).symm hop

theorem merge_over (hop : TriOp op) {D : Nat} (l : Cell) (lit B B' piece : List Cell) (res' : Option (List Cell))
    (lb : Nat) (hA : Ops D lb (l :: lit))
    (hBlo : ∀ c ∈ B, lo D l ≤ lo D c)
    (hB' : ∀ x, hi D l ≤ x → stOf D B x = stOf D B' x)
    (hp : Seg D piece (lo D l) (hi D l) (fun x => op (Tri.ofFlag l.full) (stOf D B x)))
    (ih : Merged op D (hi D l) lit B' res') : Merged op D lb (l :: lit) B (res'.map (piece ++ ·)) := by
  obtain ⟨out, rfl, hs⟩ := ih
  refine ⟨piece ++ out, rfl, ?_⟩
  have hlh := lo_lt_hi D l
  have hU : hi D l ≤ 12 * 4 ^ D := hi_le_of_inR hA.wf.1 (hA.inr l (by simp))
  have hlb : lb ≤ lo D l := hA.lb l (by simp)
  have p0 : Seg D [] lb (lo D l) (fun x => op (stOf D (l :: lit) x) (stOf D B x)) := by
    apply Seg.empty_abs
    intro x _ hx
    rw [(st_facts hA.wf x).1 hx, stOf_abs_of_lb hBlo hx]
    exact hop.right_abs _
  have p1 : Seg D piece (lo D l) (hi D l) (fun x => op (stOf D (l :: lit) x) (stOf D B x)) :=
    hp.mono_g (fun x h1 h2 => by rw [stOf_in_cons h1 h2])
  have p2 : Seg D out (hi D l) (12 * 4 ^ D) (fun x => op (stOf D (l :: lit) x) (stOf D B x)) :=
    hs.mono_g (fun x h1 _ => by rw [stOf_tail_of_ge h1, hB' x h1])
  have r1 := Seg.append hlb (Nat.le_of_lt hlh) p0 p1
  have r2 := Seg.append (Nat.le_trans hlb (Nat.le_of_lt hlh)) hU r1 p2
  simpa using r2

theorem merge_emit (hop : TriOp op) {D : Nat} (l : Cell) (lit B : List Cell) (res' : Option (List Cell)) (lb : Nat)
    (hA : Ops D lb (l :: lit)) (hB : ∀ c ∈ B, hi D l ≤ lo D c)
    (ih : Merged op D (hi D l) lit B res') : Merged op D lb (l :: lit) B (res'.map (l :: ·)) := by
  have hlh := lo_lt_hi D l
  refine merge_over hop l lit B B [l] res' lb hA (fun c hc => by have := hB c hc; omega) (fun _ _ => rfl) ?_ ih
  apply seg_cell l hA.wf.1
  intro x _ h2
  rw [stOf_abs_of_lb hB h2]
  exact hop.right_abs _

def Consumed (D : Nat) (low : Cell) (it rest : List Cell) : Prop :=
  ∃ sk, it = sk ++ rest ∧ (∀ c ∈ sk, hi D c ≤ hi D low) ∧ ∀ c ∈ rest, hi D low ≤ lo D c

theorem Consumed.length_le {D : Nat} {low : Cell} {it rest : List Cell} (h : Consumed D low it rest) :
    rest.length ≤ it.length := by
  obtain ⟨sk, rfl, _⟩ := h
  simp

theorem Consumed.ops {D lb : Nat} {low c0 : Cell} {it rest : List Cell} (h : Consumed D low it rest)
    (hB : Ops D lb (c0 :: it)) : Ops D (hi D low) rest := by
  obtain ⟨sk, rfl, _, k⟩ := h
  exact ⟨(WF_append_iff.1 hB.wf.tail).2.1, fun c hc => hB.inr c (by simp [hc]), k⟩

theorem Consumed.stOf_eq {D : Nat} {low c0 : Cell} {it rest : List Cell} (h : Consumed D low it rest)
    (hc0 : hi D c0 ≤ hi D low) {x : Nat} (hx : hi D low ≤ x) : stOf D (c0 :: it) x = stOf D rest x := by
  obtain ⟨sk, rfl, k, _⟩ := h
  rw [← List.cons_append]
  refine stOf_append_of_ge (fun c hc => ?_)
  rcases List.mem_cons.1 hc with rfl | hc
  · exact Nat.le_trans hc0 hx
  · exact Nat.le_trans (k c hc) hx

theorem Consumed.append {D : Nat} {low : Cell} {pre it rest : List Cell} (h : Consumed D low it rest)
    (hp : ∀ c ∈ pre, hi D c ≤ hi D low) : Consumed D low (pre ++ it) rest := by
  obtain ⟨sk, rfl, k1, k2⟩ := h
  exact ⟨pre ++ sk, (List.append_assoc _ _ _).symm, fun c hc => (List.mem_append.1 hc).elim (hp c) (k1 c), k2⟩

/-- where `or` and `xor` differ: what is done with a cell `low` that contains the current cell `c0` of the other operand
    (`coarse low c0 it k`: some cells are pushed in front of what the rest of the loop `k` gives on the new current cell
    and iterator of the other operand, as the branches of the code are written; `none` = panic), and what is pushed for a
    cell present on both sides -/
structure MergeOps where
  coarse : Cell → Cell → List Cell → (Option Cell → List Cell → Option (List Cell)) → Option (List Cell)
  same : Cell → Cell → List Cell

def mergeStep (M : MergeOps) (k : Option Cell → List Cell → Option Cell → List Cell → Option (List Cell))
    (l : Cell) (lit : List Cell) (r : Cell) (rit : List Cell) : Rel → Option (List Cell)
  | .before => (k lit.head? lit.tail (some r) rit).map (l :: ·)
  | .after => (k (some l) lit rit.head? rit.tail).map (r :: ·)
  | .over => M.coarse l r rit fun right' rit' => k lit.head? lit.tail right' rit'
  | .under => M.coarse r l lit fun left' lit' => k left' lit' rit.head? rit.tail
  | .same => (k lit.head? lit.tail rit.head? rit.tail).map (M.same l r ++ ·)

def mergeLoop (M : MergeOps) : (fuel : Nat) → Option Cell → List Cell → Option Cell → List Cell → Option (List Cell)
  | 0, _, _, _, _ => none
  | _ + 1, none, _, none, _ => some []
  | fuel + 1, some l, lit, none, _ => (mergeLoop M fuel lit.head? lit.tail none []).map (l :: ·)
  | fuel + 1, none, _, some r, rit => (mergeLoop M fuel none [] rit.head? rit.tail).map (r :: ·)
  | fuel + 1, some l, lit, some r, rit => mergeStep M (mergeLoop M fuel) l lit r rit (cellRel l r)

theorem ite3_congr {α : Type} {c2 c3 : Prop} [Decidable c2] [Decidable c3] {A B X X' : α} (h : ¬ c2 → ¬ c3 → X = X') :
    (if c2 then A else if c3 then B else X) = (if c2 then A else if c3 then B else X') := by
  by_cases h2 : c2
  · rw [if_pos h2, if_pos h2]
  · by_cases h3 : c3
    · rw [if_neg h2, if_neg h2, if_pos h3, if_pos h3]
    · rw [if_neg h2, if_neg h2, if_neg h3, if_neg h3, h h2 h3]

structure MergeOps.Sound (op : Tri → Tri → Tri) (D : Nat) (M : MergeOps) : Prop where
  coarse : ∀ (low c0 : Cell) (it : List Cell), low.depth ≤ D → Inside D low c0 → WF D (c0 :: it) →
    (∀ c ∈ c0 :: it, InR c) → ∃ pushed cell it', (∀ k, M.coarse low c0 it k = (k cell it').map (pushed ++ ·)) ∧
      Consumed D low it (rem cell it') ∧
      Seg D pushed (lo D low) (hi D low) (fun x => op (Tri.ofFlag low.full) (stOf D (c0 :: it) x))
  same : ∀ (l r : Cell), l.depth ≤ D →
    Seg D (M.same l r) (lo D l) (hi D l) (fun _ => op (Tri.ofFlag l.full) (Tri.ofFlag r.full))

variable {D : Nat} {M : MergeOps}

theorem merge_coarse (hop : TriOp op) (hM : M.Sound op D) (l r : Cell) (lit rit : List Cell)
    (F : Option Cell → List Cell → Option (List Cell)) (lb : Nat)
    (hA : Ops D lb (l :: lit)) (hB : Ops D lb (r :: rit)) (hin : Inside D l r)
    (ih : ∀ cell it', (rem cell it').length ≤ rit.length → MergeGoal op D lit (rem cell it') (F cell it')) :
    Merged op D lb (l :: lit) (r :: rit) (M.coarse l r rit F) := by
  obtain ⟨pushed, cell, it', q0, hc, q3⟩ := hM.coarse l r rit hA.wf.1 hin hB.wf hB.inr
  rw [q0]
  exact merge_over hop l lit (r :: rit) (rem cell it') pushed _ lb hA (hB.wf.all_ge hin.2.1)
    (fun x hx => hc.stOf_eq hin.2.2 hx) q3 (ih cell it' hc.length_le (hi D l) hA.tail (hc.ops hB))

theorem merge_same (hop : TriOp op) (hM : M.Sound op D) (l r : Cell) (lit rit : List Cell) (res' : Option (List Cell))
    (lb : Nat) (hA : Ops D lb (l :: lit)) (hB : Ops D lb (r :: rit))
    (e4 : lo D l = lo D r) (e3 : hi D l = hi D r)
    (ih : MergeGoal op D lit rit res') : Merged op D lb (l :: lit) (r :: rit) (res'.map (M.same l r ++ ·)) := by
  have hBt := hB.tail
  rw [← e3] at hBt
  refine merge_over hop l lit (r :: rit) rit _ res' lb hA (hB.wf.all_ge (Nat.le_of_eq e4))
    (fun x hx => stOf_tail_of_ge (by omega)) ((hM.same l r hA.wf.1).mono_g ?_) (ih (hi D l) hA.tail hBt)
  intro x h1 h2
  rw [stOf_in_cons (by omega) (by omega)]

/-- the remaining lists are named (`LA`, `LB`) because the recursive calls give them as `rem lit.head? lit.tail` -/
theorem mergeLoop_spec (hop : TriOp op) (hM : M.Sound op D) : ∀ (fuel : Nat) (left : Option Cell) (lit : List Cell)
    (right : Option Cell) (rit LA LB : List Cell), rem left lit = LA → rem right rit = LB →
    LA.length + LB.length < fuel → MergeGoal op D LA LB (mergeLoop M fuel left lit right rit) := by
  intro fuel
  induction fuel with
  | zero => intro left lit right rit LA LB _ _ hf; omega
  | succ fuel IH =>
    intro left lit right rit LA LB e1 e2 hf lb hA hB
    subst e1; subst e2
    rcases left with _ | l <;> rcases right with _ | r
    · exact ⟨[], by simp only [mergeLoop], Seg.empty_abs D _ _ _ (fun x _ _ => hop.right_abs _)⟩
    · simp only [rem_some, rem_none, List.length_cons, List.length_nil] at hf hB ⊢
      rw [mergeLoop]
      exact (merge_emit hop r rit [] _ lb hB (by simp)
        ((IH none [] rit.head? rit.tail [] rit rfl (rem_head_tail _) (by simp only [List.length_nil]; omega)
          (hi D r) (Ops.nil _ _) hB.tail).symm hop)).symm hop
    · simp only [rem_some, rem_none, List.length_cons, List.length_nil] at hf hA ⊢
      rw [mergeLoop]
      exact merge_emit hop l lit [] _ lb hA (by simp)
        (IH lit.head? lit.tail none [] lit [] (rem_head_tail _) rfl (by simp only [List.length_nil]; omega)
          (hi D l) hA.tail (Ops.nil _ _))
    · simp only [rem_some, List.length_cons] at hf hA hB ⊢
      have hrel := cellRel_spec hA.wf.1 hB.wf.1
      rw [mergeLoop]
      cases hc : cellRel l r <;> simp only [hc, mergeStep, Rel.Spec] at hrel ⊢
      · exact merge_emit hop l lit (r :: rit) _ lb hA (hB.wf.all_ge hrel)
          (IH lit.head? lit.tail (some r) rit lit (r :: rit) (rem_head_tail _) rfl
            (by simp only [List.length_cons]; omega) (hi D l) hA.tail (hB.newlb (hB.wf.all_ge hrel)))
      · exact (merge_emit hop r rit (l :: lit) _ lb hB (hA.wf.all_ge hrel)
          ((IH (some l) lit rit.head? rit.tail (l :: lit) rit rfl (rem_head_tail _)
            (by simp only [List.length_cons]; omega) (hi D r) (hA.newlb (hA.wf.all_ge hrel)) hB.tail).symm hop)).symm hop
      · exact merge_coarse hop hM l r lit rit _ lb hA hB hrel.2.2
          (fun cell it' hlen => IH lit.head? lit.tail cell it' lit (rem cell it') (rem_head_tail _) rfl (by omega))
      · exact (merge_coarse hop hM r l rit lit (fun c it => mergeLoop M fuel c it rit.head? rit.tail) lb hB hA hrel.2.2
          (fun cell it' hlen =>
            (IH cell it' rit.head? rit.tail (rem cell it') rit rfl (rem_head_tail _) (by omega)).symm hop)).symm hop
      · exact merge_same hop hM l r lit rit _ lb hA hB hrel.2.2.1 hrel.2.2.2
          (IH lit.head? lit.tail rit.head? rit.tail lit rit (rem_head_tail _) (rem_head_tail _) (by omega))

def Valid (D : Nat) (l : List Cell) : Prop := WF D l ∧ ∀ c ∈ l, InR c

theorem Valid.absent {D : Nat} {l : List Cell} (h : Valid D l) {x : Nat} (hx : 12 * 4 ^ D ≤ x) : stOf D l x = .abs :=
  stOf_absent_of_ge (fun c hc => Nat.le_trans (hi_le_of_inR (h.1.depth_le c hc) (h.2 c hc)) hx)

def Computes (op : Tri → Tri → Tri) (F : List Cell → List Cell → Option (List Cell)) : Prop :=
  ∀ D, D ≤ 29 → ∀ a b, Valid D a → Valid D b →
    ∃ l, F a b = some l ∧ Valid D l ∧ ∀ x, stOf D l x = op (stOf D a x) (stOf D b x)

theorem Computes.of_eq {op : Tri → Tri → Tri} {F : List Cell → List Cell → Option (List Cell)} (hF : Computes op F)
    {D : Nat} (hD : D ≤ 29) {a b l : List Cell} (ha : Valid D a) (hb : Valid D b) (hl : F a b = some l) :
    Valid D l ∧ ∀ x, stOf D l x = op (stOf D a x) (stOf D b x) := by
  obtain ⟨l', e, h⟩ := hF D hD a b ha hb
  rw [hl] at e
  cases e
  exact h

/-- the loop started on whole operands, with the fuel the models of `or` and `xor` give it -/
theorem mergeLoop_computes (hop : TriOp op) (hM : ∀ D, D ≤ 29 → M.Sound op D) :
    Computes op (fun a b => mergeLoop M (a.length + b.length + 2) a.head? a.tail b.head? b.tail) := by
  intro D hD a b ha hb
  have h := mergeLoop_spec hop (hM D hD) (a.length + b.length + 2) a.head? a.tail b.head? b.tail a b
    (rem_head_tail _) (rem_head_tail _) (by omega)
  obtain ⟨l, hl, s⟩ := h 0 ⟨ha.1, ha.2, fun _ _ => Nat.zero_le _⟩ ⟨hb.1, hb.2, fun _ _ => Nat.zero_le _⟩
  have hv : Valid D l := ⟨s.wf, fun c hc => inR_of_hi D c (s.wf.depth_le c hc) (s.inside c hc).2⟩
  refine ⟨l, hl, hv, fun x => ?_⟩
  by_cases hx : x < 12 * 4 ^ D
  · exact s.sem x (Nat.zero_le _) hx
  · rw [hv.absent (by omega), ha.absent (by omega), hb.absent (by omega)]
    exact (hop.right_abs _).symm

end Hpx.Bmoc
