/-
`or`: three-valued semantics and well-formedness (C07, C08, C09).  What `or` does with a cell that contains cells of the
other operand (`orCoarse`): the two `consume_while_*` helpers and `not_in_cell_4_or` (a partial low-resolution cell filled
with partial cells around the full higher-resolution cells of the other operand: a loop entered on a full sub-cell, inside
the frame `Seg.inCell` that `not_in_cell_4_xor` shares); then `or` as an instance of the merge loop of `BmocMerge.lean`.
-/
import HpxVerif.Lemmas.BmocMerge

namespace Hpx.Bmoc

theorem tri_max_comm (a b : Tri) : Tri.max a b = Tri.max b a := by cases a <;> cases b <;> rfl
@[simp] theorem tri_max_abs_left (t : Tri) : Tri.max .abs t = t := by cases t <;> rfl
@[simp] theorem tri_max_abs_right (t : Tri) : Tri.max t .abs = t := by cases t <;> rfl
@[simp] theorem tri_max_full_left (t : Tri) : Tri.max .full t = .full := by cases t <;> rfl
@[simp] theorem tri_max_full_right (t : Tri) : Tri.max t .full = .full := by cases t <;> rfl
theorem tri_max_flags (a b : Bool) : Tri.max (Tri.ofFlag a) (Tri.ofFlag b) = Tri.ofFlag (b || a) := by
  cases a <;> cases b <;> rfl
theorem tri_max_part_of_ne_full {t : Tri} (h : t ≠ .full) : Tri.max .part t = .part := by
  cases t <;> first | rfl | exact absurd rfl h
theorem tri_max_eq_full {a b : Tri} : Tri.max a b = .full ↔ a = .full ∨ b = .full := by
  cases a <;> cases b <;> simp [Tri.max]

theorem triOp_max : TriOp Tri.max := ⟨tri_max_abs_right, tri_max_comm⟩

theorem with_full_self {c : Cell} {f : Bool} (h : c.full = f) : ({ c with full := f } : Cell) = c := by
  subst h; rfl

theorem stOf_ne_full {D : Nat} {l : List Cell} (h : ∀ c ∈ l, c.full = false) (x : Nat) : stOf D l x ≠ .full := by
  rcases stOf_of_all_flag h x with e | e <;> rw [e] <;> decide

theorem cwo_split {D : Nat} (low : Cell) (hl : low.depth ≤ D) : ∀ (it : List Cell), WF D it →
    (∀ c ∈ it, lo D low < lo D c) →
    it = it.takeWhile (isIn low) ++ rem (consumeWhileOverlapped low it).1 (consumeWhileOverlapped low it).2 ∧
    (∀ c ∈ it.takeWhile (isIn low), Inside D low c) ∧
    ∀ c ∈ rem (consumeWhileOverlapped low it).1 (consumeWhileOverlapped low it).2, hi D low ≤ lo D c := by
  intro it
  induction it with
  | nil => intro _ _; simp [consumeWhileOverlapped]
  | cons c rest ih =>
    intro hw hlt
    obtain ⟨s1, s2⟩ := isIn_spec hl hw.1 (hlt c (by simp))
    by_cases hin : isIn low c = true
    · obtain ⟨e, k1, k2⟩ := ih hw.tail (fun c' hc' => hlt c' (by simp [hc']))
      simp only [consumeWhileOverlapped, hin, if_true, List.takeWhile_cons_of_pos, List.cons_append]
      exact ⟨congrArg (c :: ·) e, List.forall_mem_cons.2 ⟨s1 hin, k1⟩, k2⟩
    · have hin' : isIn low c = false := by simpa using hin
      simp only [consumeWhileOverlapped, hin', Bool.false_eq_true, if_false, rem_some, List.takeWhile_cons_of_neg hin]
      exact ⟨rfl, by simp, hw.all_ge (s2 hin')⟩

theorem cwo_spec {D : Nat} (low : Cell) (hl : low.depth ≤ D) (it : List Cell) (hw : WF D it)
    (hlt : ∀ c ∈ it, lo D low < lo D c) :
    Consumed D low it (rem (consumeWhileOverlapped low it).1 (consumeWhileOverlapped low it).2) :=
  have h := cwo_split low hl it hw hlt
  ⟨_, h.1, fun c hc => (h.2.1 c hc).2.2, h.2.2⟩

theorem cwoap_spec {D : Nat} (low : Cell) (hl : low.depth ≤ D) : ∀ (it : List Cell), WF D it →
    (∀ c ∈ it, lo D low < lo D c) →
    ∃ sk cell it' flag, consumeWhileOverlappedAndPartial low it = (cell, it', flag) ∧ it = sk ++ rem cell it' ∧
      (∀ c ∈ sk, hi D c ≤ hi D low ∧ c.full = false) ∧
      ((flag = true ∧ ∃ c, cell = some c ∧ c.full = true ∧ Inside D low c) ∨
        (flag = false ∧ ∀ c ∈ rem cell it', hi D low ≤ lo D c)) := by
  intro it
  induction it with
  | nil => intro _ _; exact ⟨[], none, [], false, rfl, rfl, by simp, Or.inr ⟨rfl, by simp⟩⟩
  | cons c rest ih =>
    intro hw hlt
    obtain ⟨s1, s2⟩ := isIn_spec hl hw.1 (hlt c (by simp))
    simp only [consumeWhileOverlappedAndPartial]
    by_cases hin : isIn low c = true
    · simp only [hin, if_true]
      by_cases hf : c.full = true
      · simp only [hf, if_true]
        exact ⟨[], some c, rest, true, rfl, rfl, by simp, Or.inl ⟨rfl, c, rfl, hf, s1 hin⟩⟩
      · have hf' : c.full = false := by simpa using hf
        simp only [hf', Bool.false_eq_true, if_false]
        obtain ⟨sk, cell, it', flag, hcw, e, k1, hk⟩ := ih hw.tail (fun c' hc' => hlt c' (by simp [hc']))
        exact ⟨c :: sk, cell, it', flag, hcw, by rw [List.cons_append, ← e],
          List.forall_mem_cons.2 ⟨⟨(s1 hin).2.2, hf'⟩, k1⟩, hk⟩
    · have hin' : isIn low c = false := by simpa using hin
      simp only [hin', Bool.false_eq_true, if_false]
      exact ⟨[], some c, rest, false, rfl, rfl, by simp, Or.inr ⟨rfl, hw.all_ge (s2 hin')⟩⟩

theorem goDown_self (d h : Nat) (f : Bool) : Bmoc.goDown d h d h f = [] := by
  unfold Bmoc.goDown
  rw [Nat.sub_self]
  simp only [Bmoc.goDownAux]
  exact pushRange_empty d h h f (Nat.le_refl _)

/-- what `not_in_cell_4_or` and `not_in_cell_4_xor` push around their loops (`mid`); `go_up` ends at the end of `low`, so the
    closing `go_down` pushes nothing -/
theorem Seg.inCell (D : Nat) (f : Bool) {low c : Cell} {d2 h2 : Nat} {mid : List Cell} {g : Nat → Tri}
    (hin : Inside D low c) (hcd : c.depth ≤ D) (hd2 : d2 ≤ D) (hin2 : Inside D low ⟨d2, h2, true⟩)
    (hmid : Seg D mid (lo D c) (P D d2 (h2 + 1)) g) (hle : lo D c ≤ P D d2 (h2 + 1))
    (hbefore : ∀ x, lo D low ≤ x → x < lo D c → g x = Tri.ofFlag f)
    (hafter : ∀ x, P D d2 (h2 + 1) ≤ x → x < hi D low → g x = Tri.ofFlag f) :
    Seg D (Bmoc.goDown low.depth low.hash c.depth c.hash f ++ mid ++ (Bmoc.goUp (d2 - low.depth) d2 h2 f).1 ++
        Bmoc.goDown (Bmoc.goUp (d2 - low.depth) d2 h2 f).2.1 (Bmoc.goUp (d2 - low.depth) d2 h2 f).2.2 low.depth
          (low.hash + 1) f)
      (lo D low) (hi D low) g := by
  obtain ⟨u1, u2, u3⟩ := Seg.goUp D f (d2 - low.depth) d2 h2 (Nat.sub_le _ _) hd2
  have hld : low.depth ≤ d2 := hin2.1
  rw [show d2 - (d2 - low.depth) = low.depth by omega] at u1 u3
  rw [Inside.hash_eq (c := ⟨d2, h2, true⟩) hd2 hin2] at u2 u3
  rw [u1, u2, goDown_self, List.append_nil]
  have p1 := (Seg.goDown D low.depth low.hash c.depth c.hash f hin.1 hcd
    (Nat.le_of_eq (Inside.hash_eq hcd hin).symm)).mono_g (g' := g) (fun x h1 h2 => (hbefore x h1 h2).symm)
  have p4 := u3.mono_g (g' := g) (fun x h1 h2 => (hafter x h1 h2).symm)
  exact Seg.append (Nat.le_trans hin.2.1 hle) hin2.2.2 (Seg.append hin.2.1 hle p1 hmid) p4

theorem tri_max_part_append {D : Nat} {pre suf : List Cell} (hw : WF D (pre ++ suf))
    (hp : ∀ c ∈ pre, c.full = false) (x : Nat) :
    Tri.max .part (stOf D (pre ++ suf) x) = Tri.max .part (stOf D suf x) := by
  rw [stOf_append]
  split
  · rfl
  · rename_i hne
    obtain ⟨c, hm, h1, h2⟩ := stOf_ne_abs_covered hne
    have hsuf : stOf D suf x = .abs := by
      apply stOf_absent_of_lt
      intro c' hc'
      have := (WF_append_iff.1 hw).2.2 c hm c' hc'
      omega
    rw [hsuf, tri_max_part_of_ne_full (stOf_ne_full hp x)]; rfl

/-- the loop is entered with the cursor on `c`, the full sub-cell of `low` pushed last (hence `c :: tl`) -/
theorem or4Loop_spec (D : Nat) (hD : D ≤ 29) (low : Cell) (hlow : low.depth ≤ D) :
    ∀ (fuel : Nat) (it : List Cell) (c : Cell), it.length < fuel → c.full = true → Inside D low c → WF D (c :: it) →
      (∀ c' ∈ c :: it, InR c') →
      ∃ tl d2 h2 cell it2, notInCell4OrLoop low fuel it c.depth c.hash = some (tl, d2, h2, cell, it2) ∧
        d2 ≤ D ∧ Inside D low ⟨d2, h2, true⟩ ∧ hi D c ≤ P D d2 (h2 + 1) ∧ Consumed D low it (rem cell it2) ∧
        Seg D (c :: tl) (lo D c) (P D d2 (h2 + 1)) (fun x => Tri.max .part (stOf D (c :: it) x)) ∧
        (∀ x, P D d2 (h2 + 1) ≤ x → x < hi D low → Tri.max .part (stOf D (c :: it) x) = .part) := by
  intro fuel
  induction fuel with
  | zero => intro it c hf; omega
  | succ fuel ih =>
    intro it c hf hcf hcin hw hr
    have hcd : c.depth ≤ D := hw.1
    have hlh := lo_lt_hi D c
    have hlt : ∀ c' ∈ it, lo D low < lo D c' := fun c' hc' => by
      have := hw.lo_lt c' hc'; have := hcin.2.1; omega
    obtain ⟨sk, cell, it', flag, hcw, e, k1, hk⟩ := cwoap_spec low hlow it hw.tail hlt
    unfold notInCell4OrLoop
    rw [hcw]
    simp only
    have hw' : WF D (sk ++ rem cell it') := e ▸ hw.tail
    -- from the end of `c` on, the skipped partial cells `sk` are invisible
    have hinv : ∀ x, hi D c ≤ x →
        Tri.max .part (stOf D (c :: it) x) = Tri.max .part (stOf D (rem cell it') x) := fun x hx => by
      rw [stOf_tail_of_ge hx, e, tri_max_part_append hw' (fun c' hc' => (k1 c' hc').2)]
    have p0 : Seg D [c] (lo D c) (hi D c) (fun x => Tri.max .part (stOf D (c :: it) x)) :=
      seg_cell c hcd _ (fun x h1 h2 => by rw [stOf_in_cons h1 h2, hcf]; rfl)
    rcases hk with ⟨rfl, c2, rfl, hc2f, hc2in⟩ | ⟨rfl, k2⟩
    · simp only [if_true]
      rw [rem_some] at e hw' hinv
      have hc2mem : c2 ∈ it := by rw [e]; simp
      have w2 := (WF_append_iff.1 hw').2.1
      have hlen : it'.length < fuel := by
        have := congrArg List.length e
        simp only [List.length_append, List.length_cons] at this
        omega
      have hr2 : ∀ c' ∈ c2 :: it', InR c' := fun c' hc' =>
        hr c' (List.mem_cons_of_mem _ (by rw [e]; exact List.mem_append_right _ hc'))
      obtain ⟨tl, d2, h2, cell2, it2, r0, r1, r2, r3, r4, r6, r7⟩ := ih it' c2 hlen hc2f hc2in w2 hr2
      rw [r0]
      simp only
      rw [with_full_self hc2f]
      have hbc : hi D c ≤ lo D c2 := hw.2.1 c2 hc2mem
      have hlh2 := lo_lt_hi D c2
      refine ⟨_, d2, h2, cell2, it2, rfl, r1, r2, by omega, ?_, ?_, fun x hx1 hx2 => ?_⟩
      · rw [e]
        exact (r4.append (pre := [c2]) (by simpa using hc2in.2.2)).append (fun c' hc' => (k1 c' hc').1)
      · have p1 := (Seg.upDown D hD false c.depth c.hash c2 hcd (hr c (by simp)) w2.1 (hr2 c2 (by simp)) hbc).mono_g
          (g' := fun x => Tri.max .part (stOf D (c :: it) x))
          (fun x h1 h2 => by rw [hinv x h1, (st_facts w2 x).1 h2]; rfl)
        have p3 := r6.mono_g (g' := fun x => Tri.max .part (stOf D (c :: it) x))
          (fun x h1 _ => (hinv x (by omega)).symm)
        have q := Seg.append (Nat.le_of_lt hlh) (by omega) p0 (Seg.append hbc (by omega) p1 p3)
        simpa [List.append_assoc] using q
      · rw [hinv x (by omega)]
        exact r7 x hx1 hx2
    · simp only [Bool.false_eq_true, if_false]
      refine ⟨[], c.depth, c.hash, cell, it', rfl, hcd, hcin, Nat.le_refl _,
        ⟨sk, e, fun c' hc' => (k1 c' hc').1, k2⟩, p0, fun x hx1 hx2 => ?_⟩
      rw [hinv x hx1, stOf_absent_of_lt (fun c' hc' => Nat.lt_of_lt_of_le hx2 (k2 c' hc'))]; rfl

theorem or4_spec (D : Nat) (hD : D ≤ 29) (low c : Cell) (it : List Cell) (hlow : low.depth ≤ D)
    (hin : Inside D low c) (hcf : c.full = true) (hw : WF D (c :: it)) (hr : ∀ c' ∈ c :: it, InR c') :
    ∃ pushed cell it', notInCell4Or low c it = some (pushed, cell, it') ∧ Consumed D low it (rem cell it') ∧
      Seg D pushed (lo D low) (hi D low) (fun x => Tri.max .part (stOf D (c :: it) x)) := by
  obtain ⟨tl, d2, h2, cell, it2, r0, r1, r2, r3, r4, r6, r7⟩ :=
    or4Loop_spec D hD low hlow (it.length + 2) it c (by omega) hcf hin hw hr
  unfold notInCell4Or
  simp only [r0]
  rw [with_full_self hcf]
  refine ⟨_, cell, it2, rfl, r4, ?_⟩
  have := Seg.inCell D false hin hw.1 r1 r2 r6 (Nat.le_trans (Nat.le_of_lt (lo_lt_hi D c)) r3)
    (fun x _ hx => by rw [(st_facts hw x).1 hx]; rfl) r7
  simpa [List.append_assoc] using this

/-- what the two symmetric branches `l.depth < r.depth, l.hash == hr_at_dl` and `l.depth > r.depth, hl_at_dr == r.hash` of
    `or` do with the low-resolution cell `low` and the other operand `c0 :: it`: cells are pushed, and the loop goes on
    (`k`) with a new current cell and iterator of the other operand; `none` = panic -/
def orCoarse (low c0 : Cell) (it : List Cell) (k : Option Cell → List Cell → Option (List Cell)) :
    Option (List Cell) :=
  if low.full then
    let (cell, it') := consumeWhileOverlapped low it
    (k cell it').map (low :: ·)
  else
    let (cell, it', ov) :=
      if c0.full then (some c0, it, true) else consumeWhileOverlappedAndPartial low it
    if ov then
      match cell with
      | none => none
      | some c =>
        match notInCell4Or low c it' with
        | none => none
        | some (pushed, cell', it'') => (k cell' it'').map (pushed ++ ·)
    else (k cell it').map ({ low with full := false } :: ·)

theorem orCoarse_spec (D : Nat) (hD : D ≤ 29) (low c0 : Cell) (it : List Cell) (hlow : low.depth ≤ D)
    (hin : Inside D low c0) (hw : WF D (c0 :: it)) (hr : ∀ c' ∈ c0 :: it, InR c') :
    ∃ pushed cell it', (∀ k, orCoarse low c0 it k = (k cell it').map (pushed ++ ·)) ∧ Consumed D low it (rem cell it') ∧
      Seg D pushed (lo D low) (hi D low) (fun x => Tri.max (Tri.ofFlag low.full) (stOf D (c0 :: it) x)) := by
  have hlt : ∀ c ∈ it, lo D low < lo D c := by
    intro c hc
    have := hw.lo_lt c hc
    have := hin.2.1
    omega
  unfold orCoarse
  by_cases hlf : low.full = true
  · simp only [hlf, if_true]
    refine ⟨[low], _, _, fun _ => rfl, cwo_spec low hlow it hw.tail hlt, ?_⟩
    refine (Seg.single D low.depth low.hash low.full hlow).mono_g ?_
    intro x _ _
    rw [hlf]; simp [Tri.ofFlag]
  · have hlf' : low.full = false := by simpa using hlf
    simp only [hlf', Bool.false_eq_true, if_false, with_full_self hlf']
    have hpart : Tri.ofFlag false = .part := rfl
    rw [hpart]
    by_cases hcf : c0.full = true
    · simp only [hcf, if_true]
      obtain ⟨pushed, cell, it', q0, q⟩ := or4_spec D hD low c0 it hlow hin hcf hw hr
      exact ⟨pushed, cell, it', fun _ => by simp only [q0], q⟩
    · have hcf' : c0.full = false := by simpa using hcf
      simp only [hcf', Bool.false_eq_true, if_false]
      obtain ⟨sk, cell, it1, flag, hcw, e, k1, hk⟩ := cwoap_spec low hlow it hw.tail hlt
      rw [hcw]
      simp only
      have hw' : WF D ((c0 :: sk) ++ rem cell it1) := by rw [List.cons_append, ← e]; exact hw
      -- the partial cells `c0 :: sk` are invisible
      have hinv : ∀ x, Tri.max .part (stOf D (c0 :: it) x) = Tri.max .part (stOf D (rem cell it1) x) := fun x => by
        rw [e, ← List.cons_append]
        exact tri_max_part_append hw' (List.forall_mem_cons.2 ⟨hcf', fun c hc => (k1 c hc).2⟩) x
      rcases hk with ⟨rfl, c, rfl, hcfull, hcin⟩ | ⟨rfl, k2⟩
      · simp only [if_true]
        rw [rem_some] at e hw' hinv
        obtain ⟨pushed, cell', it', q0, q2, q3⟩ := or4_spec D hD low c it1 hlow hcin hcfull (WF_append_iff.1 hw').2.1
          (fun c' hc' => hr c' (List.mem_cons_of_mem _ (by rw [e]; exact List.mem_append_right _ hc')))
        refine ⟨pushed, cell', it', fun _ => by simp only [q0], ?_, q3.mono_g (fun x _ _ => (hinv x).symm)⟩
        rw [e]
        exact (q2.append (pre := [c]) (by simpa using hcin.2.2)).append (fun c' hc' => (k1 c' hc').1)
      · simp only [Bool.false_eq_true, if_false]
        refine ⟨[low], _, _, fun _ => rfl, ⟨sk, e, fun c hc => (k1 c hc).1, k2⟩, seg_cell low hlow _ (fun x _ hx2 => ?_)⟩
        rw [hinv x, stOf_absent_of_lt (fun c hc => Nat.lt_of_lt_of_le hx2 (k2 c hc)), hlf']; rfl

def orOps : MergeOps where
  coarse := orCoarse
  same l r := [{ depth := l.depth, hash := l.hash, full := r.full || l.full }]

theorem orLoop_eq : ∀ (fuel : Nat) (left : Option Cell) (lit : List Cell) (right : Option Cell) (rit : List Cell),
    orLoop fuel left lit right rit = mergeLoop orOps fuel left lit right rit := by
  intro fuel
  induction fuel with
  | zero => intro left lit right rit; rw [orLoop, mergeLoop]
  | succ fuel ih =>
    intro left lit right rit
    rcases left with _ | l <;> rcases right with _ | r
    · rw [orLoop, mergeLoop]
    · rw [orLoop, mergeLoop, ih]
    · rw [orLoop, mergeLoop, ih]
    rw [orLoop, mergeLoop, cellRel]
    simp only [apply_ite (mergeStep orOps (mergeLoop orOps fuel) l lit r rit)]
    simp only [ih, mergeStep]
    rfl

theorem orOps_sound {D : Nat} (hD : D ≤ 29) : orOps.Sound Tri.max D where
  coarse low c0 it hlow hin hw hr := orCoarse_spec D hD low c0 it hlow hin hw hr
  same l r hl := seg_cell (D := D) ⟨l.depth, l.hash, r.full || l.full⟩ hl _ (fun _ _ _ => tri_max_flags _ _)

/-- `or` on cell lists, before `pack`.  Not `none`: the fuel of the model suffices and the `unwrap`s of `or` and
    `not_in_cell_4_or` never fail. -/
theorem computes_or : Computes Tri.max orCellsUnpacked := by
  have h := mergeLoop_computes triOp_max (M := orOps) (fun _ hD => orOps_sound hD)
  simp only [← orLoop_eq] at h
  exact h

end Hpx.Bmoc
