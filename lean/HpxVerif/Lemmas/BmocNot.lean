/-
`not`: three-valued semantics and well-formedness (C07, C08, C09).  A piece of output is described by `Seg` (well formed,
within an interval, denoting a given state function there); the pieces pushed by `go_up`, `go_down` and chosen by
`dd_4_go_up` are segments, and the loop concatenates them.  Where the pushed cells sit in the tree (`mem_goUp`,
`mem_goDownAux`) gives their flags here and their maximality in `BmocCanon.lean`.
-/
import HpxVerif.Lemmas.BmocLists
import Mathlib.Tactic.Ring
import Mathlib.Tactic.Linarith
import Mathlib.Tactic.IntervalCases

namespace Hpx.Bmoc

/-- position of the first depth-`D` cell of cell `(d, h)` -/
def P (D d h : Nat) : Nat := h * 4 ^ (D - d)

theorem lo_eq_P (D : Nat) (c : Cell) : lo D c = P D c.depth c.hash := rfl
theorem hi_eq_P (D : Nat) (c : Cell) : hi D c = P D c.depth (c.hash + 1) := rfl

theorem P_mono (D d : Nat) {a b : Nat} (h : a ≤ b) : P D d a ≤ P D d b := Nat.mul_le_mul_right _ h

theorem P_parent (D d m : Nat) (hd : 0 < d) (hD : d ≤ D) : P D d (4 * m) = P D (d - 1) m := by
  have := (parent_interval D d (4 * m) true hd hD).1
  rw [Nat.mul_div_cancel_left m (by decide)] at this
  exact this.symm

theorem P_child (D d m : Nat) (hD : d + 1 ≤ D) : P D (d + 1) (4 * m) = P D d m := by
  have := P_parent D (d + 1) m (by omega) hD
  simpa using this

structure Seg (D : Nat) (l : List Cell) (a b : Nat) (g : Nat → Tri) : Prop where
  wf : WF D l
  inside : ∀ c ∈ l, a ≤ lo D c ∧ hi D c ≤ b
  sem : ∀ x, a ≤ x → x < b → stOf D l x = g x

theorem Seg.nil (D a : Nat) (g : Nat → Tri) : Seg D [] a a g :=
  ⟨trivial, fun c hc => by simp at hc, fun x h1 h2 => by omega⟩

theorem Seg.within {D : Nat} {l : List Cell} {a b : Nat} {g : Nat → Tri} (s : Seg D l a b g) : Within D l a b :=
  ⟨⟨s.wf, fun c hc => (s.inside c hc).1⟩, fun c hc => (s.inside c hc).2⟩

theorem Seg.append {D : Nat} {l1 l2 : List Cell} {a b c : Nat} {g : Nat → Tri} (hab : a ≤ b) (hbc : b ≤ c)
    (s1 : Seg D l1 a b g) (s2 : Seg D l2 b c g) : Seg D (l1 ++ l2) a c g := by
  have w := s1.within.append s2.within hab hbc
  refine ⟨w.1.1, fun c' hc' => ⟨w.1.2 c' hc', w.2 c' hc'⟩, fun x hxa hxc => ?_⟩
  · rw [stOf_append]
    by_cases hxb : x < b
    · have h2 : stOf D l2 x = .abs := stOf_absent_of_lt (fun c' hc' => Nat.lt_of_lt_of_le hxb (s2.inside c' hc').1)
      rw [h2]
      split
      · rename_i h1; rw [← s1.sem x hxa hxb, h1]
      · exact s1.sem x hxa hxb
    · have h1 : stOf D l1 x = .abs :=
        stOf_absent_of_ge (fun c' hc' => Nat.le_trans (s1.inside c' hc').2 (by omega))
      rw [h1]; simp only [if_true]
      exact s2.sem x (by omega) hxc

theorem Seg.mono_g {D : Nat} {l : List Cell} {a b : Nat} {g g' : Nat → Tri} (s : Seg D l a b g)
    (h : ∀ x, a ≤ x → x < b → g x = g' x) : Seg D l a b g' :=
  ⟨s.wf, s.inside, fun x h1 h2 => by rw [s.sem x h1 h2, h x h1 h2]⟩

theorem Seg.single (D d h : Nat) (f : Bool) (hd : d ≤ D) :
    Seg D [⟨d, h, f⟩] (P D d h) (P D d (h + 1)) (fun _ => Tri.ofFlag f) := by
  refine ⟨⟨hd, fun c hc => by simp at hc, trivial⟩, ?_, ?_⟩
  · intro c hc
    simp only [List.mem_singleton] at hc
    subst hc
    exact ⟨Nat.le_refl _, Nat.le_refl _⟩
  · intro x h1 h2
    rw [stOf_cons]
    have : lo D ⟨d, h, f⟩ ≤ x ∧ x < hi D ⟨d, h, f⟩ := ⟨h1, h2⟩
    simp [this]

theorem pushRange_succ (d lo hi : Nat) (f : Bool) (h : lo ≤ hi) :
    pushRange d lo (hi + 1) f = pushRange d lo hi f ++ [⟨d, hi, f⟩] := by
  unfold pushRange
  rw [show hi + 1 - lo = (hi - lo) + 1 by omega, List.range_succ, List.map_append]
  simp only [List.map_cons, List.map_nil]
  rw [show lo + (hi - lo) = hi by omega]

theorem pushRange_empty (d lo hi : Nat) (f : Bool) (h : hi ≤ lo) : pushRange d lo hi f = [] := by
  unfold pushRange
  rw [show hi - lo = 0 by omega]; rfl

theorem Seg.pushRange (D d lo hi : Nat) (f : Bool) (hd : d ≤ D) (h : lo ≤ hi) :
    Seg D (pushRange d lo hi f) (P D d lo) (P D d hi) (fun _ => Tri.ofFlag f) := by
  induction hi with
  | zero =>
    have : lo = 0 := by omega
    subst this
    rw [pushRange_empty d 0 0 f (Nat.le_refl _)]
    exact Seg.nil D _ _
  | succ n ih =>
    by_cases hl : lo = n + 1
    · subst hl
      rw [pushRange_empty d _ _ f (Nat.le_refl _)]
      exact Seg.nil D _ _
    · have hln : lo ≤ n := by omega
      rw [pushRange_succ d lo n f hln]
      exact Seg.append (P_mono D d hln) (P_mono D d (by omega)) (ih hln) (Seg.single D d n f hd)

theorem P_shift_le (D d k th : Nat) (hD : d + k ≤ D) : P D d (th >>> (2 * k)) ≤ P D (d + k) th := by
  have := (anc_bounds D (d + k) k th (by omega) hD).1
  rwa [Nat.add_sub_cancel, ← shr2_eq_div] at this

theorem Seg.goDownAux (D : Nat) (f : Bool) : ∀ (n dcur h th : Nat), dcur + n ≤ D → h ≤ th >>> (2 * n) →
    Seg D (goDownAux n dcur h th f) (P D dcur h) (P D (dcur + n) th) (fun _ => Tri.ofFlag f) := by
  intro n
  induction n with
  | zero =>
    intro dcur h th hD hh
    simp only [Nat.mul_zero, Nat.shiftRight_zero] at hh
    simp only [Bmoc.goDownAux, Nat.add_zero]
    exact Seg.pushRange D dcur h th f (by omega) hh
  | succ n ih =>
    intro dcur h th hD hh
    simp only [Bmoc.goDownAux]
    have ht : (th >>> (2 * (n + 1))) <<< 2 = 4 * (th >>> (2 * (n + 1))) := by rw [Nat.shiftLeft_eq]; omega
    have hle : (th >>> (2 * (n + 1))) <<< 2 ≤ th >>> (2 * n) := by
      rw [ht, show 2 * (n + 1) = 2 * n + 2 by ring, Nat.shiftRight_add, Nat.shiftRight_eq_div_pow (th >>> (2 * n)) 2]
      omega
    have s1 := Seg.pushRange D dcur h (th >>> (2 * (n + 1))) f (by omega) hh
    have s2 := ih (dcur + 1) ((th >>> (2 * (n + 1))) <<< 2) th (by omega) hle
    have hP : P D (dcur + 1) ((th >>> (2 * (n + 1))) <<< 2) = P D dcur (th >>> (2 * (n + 1))) := by
      rw [ht]; exact P_child D dcur _ (by omega)
    rw [hP, show dcur + 1 + n = dcur + (n + 1) by omega] at s2
    exact Seg.append (P_mono D dcur hh) (P_shift_le D dcur (n + 1) th hD) s1 s2

theorem Seg.goDown (D d h td th : Nat) (f : Bool) (hd : d ≤ td) (hD : td ≤ D) (hh : h ≤ th >>> (2 * (td - d))) :
    Seg D (Bmoc.goDown d h td th f) (P D d h) (P D td th) (fun _ => Tri.ofFlag f) := by
  have := Seg.goDownAux D f (td - d) d h th (by omega) hh
  rwa [show d + (td - d) = td by omega] at this

theorem P_end_le_anc (D d k m : Nat) (hk : k ≤ d) (hD : d ≤ D) :
    P D d (m + 1) ≤ P D (d - k) ((m >>> (2 * k)) + 1) := by
  rw [shr2_eq_div]
  exact (anc_bounds D d k m hk hD).2

theorem shr_two_succ (h j : Nat) : h >>> (2 * (j + 1)) = (h >>> 2) >>> (2 * j) := by
  rw [← Nat.shiftRight_add]; congr 1; ring

theorem or_three_eq (h : Nat) : h ||| 3 = 4 * (h / 4) + 3 := by
  have e : h = (h / 4) <<< 2 ||| (h % 4) := by
    rw [Nat.shiftLeft_eq]
    have := Nat.shiftLeft_add_eq_or_of_lt (i := 2) (b := h % 4) (Nat.mod_lt _ (by omega)) (h / 4)
    rw [Nat.shiftLeft_eq] at this
    omega
  have e3 : (h / 4) <<< 2 ||| 3 = 4 * (h / 4) + 3 := by
    have := Nat.shiftLeft_add_eq_or_of_lt (i := 2) (b := 3) (by omega) (h / 4)
    rw [Nat.shiftLeft_eq] at this ⊢
    omega
  conv => lhs; rw [e]
  rw [Nat.or_assoc]
  have : h % 4 ||| 3 = 3 := by
    have : h % 4 < 4 := Nat.mod_lt _ (by omega)
    interval_cases (h % 4) <;> rfl
  rw [this, e3]

theorem Seg.goUp (D : Nat) (f : Bool) : ∀ (dd d h : Nat), dd ≤ d → d ≤ D →
    (goUp dd d h f).2.1 = d - dd ∧ (goUp dd d h f).2.2 = (h >>> (2 * dd)) + 1 ∧
    Seg D (goUp dd d h f).1 (P D d (h + 1)) (P D (d - dd) ((h >>> (2 * dd)) + 1)) (fun _ => Tri.ofFlag f) := by
  intro dd
  induction dd with
  | zero =>
    intro d h _ _
    refine ⟨by simp [Bmoc.goUp], by simp [Bmoc.goUp], ?_⟩
    simp only [Bmoc.goUp, Nat.sub_zero, Nat.mul_zero, Nat.shiftRight_zero]
    exact Seg.nil D _ _
  | succ dd ih =>
    intro d h hdd hD
    simp only [Bmoc.goUp]
    obtain ⟨i1, i2, i3⟩ := ih (d - 1) (h >>> 2) (by omega) (by omega)
    have hsh := (shr_two_succ h dd).symm
    refine ⟨by rw [i1]; omega, by rw [i2, hsh], ?_⟩
    have hor : (h ||| 3) + 1 = 4 * ((h >>> 2) + 1) := by
      rw [or_three_eq, Nat.shiftRight_eq_div_pow]; omega
    have s1 := Seg.pushRange D d (h + 1) ((h ||| 3) + 1) f hD (by
      have : h ≤ h ||| 3 := Nat.left_le_or
      omega)
    have hP1 : P D d ((h ||| 3) + 1) = P D (d - 1) ((h >>> 2) + 1) := by
      rw [hor]; exact P_parent D d _ (by omega) hD
    have hmono : P D d (h + 1) ≤ P D d ((h ||| 3) + 1) := by
      apply P_mono
      have : h ≤ h ||| 3 := Nat.left_le_or
      omega
    rw [hP1] at s1 hmono
    rw [show d - 1 - dd = d - (dd + 1) by omega, hsh] at i3
    refine Seg.append hmono ?_ s1 i3
    have := P_end_le_anc D (d - 1) dd (h >>> 2) (by omega) (by omega)
    rwa [show d - 1 - dd = d - (dd + 1) by omega, hsh] at this

/-! ## `dd_4_go_up` (highest differing bit pair of the two cell numbers) -/

theorem eq_of_xor_eq_zero {a b : Nat} (h : a ^^^ b = 0) : a = b := by
  apply Nat.eq_of_testBit_eq
  intro i
  have := congrArg (fun n => Nat.testBit n i) h
  simp only [Nat.testBit_xor, Nat.zero_testBit] at this
  cases ha : a.testBit i <;> cases hb : b.testBit i <;> simp_all

theorem xor_high {a b : Nat} (hne : a ≠ b) :
    a >>> ((a ^^^ b).log2 + 1) = b >>> ((a ^^^ b).log2 + 1) ∧ a >>> (a ^^^ b).log2 ≠ b >>> (a ^^^ b).log2 := by
  have hx : a ^^^ b ≠ 0 := fun h => hne (eq_of_xor_eq_zero h)
  have h1 : a ^^^ b < 2 ^ ((a ^^^ b).log2 + 1) := Nat.lt_log2_self
  have h2 : 2 ^ (a ^^^ b).log2 ≤ a ^^^ b := Nat.log2_self_le hx
  constructor
  · apply eq_of_xor_eq_zero
    rw [← Nat.shiftRight_xor_distrib, Nat.shiftRight_eq_div_pow]
    exact Nat.div_eq_of_lt h1
  · intro heq
    have : (a ^^^ b) >>> (a ^^^ b).log2 = 0 := by rw [Nat.shiftRight_xor_distrib, heq, Nat.xor_self]
    rw [Nat.shiftRight_eq_div_pow] at this
    have hp : 0 < 2 ^ (a ^^^ b).log2 := Nat.two_pow_pos _
    have := (Nat.div_eq_zero_iff.mp this)
    rcases this with h0 | h0
    · omega
    · omega

theorem shiftRight_mono {a b : Nat} (h : a ≤ b) (s : Nat) : a >>> s ≤ b >>> s := by
  rw [Nat.shiftRight_eq_div_pow, Nat.shiftRight_eq_div_pow]; exact Nat.div_le_div_right h

theorem shr_eq_mono {a b s t : Nat} (h : a >>> s = b >>> s) (hst : s ≤ t) : a >>> t = b >>> t := by
  obtain ⟨u, rfl⟩ := Nat.exists_eq_add_of_le hst
  rw [Nat.shiftRight_add, Nat.shiftRight_add, h]

theorem pair_high {a b : Nat} (hlt : a < b) :
    let k := (a ^^^ b).log2 / 2
    a >>> (2 * k + 2) = b >>> (2 * k + 2) ∧ a >>> (2 * k) < b >>> (2 * k) := by
  intro k
  obtain ⟨h1, h2⟩ := xor_high (Nat.ne_of_lt hlt)
  set m := (a ^^^ b).log2 with hm
  have hk1 : 2 * k ≤ m := by omega
  have hk2 : m + 1 ≤ 2 * k + 2 := by omega
  constructor
  · exact shr_eq_mono h1 hk2
  · have hle := shiftRight_mono (Nat.le_of_lt hlt) (2 * k)
    rcases Nat.lt_or_eq_of_le hle with h | h
    · exact h
    · exfalso
      apply h2
      exact shr_eq_mono h hk1

theorem lz64_eq (x : Nat) (h0 : x ≠ 0) (hlt : x < 2 ^ 64) : 63 - lz64 x = x.log2 := by
  unfold lz64
  rw [Nat.mod_eq_of_lt hlt]
  simp only [h0, if_false]
  have : x.log2 < 64 := (Nat.log2_lt h0).mpr hlt
  omega

/-- the cell `(nd, nh)` seen at depth `d` (its first descendant if `nd < d`, else its ancestor): `target_h_at_d` in `dd_4_go_up` -/
def atDepth (d nd nh : Nat) : Nat := if nd < d then nh <<< ((d - nd) <<< 1) else nh >>> ((nd - d) <<< 1)

theorem atDepth_shr {d nd nh s : Nat} (hs1 : d - s ≤ nd) (hs2 : s ≤ d) :
    atDepth d nd nh >>> (2 * s) = nh >>> (2 * (nd - (d - s))) := by
  unfold atDepth
  split
  · rw [shl1, show 2 * s = 2 * (d - nd) + 2 * (nd - (d - s)) by omega, Nat.shiftRight_add, Nat.shiftLeft_shiftRight]
  · rw [shl1, ← Nat.shiftRight_add]; congr 1; omega

theorem atDepth_bounds {D d h nd nh : Nat} (hd : d ≤ D) (hnd : nd ≤ D) (hnh : nh < 12 * 4 ^ nd)
    (hbefore : P D d (h + 1) ≤ P D nd nh) : h < atDepth d nd nh ∧ atDepth d nd nh < 12 * 4 ^ d := by
  unfold atDepth
  split
  · rename_i c
    -- both positions in units of the width of a cell of depth `d`
    unfold P at hbefore
    rw [four_pow_split (Nat.le_of_lt c) hd, ← Nat.mul_assoc] at hbefore
    rw [shl1, Nat.shiftLeft_eq, Nat.pow_mul]
    refine ⟨Nat.le_of_mul_le_mul_right hbefore (Nat.pow_pos (by decide)), ?_⟩
    rw [show 4 ^ d = 4 ^ nd * 4 ^ (d - nd) by rw [← Nat.pow_add]; congr 1; omega, ← Nat.mul_assoc]
    exact Nat.mul_lt_mul_of_pos_right hnh (Nat.pow_pos (by decide))
  · rename_i c
    -- both positions in units of the width of a cell of depth `nd`
    unfold P at hbefore
    rw [four_pow_split (Nat.le_of_not_lt c) hnd, ← Nat.mul_assoc] at hbefore
    rw [shr_eq_div]
    refine ⟨(Nat.le_div_iff_mul_le (Nat.pow_pos (by decide))).2
      (Nat.le_of_mul_le_mul_right hbefore (Nat.pow_pos (by decide))), ?_⟩
    have := anc_inR (Nat.sub_le nd d) hnh
    rwa [show nd - (nd - d) = d by omega] at this

theorem atDepth_dvd {d nd nh : Nat} (c : nd < d) : 2 ^ (2 * (d - nd)) ∣ atDepth d nd nh := by
  rw [atDepth, if_pos c, shl1, Nat.shiftLeft_eq]
  exact Nat.dvd_mul_left _ _

theorem shr_ne_of_dvd {a b s : Nat} (hlt : a < b) (hdvd : 2 ^ s ∣ b) : a >>> s ≠ b >>> s := by
  intro h
  have : a / 2 ^ s * 2 ^ s ≤ a := Nat.div_mul_le_self _ _
  rw [← Nat.shiftRight_eq_div_pow, h, Nat.shiftRight_eq_div_pow, Nat.div_mul_cancel hdvd] at this
  omega

theorem dd4GoUp_eq {d h nd nh : Nat} (hne : h ≠ atDepth d nd nh) (h64 : h ^^^ atDepth d nd nh < 2 ^ 64) :
    dd4GoUp d h nd nh = min ((h ^^^ atDepth d nd nh).log2 / 2) d := by
  have hx : h ^^^ atDepth d nd nh ≠ 0 := fun h0 => hne (eq_of_xor_eq_zero h0)
  show (if (h ^^^ atDepth d nd nh != 0) = true then min ((63 - lz64 (h ^^^ atDepth d nd nh)) >>> 1) d else 0) = _
  rw [if_pos (by simpa using hx), lz64_eq _ hx h64, Nat.shiftRight_eq_div_pow]

/-- for `(d, h)` entirely before `(nd, nh)`, `dd_4_go_up` stops at the depth where the ancestors of the two are siblings
    (last conjunct), or at depth 0 -/
theorem dd4GoUp_spec (D d h nd nh : Nat) (hD : D ≤ 29) (hd : d ≤ D) (hnd : nd ≤ D) (hh : h < 12 * 4 ^ d)
    (hnh : nh < 12 * 4 ^ nd) (hbefore : P D d (h + 1) ≤ P D nd nh) :
    dd4GoUp d h nd nh ≤ d ∧ d - dd4GoUp d h nd nh ≤ nd ∧
    (h >>> (2 * dd4GoUp d h nd nh)) + 1 ≤ nh >>> (2 * (nd - (d - dd4GoUp d h nd nh))) ∧
    (dd4GoUp d h nd nh < d →
      h >>> (2 * (dd4GoUp d h nd nh + 1)) = nh >>> (2 * (nd - (d - dd4GoUp d h nd nh)) + 2)) := by
  obtain ⟨hlt, hTlt⟩ := atDepth_bounds hd hnd hnh hbefore
  have h62 := twelve_pow_lt d (by omega)
  rw [dd4GoUp_eq (Nat.ne_of_lt hlt)
    (Nat.lt_trans (Nat.xor_lt_two_pow (n := 62) (by omega) (by omega)) (by decide))]
  obtain ⟨ph1, ph2⟩ := pair_high hlt
  have hshr := @atDepth_shr d nd nh
  have hdvd := @atDepth_dvd d nd nh
  generalize atDepth d nd nh = T at *
  generalize (h ^^^ T).log2 / 2 = k at *
  -- only the facts about the bits of `T` and `k` are used from here on (a small context for `omega`)
  clear hTlt h62 hbefore hh hnh hD
  by_cases ckd : k ≤ d
  · rw [Nat.min_eq_left ckd]
    -- the low `2(d-nd)` bits of `T` are zero: a difference must show at a pair `≥ d - nd`
    have hb : d - k ≤ nd := by
      by_contra hcon
      exact shr_ne_of_dvd hlt (Nat.dvd_trans (Nat.pow_dvd_pow 2 (by omega)) (hdvd (by omega))) ph1
    refine ⟨ckd, hb, ?_, fun hkd => ?_⟩
    · rw [← hshr hb ckd]
      omega
    · -- one level higher the two ancestors coincide: they are siblings at the depth reached
      rw [show 2 * (k + 1) = 2 * k + 2 by omega, ph1, show 2 * k + 2 = 2 * (k + 1) by omega,
        hshr (s := k + 1) (by omega) hkd]
      congr 1
      omega
  · rw [Nat.min_eq_right (by omega)]
    refine ⟨Nat.le_refl _, by omega, ?_, fun hlt0 => absurd hlt0 (Nat.lt_irrefl _)⟩
    rw [← hshr (s := d) (by omega) (Nat.le_refl _)]
    rcases Nat.lt_or_eq_of_le (shiftRight_mono (Nat.le_of_lt hlt) (2 * d)) with h' | h'
    · omega
    · have := shr_eq_mono h' (show 2 * d ≤ 2 * k by omega)
      omega

def InR (c : Cell) : Prop := c.hash < 12 * 4 ^ c.depth

theorem Seg.empty_abs (D a b : Nat) (g : Nat → Tri) (h : ∀ x, a ≤ x → x < b → g x = .abs) : Seg D [] a b g :=
  ⟨trivial, fun c hc => by simp at hc, fun x h1 h2 => by rw [h x h1 h2]; rfl⟩

theorem tri_not_ofFlag_true : Tri.not (Tri.ofFlag true) = .abs := rfl
theorem tri_not_ofFlag_false : Tri.not (Tri.ofFlag false) = .part := rfl

theorem Seg.upDown (D : Nat) (hD : D ≤ 29) (f : Bool) (d h : Nat) (c : Cell) (hd : d ≤ D) (hh : h < 12 * 4 ^ d)
    (hcd : c.depth ≤ D) (hr : InR c) (hbefore : P D d (h + 1) ≤ lo D c) :
    Seg D ((Bmoc.goUp (dd4GoUp d h c.depth c.hash) d h f).1 ++
        Bmoc.goDown (Bmoc.goUp (dd4GoUp d h c.depth c.hash) d h f).2.1 (Bmoc.goUp (dd4GoUp d h c.depth c.hash) d h f).2.2
          c.depth c.hash f)
      (P D d (h + 1)) (lo D c) (fun _ => Tri.ofFlag f) := by
  obtain ⟨s1, s2, s3, _⟩ := dd4GoUp_spec D d h c.depth c.hash hD hd hcd hh hr hbefore
  set dd := dd4GoUp d h c.depth c.hash with hdd
  obtain ⟨u1, u2, u3⟩ := Seg.goUp D f dd d h s1 hd
  rw [u1, u2]
  have hdown := Seg.goDown D (d - dd) ((h >>> (2 * dd)) + 1) c.depth c.hash f s2 hcd s3
  have b1 : P D d (h + 1) ≤ P D (d - dd) ((h >>> (2 * dd)) + 1) := P_end_le_anc D d dd h s1 hd
  have b2 : P D (d - dd) ((h >>> (2 * dd)) + 1) ≤ lo D c := by
    have := P_shift_le D (d - dd) (c.depth - (d - dd)) c.hash (by omega)
    rw [show d - dd + (c.depth - (d - dd)) = c.depth by omega] at this
    exact Nat.le_trans (P_mono D (d - dd) s3) this
  exact Seg.append b1 b2 u3 hdown

theorem not_before {D : Nat} {c : Cell} {l : List Cell} (hw : WF D (c :: l)) {x : Nat} (hx : x < lo D c) :
    Tri.not (stOf D (c :: l) x) = Tri.ofFlag true := by
  rw [(st_facts hw x).1 hx]; rfl

theorem Seg.keep {D : Nat} {c : Cell} (g : Nat → Tri) (hcd : c.depth ≤ D)
    (hg : ∀ x, lo D c ≤ x → x < hi D c → g x = Tri.not (Tri.ofFlag c.full)) :
    Seg D (if c.full then [] else [c]) (lo D c) (hi D c) g := by
  by_cases hf : c.full = true
  · simp only [hf, if_true]
    apply Seg.empty_abs
    intro x h1 h2
    rw [hg x h1 h2, hf]; rfl
  · have hf' : c.full = false := by simpa using hf
    simp only [hf', Bool.false_eq_true, if_false]
    refine (Seg.single D c.depth c.hash c.full hcd).mono_g ?_
    intro x h1 h2
    rw [hg x h1 h2, hf']; rfl

theorem Seg.notStep (D : Nat) (hD : D ≤ 29) (d h : Nat) (c : Cell) (rest : List Cell) (hd : d ≤ D) (hh : h < 12 * 4 ^ d)
    (hw : WF D (c :: rest)) (hr : InR c) (hbefore : P D d (h + 1) ≤ lo D c) :
    Seg D ((Bmoc.goUp (dd4GoUp d h c.depth c.hash) d h true).1 ++
        Bmoc.goDown (Bmoc.goUp (dd4GoUp d h c.depth c.hash) d h true).2.1 (Bmoc.goUp (dd4GoUp d h c.depth c.hash) d h true).2.2
          c.depth c.hash true ++ (if c.full then [] else [c]))
      (P D d (h + 1)) (hi D c) (fun x => Tri.not (stOf D (c :: rest) x)) :=
  Seg.append hbefore (Nat.le_of_lt (lo_lt_hi D c))
    ((Seg.upDown D hD true d h c hd hh hw.1 hr hbefore).mono_g (fun x _ hx => (not_before hw hx).symm))
    (Seg.keep _ hw.1 (fun x h1 h2 => by rw [stOf_in_cons h1 h2]))

theorem inR_pos (D : Nat) (c : Cell) (hd : c.depth ≤ D) : True := trivial

theorem notLoop_cursor : ∀ (rest : List Cell) (c0 : Cell),
    (notLoop rest c0.depth c0.hash).2.1 = (rest.getLastD c0).depth ∧
    (notLoop rest c0.depth c0.hash).2.2 = (rest.getLastD c0).hash
  | [], _ => ⟨rfl, rfl⟩
  | c :: rest, c0 => by
    rw [List.getLastD_cons]
    exact notLoop_cursor rest c

theorem Seg.notLoop (D : Nat) (hD : D ≤ 29) : ∀ (rest : List Cell) (c0 : Cell), WF D (c0 :: rest) →
    (∀ c ∈ c0 :: rest, InR c) →
    Seg D (Bmoc.notLoop rest c0.depth c0.hash).1 (hi D c0) (hi D (rest.getLastD c0)) (fun x => Tri.not (stOf D rest x))
  | [], c0, _, _ => Seg.nil D _ _
  | c :: rest, c0, hw, hr => by
    have step := Seg.notStep D hD c0.depth c0.hash c rest hw.1 (hr c0 (List.mem_cons_self ..)) hw.tail
      (hr c (by simp)) (hw.2.1 c (List.mem_cons_self ..))
    have tail := (Seg.notLoop D hD rest c hw.tail (fun c' hc' => hr c' (List.mem_cons_of_mem _ hc'))).mono_g
      (g' := fun x => Tri.not (stOf D (c :: rest) x)) (fun x h1 _ => by rw [stOf_tail_of_ge h1])
    rw [List.getLastD_cons]
    have := Seg.append (Nat.le_trans (hw.2.1 c (List.mem_cons_self ..)) (Nat.le_of_lt (lo_lt_hi D c)))
      (hw.tail.hi_le_last c (List.mem_cons_self ..)) step tail
    simpa [Bmoc.notLoop, List.append_assoc] using this

theorem P_zero (D h : Nat) : P D 0 h = h * 4 ^ D := by unfold P; simp

theorem Seg.inSphere (D : Nat) (f : Bool) {c : Cell} {d2 h2 : Nat} {mid : List Cell} {g : Nat → Tri}
    (hcd : c.depth ≤ D) (hd2 : d2 ≤ D) (hh2 : h2 < 12 * 4 ^ d2)
    (hmid : Seg D mid (lo D c) (P D d2 (h2 + 1)) g) (hle : lo D c ≤ P D d2 (h2 + 1))
    (hbefore : ∀ x, x < lo D c → g x = Tri.ofFlag f)
    (hafter : ∀ x, P D d2 (h2 + 1) ≤ x → g x = Tri.ofFlag f) :
    Seg D (Bmoc.goDown 0 0 c.depth c.hash f ++ mid ++ (Bmoc.goUp d2 d2 h2 f).1 ++
        Bmoc.pushRange 0 (Bmoc.goUp d2 d2 h2 f).2.2 12 f) 0 (12 * 4 ^ D) g := by
  obtain ⟨_, u2, u3⟩ := Seg.goUp D f d2 d2 h2 (Nat.le_refl _) hd2
  rw [Nat.sub_self] at u3
  rw [u2]
  have hbase : (h2 >>> (2 * d2)) + 1 ≤ 12 := by
    have := anc_inR (Nat.le_refl d2) hh2
    rw [Nat.sub_self, ← shr2_eq_div] at this
    omega
  have p1 := Seg.goDown D 0 0 c.depth c.hash f (Nat.zero_le _) hcd (Nat.zero_le _)
  have p5 := Seg.pushRange D 0 ((h2 >>> (2 * d2)) + 1) 12 f (Nat.zero_le _) hbase
  have b4 := P_end_le_anc D d2 d2 h2 (Nat.le_refl _) hd2
  rw [Nat.sub_self] at b4
  rw [P_zero, Nat.zero_mul] at p1
  rw [P_zero D 12] at p5
  exact Seg.append (Nat.zero_le _) (by rw [P_zero]; exact Nat.mul_le_mul_right _ hbase)
    (Seg.append (Nat.zero_le _) b4
      (Seg.append (Nat.zero_le _) hle (p1.mono_g fun x _ hx => (hbefore x hx).symm) hmid)
      (u3.mono_g fun x hx _ => (hafter x hx).symm))
    (p5.mono_g fun x hx _ => (hafter x (Nat.le_trans b4 hx)).symm)

theorem Seg.notCells (D : Nat) (hD : D ≤ 29) (l : List Cell) (hw : WF D l) (hr : ∀ c ∈ l, InR c) :
    Seg D (Bmoc.notCells l) 0 (12 * 4 ^ D) (fun x => Tri.not (stOf D l x)) := by
  cases l with
  | nil =>
    have := Seg.pushRange D 0 0 12 true (Nat.zero_le _) (by omega)
    rw [P_zero, P_zero, Nat.zero_mul] at this
    exact this.mono_g (fun x _ _ => rfl)
  | cons c rest =>
    have hlast : rest.getLastD c ∈ c :: rest := List.getLastD_mem_cons
    have hend := hw.hi_le_last
    have q2 : Seg D (if c.full then [] else [c]) (lo D c) (hi D c) (fun x => Tri.not (stOf D (c :: rest) x)) :=
      Seg.keep _ hw.1 (fun x h1 h2 => by rw [stOf_in_cons h1 h2])
    have q3 := (Seg.notLoop D hD rest c hw hr).mono_g (g' := fun x => Tri.not (stOf D (c :: rest) x))
      (fun x h1 _ => by rw [stOf_tail_of_ge h1])
    have := Seg.inSphere D true hw.1 (hw.depth_le _ hlast) (hr _ hlast)
      (Seg.append (Nat.le_of_lt (lo_lt_hi D c)) (hend c (List.mem_cons_self ..)) q2 q3)
      (Nat.le_trans (Nat.le_of_lt (lo_lt_hi D c)) (hend c (List.mem_cons_self ..))) (fun x hx => not_before hw hx)
      (fun x hx => by rw [stOf_absent_of_ge fun c' hc' => Nat.le_trans (hend c' hc') hx]; rfl)
    simpa [Bmoc.notCells, notLoop_cursor, List.append_assoc] using this

theorem inR_of_hi (D : Nat) (c : Cell) (hd : c.depth ≤ D) (h : hi D c ≤ 12 * 4 ^ D) : InR c :=
  (hi_le_iff_inRange hd).1 h

theorem hi_le_of_inR {D : Nat} {c : Cell} (hd : c.depth ≤ D) (hr : InR c) : hi D c ≤ 12 * 4 ^ D :=
  (hi_le_iff_inRange hd).2 hr

theorem notCells_spec (D : Nat) (hD : D ≤ 29) (l : List Cell) (hw : WF D l) (hr : ∀ c ∈ l, InR c) :
    (∀ x, x < 12 * 4 ^ D → stOf D (notCells l) x = Tri.not (stOf D l x)) ∧ WF D (notCells l) ∧
    (∀ c ∈ notCells l, InR c) := by
  have s := Seg.notCells D hD l hw hr
  refine ⟨fun x hx => s.sem x (Nat.zero_le _) hx, s.wf, ?_⟩
  intro c hc
  exact inR_of_hi D c (s.wf.depth_le c hc) (s.inside c hc).2

theorem mem_pushRange {d lo hi : Nat} {f : Bool} {c : Cell} (h : c ∈ pushRange d lo hi f) :
    c.depth = d ∧ lo ≤ c.hash ∧ c.hash < hi ∧ c.full = f := by
  unfold pushRange at h
  obtain ⟨k, hk, rfl⟩ := List.mem_map.1 h
  have := List.mem_range.1 hk
  exact ⟨rfl, Nat.le_add_right _ _, by show lo + k < hi; omega, rfl⟩

theorem shr_succ (h j : Nat) : h >>> (2 * (j + 1)) = (h >>> (2 * j)) / 4 := by
  rw [show 2 * (j + 1) = 2 * j + 2 by ring, Nat.shiftRight_add, Nat.shiftRight_eq_div_pow (h >>> (2 * j)) 2]

theorem mem_goUp (f : Bool) : ∀ (dd d h : Nat) (c : Cell), c ∈ (goUp dd d h f).1 →
    c.full = f ∧ ∃ j, j < dd ∧ c.depth = d - j ∧ c.hash / 4 = h >>> (2 * (j + 1))
  | 0, _, _, _, hc => by simp [goUp] at hc
  | dd + 1, d, h, c, hc => by
    simp only [goUp, List.mem_append] at hc
    rcases hc with hc | hc
    · obtain ⟨m1, m2, m3, m4⟩ := mem_pushRange hc
      refine ⟨m4, 0, Nat.succ_pos _, m1, ?_⟩
      rw [or_three_eq] at m3
      rw [Nat.shiftRight_eq_div_pow]
      show c.hash / 4 = h / 4
      omega
    · obtain ⟨fl, j, hj, j1, j2⟩ := mem_goUp f dd (d - 1) (h >>> 2) c hc
      exact ⟨fl, j + 1, Nat.succ_lt_succ hj, by rw [j1, Nat.sub_sub, Nat.add_comm], by rw [j2, shr_two_succ h (j + 1)]⟩

theorem mem_goDownAux (f : Bool) : ∀ (n dcur h th : Nat) (c : Cell), c ∈ goDownAux n dcur h th f →
    c.full = f ∧ ((c.depth = dcur ∧ h ≤ c.hash ∧ c.hash < th >>> (2 * n)) ∨
      ∃ j, j < n ∧ c.depth = dcur + n - j ∧ c.hash / 4 = th >>> (2 * (j + 1)))
  | 0, _, _, _, _, hc => by
    obtain ⟨m1, m2, m3, m4⟩ := mem_pushRange hc
    exact ⟨m4, Or.inl ⟨m1, m2, by simpa using m3⟩⟩
  | n + 1, dcur, h, th, c, hc => by
    simp only [goDownAux, List.mem_append] at hc
    rcases hc with hc | hc
    · obtain ⟨m1, m2, m3, m4⟩ := mem_pushRange hc
      exact ⟨m4, Or.inl ⟨m1, m2, m3⟩⟩
    · obtain ⟨fl, ⟨h1, h2, h3⟩ | ⟨j, hj, j1, j2⟩⟩ := mem_goDownAux f n (dcur + 1) _ th c hc
      · refine ⟨fl, Or.inr ⟨n, Nat.lt_succ_self n, by omega, ?_⟩⟩
        rw [shr_succ]
        rw [Nat.shiftLeft_eq, shr_succ] at h2
        omega
      · exact ⟨fl, Or.inr ⟨j, Nat.lt_succ_of_lt hj, by omega, j2⟩⟩

theorem mem_keep {c c0 : Cell} : c ∈ (if c0.full then [] else [c0]) ↔ c = c0 ∧ c0.full = false := by
  cases c0.full <;> simp

theorem mem_notLoop_flag : ∀ (rest : List Cell) (d h : Nat) (c : Cell), c ∈ (notLoop rest d h).1 →
    c.full = true ∨ (c ∈ rest ∧ c.full = false)
  | [], _, _, _, hc => by simp [notLoop] at hc
  | c0 :: rest, d, h, c, hc => by
    simp only [notLoop, List.mem_append] at hc
    rcases hc with ((hc | hc) | hc) | hc
    · exact Or.inl (mem_goUp true _ _ _ c hc).1
    · exact Or.inl (mem_goDownAux true _ _ _ _ c hc).1
    · obtain ⟨rfl, hf⟩ := mem_keep.1 hc
      exact Or.inr ⟨List.mem_cons_self .., hf⟩
    · exact (mem_notLoop_flag rest _ _ c hc).imp_right fun h => ⟨List.mem_cons_of_mem _ h.1, h.2⟩

theorem mem_notCells_flag (l : List Cell) (c : Cell) (hc : c ∈ notCells l) : c.full = true ∨ (c ∈ l ∧ c.full = false) := by
  cases l with
  | nil => exact Or.inl (mem_pushRange hc).2.2.2
  | cons c0 rest =>
    simp only [notCells, List.mem_append] at hc
    rcases hc with (((hc | hc) | hc) | hc) | hc
    · exact Or.inl (mem_goDownAux true _ _ _ _ c hc).1
    · obtain ⟨rfl, hf⟩ := mem_keep.1 hc
      exact Or.inr ⟨List.mem_cons_self .., hf⟩
    · exact (mem_notLoop_flag rest _ _ c hc).imp_right fun h => ⟨List.mem_cons_of_mem _ h.1, h.2⟩
    · exact Or.inl (mem_goUp true _ _ _ c hc).1
    · exact Or.inl (mem_pushRange hc).2.2.2

theorem notCells_full {l : List Cell} (h : ∀ c ∈ l, c.full = true) : ∀ c ∈ notCells l, c.full = true := fun c hc =>
  (mem_notCells_flag l c hc).elim id fun ⟨h1, h2⟩ => absurd (h c h1) (by simp [h2])

end Hpx.Bmoc
