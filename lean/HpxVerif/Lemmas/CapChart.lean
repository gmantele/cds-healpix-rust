import HpxVerif.Lemmas.EnvelopePolar

/-!
# C16 — the chart of the two polar caps

In the HEALPix plane a polar cap is four Collignon triangles (facets `k < 4`), apex on the pole line `y = ±2`, base on the
transition line `y = ±1`.  A point of a triangle is named by the cap `s` (`1` north, `-1` south), the facet `k`, its distance
`σ ∈ [0, 1]` from the pole line and its offset `t`, `|t| ≤ σ`, from the central meridian `x = 2k + 1` of the facet: the plane
point `(2k + 1 + t, s·(2 − σ))`.  `capPt s k t σ` is its position on the sphere.  What `unproj` returns there, the angular
distance between two points of a facet and the value of `largest_center_to_vertex_distance` are functions of `t/σ` and `σ`:
the same in both caps and in the four facets.
-/

namespace Hpx.EnvelopePolar
open Hpx Hpx.Hash Hpx.Proj Hpx.Cover Hpx.C2V Hpx.C2VReal Hpx.EnvelopeReal Hpx.CellReal Real

noncomputable def capPt (s : ℝ) (k : ℕ) (t σ : ℝ) : ℝ × ℝ := (capLon k t σ, s * capLat (2 - σ))

theorem unprojT_capPt (s : ℝ) (hs : s = 1 ∨ s = -1) (k : ℕ) (hk : k < 4) (t σ : ℝ) (hσ1 : σ ≤ 1) (ht : |t| ≤ σ) (ht1 : t < 1)
    (hp : (Num.epsPole : ℝ) < σ ∨ σ = 0) : unprojT (2 * k + 1 + t) (s * (2 - σ)) = capPt s k t σ := by
  have hσ0 : 0 ≤ σ := (abs_nonneg t).trans ht
  have hk0 : (0 : ℝ) ≤ k := Nat.cast_nonneg k
  have h := unproj_cap k hk t σ hσ1 ht ht1 hp
  have hlat := (capLat_range (2 - σ) (by linarith) (by linarith)).1
  have htl := tl_pos
  rcases hs with rfl | rfl
  · rw [one_mul, ← Option.some_inj, ← unproj_eq _ _ (by linarith) (by linarith), h]
    unfold capPt; rw [one_mul]
  · rw [neg_one_mul, ← Option.some_inj, ← unproj_eq _ _ (by linarith) (by linarith),
      unproj_mirror _ _ (by linarith [(abs_le.mp ht).1]) (by linarith), h]
    unfold capPt
    simp only [Option.map_some, abs_of_pos (htl.trans_le hlat), neg_one_mul]

theorem adist_capPt (s : ℝ) (hs : s = 1 ∨ s = -1) (k : ℕ) (t σ t' σ' : ℝ) :
    adist (capPt s k t σ) (capPt s k t' σ') =
      gcDist (capLat (2 - σ)) (capLat (2 - σ')) ((t / σ - t' / σ') * (π / 4)) := by
  unfold capPt capLon
  rw [adist_eq_gcDist, show (t / σ + (2 * k + 1)) * (π / 4) - (t' / σ' + (2 * k + 1)) * (π / 4) =
    (t / σ - t' / σ') * (π / 4) by ring]
  rcases hs with rfl | rfl
  · rw [one_mul, one_mul]
  · rw [neg_one_mul, neg_one_mul, gcDist_neg_lat]

theorem capPt_lat (s : ℝ) (hs : s = 1 ∨ s = -1) (k : ℕ) (t σ : ℝ) (hσ0 : 0 ≤ σ) (hσ1 : σ ≤ 1) : tl ≤ |(capPt s k t σ).2| := by
  have hlat := (capLat_range (2 - σ) (by linarith) (by linarith)).1
  show tl ≤ |s * capLat (2 - σ)|
  rw [abs_mul, show |s| = 1 by rcases hs with rfl | rfl <;> simp, one_mul, abs_of_pos (tl_pos.trans_le hlat)]
  exact hlat

theorem largestC2V_capPt (d : ℕ) (hd1 : 1 ≤ d) (hd2 : d ≤ 29) (s : ℝ) (hs : s = 1 ∨ s = -1) (k : ℕ) (t σ : ℝ)
    (hσ1 : σ ≤ 1) (ht : |t| ≤ σ) :
    largestC2V false d (capPt s k t σ).1 (capPt s k t σ).2 = some (capVal (1 / 2 ^ d) (t / σ)) := by
  have hσ0 : 0 ≤ σ := (abs_nonneg t).trans ht
  rw [largestC2V_eq d hd1 hd2]
  exact congrArg some (c2v_cap_eq d k t σ _ hσ0 ht (capPt_lat s hs k t σ hσ0 hσ1))

theorem adist_capPt_north (s : ℝ) (hs : s = 1 ∨ s = -1) (k : ℕ) (δ t σ : ℝ) :
    adist (capPt s k t σ) (capPt s k t (σ - δ)) = dNc δ t σ := by
  rw [adist_capPt s hs, ← gcDist_neg]
  unfold dNc
  rw [show 2 - (σ - δ) = 2 - σ + δ by ring]
  congr 1; ring

theorem adist_capPt_south (s : ℝ) (hs : s = 1 ∨ s = -1) (k : ℕ) (δ t σ : ℝ) :
    adist (capPt s k t σ) (capPt s k t (σ + δ)) = dSc δ t σ := by
  rw [adist_capPt s hs]
  unfold dSc
  rw [show 2 - (σ + δ) = 2 - σ - δ by ring]

theorem adist_capPt_east (s : ℝ) (hs : s = 1 ∨ s = -1) (k : ℕ) (δ u t σ : ℝ) (hu : u = δ ∨ u = -δ) (hδ : 0 ≤ δ)
    (hσ0 : 0 < σ) (hσ : δ ≤ σ) (hσ1 : σ ≤ 1) : adist (capPt s k t σ) (capPt s k (t + u) σ) = dEc δ σ := by
  have hpi := Real.pi_pos
  have hr1 : δ / σ ≤ 1 := (div_le_one hσ0).mpr hσ
  have hs0 : 0 ≤ sin (δ / σ * (π / 8)) :=
    Real.sin_nonneg_of_nonneg_of_le_pi (by positivity) (by nlinarith [div_nonneg hδ hσ0.le])
  have habs : |s * capLat (2 - σ)| ≤ π / 2 := by
    rw [abs_mul, show |s| = 1 by rcases hs with rfl | rfl <;> simp, one_mul]
    exact capLat_abs_le _ (by linarith) (by linarith)
  unfold capPt capLon
  rw [adist_same_lat _ _ _ (-(u / σ * (π / 4))) 0 (by field_simp; ring) habs,
    show cos (s * capLat (2 - σ)) = cos (capLat (2 - σ)) by rcases hs with rfl | rfl <;> simp]
  unfold dEc
  congr 3
  rcases hu with h | h <;> rw [h]
  · rw [show -(δ / σ * (π / 4)) / 2 = -(δ / σ * (π / 8)) by ring, Real.sin_neg, abs_neg, abs_of_nonneg hs0]
  · rw [show -(-δ / σ * (π / 4)) / 2 = δ / σ * (π / 8) by ring, abs_of_nonneg hs0]

theorem unprojT_cap_cell (s : ℝ) (hs : s = 1 ∨ s = -1) (k : ℕ) (hk : k < 4) (δ t σ : ℝ) (hδ0 : 0 < δ)
    (ht : |t| + δ ≤ σ) (hσ1 : σ + δ ≤ 1) (hc : (Num.epsPole : ℝ) < σ) (hpole : (Num.epsPole : ℝ) < σ - δ ∨ σ = δ) :
    unprojT (2 * k + 1 + t) (s * (2 - σ)) = capPt s k t σ ∧
    unprojT (2 * k + 1 + t) (s * (2 - σ) - δ) = capPt s k t (σ + s * δ) ∧
    unprojT (2 * k + 1 + t + δ) (s * (2 - σ)) = capPt s k (t + δ) σ ∧
    unprojT (2 * k + 1 + t) (s * (2 - σ) + δ) = capPt s k t (σ - s * δ) ∧
    unprojT (2 * k + 1 + t - δ) (s * (2 - σ)) = capPt s k (t + -δ) σ := by
  obtain ⟨t1, t2⟩ := abs_le.mp (show |t| ≤ σ - δ by linarith)
  have hss : s * s = 1 := by rcases hs with rfl | rfl <;> norm_num
  have key := unprojT_capPt s hs k hk
  have hc0 : (Num.epsPole : ℝ) < σ ∨ σ = 0 := Or.inl hc
  have hmer : ∀ u, u = δ ∨ u = -δ → unprojT (2 * k + 1 + t) (s * (2 - (σ + u))) = capPt s k t (σ + u) := by
    intro u hu
    rcases hu with rfl | rfl
    · exact key t _ (by linarith) (abs_le.mpr ⟨by linarith, by linarith⟩) (by linarith) (Or.inl (by linarith))
    · exact key t _ (by linarith) (abs_le.mpr ⟨by linarith, by linarith⟩) (by linarith)
        (hpole.imp (fun h => by linarith) fun h => by linarith)
  have eS : s * (2 - σ) - δ = s * (2 - (σ + s * δ)) := by linear_combination δ * hss
  have eN : s * (2 - σ) + δ = s * (2 - (σ + -(s * δ))) := by linear_combination (-δ) * hss
  refine ⟨key t σ (by linarith) (abs_le.mpr ⟨by linarith, by linarith⟩) (by linarith) hc0, ?_, ?_, ?_, ?_⟩
  · rw [eS]; exact hmer _ (by rcases hs with rfl | rfl <;> simp)
  · rw [add_assoc]
    exact key (t + δ) σ (by linarith) (abs_le.mpr ⟨by linarith, by linarith⟩) (by linarith) hc0
  · rw [eN, sub_eq_add_neg]; exact hmer _ (by rcases hs with rfl | rfl <;> simp)
  · rw [sub_eq_add_neg, add_assoc]
    exact key (t + -δ) σ (by linarith) (abs_le.mpr ⟨by linarith, by linarith⟩) (by linarith) hc0

/-- C16, the true centre-to-vertex distances in the north cap.  For a plane cell of half-diagonal `δ` inside the Collignon
    triangle of the facet `k` (the south vertex may be on the transition latitude) `unproj` succeeds on the centre and on the
    four vertices, and the angular distances from the centre to the N, S, E, W vertices are `dNc`, `dSc`, `dEc`, `dEc` at
    `t = x − (2k+1)`, `σ = 2 − y`.  `hc`, `hp`: the centre is on the near side of the pole threshold of the code, and so is the
    north vertex unless it is the pole; always true for cells, `2 − y` and `2 − y − δ` being multiples of
    `1/nside ≥ 2⁻²⁹ > EPS_POLE`. -/
theorem true_c2v_cap (k : ℕ) (hk : k < 4) (x y δ : ℝ) (hδ0 : 0 < δ) (hS : 1 ≤ y - δ) (hN : y + δ ≤ 2)
    (ht : |x - (2 * k + 1)| + δ ≤ 2 - y) (hc : (Num.epsPole : ℝ) < 2 - y)
    (hp : (Num.epsPole : ℝ) < 2 - y - δ ∨ y + δ = 2) :
    ∃ c pN pS pE pW : ℝ × ℝ,
      unproj (α := ℝ) x y = some c ∧ unproj (α := ℝ) x (y + δ) = some pN ∧ unproj (α := ℝ) x (y - δ) = some pS ∧
      unproj (α := ℝ) (x + δ) y = some pE ∧ unproj (α := ℝ) (x - δ) y = some pW ∧
      c = (capLon k (x - (2 * k + 1)) (2 - y), capLat y) ∧
      adist c pN = dNc δ (x - (2 * k + 1)) (2 - y) ∧ adist c pS = dSc δ (x - (2 * k + 1)) (2 - y) ∧
      adist c pE = dEc δ (2 - y) ∧ adist c pW = dEc δ (2 - y) := by
  have hta := abs_nonneg (x - (2 * (k : ℝ) + 1))
  obtain ⟨uc, uS, uE, uN, uW⟩ := unprojT_cap_cell 1 (Or.inl rfl) k hk δ (x - (2 * k + 1)) (2 - y) hδ0 ht (by linarith) hc
    (hp.imp_right fun h => by linarith)
  rw [one_mul, add_sub_cancel, sub_sub_cancel] at uc uS uE uN uW
  have hs : (1 : ℝ) = 1 ∨ (1 : ℝ) = -1 := Or.inl rfl
  refine ⟨_, _, _, _, _, (unproj_eq _ _ (by linarith) (by linarith)).trans (congrArg some uc),
    (unproj_eq _ _ (by linarith) (by linarith)).trans (congrArg some uN),
    (unproj_eq _ _ (by linarith) (by linarith)).trans (congrArg some uS),
    (unproj_eq _ _ (by linarith) (by linarith)).trans (congrArg some uE),
    (unproj_eq _ _ (by linarith) (by linarith)).trans (congrArg some uW), ?_,
    by rw [one_mul]; exact adist_capPt_north 1 hs k δ _ _, by rw [one_mul]; exact adist_capPt_south 1 hs k δ _ _,
    adist_capPt_east 1 hs k δ δ _ _ (Or.inl rfl) hδ0.le (by linarith) (by linarith) (by linarith),
    adist_capPt_east 1 hs k δ (-δ) _ _ (Or.inr rfl) hδ0.le (by linarith) (by linarith) (by linarith)⟩
  unfold capPt; rw [one_mul, sub_sub_cancel]

/-- depth 2 (`δ = 1/4`), facet 0, the cell `(i, j) = (2, 3)` next to the pole cell: centre `(3/4, 3/2)` -/
example : (0 : ℝ) < 1 / 4 ∧ (1 : ℝ) ≤ 3 / 2 - 1 / 4 ∧ (3 / 2 : ℝ) + 1 / 4 ≤ 2 ∧
    |(3 / 4 : ℝ) - (2 * (0 : ℕ) + 1)| + 1 / 4 ≤ 2 - 3 / 2 ∧ (Num.epsPole : ℝ) < 2 - 3 / 2 ∧
    ((Num.epsPole : ℝ) < 2 - 3 / 2 - 1 / 4 ∨ (3 / 2 : ℝ) + 1 / 4 = 2) := by
  have := epsPole_lt_small
  refine ⟨by norm_num, by norm_num, by norm_num, ?_, by linarith, Or.inl (by linarith)⟩
  rw [abs_of_neg (by norm_num)]; norm_num

/-! ## the cells of the NESTED scheme in the chart -/

theorem step_mul_inside {d m : ℕ} (hm : m + 1 ≤ 2 ^ d) : (m : ℝ) * (1 / 2 ^ d) + 1 / 2 ^ d ≤ 1 := by
  have h : (m : ℝ) + 1 ≤ 2 ^ d := by exact_mod_cast hm
  have := mul_le_mul_of_nonneg_right h (by positivity : (0 : ℝ) ≤ 1 / 2 ^ d)
  rwa [add_mul, one_mul, mul_one_div_cancel (pow_pos' d).ne'] at this

/-- the cell `(b, i, j)` of depth `d` lies in the cap `s` (`1` north, `-1` south) or on its transition ring (`m = nside`), in the
    facet `k`, its centre at `m/nside` from the pole line -/
def CapCell (d b i j : ℕ) (s : ℝ) (k m : ℕ) : Prop :=
  k < 4 ∧ i < 2 ^ d ∧ j < 2 ^ d ∧ m ≤ 2 ^ d ∧
    ((s = 1 ∧ b = k ∧ i + j + m + 1 = 2 * 2 ^ d) ∨ (s = -1 ∧ b = k + 8 ∧ m = i + j + 1))

theorem CapCell.plane {d b i j : ℕ} {s : ℝ} {k m : ℕ} (h : CapCell d b i j s k m) :
    (s = 1 ∨ s = -1) ∧ b < 12 ∧ norm8 (cellCx d b i j) = 2 * k + 1 + ((i : ℝ) - j) * (1 / 2 ^ d) ∧
      cellCy d b i j = s * (2 - m * (1 / 2 ^ d)) ∧ |((i : ℝ) - j) * (1 / 2 ^ d)| + 1 / 2 ^ d ≤ m * (1 / 2 ^ d) ∧
      (m : ℝ) * (1 / 2 ^ d) ≤ 1 ∧ ((m : ℝ) * (1 / 2 ^ d) = 1 / 2 ^ d ∨ 2 * (1 / 2 ^ d) ≤ (m : ℝ) * (1 / 2 ^ d)) := by
  obtain ⟨hk, hi, hj, hm, h⟩ := h
  have hi' := cast_lt_pow hi
  have hj' := cast_lt_pow hj
  have hm' : (m : ℝ) ≤ 2 ^ d := by exact_mod_cast hm
  have hδ0 : 0 < 1 / (2 : ℝ) ^ d := by positivity
  have hδn : (2 : ℝ) ^ d * (1 / 2 ^ d) = 1 := mul_one_div_cancel (pow_pos' d).ne'
  have hm1 : (m : ℝ) = 1 ∨ (2 : ℝ) ≤ m := by
    rcases (by rcases h with ⟨_, _, h⟩ | ⟨_, _, rfl⟩ <;> omega : m = 1 ∨ 2 ≤ m) with h | h
    · left; exact_mod_cast h
    · right; exact_mod_cast h
  -- `nside·δ = 1` turns the ordinate of the centre into `s·(2 − m·δ)`
  have hxy : cellCx d b i j = 2 * k + 1 + ((i : ℝ) - j) * (1 / 2 ^ d) ∧ cellCy d b i j = s * (2 - m * (1 / 2 ^ d)) ∧
      (i : ℝ) - j + 1 ≤ m ∧ (j : ℝ) - i + 1 ≤ m := by
    rcases h with ⟨rfl, rfl, hm⟩ | ⟨rfl, rfl, rfl⟩
    · obtain ⟨bx, by1⟩ := baseX_north b hk
      have hm' : (i : ℝ) + j + m + 1 = 2 * 2 ^ d := by exact_mod_cast hm
      refine ⟨by unfold cellCx; rw [bx]; ring, ?_, by linarith, by linarith⟩
      unfold cellCy; rw [by1]; linear_combination (1 / 2 ^ d) * hm' + hδn
    · obtain ⟨bx, by1⟩ := baseX_south k hk
      have hi0 : (0 : ℝ) ≤ i := Nat.cast_nonneg i
      have hj0 : (0 : ℝ) ≤ j := Nat.cast_nonneg j
      refine ⟨by unfold cellCx; rw [bx]; ring, ?_, by push_cast; linarith, by push_cast; linarith⟩
      unfold cellCy; rw [by1]; push_cast; linear_combination (-1) * hδn
  obtain ⟨hx, hy, h1, h2⟩ := hxy
  have p0 := mul_le_mul_of_nonneg_right hm' hδ0.le
  have p1 := mul_le_mul_of_nonneg_right h1 hδ0.le
  have p2 := mul_le_mul_of_nonneg_right h2 hδ0.le
  -- the abscissa of the centre is at least `2k + δ`: `norm8` leaves it alone
  have hn : norm8 (cellCx d b i j) = cellCx d b i j :=
    norm8_of_nonneg _ (by rw [hx]; linarith only [p0, p2, hδn, hδ0, (Nat.cast_nonneg k : (0 : ℝ) ≤ k)])
  refine ⟨by rcases h with ⟨h, _⟩ | ⟨h, _⟩ <;> simp [h], by rcases h with ⟨_, rfl, _⟩ | ⟨_, rfl, _⟩ <;> omega, hn.trans hx, hy, ?_,
    by linarith only [p0, hδn], hm1.imp (fun h => by rw [h, one_mul]) fun h => mul_le_mul_of_nonneg_right h hδ0.le⟩
  rw [← le_sub_iff_add_le, abs_le]
  constructor <;> linarith only [p1, p2]

theorem cell_zone (d b i j : ℕ) (hb : b < 12) (hi : i < 2 ^ d) (hj : j < 2 ^ d) :
    |cellCy d b i j| < 1 ∨ ∃ s k m, CapCell d b i j s k m := by
  have hδ0 : 0 < 1 / (2 : ℝ) ^ d := by positivity
  have hδn : (2 : ℝ) ^ d * (1 / 2 ^ d) = 1 := mul_one_div_cancel (pow_pos' d).ne'
  have hy : cellCy d b i j = baseY b + ((i : ℝ) + j + 1 - 2 ^ d) * (1 / 2 ^ d) := by unfold cellCy; ring
  -- the ordinate of the centre, less that of the base cell, is `e = (i + j + 1 − n)·δ`, strictly between `−1` and `1`
  have p1 := mul_lt_mul_of_pos_right (show (i : ℝ) + j + 1 - 2 ^ d < 2 ^ d by linarith [cast_lt_pow hi, cast_lt_pow hj]) hδ0
  have p2 := mul_lt_mul_of_pos_right (show -(2 : ℝ) ^ d < (i : ℝ) + j + 1 - 2 ^ d by
    linarith [(Nat.cast_nonneg i : (0 : ℝ) ≤ i), (Nat.cast_nonneg j : (0 : ℝ) ≤ j)]) hδ0
  rw [hδn] at p1
  rw [neg_mul, hδn] at p2
  have q1 : i + j + 1 < 2 ^ d → ((i : ℝ) + j + 1 - 2 ^ d) * (1 / 2 ^ d) < 0 := fun h =>
    mul_neg_of_neg_of_pos (sub_neg.mpr (by exact_mod_cast h)) hδ0
  have q2 : 2 ^ d < i + j + 1 → 0 < ((i : ℝ) + j + 1 - 2 ^ d) * (1 / 2 ^ d) := fun h =>
    mul_pos (sub_pos.mpr (by exact_mod_cast h)) hδ0
  generalize ((i : ℝ) + j + 1 - 2 ^ d) * (1 / 2 ^ d) = e at *
  rcases (by omega : b < 4 ∨ (4 ≤ b ∧ b < 8) ∨ 8 ≤ b) with h4 | h48 | h8
  · rcases Nat.lt_or_ge (i + j + 1) (2 ^ d) with h | h
    · left
      have := q1 h
      rw [hy, (baseX_north b h4).2, abs_lt]; constructor <;> linarith
    · exact Or.inr ⟨1, b, 2 * 2 ^ d - 1 - i - j, h4, hi, hj, by omega, Or.inl ⟨rfl, rfl, by omega⟩⟩
  · left
    rw [hy, show baseY b = 0 by unfold baseY; rw [show b / 4 = 1 by omega]; norm_num, abs_lt]; constructor <;> linarith
  · rcases Nat.lt_or_ge (2 ^ d) (i + j + 1) with h | h
    · left
      have := q2 h
      rw [hy, show b = (b - 8) + 8 by omega, (baseX_south (b - 8) (by omega)).2, abs_lt]; constructor <;> linarith
    · exact Or.inr ⟨-1, b - 8, i + j + 1, by omega, hi, hj, h, Or.inr ⟨rfl, by omega, rfl⟩⟩

theorem cap_cell (cfg : Cfg) (d hash b i j : ℕ) (hd2 : d ≤ 29) (hh : hash < Layer.nHash d)
    (hdec : Layer.decodeHash cfg d hash = some ⟨b, i, j⟩) (s : ℝ) (k m : ℕ) (hc : CapCell d b i j s k m)
    (hm : m + 1 ≤ 2 ^ d) :
    center (α := ℝ) cfg d hash = some (capPt s k (((i : ℝ) - j) * (1 / 2 ^ d)) (m * (1 / 2 ^ d))) ∧
    vertices (α := ℝ) cfg d hash = some
      [capPt s k (((i : ℝ) - j) * (1 / 2 ^ d)) (m * (1 / 2 ^ d) + s * (1 / 2 ^ d)),
       capPt s k (((i : ℝ) - j) * (1 / 2 ^ d) + 1 / 2 ^ d) (m * (1 / 2 ^ d)),
       capPt s k (((i : ℝ) - j) * (1 / 2 ^ d)) (m * (1 / 2 ^ d) - s * (1 / 2 ^ d)),
       capPt s k (((i : ℝ) - j) * (1 / 2 ^ d) + -(1 / 2 ^ d)) (m * (1 / 2 ^ d))] := by
  obtain ⟨hs, hb, hx, hy, ht, -, hpole⟩ := hc.plane
  have hσ1 := step_mul_inside hm
  obtain ⟨hk, hi, hj, -, -⟩ := hc
  have hδ0 : 0 < 1 / (2 : ℝ) ^ d := by positivity
  have heps := epsPole_lt_step d hd2
  have hta := abs_nonneg (((i : ℝ) - j) * (1 / 2 ^ d))
  obtain ⟨uc, uS, uE, uN, uW⟩ := unprojT_cap_cell s hs k hk _ _ _ hδ0 ht hσ1 (by linarith)
    (hpole.symm.imp (fun h => by linarith) fun h => h)
  have hx0 : 1 / 2 ^ d ≤ norm8 (cellCx d b i j) := by
    rw [hx]; linarith [(abs_le.mp (show |((i : ℝ) - j) * (1 / 2 ^ d)| ≤ m * (1 / 2 ^ d) - 1 / 2 ^ d by linarith)).1,
      (Nat.cast_nonneg k : (0 : ℝ) ≤ k)]
  rw [center_plane cfg d hash b i j hh hdec hb hi hj, vertices_plane cfg d hash b i j hh hdec hb hi hj]
  simp only [vtx]
  rw [norm8_sub _ _ hδ0.le hx0, hx, hy, uc, uS, uE, uN, uW]
  exact ⟨rfl, rfl⟩

theorem cap_cell_poleward (cfg : Cfg) (d hash b i j : ℕ) (hd2 : d ≤ 29) (hh : hash < Layer.nHash d)
    (hdec : Layer.decodeHash cfg d hash = some ⟨b, i, j⟩) (s : ℝ) (k m : ℕ) (hc : CapCell d b i j s k m) (v : ℕ)
    (hv : s = 1 ∧ v = 2 ∨ s = -1 ∧ v = 0) :
    center (α := ℝ) cfg d hash = some (capPt s k (((i : ℝ) - j) * (1 / 2 ^ d)) (m * (1 / 2 ^ d))) ∧
    vertex (α := ℝ) cfg d hash v = some (capPt s k (((i : ℝ) - j) * (1 / 2 ^ d)) (m * (1 / 2 ^ d) - 1 / 2 ^ d)) := by
  obtain ⟨hs, hb, hx, hy, ht, hσ1, hpole⟩ := hc.plane
  obtain ⟨hk, hi, hj, -, -⟩ := hc
  have hδ0 : 0 < 1 / (2 : ℝ) ^ d := by positivity
  have heps := epsPole_lt_step d hd2
  have hvt : vtx d b i j v = (norm8 (cellCx d b i j), cellCy d b i j + s * (1 / 2 ^ d)) := by
    rcases hv with ⟨rfl, rfl⟩ | ⟨rfl, rfl⟩ <;> simp [vtx, sub_eq_add_neg]
  rw [center_plane cfg d hash b i j hh hdec hb hi hj,
    vertex_plane cfg d hash b i j v hh hdec hb hi hj (by rcases hv with ⟨-, rfl⟩ | ⟨-, rfl⟩ <;> decide), hvt]
  dsimp only
  generalize ((i : ℝ) - j) * (1 / 2 ^ d) = t at *
  generalize (m : ℝ) * (1 / 2 ^ d) = σ at *
  generalize (1 : ℝ) / 2 ^ d = δ at *
  obtain ⟨t1, t2⟩ := abs_le.mp (show |t| ≤ σ - δ by linarith)
  have key := unprojT_capPt s hs k hk t
  have uc := key σ hσ1 (abs_le.mpr ⟨by linarith, by linarith⟩) (by linarith) (Or.inl (by linarith))
  have un := key (σ - δ) (by linarith) (abs_le.mpr ⟨t1, t2⟩) (by linarith)
    (hpole.symm.imp (fun h => by linarith) fun h => by linarith)
  rw [hx, hy, uc, ← un]
  exact ⟨rfl, by congr 2; ring⟩

/-! ## what the value at the centre of a cap cell dominates -/

/-- the vertices S and N of a cap cell are `(t, σ + s·δ)` and `(t, σ − s·δ)`: towards the equator and towards the pole in the
    north cap, the other way round in the south cap -/
theorem adist_capPt_merid_le (s : ℝ) (hs : s = 1 ∨ s = -1) (k : ℕ) (δ t σ v : ℝ) (hN : dNc δ t σ ≤ v) (hS : dSc δ t σ ≤ v) :
    adist (capPt s k t σ) (capPt s k t (σ + s * δ)) ≤ v ∧ adist (capPt s k t σ) (capPt s k t (σ - s * δ)) ≤ v := by
  rcases hs with rfl | rfl
  · rw [one_mul, adist_capPt_south _ (Or.inl rfl), adist_capPt_north _ (Or.inl rfl)]; exact ⟨hS, hN⟩
  · rw [neg_one_mul, ← sub_eq_add_neg, sub_neg_eq_add, adist_capPt_south _ (Or.inr rfl), adist_capPt_north _ (Or.inr rfl)]
    exact ⟨hN, hS⟩

theorem cap_cell_dominates (cfg : Cfg) (d hash b i j : ℕ) (hd1 : 1 ≤ d) (hd2 : d ≤ 29) (hh : hash < Layer.nHash d)
    (hdec : Layer.decodeHash cfg d hash = some ⟨b, i, j⟩) (s : ℝ) (k m : ℕ) (hc : CapCell d b i j s k m)
    (hm : m + 1 ≤ 2 ^ d) :
    ∃ (c s e n w : ℝ × ℝ) (v : ℝ), v = capVal (1 / 2 ^ d) (((i : ℝ) - j) * (1 / 2 ^ d) / (m * (1 / 2 ^ d))) ∧
      center (α := ℝ) cfg d hash = some c ∧ vertices (α := ℝ) cfg d hash = some [s, e, n, w] ∧
      largestC2V false d c.1 c.2 = some v ∧ adist c e ≤ v ∧ adist c w ≤ v ∧
      (dNc (1 / 2 ^ d) (((i : ℝ) - j) * (1 / 2 ^ d)) (m * (1 / 2 ^ d)) ≤ v →
        dSc (1 / 2 ^ d) (((i : ℝ) - j) * (1 / 2 ^ d)) (m * (1 / 2 ^ d)) ≤ v → adist c s ≤ v ∧ adist c n ≤ v) := by
  obtain ⟨hcen, hver⟩ := cap_cell cfg d hash b i j hd2 hh hdec s k m hc hm
  obtain ⟨hs, -, -, -, ht, -, -⟩ := hc.plane
  have hσ1 := step_mul_inside hm
  obtain ⟨hδ0, hδ1⟩ := distCw_range d
  generalize ((i : ℝ) - j) * (1 / 2 ^ d) = t at *
  generalize (m : ℝ) * (1 / 2 ^ d) = σ at *
  have hta := abs_nonneg t
  have hE : dEc (1 / 2 ^ d) σ ≤ capVal (1 / 2 ^ d) (t / σ) :=
    (dEc_le_dMinP (1 / 2 ^ d) σ hδ0 (by linarith) (by linarith)).trans (dMinP_le_capVal _ _ hδ0.le hδ1)
  refine ⟨_, _, _, _, _, _, rfl, hcen, hver, largestC2V_capPt d hd1 hd2 s hs k _ _ (by linarith) (by linarith), ?_, ?_,
    adist_capPt_merid_le s hs k _ _ _ _⟩
  · rw [adist_capPt_east s hs k (1 / 2 ^ d) _ _ _ (Or.inl rfl) hδ0.le (by linarith) (by linarith) (by linarith)]; exact hE
  · rw [adist_capPt_east s hs k (1 / 2 ^ d) _ _ _ (Or.inr rfl) hδ0.le (by linarith) (by linarith) (by linarith)]; exact hE

theorem cap_cell_dominates_partial (cfg : Cfg) (d hash b i j : ℕ) (hd1 : 1 ≤ d) (hd2 : d ≤ 29) (hh : hash < Layer.nHash d)
    (hdec : Layer.decodeHash cfg d hash = some ⟨b, i, j⟩) (s : ℝ) (k m : ℕ) (hc : CapCell d b i j s k m)
    (hm : m + 1 ≤ 2 ^ d) :
    ∃ (c s e n w : ℝ × ℝ) (v : ℝ), center (α := ℝ) cfg d hash = some c ∧
      vertices (α := ℝ) cfg d hash = some [s, e, n, w] ∧ largestC2V false d c.1 c.2 = some v ∧
      adist c e ≤ v ∧ adist c w ≤ v ∧ (i = j → adist c s ≤ v ∧ adist c n ≤ v) := by
  obtain ⟨c, s', e, n, w, v, hvE, hcen, hver, hv, bE, bW, bNS⟩ := cap_cell_dominates cfg d hash b i j hd1 hd2 hh hdec s k m hc hm
  refine ⟨c, s', e, n, w, v, hcen, hver, hv, bE, bW, fun hij => ?_⟩
  obtain ⟨-, -, -, -, ht, -, -⟩ := hc.plane
  have hσ1 := step_mul_inside hm
  obtain ⟨hδ0, hδ1⟩ := distCw_range d
  have hv0 : dMinP (1 / 2 ^ d) ≤ v := hvE ▸ dMinP_le_capVal _ _ hδ0.le hδ1
  rw [hij, sub_self, zero_mul] at bNS
  rw [hij, sub_self, zero_mul, abs_zero, zero_add] at ht
  exact bNS ((dNc_central_le _ _ hδ0.le ht (by linarith)).trans hv0) ((dSc_central_le _ _ hδ0.le (by linarith) hσ1).trans hv0)

/-- C16, partial (ℝ, release profile, every depth `1 … 29`, every valid cell of a
    north base cell `b < 4` whose centre is strictly inside the cap: `nside ≤ i + j`).  `center` and `vertices` succeed,
    `largest_center_to_vertex_distance(d, lon, lat)` evaluated at `(lon, lat) = center(d, hash)` returns a value `v` which
    is at least the angular distance from the centre to the E and W vertices and, for the cells of the central meridian
    of the base cell (`i = j`, the pole cell `i = j = nside − 1` included), also to the S and N vertices.
    NOT proved: the S and N vertices of the cells `i ≠ j` outside the inner half of the base cell, and of all of them at
    depths 1 and 2 (`EnvelopePolarInner` has the inner half for depth `3 … 29`). -/
theorem polar_envelope_dominates_at_centres_partial (cfg : Cfg) (d hash b i j : ℕ) (hd1 : 1 ≤ d) (hd2 : d ≤ 29)
    (hh : hash < Layer.nHash d) (hdec : Layer.decodeHash cfg d hash = some ⟨b, i, j⟩) (hb : b < 4)
    (hi : i < 2 ^ d) (hj : j < 2 ^ d) (hcap : 2 ^ d ≤ i + j) :
    ∃ (c s e n w : ℝ × ℝ) (v : ℝ), center (α := ℝ) cfg d hash = some c ∧
      vertices (α := ℝ) cfg d hash = some [s, e, n, w] ∧ largestC2V false d c.1 c.2 = some v ∧
      adist c e ≤ v ∧ adist c w ≤ v ∧ (i = j → adist c s ≤ v ∧ adist c n ≤ v) :=
  cap_cell_dominates_partial cfg d hash b i j hd1 hd2 hh hdec 1 b (2 * 2 ^ d - 1 - i - j)
    ⟨hb, hi, hj, by omega, Or.inl ⟨rfl, rfl, by omega⟩⟩ (by omega)

/-- C16, partial, south cap (ℝ, release profile, every depth `1 … 29`, every valid cell of a
    south base cell `b = k + 8`, `k < 4`, whose centre is strictly inside the south cap: `i + j + 2 ≤ nside`).
    Same conclusion as in the north cap: the value of `largest_center_to_vertex_distance` at `center(d, hash)` is at
    least the angular distance to the E and W vertices and, for the cells `i = j` (the south-pole cell `i = j = 0`
    included), to the S and N vertices.  NOT proved: the S and N vertices of the cells `i ≠ j` outside the inner half
    of the base cell, and of all of them at depths 1 and 2. -/
theorem polar_envelope_dominates_at_centres_partial_south (cfg : Cfg) (d hash k i j : ℕ) (hd1 : 1 ≤ d) (hd2 : d ≤ 29)
    (hh : hash < Layer.nHash d) (hdec : Layer.decodeHash cfg d hash = some ⟨k + 8, i, j⟩) (hk : k < 4)
    (hi : i < 2 ^ d) (hj : j < 2 ^ d) (hcap : i + j + 2 ≤ 2 ^ d) :
    ∃ (c s e n w : ℝ × ℝ) (v : ℝ), center (α := ℝ) cfg d hash = some c ∧
      vertices (α := ℝ) cfg d hash = some [s, e, n, w] ∧ largestC2V false d c.1 c.2 = some v ∧
      adist c e ≤ v ∧ adist c w ≤ v ∧ (i = j → adist c s ≤ v ∧ adist c n ≤ v) :=
  cap_cell_dominates_partial cfg d hash (k + 8) i j hd1 hd2 hh hdec (-1) k (i + j + 1)
    ⟨hk, hi, hj, by omega, Or.inr ⟨rfl, rfl, rfl⟩⟩ (by omega)

/-- depth 2, cell 15 = base cell 0, `(i, j) = (3, 3)`: the pole cell -/
example : ∃ (c s e n w : ℝ × ℝ) (v : ℝ), center (α := ℝ) {} 2 15 = some c ∧
      vertices (α := ℝ) {} 2 15 = some [s, e, n, w] ∧ largestC2V false 2 c.1 c.2 = some v ∧
      adist c e ≤ v ∧ adist c w ≤ v ∧ ((3 : ℕ) = 3 → adist c s ≤ v ∧ adist c n ≤ v) :=
  polar_envelope_dominates_at_centres_partial {} 2 15 0 3 3 (by decide) (by decide) (by decide) (by decide +kernel)
    (by decide) (by decide) (by decide) (by decide)

/-- depth 2, cell 14 = base cell 0, `(i, j) = (2, 3)`: off the central meridian (E and W only) -/
example : ∃ (c s e n w : ℝ × ℝ) (v : ℝ), center (α := ℝ) {} 2 14 = some c ∧
      vertices (α := ℝ) {} 2 14 = some [s, e, n, w] ∧ largestC2V false 2 c.1 c.2 = some v ∧
      adist c e ≤ v ∧ adist c w ≤ v ∧ ((2 : ℕ) = 3 → adist c s ≤ v ∧ adist c n ≤ v) :=
  polar_envelope_dominates_at_centres_partial {} 2 14 0 2 3 (by decide) (by decide) (by decide) (by decide +kernel)
    (by decide) (by decide) (by decide) (by decide)

/-- depth 2, cell 128 = base cell 8, `(i, j) = (0, 0)`: the south-pole cell -/
example : ∃ (c s e n w : ℝ × ℝ) (v : ℝ), center (α := ℝ) {} 2 128 = some c ∧
      vertices (α := ℝ) {} 2 128 = some [s, e, n, w] ∧ largestC2V false 2 c.1 c.2 = some v ∧
      adist c e ≤ v ∧ adist c w ≤ v ∧ ((0 : ℕ) = 0 → adist c s ≤ v ∧ adist c n ≤ v) :=
  polar_envelope_dominates_at_centres_partial_south {} 2 128 0 0 0 (by decide) (by decide) (by decide)
    (by decide +kernel) (by decide) (by decide) (by decide) (by decide)

end Hpx.EnvelopePolar

#print axioms Hpx.EnvelopePolar.true_c2v_cap
#print axioms Hpx.EnvelopePolar.cap_cell
#print axioms Hpx.EnvelopePolar.polar_envelope_dominates_at_centres_partial
#print axioms Hpx.EnvelopePolar.polar_envelope_dominates_at_centres_partial_south
