import HpxVerif.Lemmas.BmocSem

/-!
Well-formed cell lists: the state of a point of a listed cell, concatenation, lists carrying one flag, range of the cell
numbers, change of the reference depth; membership and order of `sortNat` / `dedupAdj` (the model of `sort; dedup`).
-/

namespace Hpx.Bmoc

theorem ofFlag_inj {f g : Bool} (h : Tri.ofFlag f = Tri.ofFlag g) : f = g := by
  cases f <;> cases g <;> simp [Tri.ofFlag] at h ⊢

theorem tri_max_eq_abs {a b : Tri} : Tri.max a b = .abs ↔ a = .abs ∧ b = .abs := by
  cases a <;> cases b <;> simp [Tri.max]

theorem tri_max_of_flag {f : Bool} {s t : Tri} (hs : s = .abs ∨ s = Tri.ofFlag f) (ht : t = .abs ∨ t = Tri.ofFlag f) :
    Tri.max s t = .abs ∨ Tri.max s t = Tri.ofFlag f := by
  rcases hs with rfl | rfl <;> rcases ht with rfl | rfl <;> cases f <;> simp [Tri.max, Tri.ofFlag]

theorem shl1 (n : Nat) : n <<< 1 = 2 * n := by rw [Nat.shiftLeft_eq]; omega

theorem twelve_pow_lt (d : Nat) (hd : d ≤ 29) : 12 * 4 ^ d < 2 ^ 62 := by
  have : 4 ^ d ≤ 4 ^ 29 := Nat.pow_le_pow_right (by decide) hd
  calc 12 * 4 ^ d ≤ 12 * 4 ^ 29 := Nat.mul_le_mul_left _ this
    _ < 2 ^ 62 := by decide

theorem shr2_eq_div (h k : Nat) : h >>> (2 * k) = h / 4 ^ k := by rw [← shl1, shr_eq_div]

/-- a cell lies inside its ancestor `k` levels up (the cells `(d, h)` and `(d - k, h / 4^k)`, intervals written out) -/
theorem anc_bounds (D d k h : Nat) (hk : k ≤ d) (hD : d ≤ D) :
    h / 4 ^ k * 4 ^ (D - (d - k)) ≤ h * 4 ^ (D - d) ∧ (h + 1) * 4 ^ (D - d) ≤ (h / 4 ^ k + 1) * 4 ^ (D - (d - k)) := by
  have e : 4 ^ (D - (d - k)) = 4 ^ k * 4 ^ (D - d) := by rw [← Nat.pow_add]; congr 1; omega
  have := Nat.lt_div_mul_add (a := h) (b := 4 ^ k) (Nat.pow_pos (by decide))
  rw [e, ← Nat.mul_assoc, ← Nat.mul_assoc]
  exact ⟨Nat.mul_le_mul_right _ (Nat.div_mul_le_self _ _), Nat.mul_le_mul_right _ (by rw [Nat.add_mul]; omega)⟩

theorem anc_inR {d k h : Nat} (hk : k ≤ d) (hh : h < 12 * 4 ^ d) : h / 4 ^ k < 12 * 4 ^ (d - k) := by
  apply Nat.div_lt_of_lt_mul
  rwa [show 4 ^ d = 4 ^ k * 4 ^ (d - k) by rw [← Nat.pow_add]; congr 1; omega, Nat.mul_left_comm] at hh

theorem hi_eq_lo_add (D : Nat) (c : Cell) : hi D c = lo D c + 4 ^ (D - c.depth) := by
  unfold hi lo; rw [Nat.add_mul, Nat.one_mul]

theorem parent_interval (D d h : Nat) (f : Bool) (hd : 0 < d) (hD : d ≤ D) :
    lo D ⟨d - 1, h / 4, f⟩ = 4 * (h / 4) * 4 ^ (D - d) ∧ hi D ⟨d - 1, h / 4, f⟩ = (4 * (h / 4) + 4) * 4 ^ (D - d) := by
  have e : 4 ^ (D - (d - 1)) = 4 * 4 ^ (D - d) := by
    rw [show D - (d - 1) = (D - d) + 1 by omega, Nat.pow_succ, Nat.mul_comm]
  constructor
  · show h / 4 * 4 ^ (D - (d - 1)) = _
    rw [e, ← Nat.mul_assoc]; congr 1; omega
  · show (h / 4 + 1) * 4 ^ (D - (d - 1)) = _
    rw [e, ← Nat.mul_assoc]; congr 1; omega

theorem covers_iff (D : Nat) (c : Cell) (x : Nat) : covers D c x = true ↔ lo D c ≤ x ∧ x < hi D c := by
  simp [covers]

theorem covers_parent (D d h : Nat) (f f0 f1 f2 f3 : Bool) (hd : 0 < d) (hdD : d ≤ D) (h4 : h % 4 = 0) (x : Nat) :
    covers D ⟨d - 1, h / 4, f⟩ x =
      (covers D ⟨d, h, f0⟩ x || covers D ⟨d, h + 1, f1⟩ x || covers D ⟨d, h + 2, f2⟩ x || covers D ⟨d, h + 3, f3⟩ x) := by
  obtain ⟨e1, e2⟩ := parent_interval D d h f hd hdD
  rw [Bool.eq_iff_iff]
  simp only [Bool.or_eq_true, covers_iff, e1, e2, lo_mk, hi_mk, show 4 * (h / 4) = h by omega, Nat.add_mul]
  generalize 4 ^ (D - d) = W
  omega

theorem stOf_tail_of_ge {D : Nat} {c : Cell} {l : List Cell} {x : Nat} (hx : hi D c ≤ x) :
    stOf D (c :: l) x = stOf D l x := by
  rw [stOf_cons]
  have : ¬ (lo D c ≤ x ∧ x < hi D c) := by omega
  simp [this]

theorem stOf_in_cons {D : Nat} {c : Cell} {l : List Cell} {x : Nat} (h1 : lo D c ≤ x) (h2 : x < hi D c) :
    stOf D (c :: l) x = Tri.ofFlag c.full := by
  rw [stOf_cons]; simp [h1, h2]

theorem st_facts {D : Nat} {c : Cell} {l : List Cell} (h : WF D (c :: l)) (x : Nat) :
    (x < lo D c → stOf D (c :: l) x = .abs) ∧ (x < hi D c → stOf D l x = .abs) := by
  have hlh := lo_lt_hi D c
  constructor
  · intro hx
    apply stOf_absent_of_lt
    intro c' hc'
    rcases List.mem_cons.1 hc' with rfl | hc'
    · exact hx
    · have := h.lo_ge c' hc'; omega
  · intro hx
    apply stOf_absent_of_lt
    intro c' hc'
    have := h.lo_ge c' hc'; omega

theorem WF.lo_lt {D : Nat} {c : Cell} {l : List Cell} (h : WF D (c :: l)) : ∀ c' ∈ l, lo D c < lo D c' := by
  intro c' hc'
  have := h.2.1 c' hc'
  have := lo_lt_hi D c
  omega

theorem WF.all_ge {D : Nat} {c : Cell} {l : List Cell} {m : Nat} (hw : WF D (c :: l)) (h : m ≤ lo D c) :
    ∀ c' ∈ c :: l, m ≤ lo D c' := by
  intro c' hc'
  rcases List.mem_cons.1 hc' with rfl | hc'
  · exact h
  · have := hw.lo_lt c' hc'; omega

theorem stOf_of_mem {D : Nat} {l : List Cell} (hw : WF D l) {c : Cell} (hc : c ∈ l) {x : Nat}
    (h1 : lo D c ≤ x) (h2 : x < hi D c) : stOf D l x = Tri.ofFlag c.full := by
  induction l with
  | nil => simp at hc
  | cons a l ih =>
    rcases List.mem_cons.1 hc with rfl | hm
    · exact stOf_in_cons h1 h2
    · have := hw.2.1 c hm
      rw [stOf_tail_of_ge (by omega)]
      exact ih hw.tail hm

theorem stOf_ne_abs_covered {D : Nat} {l : List Cell} {x : Nat} (h : stOf D l x ≠ .abs) :
    ∃ c ∈ l, lo D c ≤ x ∧ x < hi D c :=
  (stOf_ne_abs_iff D l x).1 h

theorem stOf_of_all_flag {D : Nat} {l : List Cell} {f : Bool} (h : ∀ c ∈ l, c.full = f) (x : Nat) :
    stOf D l x = .abs ∨ stOf D l x = Tri.ofFlag f := by
  induction l with
  | nil => exact Or.inl rfl
  | cons c l ih =>
    rw [stOf_cons]
    split
    · exact Or.inr (by rw [h c (by simp)])
    · exact ih (fun c' hc' => h c' (by simp [hc']))

theorem flags_of_sem {D : Nat} {l : List Cell} {f : Bool} (hw : WF D l)
    (h : ∀ x, stOf D l x = .abs ∨ stOf D l x = Tri.ofFlag f) : ∀ c ∈ l, c.full = f := by
  intro c hc
  have h1 := stOf_of_mem hw hc (Nat.le_refl _) (lo_lt_hi D c)
  rcases h (lo D c) with h2 | h2
  · rw [h1] at h2; exact absurd h2 (ofFlag_ne_abs _)
  · rw [h1] at h2; exact ofFlag_inj h2

theorem stOf_append (D : Nat) (l1 l2 : List Cell) (x : Nat) :
    stOf D (l1 ++ l2) x = if stOf D l1 x = .abs then stOf D l2 x else stOf D l1 x := by
  induction l1 with
  | nil => simp [stOf]
  | cons c l ih =>
    simp only [List.cons_append, stOf]
    split
    · cases c.full <;> simp [Tri.ofFlag]
    · exact ih

theorem stOf_append_of_ge {D : Nat} {l1 l2 : List Cell} {x : Nat} (h : ∀ c ∈ l1, hi D c ≤ x) :
    stOf D (l1 ++ l2) x = stOf D l2 x := by
  rw [stOf_append, stOf_absent_of_ge h]; rfl

theorem stOf_append_of_lt {D : Nat} {l1 l2 : List Cell} {x : Nat} (h : ∀ c ∈ l2, x < lo D c) :
    stOf D (l1 ++ l2) x = stOf D l1 x := by
  rw [stOf_append, stOf_absent_of_lt h]
  split
  · rename_i h1; exact h1.symm
  · rfl

theorem WF_append_iff {D : Nat} {a b : List Cell} :
    WF D (a ++ b) ↔ WF D a ∧ WF D b ∧ ∀ x ∈ a, ∀ y ∈ b, hi D x ≤ lo D y := by
  induction a with
  | nil => simp [WF]
  | cons c l ih =>
    simp only [List.cons_append, WF, ih, List.mem_append, List.mem_cons]
    constructor
    · rintro ⟨h1, h2, h3, h4, h5⟩
      refine ⟨⟨h1, fun c' hc' => h2 c' (Or.inl hc'), h3⟩, h4, ?_⟩
      intro x hx y hy
      rcases hx with rfl | hx
      · exact h2 y (Or.inr hy)
      · exact h5 x hx y hy
    · rintro ⟨⟨h1, h2, h3⟩, h4, h5⟩
      refine ⟨h1, ?_, h3, h4, fun x hx y hy => h5 x (Or.inr hx) y hy⟩
      intro c' hc'
      rcases hc' with hc' | hc'
      · exact h2 c' hc'
      · exact h5 c (Or.inl rfl) c' hc'

/-- `l` is well formed and does not start before `a`: the form in which a list built cell by cell carries its
    well-formedness (`WF` of `c :: l` asks for `l` to start at or after the end of `c`) -/
def From (D a : Nat) (l : List Cell) : Prop := WF D l ∧ ∀ c ∈ l, a ≤ lo D c

theorem From.nil (D a : Nat) : From D a [] := ⟨trivial, fun c hc => by simp at hc⟩

theorem From.cons {D a : Nat} {c : Cell} {l : List Cell} (hd : c.depth ≤ D) (ha : a ≤ lo D c) (h : From D (hi D c) l) :
    From D a (c :: l) := by
  have := lo_lt_hi D c
  refine ⟨⟨hd, h.2, h.1⟩, fun c' hc' => ?_⟩
  rcases List.mem_cons.1 hc' with rfl | hc'
  · exact ha
  · have := h.2 c' hc'; omega

theorem From.uncons {D a : Nat} {c : Cell} {l : List Cell} (h : From D a (c :: l)) :
    c.depth ≤ D ∧ a ≤ lo D c ∧ From D (hi D c) l :=
  ⟨h.1.1, h.2 c (by simp), h.1.tail, h.1.2.1⟩

theorem From.mono {D a a' : Nat} {l : List Cell} (h : From D a l) (ha : a' ≤ a) : From D a' l :=
  ⟨h.1, fun c hc => Nat.le_trans ha (h.2 c hc)⟩

theorem WF.from_zero {D : Nat} {l : List Cell} (h : WF D l) : From D 0 l := ⟨h, fun _ _ => Nat.zero_le _⟩

def Within (D : Nat) (l : List Cell) (a b : Nat) : Prop := From D a l ∧ ∀ c ∈ l, hi D c ≤ b

theorem Within.nil (D a b : Nat) : Within D [] a b := ⟨From.nil D a, fun c hc => by simp at hc⟩

theorem Within.single {D : Nat} {c : Cell} (hd : c.depth ≤ D) : Within D [c] (lo D c) (hi D c) :=
  ⟨From.cons hd (Nat.le_refl _) (From.nil _ _), fun c' hc' => by simp at hc'; rw [hc']; exact Nat.le_refl _⟩

theorem Within.mono {D a a' b b' : Nat} {l : List Cell} (h : Within D l a b) (ha : a' ≤ a) (hb : b ≤ b') :
    Within D l a' b' :=
  ⟨h.1.mono ha, fun c hc => Nat.le_trans (h.2 c hc) hb⟩

theorem Within.append {D a b c : Nat} {l1 l2 : List Cell} (h1 : Within D l1 a b) (h2 : Within D l2 b c)
    (hab : a ≤ b) (hbc : b ≤ c) : Within D (l1 ++ l2) a c := by
  refine ⟨⟨WF_append_iff.2 ⟨h1.1.1, h2.1.1, fun x hx y hy => Nat.le_trans (h1.2 x hx) (h2.1.2 y hy)⟩, fun x hx => ?_⟩,
    fun x hx => ?_⟩ <;> rcases List.mem_append.1 hx with h | h
  · exact h1.1.2 x h
  · exact Nat.le_trans hab (h2.1.2 x h)
  · exact Nat.le_trans (h1.2 x h) hbc
  · exact h2.2 x h

theorem hi_le_iff_inRange {D : Nat} {c : Cell} (hd : c.depth ≤ D) :
    hi D c ≤ 12 * 4 ^ D ↔ c.hash < 12 * 4 ^ c.depth := by
  unfold hi
  have e : 4 ^ D = 4 ^ c.depth * 4 ^ (D - c.depth) := by rw [← Nat.pow_add]; congr 1; omega
  rw [e, ← Nat.mul_assoc]
  exact ⟨fun h => Nat.le_of_mul_le_mul_right h (Nat.pow_pos (by decide)), fun h => Nat.mul_le_mul_right _ h⟩

theorem lo_rebase {d D : Nat} (h : d ≤ D) {c : Cell} (hc : c.depth ≤ d) : lo D c = lo d c * 4 ^ (D - d) := by
  unfold lo; rw [four_pow_split hc h, Nat.mul_assoc]

theorem hi_rebase {d D : Nat} (h : d ≤ D) {c : Cell} (hc : c.depth ≤ d) : hi D c = hi d c * 4 ^ (D - d) := by
  unfold hi; rw [four_pow_split hc h, Nat.mul_assoc]

theorem WF_rebase {d D : Nat} (h : d ≤ D) {l : List Cell} (hw : WF d l) : WF D l := by
  induction l with
  | nil => trivial
  | cons c l ih =>
    refine ⟨Nat.le_trans hw.1 h, ?_, ih hw.tail⟩
    intro c' hc'
    rw [hi_rebase h hw.1, lo_rebase h (hw.tail.depth_le c' hc')]
    exact Nat.mul_le_mul_right _ (hw.2.1 c' hc')

theorem stOf_rebase {d D : Nat} (h : d ≤ D) {l : List Cell} (hdep : ∀ c ∈ l, c.depth ≤ d) (x : Nat) :
    stOf D l x = stOf d l (x / 4 ^ (D - d)) := by
  have hk : 0 < 4 ^ (D - d) := Nat.pow_pos (by decide)
  induction l with
  | nil => rfl
  | cons c l ih =>
    have hc := hdep c (by simp)
    rw [stOf_cons, stOf_cons, ih (fun c' hc' => hdep c' (by simp [hc'])), lo_rebase h hc, hi_rebase h hc]
    simp only [Nat.le_div_iff_mul_le hk, Nat.div_lt_iff_lt_mul hk]

/-! ## `sort_unstable(); dedup()` as `sortNat`, `dedupAdj`: membership and order -/

theorem insertSorted_perm (x : Nat) (l : List Nat) : (insertSorted x l).Perm (x :: l) := by
  induction l with
  | nil => exact List.Perm.refl _
  | cons a l ih =>
    unfold insertSorted
    split
    · exact List.Perm.refl _
    · exact (List.Perm.cons a ih).trans (List.Perm.swap x a l)

theorem sortNat_perm (l : List Nat) : (sortNat l).Perm l := by
  induction l with
  | nil => exact List.Perm.refl _
  | cons a l ih => exact (insertSorted_perm a _).trans (List.Perm.cons a ih)

theorem mem_insertSorted (x y : Nat) (l : List Nat) : y ∈ insertSorted x l ↔ y = x ∨ y ∈ l :=
  (insertSorted_perm x l).mem_iff.trans List.mem_cons

theorem mem_sortNat (y : Nat) (l : List Nat) : y ∈ sortNat l ↔ y ∈ l := (sortNat_perm l).mem_iff

theorem pairwise_insertSorted (x : Nat) (l : List Nat) (h : l.Pairwise (· ≤ ·)) :
    (insertSorted x l).Pairwise (· ≤ ·) := by
  induction l with
  | nil => simp [insertSorted]
  | cons a l ih =>
    unfold insertSorted
    have h' := List.pairwise_cons.mp h
    split
    · rename_i hxa
      refine List.pairwise_cons.mpr ⟨?_, h⟩
      intro b hb
      rcases List.mem_cons.mp hb with rfl | hb
      · exact hxa
      · exact Nat.le_trans hxa (h'.1 b hb)
    · rename_i hxa
      refine List.pairwise_cons.mpr ⟨?_, ih h'.2⟩
      intro b hb
      rcases (mem_insertSorted x b l).mp hb with rfl | hb
      · omega
      · exact h'.1 b hb

theorem pairwise_sortNat (l : List Nat) : (sortNat l).Pairwise (· ≤ ·) := by
  induction l with
  | nil => simp [sortNat]
  | cons a l ih => exact pairwise_insertSorted a _ ih

theorem sortNat_strict (l : List Nat) (h : l.Nodup) : (sortNat l).Pairwise (· < ·) :=
  ((pairwise_sortNat l).and ((sortNat_perm l).nodup_iff.2 h)).imp fun h => Nat.lt_of_le_of_ne h.1 h.2

theorem mem_dedupAdj (y : Nat) : ∀ l : List Nat, y ∈ dedupAdj l ↔ y ∈ l
  | [] => by simp [dedupAdj]
  | [x] => by simp [dedupAdj]
  | x :: z :: rest => by
    have ih := mem_dedupAdj y (z :: rest)
    unfold dedupAdj
    split
    · rename_i hxz
      have : x = z := by simpa using hxz
      subst this
      rw [ih]; simp
    · simp only [List.mem_cons] at ih ⊢
      rw [ih]

theorem dedupAdj_sublist : ∀ l : List Nat, (dedupAdj l).Sublist l
  | [] => by simp [dedupAdj]
  | [x] => by simp [dedupAdj]
  | x :: z :: rest => by
    have ih := dedupAdj_sublist (z :: rest)
    unfold dedupAdj
    split
    · exact List.Sublist.cons _ ih
    · exact List.Sublist.cons_cons _ ih

theorem pairwise_dedup_sort (l : List Nat) : (dedupAdj (sortNat l)).Pairwise (· ≤ ·) :=
  List.Pairwise.sublist (dedupAdj_sublist _) (pairwise_sortNat l)

theorem mem_dedup_sort (y : Nat) (l : List Nat) : y ∈ dedupAdj (sortNat l) ↔ y ∈ l := by
  rw [mem_dedupAdj, mem_sortNat]

theorem stOf_eq_ofFlag_iff {D : Nat} {l : List Cell} (hw : WF D l) (x : Nat) (f : Bool) :
    stOf D l x = Tri.ofFlag f ↔ ∃ c ∈ l, c.full = f ∧ lo D c ≤ x ∧ x < hi D c := by
  constructor
  · intro h
    obtain ⟨c, hc, h1, h2⟩ := stOf_ne_abs_covered (l := l) (x := x) (by rw [h]; exact ofFlag_ne_abs _)
    rw [stOf_of_mem hw hc h1 h2] at h
    exact ⟨c, hc, ofFlag_inj h, h1, h2⟩
  · rintro ⟨c, hc, rfl, h1, h2⟩
    exact stOf_of_mem hw hc h1 h2

theorem div_bounds (x P : Nat) (hP : 0 < P) : x / P * P ≤ x ∧ x < (x / P + 1) * P := by
  refine ⟨Nat.div_mul_le_self x P, ?_⟩
  have := Nat.lt_mul_div_succ x hP
  rw [Nat.mul_comm] at this
  exact this

theorem covers_iff_div (D : Nat) (c : Cell) (x : Nat) :
    (lo D c ≤ x ∧ x < hi D c) ↔ x / 4 ^ (D - c.depth) = c.hash := by
  unfold lo hi
  have hp : 0 < 4 ^ (D - c.depth) := Nat.pow_pos (by decide)
  constructor
  · rintro ⟨h1, h2⟩
    exact Nat.div_eq_of_lt_le h1 h2
  · intro h
    rw [← h]
    exact div_bounds x _ hp

theorem stOf_eq_ofFlag_iff_div {D : Nat} {l : List Cell} (hw : WF D l) (x : Nat) (f : Bool) :
    stOf D l x = Tri.ofFlag f ↔ ∃ c ∈ l, c.full = f ∧ x / 4 ^ (D - c.depth) = c.hash := by
  simp only [stOf_eq_ofFlag_iff hw, covers_iff_div]

end Hpx.Bmoc
