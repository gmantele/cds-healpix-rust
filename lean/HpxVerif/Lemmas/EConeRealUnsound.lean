/-
Real-valued meaning of the elliptical-cone tests of `elliptical_cone_coverage` (C13):
**for `a ≠ b` the skip test of the descent (`¬contains(centre) ∧ overlap_cone = false`) is not sound**, over the reals
(no rounding involved): an explicit configuration with rational sines and cosines in which a cone contains a point of the
elliptical cone, yet its centre is outside the ellipse and `overlap_cone` answers `false`.

Reason: `Ellipse::overlap` tests the centre of the projected cone against the ellipse whose covariance entries are
`(√σx₁² + √σx₂²)²`, `(√σy₁² + √σy₂²)²`, `ρ₁ + ρ₂` (`extended_geom`, "formula to be verified" in the source).  That ellipse is
*inside* the Minkowski sum of the two ellipses (Minkowski's inequality on the support functions) and coincides with it
only along the common axes; the test is therefore too strict as soon as the centre of the projected cone is off the axes of
the sum — which never happens when `a = b` (`overlap_cone_circular_sound`), and does happen for elongated ellipses.

C13 only states "contains the cell of the centre" and "for `a = b` contains every cell touched by the cone", both proved
(relative to the envelope hypothesis) in `Lemmas/EConeRealScheme.lean`; this file documents that the restriction to `a = b` cannot be lifted.
-/
import HpxVerif.Lemmas.EConeReal

namespace Hpx.Sph
open Hpx Hpx.Cover Real

theorem cos_arcsin_of_sq (x c : ℝ) (hc : 0 ≤ c) (h : c ^ 2 = 1 - x ^ 2) : cos (arcsin x) = c := by
  rw [cos_arcsin, ← h]; exact Real.sqrt_sq hc

theorem arcsin_pos_lt (x : ℝ) (h0 : 0 < x) (h1 : x < 1) : 0 < arcsin x ∧ arcsin x < π / 2 :=
  ⟨arcsin_pos.mpr h0, arcsin_lt_pi_div_two.mpr h1⟩

theorem contains_origin (a b pa l φ : ℝ) (hsa : sin a ≠ 0) (hsb : sin b ≠ 0) (hw : 0 < cos φ * cos l) :
    (ECone.new (α := ℝ) 0 0 a b pa).contains l φ = true ↔
      ((cos φ * sin l * cos (π / 2 - pa) + sin φ * sin (π / 2 - pa)) / sin a) ^ 2 +
      ((cos φ * sin l * sin (π / 2 - pa) - sin φ * cos (π / 2 - pa)) / sin b) ^ 2 ≤ 1 := by
  unfold ECone.contains ECone.new
  simp only [num_sin, num_cos]
  rw [proj_sin_spec _ (ProjSIN.new_coherent 0 0), ProjSIN.new_c0_zero, cos_adist']
  simp only [sin_zero, cos_zero, zero_mul, one_mul, zero_add, sub_zero, sinX, sinY]
  rw [if_pos hw, ellipse_contains_real _ _ _ _ _ _ hsa hsb (theta_unit pa), Proj.r_hpi]

noncomputable def cxA : ℝ := arcsin (19 / 20)
noncomputable def cxB : ℝ := arcsin (1 / 100)
noncomputable def cxPa : ℝ := π / 2 - arcsin (24 / 25)
noncomputable def cxD : ℝ := arcsin (84 / 85)
noncomputable def cxR : ℝ := arcsin (5 / 13)
noncomputable def cxL : ℝ := arcsin (3 / 5)
noncomputable def cxPhi : ℝ := arcsin (80 / 89)

theorem cx_sinA : sin cxA = 19 / 20 := sin_arcsin (by norm_num) (by norm_num)
theorem cx_sinB : sin cxB = 1 / 100 := sin_arcsin (by norm_num) (by norm_num)
theorem cx_sinT : sin (π / 2 - cxPa) = 24 / 25 := by
  unfold cxPa; rw [sub_sub_cancel]; exact sin_arcsin (by norm_num) (by norm_num)
theorem cx_cosT : cos (π / 2 - cxPa) = 7 / 25 := by
  unfold cxPa; rw [sub_sub_cancel]; exact cos_arcsin_of_sq _ _ (by norm_num) (by norm_num)
theorem cx_sinD : sin cxD = 84 / 85 := sin_arcsin (by norm_num) (by norm_num)
theorem cx_cosD : cos cxD = 13 / 85 := cos_arcsin_of_sq _ _ (by norm_num) (by norm_num)
theorem cx_sinR : sin cxR = 5 / 13 := sin_arcsin (by norm_num) (by norm_num)
theorem cx_cosR : cos cxR = 12 / 13 := cos_arcsin_of_sq _ _ (by norm_num) (by norm_num)
theorem cx_sinL : sin cxL = 3 / 5 := sin_arcsin (by norm_num) (by norm_num)
theorem cx_cosL : cos cxL = 4 / 5 := cos_arcsin_of_sq _ _ (by norm_num) (by norm_num)
theorem cx_sinPhi : sin cxPhi = 80 / 89 := sin_arcsin (by norm_num) (by norm_num)
theorem cx_cosPhi : cos cxPhi = 39 / 89 := cos_arcsin_of_sq _ _ (by norm_num) (by norm_num)

theorem cx_ranges : 0 < cxB ∧ cxB ≤ cxA ∧ cxA < π / 2 ∧ 0 < cxR ∧ cxR ≤ π / 2 ∧ 0 < cxD ∧ cxD < π / 2 := by
  refine ⟨(arcsin_pos_lt _ (by norm_num) (by norm_num)).1, arcsin_le_arcsin (by norm_num),
    (arcsin_pos_lt _ (by norm_num) (by norm_num)).2, (arcsin_pos_lt _ (by norm_num) (by norm_num)).1,
    (arcsin_pos_lt _ (by norm_num) (by norm_num)).2.le, (arcsin_pos_lt _ (by norm_num) (by norm_num)).1,
    (arcsin_pos_lt _ (by norm_num) (by norm_num)).2⟩

theorem cx_q_inside : (ECone.new (α := ℝ) 0 0 cxA cxB cxPa).contains cxL cxPhi = true := by
  rw [contains_origin _ _ _ _ _ (by rw [cx_sinA]; norm_num) (by rw [cx_sinB]; norm_num)
    (by rw [cx_cosPhi, cx_cosL]; norm_num)]
  rw [cx_sinA, cx_sinB, cx_sinT, cx_cosT, cx_sinL, cx_sinPhi, cx_cosPhi]
  norm_num

theorem cx_p_outside : (ECone.new (α := ℝ) 0 0 cxA cxB cxPa).contains 0 cxD = false := by
  have := contains_origin cxA cxB cxPa 0 cxD (by rw [cx_sinA]; norm_num) (by rw [cx_sinB]; norm_num)
    (by rw [cx_cosD, cos_zero]; norm_num)
  rw [cx_sinA, cx_sinB, cx_sinT, cx_cosT, cx_sinD, cx_cosD, sin_zero] at this
  by_contra h
  have h' := this.mp (by simpa using h)
  norm_num at h'

theorem cx_q_in_cone : adist (0, cxD) (cxL, cxPhi) ≤ cxR := by
  have hr := cx_ranges
  have hc : cos cxR ≤ cos (adist (0, cxD) (cxL, cxPhi)) := by
    rw [cos_adist]
    simp only
    rw [zero_sub, cos_neg, cx_sinD, cx_cosD, cx_sinPhi, cx_cosPhi, cx_cosL, cx_cosR]
    norm_num
  by_contra hlt
  have := cos_lt_cos_of_nonneg_of_le_pi hr.2.2.2.1.le (adist_le_pi _ _) (not_le.mp hlt)
  linarith

theorem cov_not_contains_of (Sx Sy ρ X Y : ℝ) (hdet : 0 < Sx * Sy - ρ * ρ)
    (h : Sx * Sy - ρ * ρ < X * X * Sy - 2 * (ρ * X * Y) + Y * Y * Sx) :
    (Ellipse.fromCov (α := ℝ) Sx Sy ρ).contains X Y = false := by
  unfold Ellipse.contains Ellipse.fromCov pow2
  rw [Proj.r_le, Proj.r_one, Proj.r_two, decide_eq_false_iff_not, not_le]
  simp only
  rw [one_div, lt_inv_mul_iff₀ hdet]; linarith

/-- the numeric core of the configuration: with `x = σx + sin r` and `y = σy + B` in their brackets, the covariance form of
    `extended_geom` has a positive determinant and rejects the point at `1008/1105` on the second axis -/
theorem cx_numeric (x y : ℝ) (hxl : 2661 / 10000 + 5 / 13 ≤ x) (hxu : x ≤ 2662 / 10000 + 5 / 13)
    (hyl : 912 / 1000 + 1 / 17 ≤ y) (hyu : y ≤ 91201 / 100000 + 1 / 17) :
    (7 / 25 * (24 / 25) * (19 / 20 * (19 / 20) - 1 / 100 * (1 / 100))) ^ 2 < x * x * (y * y) ∧
    x * x * (y * y - 1008 / 1105 * (1008 / 1105)) <
      (7 / 25 * (24 / 25) * (19 / 20 * (19 / 20) - 1 / 100 * (1 / 100))) ^ 2 := by
  have hx0 : 0 ≤ x := le_trans (by norm_num) hxl
  have hy0 : 0 ≤ y := le_trans (by norm_num) hyl
  have hxx := mul_self_le_mul_self (by norm_num) hxl
  have hyy := mul_self_le_mul_self (by norm_num) hyl
  constructor
  · exact lt_of_lt_of_le (by norm_num) (mul_le_mul hxx hyy (by norm_num) (mul_self_nonneg x))
  · have hgap : 0 ≤ y * y - 1008 / 1105 * (1008 / 1105) := sub_nonneg.mpr (le_trans (by norm_num) hyy)
    exact lt_of_le_of_lt (mul_le_mul (mul_self_le_mul_self hx0 hxu)
      (sub_le_sub_right (mul_self_le_mul_self hy0 hyu) _) hgap (by norm_num)) (by norm_num)

theorem cx_overlap_false : (ECone.new (α := ℝ) 0 0 cxA cxB cxPa).overlapCone 0 cxD cxR = some false := by
  have hr := cx_ranges
  have hd : adist (0, cxD) (ProjSIN.new (α := ℝ) 0 0).c0 = cxD := by
    rw [ProjSIN.new_c0_zero]; exact adist_same_lon 0 cxD hr.2.2.2.2.2.1.le (by linarith [pi_pos])
  obtain ⟨far, -, main⟩ := overlapCone_real (ECone.new (α := ℝ) 0 0 cxA cxB cxPa) (ProjSIN.new_coherent 0 0) 0 cxD cxR cxD
    hr.2.2.2.1 hd
  by_cases hfar : cxA + cxR < cxD
  · exact far hfar
  · have hfin : |1 / sin cxD| < 2 ^ 1024 := by
      rw [cx_sinD, inv_finite_iff _ (by norm_num)]
      exact lt_trans tiny_lt_milli (by norm_num)
    rw [main hfar hfin]
    simp only [ECone.new]
    rw [ProjSIN.new_c0_zero]
    -- the projected cone centre lies on the second axis: `(u, v) = (0, 1)`
    have hu : sinX (0, 0) (0, cxD) * (1 / sin cxD) = 0 := by simp [sinX]
    have hv : sinY (0, 0) (0, cxD) * (1 / sin cxD) = 1 := by simp [sinY, cx_sinD]
    have hB : |cos cxD * sin cxR| = 1 / 17 := by
      rw [cx_cosD, cx_sinR]; norm_num [abs_of_pos]
    have hDD : sin cxD * cos cxR = 1008 / 1105 := by
      rw [cx_sinD, cx_cosR]; norm_num
    rw [hu, hv, hB, hDD, cx_sinR]
    congr 1
    unfold Ellipse.extendedGeom
    have hσ1 : √((5 / 13 : ℝ) * (5 / 13) * (1 * 1) + 1 / 17 * (1 / 17) * (-0 * -0)) = 5 / 13 := by
      rw [show ((5 / 13 : ℝ) * (5 / 13) * (1 * 1) + 1 / 17 * (1 / 17) * (-0 * -0)) = (5 / 13) ^ 2 by norm_num]
      exact Real.sqrt_sq (by norm_num)
    have hσ2 : √((5 / 13 : ℝ) * (5 / 13) * (-0 * -0) + 1 / 17 * (1 / 17) * (1 * 1)) = 1 / 17 := by
      rw [show ((5 / 13 : ℝ) * (5 / 13) * (-0 * -0) + 1 / 17 * (1 / 17) * (1 * 1)) = (1 / 17) ^ 2 by norm_num]
      exact Real.sqrt_sq (by norm_num)
    obtain ⟨k1, k2⟩ := cx_numeric
      (√(19 / 20 * (19 / 20) * (7 / 25 * (7 / 25)) + 1 / 100 * (1 / 100) * (24 / 25 * (24 / 25))) + 5 / 13)
      (√(19 / 20 * (19 / 20) * (24 / 25 * (24 / 25)) + 1 / 100 * (1 / 100) * (7 / 25 * (7 / 25))) + 1 / 17)
      (add_le_add ((Real.le_sqrt' (by norm_num)).mpr (by norm_num)) le_rfl)
      (add_le_add (Real.sqrt_le_iff.mpr ⟨by norm_num, by norm_num⟩) le_rfl)
      (add_le_add ((Real.le_sqrt' (by norm_num)).mpr (by norm_num)) le_rfl)
      (add_le_add (Real.sqrt_le_iff.mpr ⟨by norm_num, by norm_num⟩) le_rfl)
    apply cov_not_contains_of
    · simp only [Ellipse.fromOriented, Ellipse.fromCov, pow2, num_sqrt, num_sin, num_cos, Proj.r_hpi]
      rw [cx_sinA, cx_sinB, cx_sinT, cx_cosT, hσ1, hσ2]
      linear_combination k1
    · simp only [Ellipse.fromOriented, Ellipse.fromCov, pow2, num_sqrt, num_sin, num_cos, Proj.r_hpi]
      rw [cx_sinA, cx_sinB, cx_sinT, cx_cosT, hσ1, hσ2]
      linear_combination k2

/-- **the skip test is unsound for `a ≠ b`, over the reals**: centre `(0, 0)`, `sin a = 19/20`, `sin b = 1/100`, major axis
    at `asin(24/25)` from the east; the cone of radius `r = asin(5/13)` around `p = (0, asin(84/85))` contains the point
    `q = (asin(3/5), asin(80/89))` of the elliptical cone, `p` is outside the ellipse and `overlap_cone(p, r) = false`:
    a cell of centre `p` whose bounding radius is `r` is skipped although it may contain `q`.
    (At `f64`: `a = 1.2532`, `b = 0.0100`, `pa = 0.2838`, `p = (0, 1.41725)`, `r = 0.39479`, `q = (0.6435, 1.1172)`: same
    answers, the test fails by 3.5 %.) -/
theorem overlap_cone_noncircular_unsound :
    ∃ (a b pa r : ℝ) (p q : ℝ × ℝ), 0 < b ∧ b ≤ a ∧ a < π / 2 ∧ 0 < r ∧ r ≤ π / 2 ∧ 1 / 2 ^ 1024 < sin b ∧
      (ECone.new (α := ℝ) 0 0 a b pa).contains q.1 q.2 = true ∧ adist p q ≤ r ∧
      (ECone.new (α := ℝ) 0 0 a b pa).contains p.1 p.2 = false ∧
      (ECone.new (α := ℝ) 0 0 a b pa).overlapCone p.1 p.2 r = some false := by
  have hr := cx_ranges
  refine ⟨cxA, cxB, cxPa, cxR, (0, cxD), (cxL, cxPhi), hr.1, hr.2.1, hr.2.2.1, hr.2.2.2.1, hr.2.2.2.2.1, ?_,
    cx_q_inside, cx_q_in_cone, cx_p_outside, cx_overlap_false⟩
  rw [cx_sinB]; exact lt_trans tiny_lt_milli (by norm_num)

/-- consequence for the classifier: a cell whose centre is `p` and whose level radius is `r` is skipped -/
theorem ellClassifier_skips_cx (cfg : Cfg) (target d h l : Nat) (dists : List ℝ)
    (hc : Hash.center (α := ℝ) cfg d h = some (0, cxD)) (hl : dists[l]? = some cxR) :
    ellClassifier (α := ℝ) cfg target (ECone.new 0 0 cxA cxB cxPa) dists d h l = some .skip := by
  unfold ellClassifier
  simp only [hc, hl]
  have h1 : (ECone.new (α := ℝ) 0 0 cxA cxB cxPa).containsCone 0 cxD cxR = false := by
    have : ¬ cxR < cxB := not_lt.mpr (arcsin_le_arcsin (by norm_num))
    rw [containsCone_eq_contains, decide_eq_false this, Bool.false_and]
  simp [h1, cx_p_outside, cx_overlap_false]

end Hpx.Sph
