/-
C12, the statement called T3 in the C12 files: the cells of the polygon vertices are kept by `polygon_coverage` (both
modes).  The descent never loses a cell of
the sorted list (`vertex_cell_kept`); what remains is that the START CELLS contain the ancestors of the vertex cells.  The
start cells have a name (`startCells`, in `PolyCoverSpec.lean`) so that this remaining hypothesis is a visible, checkable
statement.
-/
import HpxVerif.Lemmas.PolyComposeFull
import HpxVerif.Lemmas.HashRealContains
import HpxVerif.Lemmas.CellNumber
import HpxVerif.Lemmas.LayerBmi

set_option autoImplicit false

namespace Hpx.PolyCompose
open Hpx Hpx.Cover Hpx.Bmoc Hpx.Sph Real Hpx.Proj

section Generic
variable {α : Type} [Num α]

theorem vertex_cell_kept (cfg : Cfg) (target : Nat) (poly : Polygon α) (hs : List Nat)
    (fuel ds root level : Nat) (out : List Cell) (hds : ds ≤ target)
    (h : coverRec target (polyClassifier cfg target poly (dedupAdj (sortNat hs))) fuel ds root level = some out)
    (v : Nat) (hv : v ∈ hs) (hroot : v >>> ((target - ds) <<< 1) = root) :
    ∃ c ∈ out, c.depth ≤ target ∧ v >>> ((target - c.depth) <<< 1) = c.hash := by
  refine coverRec_no_miss (P := Nat) (fun d hh q => d ≤ target ∧ q >>> ((target - d) <<< 1) = hh) (fun q => q ∈ hs)
    target _ ?_ ?_ fuel ds root level out h v ⟨hds, hroot⟩ hv
  · intro d hh q hne ⟨hdt, hq⟩
    have hlt : d + 1 ≤ target := by omega
    have e : (target - d) <<< 1 = (target - (d + 1)) <<< 1 + 2 := by
      simp only [Nat.shiftLeft_eq]; omega
    rw [e, Nat.shiftRight_add] at hq
    generalize q >>> ((target - (d + 1)) <<< 1) = m at hq
    have hm : m = 4 * hh + m % 4 := by
      rw [Nat.shiftRight_eq_div_pow] at hq; omega
    have h4 : m % 4 < 4 := Nat.mod_lt _ (by omega)
    have c0 : hh <<< 2 = 4 * hh := by rw [Nat.shiftLeft_eq]; omega
    rcases (by omega : m % 4 = 0 ∨ m % 4 = 1 ∨ m % 4 = 2 ∨ m % 4 = 3) with k | k | k | k
    · exact Or.inl ⟨hlt, by omega⟩
    · exact Or.inr (Or.inl ⟨hlt, by rw [shl2_or hh 1 (by omega)]; omega⟩)
    · exact Or.inr (Or.inr (Or.inl ⟨hlt, by rw [shl2_or hh 2 (by omega)]; omega⟩))
    · exact Or.inr (Or.inr (Or.inr ⟨hlt, by rw [shl2_or hh 3 (by omega)]; omega⟩))
  · intro d hh l hk q ⟨_, hq⟩ hqs
    have := classifier_skip cfg target poly _ d hh l hk
    rw [isInList_complete d hh target _ (pairwise_dedup_sort hs) q ((mem_dedup_sort q hs).mpr hqs) hq] at this
    exact absurd this (by simp)

/-- T3, every numeric instance, both modes: the cell of a polygon vertex (`hs`) — and in the exact mode the cell of a
    special point (`ex`) — lies under a cell of the returned BMOC as soon as its ancestor at the starting depth is one of
    the start cells.  That hypothesis (`v >>> 2(depth − ds) ∈ roots`: the neighbourhood of the bounding-cone centre cell
    at `best_starting_depth(radius)` contains the vertex) is the geometric fact this development does not prove; it is about
    `Cone::bounding_cone`, `best_starting_depth` and the size of the cells, not about the descent. -/
theorem vertex_cells_kept_modes (cfg : Cfg) (depth : Nat) (vertices : List (α × α)) (exact : Bool) (b : BMOC)
    (h : polygonCoverage cfg depth vertices exact = some b) :
    ∃ (poly : Polygon α) (hs ex : List Nat) (ds : Nat) (roots : List Nat) (cells : List Cell),
      Polygon.new cfg.debug vertices = some poly ∧
      poly.vertices.mapM (fun c => Hash.hashV2 cfg depth c.lon c.lat) = some hs ∧
      (if exact then specialHashes cfg depth poly else some []) = some ex ∧
      startCells cfg depth poly = some (ds, roots) ∧ ds ≤ depth ∧
      b = { dmax := depth, entries := cells.map (encode depth) } ∧
      ∀ v ∈ hs ++ ex, v >>> ((depth - ds) <<< 1) ∈ roots →
        ∃ c ∈ cells, c.depth ≤ depth ∧ v >>> ((depth - c.depth) <<< 1) = c.hash := by
  obtain ⟨_, poly, hs, ex, ds, roots, cells, h1, h2, h3, h4, hds, h5, h6⟩ := coverage_spec_start cfg depth vertices exact b h
  refine ⟨poly, hs, ex, ds, roots, cells, h1, h2, h3, h4, hds, h6, ?_⟩
  intro v hv hroot
  obtain ⟨_, g3, _⟩ := foldlM_append_spec _ roots [] cells h5
  obtain ⟨o, ho, hsub⟩ := g3 _ hroot
  obtain ⟨c, hc, hcd⟩ := vertex_cell_kept cfg depth poly (hs ++ ex) (depth + 2) ds _ 0 o hds ho v hv rfl
  exact ⟨c, hsub c hc, hcd⟩

theorem shr_lt_12 (v depth : Nat) (hlt : v < 12 * 4 ^ depth) : v >>> ((depth - 0) <<< 1) ∈ List.range 12 := by
  rw [List.mem_range, Nat.shiftRight_eq_div_pow, Nat.sub_zero, Nat.shiftLeft_eq]
  apply Nat.div_lt_of_lt_mul
  have e : (2 : Nat) ^ (depth * 2 ^ 1) = 4 ^ depth := by
    rw [show depth * 2 ^ 1 = 2 * depth by omega, Nat.pow_mul]
  rw [e]; omega

end Generic

theorem hashV2_real_lt (cfg : Cfg) (d : ℕ) (hd : d ≤ 29) (lon lat : ℝ) (h0 : 0 ≤ lon) (h1 : lon < 2 * π)
    (hl1 : -(π / 2) ≤ lat) (hl2 : lat ≤ π / 2) (c : ℕ) (h : Hash.hashV2 (α := ℝ) cfg d lon lat = some c) :
    c < 12 * 4 ^ d := by
  have hpi := pi_pos
  have hlon : |lon| < 64 * π := by rw [abs_of_nonneg h0]; linarith
  obtain ⟨X, Y, hp, hb, hi, hj, _⟩ := Hpx.HashReal.hash_real_contains d (by omega) lon lat hlon hl1 hl2
  have hchk : Proj.checkLat (α := ℝ) lat = true := by
    cases hc : Proj.checkLat (α := ℝ) lat with
    | true => rfl
    | false => simp [Proj.proj, hc] at hp
  have hbs := Hpx.RingBij.build_spec cfg d hd ⟨_, Hpx.HashReal.gridCoord d _, Hpx.HashReal.gridCoord d _⟩ ⟨hb, hi, hj⟩
  rw [Hpx.HashReal.hashV2_real_eq cfg d lon lat hchk, hbs.1] at h
  cases h
  exact hbs.2

/-- T3 over the reals, positions in the canonical ranges, both modes, every depth `≤ 29`: what
    `vertex_cells_kept_modes` says, plus: the vertex cells `hs` are cell numbers of the depth, and when the bounding cone is
    too large for a starting depth (start cells = the 12 base cells) every vertex cell is kept, no hypothesis left.
    In the other case the hypothesis that remains, per vertex cell `v`, is exactly `v >>> 2(depth − ds) ∈ roots`. -/
theorem vertex_cells_kept_real (cfg : Cfg) (depth : Nat) (lls : List (ℝ × ℝ)) (exact : Bool) (b : BMOC)
    (hne : lls ≠ []) (hr : ∀ ll ∈ lls, 0 ≤ ll.1 ∧ ll.1 < 2 * π ∧ -(π / 2) ≤ ll.2 ∧ ll.2 ≤ π / 2)
    (h : polygonCoverage cfg depth lls exact = some b) :
    ∃ (poly : Polygon ℝ) (hs ex : List Nat) (ds : Nat) (roots : List Nat) (cells : List Cell),
      Polygon.new cfg.debug lls = some poly ∧ poly.vertices = lls.map cooOf ∧
      (lls.map cooOf).mapM (fun c => Hash.hashV2 cfg depth c.lon c.lat) = some hs ∧ hs.length = lls.length ∧
      (∀ v ∈ hs, v < 12 * 4 ^ depth) ∧
      (if exact then specialHashes cfg depth poly else some []) = some ex ∧
      startCells cfg depth poly = some (ds, roots) ∧ ds ≤ depth ∧
      b = { dmax := depth, entries := cells.map (encode depth) } ∧
      (∀ v ∈ hs ++ ex, v >>> ((depth - ds) <<< 1) ∈ roots →
        ∃ c ∈ cells, c.depth ≤ depth ∧ v >>> ((depth - c.depth) <<< 1) = c.hash) ∧
      (C2V.hasBestStartingDepth (boundingRadius poly) = false →
        ∀ v ∈ hs, ∃ c ∈ cells, c.depth ≤ depth ∧ v >>> ((depth - c.depth) <<< 1) = c.hash) := by
  have hd : depth ≤ 29 := (coverage_spec_start cfg depth lls exact b h).1
  obtain ⟨poly, hs, ex, ds, roots, cells, h1, h2, h3, h4, hds, h6, h7⟩ := vertex_cells_kept_modes cfg depth lls exact b h
  obtain ⟨poly', hnew, hvs, _⟩ := polygon_new_real cfg.debug lls hne hr
  rw [h1] at hnew; cases hnew
  rw [hvs] at h2
  have hf := mapM_forall2 _ _ _ h2
  have hlen : hs.length = lls.length := by rw [← hf.length_eq]; simp
  have hlt : ∀ v ∈ hs, v < 12 * 4 ^ depth := by
    intro v hv
    obtain ⟨c, hc, hcv⟩ := forall2_mem_right hf v hv
    obtain ⟨ll, hll, rfl⟩ := List.mem_map.mp hc
    obtain ⟨a1, a2, a3, a4⟩ := hr ll hll
    exact hashV2_real_lt cfg depth hd _ _ a1 a2 a3 a4 _ hcv
  refine ⟨poly, hs, ex, ds, roots, cells, h1, hvs, h2, hlen, hlt, h3, h4, hds, h6, h7, ?_⟩
  intro hno v hv
  obtain ⟨rfl, rfl⟩ := startCells_allsky cfg depth poly ds roots h4 hno
  exact h7 v (List.mem_append_left _ hv) (shr_lt_12 v depth (hlt v hv))

#print axioms Hpx.PolyCompose.vertex_cells_kept_modes
#print axioms Hpx.PolyCompose.vertex_cells_kept_real

end Hpx.PolyCompose
