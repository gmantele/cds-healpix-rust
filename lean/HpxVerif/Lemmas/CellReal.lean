/-
C03 over the reals: the cell of the NESTED scheme in the projection plane (`Model/Hash.lean` at `α := ℝ`).  The specification,
independent of the code: at depth `d`, `n = 2^d`, the cell `(b, i, j)` is the diamond of centre `(cellCx, cellCy)` and
half-diagonal `1/n`, abscissas modulo 8 and normalised to `[0, 8)` by `norm8`.  `center` and `vertices` / `vertex` are the
un-projections of its centre and four corners, and they agree (`vertices_agree`).  The accessors that return other points of the
cell are in `CellRealPoints.lean`.
-/
import HpxVerif.Model.Hash
import HpxVerif.Lemmas.NumReal
import HpxVerif.Lemmas.ProjReal
import HpxVerif.Lemmas.PlaneChart
import HpxVerif.Lemmas.CenterXY

namespace Hpx.CellReal
open Hpx Hpx.Hash Hpx.Proj

/-- centre of base cell `b` in the projection plane: `(baseX b, baseY b)` -/
noncomputable def baseX (b : ℕ) : ℝ := ((2 * (b % 4) + (if b / 4 = 1 then 0 else 1) : ℕ) : ℝ)
noncomputable def baseY (b : ℕ) : ℝ := 1 - ((b / 4 : ℕ) : ℝ)
/-- centre of the cell `(b, i, j)` of depth `d` (abscissa not yet reduced modulo 8) -/
noncomputable def cellCx (d b i j : ℕ) : ℝ := baseX b + ((i : ℝ) - j) / 2 ^ d
noncomputable def cellCy (d b i j : ℕ) : ℝ := baseY b + ((i : ℝ) + j + 1 - 2 ^ d) / 2 ^ d
/-- reduction of an abscissa of `[-8, 8)` to `[0, 8)` -/
noncomputable def norm8 (x : ℝ) : ℝ := if x < 0 then x + 8 else x

def InDiamond (cx cy r x y : ℝ) : Prop := |x - cx| + |y - cy| ≤ r
def OnDiamond (cx cy r x y : ℝ) : Prop := |x - cx| + |y - cy| = r

theorem r_ofInt (z : ℤ) : (Num.ofInt z : ℝ) = (z : ℝ) := rfl
theorem r_ensures (x : ℝ) : ensuresXIsPositive x = norm8 x := by
  unfold ensuresXIsPositive norm8
  rw [r_lt, r_zero, r_ofNat]
  by_cases h : x < 0 <;> simp [h]

theorem nside_eq (d : ℕ) : Layer.nside d = 2 ^ d := Layer.nside_eq d

theorem nside_real (d : ℕ) : ((Layer.nside d : ℕ) : ℝ) = 2 ^ d := by rw [nside_eq]; push_cast; rfl

theorem xyMask_shr (d : ℕ) : Layer.xyMask d >>> d = 2 ^ d - 1 := by
  unfold Layer.xyMask
  by_cases h : d > 0
  · simp only [h, if_true, Nat.shiftLeft_eq, Nat.one_mul, Nat.shiftRight_eq_div_pow]
    have h1 : 2 ^ (d * 2) = 2 ^ d * 2 ^ d := by rw [Nat.mul_two, Nat.pow_add]
    have hp : 0 < 2 ^ d := Nat.pos_of_ne_zero (by simp)
    rw [h1]
    apply Nat.div_eq_of_lt_le
    · have : (2 ^ d - 1) * 2 ^ d = 2 ^ d * 2 ^ d - 2 ^ d := by rw [Nat.sub_mul, Nat.one_mul]
      rw [this]
      have : 2 ^ d ≤ 2 ^ d * 2 ^ d := Nat.le_mul_of_pos_left _ hp
      have : 1 ≤ 2 ^ d := hp
      omega
    · have h2 : (2 ^ d - 1 + 1) = 2 ^ d := by have : 1 ≤ 2 ^ d := hp; omega
      have : 1 ≤ 2 ^ d * 2 ^ d := Nat.mul_pos hp hp
      rw [h2]; omega
  · have : d = 0 := by omega
    subst this; simp

theorem offX_table : ∀ b, b < 12 →
    ((((b &&& 3) <<< 1) ||| (((1 - ((b >>> 2 : ℕ) : ℤ)) % 256).toNat &&& 1)) % 256)
      = 2 * (b % 4) + (if b / 4 = 1 then 0 else 1) := by decide

theorem pow_pos' (d : ℕ) : (0 : ℝ) < 2 ^ d := by positivity

theorem center_eq (cfg : Cfg) (d hash b i j : ℕ) (hh : hash < Layer.nHash d)
    (hdec : Layer.decodeHash cfg d hash = some ⟨b, i, j⟩) (hb : b < 12) :
    centerOfProjectedCell (α := ℝ) cfg d hash = some (norm8 (cellCx d b i j), cellCy d b i j) := by
  unfold centerOfProjectedCell
  have hge : ¬ hash ≥ Layer.nHash d := by omega
  simp only [hge, if_false, hdec]
  rw [offX_table b hb, xyMask_shr]
  simp only [r_signBit, r_ofInt, r_ofNat, r_one, nside_real, Nat.cast_one]
  have hp := pow_pos' d
  have h1 : (1 : ℕ) ≤ 2 ^ d := Nat.one_le_two_pow
  have ex : (((i : ℤ) - (j : ℤ) : ℤ) : ℝ) * (1 / 2 ^ d) + ((2 * (b % 4) + (if b / 4 = 1 then 0 else 1) : ℕ) : ℝ)
      = cellCx d b i j := by
    unfold cellCx baseX; push_cast; ring
  have ey : (((i : ℤ) + (j : ℤ) - ((2 ^ d - 1 : ℕ) : ℤ) : ℤ) : ℝ) * ((1 : ℝ) / (2 : ℝ) ^ d)
      + (((1 : ℤ) - ((b >>> 2 : ℕ) : ℤ) : ℤ) : ℝ) = cellCy d b i j := by
    unfold cellCy baseY
    rw [Nat.shiftRight_eq_div_pow, show (2 : ℕ) ^ 2 = 4 from rfl]
    generalize b / 4 = q
    push_cast [Nat.cast_sub h1]
    field_simp
    ring
  rw [ex, ey]
  congr 1
  unfold norm8
  by_cases h : cellCx d b i j < 0 <;> simp [h]

theorem baseX_cases (b : ℕ) (hb : b < 12) : (b = 4 ∧ baseX b = 0) ∨ (1 ≤ baseX b ∧ baseX b ≤ 7) := by
  unfold baseX
  interval_cases b <;> norm_num

theorem baseY_cases (b : ℕ) (hb : b < 12) : -1 ≤ baseY b ∧ baseY b ≤ 1 := by
  unfold baseY
  interval_cases b <;> norm_num

theorem frac_bounds (d : ℕ) (a : ℝ) (h1 : -((2 : ℝ) ^ d - 1) ≤ a) (h2 : a ≤ (2 : ℝ) ^ d - 1) :
    -1 + 1 / (2 : ℝ) ^ d ≤ a / 2 ^ d ∧ a / 2 ^ d ≤ 1 - 1 / (2 : ℝ) ^ d := by
  have hp := pow_pos' d
  have e1 : (-1 + 1 / (2 : ℝ) ^ d) * 2 ^ d = -(2 : ℝ) ^ d + 1 := by field_simp
  have e2 : (1 - 1 / (2 : ℝ) ^ d) * 2 ^ d = (2 : ℝ) ^ d - 1 := by field_simp
  rw [le_div_iff₀ hp, div_le_iff₀ hp, e1, e2]
  constructor <;> linarith

theorem cast_lt_pow {d i : ℕ} (hi : i < 2 ^ d) : (i : ℝ) ≤ (2 : ℝ) ^ d - 1 := by
  have : i + 1 ≤ 2 ^ d := hi
  have : ((i + 1 : ℕ) : ℝ) ≤ ((2 ^ d : ℕ) : ℝ) := by exact_mod_cast this
  push_cast at this
  linarith

theorem center_ranges (d b i j : ℕ) (hb : b < 12) (hi : i < 2 ^ d) (hj : j < 2 ^ d) :
    -1 + 1 / (2 : ℝ) ^ d ≤ cellCx d b i j ∧ cellCx d b i j ≤ 8 - 1 / (2 : ℝ) ^ d ∧
    (cellCx d b i j < 0 ↔ b = 4 ∧ i < j) ∧
    -2 + 1 / (2 : ℝ) ^ d ≤ cellCy d b i j ∧ cellCy d b i j ≤ 2 - 1 / (2 : ℝ) ^ d := by
  have hp := pow_pos' d
  have hi' := cast_lt_pow hi
  have hj' := cast_lt_pow hj
  have hi0 : (0 : ℝ) ≤ i := Nat.cast_nonneg i
  have hj0 : (0 : ℝ) ≤ j := Nat.cast_nonneg j
  have ho : 0 < 1 / (2 : ℝ) ^ d := by positivity
  obtain ⟨fx1, fx2⟩ := frac_bounds d ((i : ℝ) - j) (by linarith only [hi0, hj']) (by linarith only [hj0, hi'])
  obtain ⟨fy1, fy2⟩ := frac_bounds d ((i : ℝ) + j + 1 - 2 ^ d) (by linarith only [hi0, hj0]) (by linarith only [hi', hj'])
  obtain ⟨by1, by2⟩ := baseY_cases b hb
  unfold cellCx cellCy
  -- the equatorial base cell 4 is the only one centred on the meridian 0
  rcases baseX_cases b hb with ⟨h4, h0⟩ | ⟨h1, h7⟩
  · refine ⟨by linarith only [h0, fx1], by linarith only [h0, fx2, ho], ?_, by linarith only [by1, fy1],
      by linarith only [by2, fy2]⟩
    rw [h0, zero_add, div_lt_iff₀ hp, zero_mul, sub_neg, Nat.cast_lt, and_iff_right h4]
  · refine ⟨by linarith only [h1, fx1], by linarith only [h7, fx2], iff_of_false (by linarith only [h1, fx1, ho]) ?_,
      by linarith only [by1, fy1], by linarith only [by2, fy2]⟩
    rintro ⟨h4, _⟩; subst h4; unfold baseX at h1; norm_num at h1

theorem cellCx_neg_le (d b i j : ℕ) (hb : b < 12) (hi : i < 2 ^ d) (hj : j < 2 ^ d) (h : cellCx d b i j < 0) :
    cellCx d b i j ≤ -(1 / (2 : ℝ) ^ d) := by
  obtain ⟨h4, hij⟩ := (center_ranges d b i j hb hi hj).2.2.1.mp h
  have hp := pow_pos' d
  subst h4
  unfold cellCx baseX
  norm_num
  have : (i : ℝ) + 1 ≤ j := by exact_mod_cast hij
  rw [div_le_iff₀ hp]
  have e : -((2 : ℝ) ^ d)⁻¹ * 2 ^ d = -1 := by field_simp
  rw [e]; linarith

theorem norm8_center_range (d b i j : ℕ) (hb : b < 12) (hi : i < 2 ^ d) (hj : j < 2 ^ d) :
    0 ≤ norm8 (cellCx d b i j) ∧ norm8 (cellCx d b i j) ≤ 8 - 1 / 2 ^ d := by
  obtain ⟨c1, c2, _⟩ := center_ranges d b i j hb hi hj
  have ho : 0 < 1 / (2 : ℝ) ^ d := by positivity
  unfold norm8; split_ifs with h
  · have := cellCx_neg_le d b i j hb hi hj h
    constructor <;> linarith only [c1, this, ho]
  · constructor <;> linarith only [h, c2]

theorem norm8_range (x : ℝ) (h1 : -8 ≤ x) (h2 : x < 8) : 0 ≤ norm8 x ∧ norm8 x < 8 := by
  unfold norm8; split_ifs with h <;> constructor <;> linarith

theorem centerXY_real (d b i j : ℕ) :
    (((Layer.centerXY d ⟨b, i, j⟩).1 : ℤ) : ℝ) = norm8 (cellCx d b i j) * 2 ^ d ∧
    (((Layer.centerXY d ⟨b, i, j⟩).2 : ℤ) : ℝ) = cellCy d b i j * 2 ^ d := by
  have hp := pow_pos' d
  rw [Layer.centerXY_linear, nside_eq]
  dsimp only
  set xi : ℤ := (i : ℤ) - (j : ℤ) + (2 * ((b % 4 : ℕ) : ℤ) + (if b / 4 = 1 then 0 else 1)) * ((2 ^ d : ℕ) : ℤ) with hxi
  have key : (xi : ℝ) = cellCx d b i j * 2 ^ d := by
    rw [hxi]; unfold cellCx baseX
    generalize b % 4 = r
    split <;> push_cast <;> field_simp <;> ring
  have hneg : xi < 0 ↔ cellCx d b i j < 0 := by
    rw [← Int.cast_lt (R := ℝ), key, Int.cast_zero, mul_neg_iff]
    constructor
    · rintro (h | h)
      · linarith only [h.2, hp]
      · exact h.1
    · exact fun h => Or.inr ⟨h, hp⟩
  constructor
  · unfold norm8
    by_cases h : xi < 0
    · rw [if_pos h, if_pos (hneg.1 h)]; push_cast; rw [key]; ring
    · rw [if_neg h, if_neg (fun hc => h (hneg.2 hc))]; push_cast; rw [key]; ring
  · unfold cellCy baseY
    generalize b / 4 = q
    push_cast; field_simp; ring

/-- C03: for a valid cell, `center_of_projected_cell` returns the centre of its diamond, the abscissa reduced modulo 8
    (`cx + 8` exactly when `cx < 0`, i.e. `b = 4` and `i < j`); it is the integer point `Layer.centerXY` divided by `n`. -/
theorem center_plane_spec (cfg : Cfg) (d hash b i j : ℕ) (hh : hash < Layer.nHash d)
    (hdec : Layer.decodeHash cfg d hash = some ⟨b, i, j⟩) (hb : b < 12) (hi : i < 2 ^ d) (hj : j < 2 ^ d) :
    ∃ x y : ℝ, centerOfProjectedCell (α := ℝ) cfg d hash = some (x, y) ∧
      y = cellCy d b i j ∧
      ((¬ (b = 4 ∧ i < j) ∧ x = cellCx d b i j) ∨ ((b = 4 ∧ i < j) ∧ x = cellCx d b i j + 8)) ∧
      0 ≤ x ∧ x ≤ 8 - 1 / (2 : ℝ) ^ d ∧ -2 + 1 / (2 : ℝ) ^ d ≤ y ∧ y ≤ 2 - 1 / (2 : ℝ) ^ d ∧
      x = (((Layer.centerXY d ⟨b, i, j⟩).1 : ℤ) : ℝ) / 2 ^ d ∧ y = (((Layer.centerXY d ⟨b, i, j⟩).2 : ℤ) : ℝ) / 2 ^ d := by
  obtain ⟨_, _, c3, c4, c5⟩ := center_ranges d b i j hb hi hj
  obtain ⟨n0, n8⟩ := norm8_center_range d b i j hb hi hj
  obtain ⟨k1, k2⟩ := centerXY_real d b i j
  have hp := pow_pos' d
  refine ⟨norm8 (cellCx d b i j), cellCy d b i j, center_eq cfg d hash b i j hh hdec hb, rfl, ?_, n0, n8, c4, c5, ?_, ?_⟩
  · unfold norm8
    by_cases h : cellCx d b i j < 0
    · right; exact ⟨c3.mp h, by simp [h]⟩
    · left; exact ⟨fun hc => h (c3.mpr hc), by simp [h]⟩
  · rw [k1]; field_simp
  · rw [k2]; field_simp

/-- the body of `unproj` after its `check_y` assertion -/
noncomputable def unprojT (x y : ℝ) : ℝ × ℝ :=
  let xAbs := Num.abs x; let xSign := Num.signBit x
  let yAbs := Num.abs y; let ySign := Num.signBit y
  let (off, pm1) := pm1OffsetDecompose xAbs
  let ll := if Num.le yAbs (Num.one : ℝ) then deprojCea (pm1, yAbs) else deprojCollignon (pm1, yAbs)
  let r := applyOffsetAndSigns ll off xSign ySign
  (r.1 * Num.piOverFour, r.2)

theorem unproj_eq (x y : ℝ) (h1 : -2 ≤ y) (h2 : y ≤ 2) : unproj x y = some (unprojT x y) := by
  have hchk : checkY (α := ℝ) y = true := by
    unfold checkY; rw [r_le, r_le, r_two]; simp [h1, h2]
  unfold unproj unprojT
  simp only [hchk, Bool.not_true, Bool.false_eq_true, if_false]

theorem unproj_none (x y : ℝ) (h : y < -2 ∨ 2 < y) : unproj x y = none := by
  have hchk : checkY (α := ℝ) y = false := by
    unfold checkY; rw [r_le, r_le, r_two]
    rcases h with h | h
    · have : ¬ (-2 ≤ y) := by linarith
      simp [this]
    · have : ¬ (y ≤ 2) := by linarith
      simp [this]
  unfold unproj
  simp [hchk]

theorem mapM_some {α β : Type} (f : α → Option β) (g : α → β) (l : List α) (h : ∀ a ∈ l, f a = some (g a)) :
    l.mapM f = some (l.map g) := by
  induction l with
  | nil => rfl
  | cons a l ih =>
    rw [List.mapM_cons, h a (by simp), ih (fun x hx => h x (by simp [hx]))]
    rfl

theorem norm8_norm8_add (x δ : ℝ) (h : x < 0 → x + δ < 0 ∧ 0 ≤ x + 8 + δ) : norm8 (norm8 x + δ) = norm8 (x + δ) := by
  unfold norm8
  by_cases hx : x < 0
  · obtain ⟨h1, h2⟩ := h hx
    have : ¬ (x + 8 + δ < 0) := by linarith
    simp only [hx, h1, this, if_true, if_false]; ring
  · simp only [hx, if_false]

theorem norm8_of_nonneg (x : ℝ) (h : 0 ≤ x) : norm8 x = x := by
  unfold norm8; simp [not_lt.mpr h]

theorem norm8_sub (x o : ℝ) (ho : 0 ≤ o) (h : o ≤ norm8 x) : norm8 (x - o) = norm8 x - o := by
  unfold norm8 at h ⊢; split_ifs at h ⊢ <;> linarith

/-- a shift by less than `1/n` to the east, at most `1/n` to the west, commutes with the reduction of the centre: a negative
    centre abscissa is at most `−1/n` (the east vertex, shift `1/n`, is the exception: `vtx`) -/
theorem norm8_center_add (d b i j : ℕ) (hb : b < 12) (hi : i < 2 ^ d) (hj : j < 2 ^ d) (δ : ℝ) (h1 : -(1 / 2 ^ d) ≤ δ)
    (h2 : δ < 1 / 2 ^ d) : norm8 (norm8 (cellCx d b i j) + δ) = norm8 (cellCx d b i j + δ) :=
  norm8_norm8_add _ _ fun h => by
    obtain ⟨c1, _⟩ := center_ranges d b i j hb hi hj
    have := cellCx_neg_le d b i j hb hi hj h
    constructor <;> linarith only [this, c1, h1, h2]

/-- the plane point of the vertex of direction `k` (`S = 0, E = 1, N = 2, W = 3`), abscissa reduced modulo 8;
    for the east vertex the reduction is applied to the centre, so that its abscissa lies in `(0, 8]` (it is `8`, not `0`,
    for the cells `j = i + 1` of base cell 4) -/
noncomputable def vtx (d b i j k : ℕ) : ℝ × ℝ :=
  match k with
  | 0 => (norm8 (cellCx d b i j), cellCy d b i j - 1 / 2 ^ d)
  | 1 => (norm8 (cellCx d b i j) + 1 / 2 ^ d, cellCy d b i j)
  | 2 => (norm8 (cellCx d b i j), cellCy d b i j + 1 / 2 ^ d)
  | _ => (norm8 (cellCx d b i j - 1 / 2 ^ d), cellCy d b i j)

noncomputable def offWe (k : ℕ) (o : ℝ) : ℝ := if k = 3 then -o else if k = 1 then o else 0
noncomputable def offSn (k : ℕ) (o : ℝ) : ℝ := if k = 0 then -o else if k = 2 then o else 0

theorem r_offsetWe (k : ℕ) (o : ℝ) : offsetWe k o = offWe k o := by
  unfold offsetWe offWe; simp only [beq_iff_eq, r_zero]
theorem r_offsetSn (k : ℕ) (o : ℝ) : offsetSn k o = offSn k o := by
  unfold offsetSn offSn; simp only [beq_iff_eq, r_zero]

theorem r_oon (d : ℕ) : (Num.one : ℝ) / Num.ofNat (Layer.nside d) = 1 / 2 ^ d := by
  rw [r_one, r_ofNat, nside_real]

noncomputable def rawVtx (c : ℝ × ℝ) (o : ℝ) (k : ℕ) : ℝ × ℝ := (c.1 + offWe k o, c.2 + offSn k o)

theorem rawVtx_vals (c : ℝ × ℝ) (o : ℝ) :
    rawVtx c o 0 = (c.1, c.2 - o) ∧ rawVtx c o 1 = (c.1 + o, c.2) ∧ rawVtx c o 2 = (c.1, c.2 + o) ∧
    rawVtx c o 3 = (c.1 - o, c.2) := by
  simp [rawVtx, offWe, offSn, sub_eq_add_neg]

theorem rawVtx_norm (d b i j k : ℕ) (hb : b < 12) (hi : i < 2 ^ d) (hj : j < 2 ^ d) (hk : k < 4) :
    (norm8 (rawVtx (norm8 (cellCx d b i j), cellCy d b i j) (1 / 2 ^ d) k).1,
      (rawVtx (norm8 (cellCx d b i j), cellCy d b i j) (1 / 2 ^ d) k).2) = vtx d b i j k := by
  obtain ⟨n0, _⟩ := norm8_center_range d b i j hb hi hj
  have ho : 0 < 1 / (2 : ℝ) ^ d := by positivity
  obtain ⟨r0, r1, r2, r3⟩ := rawVtx_vals (norm8 (cellCx d b i j), cellCy d b i j) (1 / 2 ^ d)
  interval_cases k
  · rw [r0]; show (norm8 (norm8 _), _) = (norm8 _, _); rw [norm8_of_nonneg _ n0]
  · rw [r1]; show (norm8 (norm8 _ + _), _) = (norm8 _ + _, _); rw [norm8_of_nonneg _ (by positivity)]
  · rw [r2]; show (norm8 (norm8 _), _) = (norm8 _, _); rw [norm8_of_nonneg _ n0]
  · rw [r3]; show (norm8 (norm8 _ - _), _) = (norm8 (_ - _), _)
    rw [sub_eq_add_neg, norm8_center_add d b i j hb hi hj _ le_rfl (by linarith only [ho]), ← sub_eq_add_neg]

theorem vtx_y_range (d b i j k : ℕ) (hb : b < 12) (hi : i < 2 ^ d) (hj : j < 2 ^ d) :
    -2 ≤ (vtx d b i j k).2 ∧ (vtx d b i j k).2 ≤ 2 := by
  obtain ⟨_, _, _, c4, c5⟩ := center_ranges d b i j hb hi hj
  have ho : 0 < 1 / (2 : ℝ) ^ d := by positivity
  unfold vtx
  split <;> constructor <;> simp only <;> linarith only [c4, c5, ho]

theorem vtx_x_range (d b i j k : ℕ) (hb : b < 12) (hi : i < 2 ^ d) (hj : j < 2 ^ d) :
    0 ≤ (vtx d b i j k).1 ∧ (vtx d b i j k).1 ≤ 8 ∧ (k ≠ 1 → (vtx d b i j k).1 < 8) := by
  obtain ⟨c1, c2, _⟩ := center_ranges d b i j hb hi hj
  have ho : 0 < 1 / (2 : ℝ) ^ d := by positivity
  obtain ⟨n0, n8⟩ := norm8_center_range d b i j hb hi hj
  have hw := norm8_range (cellCx d b i j - 1 / 2 ^ d) (by linarith only [c1, ho]) (by linarith only [c2, ho])
  unfold vtx
  split
  · exact ⟨n0, by linarith only [n8, ho], fun _ => by linarith only [n8, ho]⟩
  · exact ⟨by linarith only [n0, ho], by linarith only [n8], fun h => absurd rfl h⟩
  · exact ⟨n0, by linarith only [n8, ho], fun _ => by linarith only [n8, ho]⟩
  · exact ⟨hw.1, hw.2.le, fun _ => hw.2⟩

theorem vertices_plane (cfg : Cfg) (d hash b i j : ℕ) (hh : hash < Layer.nHash d)
    (hdec : Layer.decodeHash cfg d hash = some ⟨b, i, j⟩) (hb : b < 12) (hi : i < 2 ^ d) (hj : j < 2 ^ d) :
    vertices (α := ℝ) cfg d hash =
      some [unprojT (vtx d b i j 0).1 (vtx d b i j 0).2, unprojT (vtx d b i j 1).1 (vtx d b i j 1).2,
            unprojT (vtx d b i j 2).1 (vtx d b i j 2).2, unprojT (vtx d b i j 3).1 (vtx d b i j 3).2] := by
  unfold vertices
  rw [center_eq cfg d hash b i j hh hdec hb]
  simp only [Option.bind_some, r_oon, r_ensures]
  have ho : 0 < 1 / (2 : ℝ) ^ d := by positivity
  rw [sub_eq_add_neg (norm8 _), norm8_center_add d b i j hb hi hj _ le_rfl (by linarith only [ho]), ← sub_eq_add_neg]
  have hy := fun k => vtx_y_range d b i j k hb hi hj
  have u0 := unproj_eq (vtx d b i j 0).1 (vtx d b i j 0).2 (hy 0).1 (hy 0).2
  have u1 := unproj_eq (vtx d b i j 1).1 (vtx d b i j 1).2 (hy 1).1 (hy 1).2
  have u2 := unproj_eq (vtx d b i j 2).1 (vtx d b i j 2).2 (hy 2).1 (hy 2).2
  have u3 := unproj_eq (vtx d b i j 3).1 (vtx d b i j 3).2 (hy 3).1 (hy 3).2
  simp only [vtx] at u0 u1 u2 u3 ⊢
  rw [u0, u1, u2, u3]
  rfl

theorem vertex_plane (cfg : Cfg) (d hash b i j k : ℕ) (hh : hash < Layer.nHash d)
    (hdec : Layer.decodeHash cfg d hash = some ⟨b, i, j⟩) (hb : b < 12) (hi : i < 2 ^ d) (hj : j < 2 ^ d) (hk : k < 4) :
    vertex (α := ℝ) cfg d hash k = some (unprojT (vtx d b i j k).1 (vtx d b i j k).2) := by
  unfold vertex vertexLonLat
  rw [center_eq cfg d hash b i j hh hdec hb]
  simp only [Option.bind_some, r_oon, r_ensures, r_offsetWe, r_offsetSn]
  have h := rawVtx_norm d b i j k hb hi hj hk
  simp only [rawVtx] at h
  have hy := vtx_y_range d b i j k hb hi hj
  rw [← h] at hy ⊢
  exact unproj_eq _ _ hy.1 hy.2

/-- C03: the four vertices are the same whichever accessor returns them (`vertices` and `vertex … k` give the same plane
    points to the same `unproj`), and none of them fails -/
theorem vertices_agree (cfg : Cfg) (d hash b i j : ℕ) (hh : hash < Layer.nHash d)
    (hdec : Layer.decodeHash cfg d hash = some ⟨b, i, j⟩) (hb : b < 12) (hi : i < 2 ^ d) (hj : j < 2 ^ d) :
    ∃ s e n w : ℝ × ℝ, vertices (α := ℝ) cfg d hash = some [s, e, n, w] ∧
      vertex (α := ℝ) cfg d hash 0 = some s ∧ vertex (α := ℝ) cfg d hash 1 = some e ∧
      vertex (α := ℝ) cfg d hash 2 = some n ∧ vertex (α := ℝ) cfg d hash 3 = some w :=
  ⟨_, _, _, _, vertices_plane cfg d hash b i j hh hdec hb hi hj,
    vertex_plane cfg d hash b i j 0 hh hdec hb hi hj (by decide), vertex_plane cfg d hash b i j 1 hh hdec hb hi hj (by decide),
    vertex_plane cfg d hash b i j 2 hh hdec hb hi hj (by decide), vertex_plane cfg d hash b i j 3 hh hdec hb hi hj (by decide)⟩

theorem center_plane (cfg : Cfg) (d hash b i j : ℕ) (hh : hash < Layer.nHash d)
    (hdec : Layer.decodeHash cfg d hash = some ⟨b, i, j⟩) (hb : b < 12) (hi : i < 2 ^ d) (hj : j < 2 ^ d) :
    center (α := ℝ) cfg d hash = some (unprojT (norm8 (cellCx d b i j)) (cellCy d b i j)) := by
  obtain ⟨c1, c2, c3, c4, c5⟩ := center_ranges d b i j hb hi hj
  have ho : 0 < 1 / (2 : ℝ) ^ d := by positivity
  unfold center
  rw [center_eq cfg d hash b i j hh hdec hb]
  exact unproj_eq _ _ (by linarith) (by linarith)

/-- depth 2, cell 73 = base cell 4, `(i, j) = (1, 2)`: `cx = −1/4 < 0`, the centre is `(7.75, 0)` -/
example : centerOfProjectedCell (α := ℝ) {} 2 73 = some (31 / 4, 0) := by
  have hd : Layer.decodeHash {} 2 73 = some ⟨4, 1, 2⟩ := by decide +kernel
  rw [center_eq {} 2 73 4 1 2 (by decide) hd (by decide)]
  unfold cellCx cellCy baseX baseY norm8
  norm_num

/-- depth 2, cell 77 = base cell 4, `(i, j) = (3, 2)`: all accessors succeed -/
example : ∃ s e n w : ℝ × ℝ, vertices (α := ℝ) {} 2 77 = some [s, e, n, w] ∧ vertex (α := ℝ) {} 2 77 0 = some s ∧
    vertex (α := ℝ) {} 2 77 1 = some e ∧ vertex (α := ℝ) {} 2 77 2 = some n ∧ vertex (α := ℝ) {} 2 77 3 = some w :=
  vertices_agree {} 2 77 4 3 2 (by decide) (by decide +kernel) (by decide) (by decide) (by decide)

#print axioms center_plane_spec
#print axioms vertices_agree

end Hpx.CellReal
