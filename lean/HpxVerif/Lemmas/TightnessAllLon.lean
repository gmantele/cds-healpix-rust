import HpxVerif.Lemmas.TightnessCone

/-!
# C06 (tightness clause) and C16 — twice the true distance, both profiles, every position

A value returned in the dev profile is the release value (`largestC2V_debug`, `largestC2VWithRadius_debug`), so the
bounds of `Tightness` hold for both profiles and every real longitude and latitude (`envelope_le_twice_true_all`,
`envelope_with_radius_le_twice_true_all`); for the function with radius the hypothesis `0 ≤ r` cannot be dropped
(`with_radius_negative_unbounded`).
-/

namespace Hpx.Tightness
open Hpx Hpx.Hash Hpx.Proj Hpx.Cover Hpx.C2V Hpx.C2VReal Hpx.EnvelopeReal Hpx.EnvelopePolar Hpx.CellReal Hpx.TopoLift
  Hpx.CellExtent Real

section
variable {α : Type} [Num α]

theorem npc_debug {lon : α} {c : Csts α} {v : α} (h : npc true lon c = some v) : npc false lon c = some v :=
  dbg_refines id h

theorem largestC2V_debug (d : Nat) (lon lat v : α) (h : largestC2V true d lon lat = some v) :
    largestC2V false d lon lat = some v := by
  unfold largestC2V at h ⊢
  exact ite_refines id (ite_refines id (ite_refines npc_debug (ite_refines eqrTop_debug eqrBottom_debug))) h
end

/-- C16, and the tightness clause of C06 (ℝ, both profiles, NO hypothesis on the position, negative longitudes included):
    whatever `largest_center_to_vertex_distance(d, lon, lat)` returns at a depth `0 … 29` is at most twice the true
    centre-to-vertex distance `π/4·2^-d` of the cells of depth `d` centred on the equator. -/
theorem envelope_le_twice_true_all (dbg : Bool) (d : ℕ) (lon lat v : ℝ)
    (h : largestC2V dbg d lon lat = some v) : v ≤ 2 * Mtrue d := by
  have h' : largestC2V false d lon lat = some v := by
    cases dbg
    · exact h
    · exact largestC2V_debug d lon lat v h
  rw [c2v_region_choice] at h'
  split_ifs at h' with h0 h29
  · cases h'; rw [h0]; exact depth0_le_twice
  · cases h'; exact c2v_le_twice_all d (by omega) lon lat

theorem envelope_le_twice_true_nonneg_lon (d : ℕ) (lon lat v : ℝ) (hlon : 0 ≤ lon)
    (h : largestC2V false d lon lat = some v) : v ≤ 2 * Mtrue d :=
  envelope_le_twice_true_all false d lon lat v h

/-- the same (ℝ, both profiles) for `largest_center_to_vertex_distance_with_radius`, every position, every radius `r ≥ 0` -/
theorem envelope_with_radius_le_twice_true_all (dbg : Bool) (d : ℕ) (lon lat r v : ℝ) (hr : 0 ≤ r)
    (h : largestC2VWithRadius dbg d lon lat r = some v) : v ≤ 2 * Mtrue d :=
  envelope_with_radius_le_twice_true d lon lat r v hr (largestC2VWithRadius_release dbg d lon lat r v h)

/-- with `r = −R < 0` the upper equatorial line is evaluated below `lsc`, where it is unbounded -/
theorem with_radius_negative_branch (d : ℕ) (R : ℝ) (hR : 1 / 2 ≤ R) :
    c2vR (Csts.new d) 0 (1 / 2) (-R) = topEnv (Csts.new d) (1 / 2 - R) := by
  have h1 := EnvelopeReal.tl_ge
  have h3 := EnvelopeReal.tl_le
  have h2 := lsc_lt_tl
  unfold c2vR
  rw [abs_of_pos (by norm_num : (0 : ℝ) < 1 / 2)]
  rw [if_neg (by linarith), if_pos (by linarith), min_eq_left (by linarith)]
  ring_nf

/-- The hypothesis `0 ≤ r` is necessary: at every depth `1 … 29` there is a NEGATIVE radius for which
    `largest_center_to_vertex_distance_with_radius(d, 0, 1/2, r)` exceeds `2·Mtrue d` (the decreasing line of the upper
    equatorial region is extrapolated below `lsc`) -/
theorem with_radius_negative_unbounded (d : ℕ) (hd1 : 1 ≤ d) (hd2 : d ≤ 29) :
    ∃ r v : ℝ, r < 0 ∧ largestC2VWithRadius false d 0 (1 / 2) r = some v ∧ 2 * Mtrue d < v := by
  have hs := new_slopeEqr_neg d
  set s := (Csts.new d : Csts ℝ).slopeEqr with hsdef
  set i := (Csts.new d : Csts ℝ).interceptEqr with hidef
  set x := min 0 ((2 * Mtrue d + 1 - i) / s) with hx
  have hx0 : x ≤ 0 := min_le_left _ _
  have hx1 : x ≤ (2 * Mtrue d + 1 - i) / s := min_le_right _ _
  refine ⟨-(1 / 2 - x), c2vR (Csts.new d) 0 (1 / 2) (-(1 / 2 - x)), by linarith, ?_, ?_⟩
  · exact largestC2VWithRadius_eq d hd1 hd2 _ _ _
  · rw [with_radius_negative_branch d (1 / 2 - x) (by linarith)]
    unfold topEnv
    rw [show (1 : ℝ) / 2 - (1 / 2 - x) = x by ring]
    have h1 : s * ((2 * Mtrue d + 1 - i) / s) ≤ s * x := mul_le_mul_of_nonpos_left hx1 hs.le
    rw [mul_div_cancel₀ _ hs.ne] at h1
    linarith

end Hpx.Tightness

#print axioms Hpx.Tightness.envelope_le_twice_true_all
#print axioms Hpx.Tightness.envelope_with_radius_le_twice_true_all
#print axioms Hpx.Tightness.with_radius_negative_unbounded
