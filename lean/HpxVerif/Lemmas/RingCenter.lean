/-
C10, last clause: for `nside = 2^depth` the RING-scheme centre of cell `r` (`ring::center_of_projected_cell(nside, r)`,
`Model/Ring.lean`) coincides with the NESTED centre of `from_ring(r)` (`nested::center_of_projected_cell(depth, ·)`,
`Model/Hash.lean`): both schemes describe the same cells.

Both centres have a closed form over ℝ on the ring layout of `RingLayout` (`RingReal.center_eq`,
`CellReal.center_plane_spec`), tied by `RingBij.centerXY_layout`; `center`, `vertices` and `sph_coo` follow (same
`unproj`).  `to_ring` splits the rings at `n − 1` and `3n − 1` into caps and band, `RingLayout` one ring further (the
transition rings go with the band); counted the way `to_ring` branches, first cells and lengths are the same
(`ringStart_same`, `ringLen_same`).
-/
import HpxVerif.Lemmas.RingBijHash
import HpxVerif.Lemmas.RingReal
import HpxVerif.Lemmas.CellReal
import HpxVerif.Lemmas.SqrtApprox

namespace Hpx.RingBij
open Hpx Hpx.Layer

/-- the `f64` hypothesis at depth 3, for the examples below -/
theorem approxOK_depth3 : ApproxOK (firstHashInEqr 3) := SqrtApprox.approxOK_depth 3 (by decide)

/-- first RING number of ring `t` (`t = 0 … 4·ns − 2`; `ringStart ns (4·ns − 1) = 12·ns²`), with the transition rings
    `ns − 1` and `3·ns − 1` counted with the caps, as the branches of `to_ring` do -/
def ringStart (ns t : Nat) : Nat :=
  if t < ns then tri4 t
  else if t + 1 < 3 * ns then 2 * (ns * ns) + 2 * ns + 4 * ((t - ns) * ns)
  else 12 * (ns * ns) - tri4 (4 * ns - 1 - t)

def ringLen (ns t : Nat) : Nat :=
  if t < ns then 4 * (t + 1) else if t + 1 < 3 * ns then 4 * ns else 4 * (4 * ns - 1 - t)

end Hpx.RingBij

namespace Hpx.RingCenter
open Hpx Hpx.Layer

theorem ringStart_same (n t : Nat) : RingBij.ringStart n t = RingReal.ringStart n t := by
  unfold RingBij.ringStart
  split
  · rw [RingReal.ringStart_north ‹_›]; rfl
  split
  · rw [RingReal.ringStart_eq (by omega) ‹_›, RingReal.tri4_eq]; ring
  · rw [RingReal.ringStart_south (by omega)]; rfl

theorem ringLen_same (n t : Nat) : RingBij.ringLen n t = 4 * RingReal.perFacet n t := by
  unfold RingBij.ringLen RingReal.perFacet
  split_ifs <;> omega

/-- the two hypotheses on the float estimate of the ring index are the same one at `nside = 2^d` -/
theorem ringIndexExact_of_approxOK (d : Nat) (hA : RingBij.ApproxOK (firstHashInEqr d)) :
    RingReal.RingIndexExact (2 ^ d) := by
  have h := RingBij.realRI_exactBelow hA
  rw [RingBij.fe_tri4, RingBij.nside_eq] at h
  exact h

/-- … and with the hypothesis in the form "the `f64` estimate is within 4 of the exact ring index below `2^60`" -/
theorem ringIndexExact_of_lt_2_60 (hA : RingBij.ApproxOK (2 ^ 60)) (d : Nat) (hd : d ≤ 29) :
    RingReal.RingIndexExact (2 ^ d) :=
  ringIndexExact_of_approxOK d (RingBij.approxOK_of_lt_2_60 hA d hd)

theorem two_pow_lt (d : Nat) (hd : d ≤ 29) : 2 ^ d < 2 ^ 30 :=
  Nat.pow_lt_pow_right (by decide) (by omega)

theorem ring_center_agrees_parts (debug : Bool) (d : Nat) (hd : d ≤ 29) (hRI : RingReal.RingIndexExact (2 ^ d))
    (p : HashParts) (hv : RingBij.Valid d p) (r : Nat) (hr : toRingParts d p = some r) :
    Ring.centerOfProjectedCell (α := ℝ) debug (2 ^ d) r
      = some ((((centerXY d p).1 : ℤ) : ℝ) / 2 ^ d, (((centerXY d p).2 : ℤ) : ℝ) / 2 ^ d) := by
  obtain ⟨h1, h2, h3⟩ := RingBij.toRing_spec d p hv
  rw [hr] at h1
  cases h1
  rw [RingBij.centerXY_layout d p hv]
  rw [RingBij.nside_eq] at h2 h3 ⊢
  rw [RingReal.center_eq debug Nat.one_le_two_pow (two_pow_lt d hd) hRI h2 h3]
  push_cast
  rfl

theorem nested_center_parts (cfg : Cfg) (d h : Nat) (p : HashParts) (hh : h < 12 * 4 ^ d)
    (hp : decodeHash cfg d h = some p) (hv : RingBij.Valid d p) :
    Hash.centerOfProjectedCell (α := ℝ) cfg d h
      = some ((((centerXY d p).1 : ℤ) : ℝ) / 2 ^ d, (((centerXY d p).2 : ℤ) : ℝ) / 2 ^ d) := by
  obtain ⟨hb, hi, hj⟩ := hv
  have hh' : h < nHash d := by rw [RingBij.nHash_eq, ← RingBij.four_pow_eq]; exact hh
  obtain ⟨x, y, hc, -, -, -, -, -, -, ex, ey⟩ :=
    CellReal.center_plane_spec cfg d h p.d0h p.i p.j hh' hp hb hi hj
  rw [hc, ex, ey]

theorem ring_center_agrees_toRing (debug : Bool) (cfg : Cfg) (d : Nat) (hd : d ≤ 29)
    (hRI : RingReal.RingIndexExact (2 ^ d)) (h : Nat) (hh : h < 12 * 4 ^ d) (r : Nat)
    (hr : toRing cfg d h = some r) :
    Ring.centerOfProjectedCell (α := ℝ) debug (2 ^ d) r = Hash.centerOfProjectedCell (α := ℝ) cfg d h := by
  obtain ⟨p, hp, hv, -⟩ := RingBij.decode_spec cfg d hd h hh
  rw [RingBij.toRing_of_decode cfg d h p hp hv] at hr
  rw [ring_center_agrees_parts debug d hd hRI p hv r hr, nested_center_parts cfg d h p hh hp hv]

theorem ring_center_agrees_fromRing (debug : Bool) (cfg : Cfg) (d : Nat) (hd : d ≤ 29)
    (hA : RingBij.ApproxOK (firstHashInEqr d)) (r : Nat) (hr : r < 12 * 4 ^ d) (h : Nat)
    (hf : fromRing cfg d r = some h) :
    Ring.centerOfProjectedCell (α := ℝ) debug (2 ^ d) r = Hash.centerOfProjectedCell (α := ℝ) cfg d h := by
  obtain ⟨h', h1, h2, h3⟩ := RingBij.toRing_fromRing cfg d hd hA r hr
  rw [hf] at h1
  cases h1
  exact ring_center_agrees_toRing debug cfg d hd (ringIndexExact_of_approxOK d hA) h h2 r h3

/-- both schemes apply the same `unproj` calls to the centre, with the same half-diagonal `1/nside` -/
theorem agree_of_plane {debug : Bool} {cfg : Cfg} {d r h : Nat}
    (e : Ring.centerOfProjectedCell (α := ℝ) debug (2 ^ d) r = Hash.centerOfProjectedCell (α := ℝ) cfg d h) :
    Ring.center (α := ℝ) debug (2 ^ d) r = Hash.center (α := ℝ) cfg d h ∧
    Ring.vertices (α := ℝ) debug (2 ^ d) r = Hash.vertices (α := ℝ) cfg d h ∧
    ∀ dx dy : ℝ, Ring.sphCoo (α := ℝ) debug (2 ^ d) r dx dy = Hash.sphCoo (α := ℝ) cfg d h dx dy := by
  refine ⟨?_, ?_, fun dx dy => ?_⟩
  · unfold Ring.center Hash.center
    rw [e]
  · unfold Ring.vertices Hash.vertices
    rw [e, RingBij.nside_eq]
  · unfold Ring.sphCoo Hash.sphCoo
    rw [e, RingBij.nside_eq]
    have e' : ∀ a : ℝ, a * ((Num.one : ℝ) / Num.ofNat (2 ^ d)) = a / (Num.ofNat (2 ^ d) : ℝ) := fun a => by
      rw [Proj.r_one, mul_one_div]
    simp only [e']

/-- C10, last clause: the RING-scheme centre of `r` at `nside = 2^d` is the NESTED centre of `from_ring(r)`.
    Hypothesis: the `f64` estimate of the polar ring index is within 4 of the truth below the first equatorial
    cell number (`RingBij.ApproxOK`, the hypothesis of the NESTED <-> RING bijection). -/
theorem ring_center_agrees (debug : Bool) (cfg : Cfg) (hb : cfg.bmi = false) (d : Nat) (hd : d ≤ 29)
    (hA : RingBij.ApproxOK (firstHashInEqr d)) (r : Nat) (hr : r < 12 * 4 ^ d) (h : Nat)
    (hf : fromRing cfg d r = some h) :
    Ring.centerOfProjectedCell (α := ℝ) debug (2 ^ d) r = Hash.centerOfProjectedCell (α := ℝ) cfg d h :=
  ring_center_agrees_fromRing debug cfg d hd hA r hr h hf

/-- the centres on the sphere agree as well: `Ring.center` and `Hash.center` apply the same `unproj` to the same
    plane point -/
theorem ring_center_sphere_agrees (debug : Bool) (cfg : Cfg) (hb : cfg.bmi = false) (d : Nat) (hd : d ≤ 29)
    (hA : RingBij.ApproxOK (firstHashInEqr d)) (r : Nat) (hr : r < 12 * 4 ^ d) (h : Nat)
    (hf : fromRing cfg d r = some h) :
    Ring.center (α := ℝ) debug (2 ^ d) r = Hash.center (α := ℝ) cfg d h :=
  (agree_of_plane (ring_center_agrees_fromRing debug cfg d hd hA r hr h hf)).1

/-- the four vertices agree too: the RING cell `r` and the NESTED cell `from_ring(r)` are the same diamond of the
    projection plane -/
theorem ring_vertices_agree (debug : Bool) (cfg : Cfg) (hb : cfg.bmi = false) (d : Nat) (hd : d ≤ 29)
    (hA : RingBij.ApproxOK (firstHashInEqr d)) (r : Nat) (hr : r < 12 * 4 ^ d) (h : Nat)
    (hf : fromRing cfg d r = some h) :
    Ring.vertices (α := ℝ) debug (2 ^ d) r = Hash.vertices (α := ℝ) cfg d h :=
  (agree_of_plane (ring_center_agrees_fromRing debug cfg d hd hA r hr h hf)).2.1

/-- … and so does every point `(dx, dy)` inside the cell (`sph_coo`) -/
theorem ring_sphCoo_agree (debug : Bool) (cfg : Cfg) (hb : cfg.bmi = false) (d : Nat) (hd : d ≤ 29)
    (hA : RingBij.ApproxOK (firstHashInEqr d)) (r : Nat) (hr : r < 12 * 4 ^ d) (h : Nat)
    (hf : fromRing cfg d r = some h) (dx dy : ℝ) :
    Ring.sphCoo (α := ℝ) debug (2 ^ d) r dx dy = Hash.sphCoo (α := ℝ) cfg d h dx dy :=
  (agree_of_plane (ring_center_agrees_fromRing debug cfg d hd hA r hr h hf)).2.2 dx dy

/-- the bound `d ≤ 29` is sharp on the RING side: at `nside = 2^30` (beyond the crate's `nside_max = 2^29`) the model's
    `(nside << 2)` in `u32` is 0 and the equatorial branch divides by zero -/
theorem ring_center_none_at_depth_30 :
    Ring.centerOfProjectedCell (α := ℝ) true (2 ^ 30) (Ring.tri4 (2 ^ 30 - 1)) = none := by
  unfold Ring.centerOfProjectedCell
  rw [if_neg (by decide +kernel), if_neg (by decide +kernel), if_neg (by decide +kernel), if_neg (by decide +kernel)]
  simp

theorem same_cells (debug : Bool) (cfg : Cfg) (hA : RingBij.ApproxOK (2 ^ 60)) (d : Nat) (hd : d ≤ 29) :
    (∀ r, r < 12 * 4 ^ d → ∃ h, fromRing cfg d r = some h ∧ h < 12 * 4 ^ d ∧
      Ring.centerOfProjectedCell (α := ℝ) debug (2 ^ d) r = Hash.centerOfProjectedCell (α := ℝ) cfg d h ∧
      Ring.center (α := ℝ) debug (2 ^ d) r = Hash.center (α := ℝ) cfg d h) ∧
    (∀ h, h < 12 * 4 ^ d → ∃ r, toRing cfg d h = some r ∧ r < 12 * 4 ^ d ∧
      Ring.centerOfProjectedCell (α := ℝ) debug (2 ^ d) r = Hash.centerOfProjectedCell (α := ℝ) cfg d h ∧
      Ring.center (α := ℝ) debug (2 ^ d) r = Hash.center (α := ℝ) cfg d h) := by
  have hA' := RingBij.approxOK_of_lt_2_60 hA d hd
  have hRI := ringIndexExact_of_approxOK d hA'
  constructor
  · intro r hr
    obtain ⟨h, h1, h2, h3⟩ := RingBij.toRing_fromRing cfg d hd hA' r hr
    have e := ring_center_agrees_toRing debug cfg d hd hRI h h2 r h3
    exact ⟨h, h1, h2, e, (agree_of_plane e).1⟩
  · intro h hh
    obtain ⟨r, h1, h2, -⟩ := RingBij.fromRing_toRing cfg d hd hA' h hh
    have e := ring_center_agrees_toRing debug cfg d hd hRI h hh r h1
    exact ⟨r, h1, h2, e, (agree_of_plane e).1⟩

/-- C10, last clause, all depths at once, under the single hypothesis "the `f64` estimate of the ring index is within 4
    of the truth below `2^60`": `from_ring(r)` is a NESTED cell whose centre (plane and sphere) is the RING-scheme centre
    of `r`, and `to_ring(h)` a RING cell with the centre of `h` -/
theorem ring_scheme_same_cells (debug : Bool) (cfg : Cfg) (hb : cfg.bmi = false) (hA : RingBij.ApproxOK (2 ^ 60))
    (d : Nat) (hd : d ≤ 29) :
    (∀ r, r < 12 * 4 ^ d → ∃ h, fromRing cfg d r = some h ∧ h < 12 * 4 ^ d ∧
      Ring.centerOfProjectedCell (α := ℝ) debug (2 ^ d) r = Hash.centerOfProjectedCell (α := ℝ) cfg d h ∧
      Ring.center (α := ℝ) debug (2 ^ d) r = Hash.center (α := ℝ) cfg d h) ∧
    (∀ h, h < 12 * 4 ^ d → ∃ r, toRing cfg d h = some r ∧ r < 12 * 4 ^ d ∧
      Ring.centerOfProjectedCell (α := ℝ) debug (2 ^ d) r = Hash.centerOfProjectedCell (α := ℝ) cfg d h ∧
      Ring.center (α := ℝ) debug (2 ^ d) r = Hash.center (α := ℝ) cfg d h) :=
  same_cells debug cfg hA d hd

/-- the integer statements by evaluation at depths 0 … 3 (all `12·4^d` cells): same ring partition, same centres -/
example : ∀ d, d < 4 → ∀ b, b < 12 → ∀ i, i < 2 ^ d → ∀ j, j < 2 ^ d →
    (decide (centerXY d ⟨b, i, j⟩ =
        ((RingReal.cxI (2 ^ d) (RingBij.ringOf (2 ^ d) ⟨b, i, j⟩) (RingBij.inRing (2 ^ d) ⟨b, i, j⟩) : Int),
          RingReal.cyI (2 ^ d) (RingBij.ringOf (2 ^ d) ⟨b, i, j⟩))) &&
      decide (RingBij.ringStart (2 ^ d) (RingBij.ringOf (2 ^ d) ⟨b, i, j⟩) =
        RingReal.ringStart (2 ^ d) (RingBij.ringOf (2 ^ d) ⟨b, i, j⟩)) &&
      decide (RingBij.ringLen (2 ^ d) (RingBij.ringOf (2 ^ d) ⟨b, i, j⟩) =
        4 * RingReal.perFacet (2 ^ d) (RingBij.ringOf (2 ^ d) ⟨b, i, j⟩))) = true := by
  decide +kernel

/-- the hypotheses are satisfiable: the wrap-around case (base cell 4, `i < j`) at depth 2 -/
example : Ring.centerOfProjectedCell (α := ℝ) true (2 ^ 2) 103
    = some ((((31 : ℤ) : ℤ) : ℝ) / 2 ^ 2, (((0 : ℤ) : ℤ) : ℝ) / 2 ^ 2) :=
  ring_center_agrees_parts true 2 (by decide)
    (ringIndexExact_of_approxOK 2 (RingBij.approxOK_depth3.mono (by decide))) ⟨4, 1, 2⟩ (by decide) 103 (by decide)

example : Ring.centerOfProjectedCell (α := ℝ) true (2 ^ 1) 7 = Hash.centerOfProjectedCell (α := ℝ) {} 1 5 ∧
    Ring.center (α := ℝ) false (2 ^ 2) 103 = Hash.center (α := ℝ) {} 2 73 ∧
    Ring.center (α := ℝ) true (2 ^ 1) 47 = Hash.center (α := ℝ) {} 1 44 :=
  ⟨ring_center_agrees true {} rfl 1 (by decide) (RingBij.approxOK_depth3.mono (by decide)) 7 (by decide) 5
      (by decide +kernel),
   ring_center_sphere_agrees false {} rfl 2 (by decide) (RingBij.approxOK_depth3.mono (by decide)) 103 (by decide) 73
      (by decide +kernel),
   ring_center_sphere_agrees true {} rfl 1 (by decide) (RingBij.approxOK_depth3.mono (by decide)) 47 (by decide) 44
      (by decide +kernel)⟩

example : ∃ r, toRing {} 3 100 = some r ∧ r < 12 * 4 ^ 3 ∧ fromRing {} 3 r = some 100 :=
  RingBij.fromRing_toRing {} 3 (by decide) RingBij.approxOK_depth3 100 (by decide)

example (r : Nat) (hr : r < 12 * 4 ^ 3) : ∃ h, fromRing {} 3 r = some h ∧ h < 12 * 4 ^ 3 ∧
    Ring.centerOfProjectedCell (α := ℝ) true (2 ^ 3) r = Hash.centerOfProjectedCell (α := ℝ) {} 3 h := by
  obtain ⟨h, h1, h2, -⟩ := RingBij.toRing_fromRing {} 3 (by decide) RingBij.approxOK_depth3 r hr
  exact ⟨h, h1, h2, ring_center_agrees true {} rfl 3 (by decide) RingBij.approxOK_depth3 r hr h h1⟩

#print axioms ringStart_same
#print axioms ring_center_agrees_parts
#print axioms ring_center_agrees
#print axioms ring_center_sphere_agrees
#print axioms ring_scheme_same_cells
#print axioms ring_vertices_agree
#print axioms ring_sphCoo_agree
#print axioms ring_center_none_at_depth_30

end Hpx.RingCenter

/-! ## without the hypothesis on `f64::sqrt`

`SqrtApprox.approxOK_2_60` discharges `RingBij.ApproxOK (2 ^ 60)`; here are the hypothesis-free forms of the theorems
that carried it. -/

namespace Hpx.SqrtApprox
open Hpx Hpx.Layer

/-- **NESTED <-> RING is a bijection at every depth `≤ 29`** (`RingBij.ring_bijection` without its hypothesis) -/
theorem ring_bijection (cfg : Cfg) (hb : cfg.bmi = false) (d : Nat) (hd : d ≤ 29) :
    (∀ h, h < 12 * 4 ^ d → ∃ r, toRing cfg d h = some r ∧ r < 12 * 4 ^ d ∧ fromRing cfg d r = some h) ∧
    (∀ r, r < 12 * 4 ^ d → ∃ h, fromRing cfg d r = some h ∧ h < 12 * 4 ^ d ∧ toRing cfg d h = some r) :=
  RingBij.ring_bijection cfg hb d hd approxOK_2_60

/-- **C10, last clause, all depths `≤ 29`** (`RingCenter.ring_scheme_same_cells` without its hypothesis): the RING and
    NESTED schemes describe the same cells, with the same centres in the plane and on the sphere -/
theorem ring_scheme_same_cells (debug : Bool) (cfg : Cfg) (hb : cfg.bmi = false) (d : Nat) (hd : d ≤ 29) :
    (∀ r, r < 12 * 4 ^ d → ∃ h, fromRing cfg d r = some h ∧ h < 12 * 4 ^ d ∧
      Ring.centerOfProjectedCell (α := ℝ) debug (2 ^ d) r = Hash.centerOfProjectedCell (α := ℝ) cfg d h ∧
      Ring.center (α := ℝ) debug (2 ^ d) r = Hash.center (α := ℝ) cfg d h) ∧
    (∀ h, h < 12 * 4 ^ d → ∃ r, toRing cfg d h = some r ∧ r < 12 * 4 ^ d ∧
      Ring.centerOfProjectedCell (α := ℝ) debug (2 ^ d) r = Hash.centerOfProjectedCell (α := ℝ) cfg d h ∧
      Ring.center (α := ℝ) debug (2 ^ d) r = Hash.center (α := ℝ) cfg d h) :=
  RingCenter.ring_scheme_same_cells debug cfg hb approxOK_2_60 d hd

/-- non-vacuity at a depth far beyond kernel enumeration: depth 29, the last RING cell -/
example : ∃ h, fromRing {} 29 (12 * 4 ^ 29 - 1) = some h ∧ h < 12 * 4 ^ 29 ∧ toRing {} 29 h = some (12 * 4 ^ 29 - 1) :=
  (ring_bijection {} rfl 29 (by decide)).2 _ (by decide)

end Hpx.SqrtApprox

#print axioms Hpx.SqrtApprox.ring_bijection
#print axioms Hpx.SqrtApprox.ring_scheme_same_cells
