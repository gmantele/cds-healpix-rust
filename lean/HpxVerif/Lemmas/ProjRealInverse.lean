/-
C17 over the reals: `proj ∘ unproj = id` on the projected domain (every sign quadrant), what `unproj` does outside
the Collignon triangles, and the range of `proj`.
-/
import HpxVerif.Lemmas.ProjRealSpec
import HpxVerif.Lemmas.CapLat
namespace Hpx.Proj
open Real

theorem proj_eq_pos (k : ℕ) (hk : k < 4) (x y : ℝ) (h1 : (2 * k : ℝ) ≤ x) (h2 : x < 2 * k + 2) (hy0 : 0 ≤ y) (hy1 : y ≤ 1) :
    0 ≤ Real.arcsin (y * (2 / 3)) ∧ Real.arcsin (y * (2 / 3)) ≤ π / 2 ∧ (0 < y → 0 < Real.arcsin (y * (2 / 3))) ∧
    proj (α := ℝ) (x * (π / 4)) (Real.arcsin (y * (2 / 3))) = some (x, y) := by
  have hpi := pi_pos
  have hx0 : 0 ≤ x := le_trans (by positivity) h1
  have ha0 : 0 ≤ Real.arcsin (y * (2 / 3)) := Real.arcsin_nonneg.mpr (by positivity)
  have ha1 := Real.arcsin_le_pi_div_two (y * (2 / 3))
  refine ⟨ha0, ha1, fun h => Real.arcsin_pos.mpr (by positivity), ?_⟩
  have hle : Real.arcsin (y * (2 / 3)) ≤ Real.arcsin (2 / 3) := Real.arcsin_le_arcsin (by linarith)
  rw [proj_pos _ _ k (by omega) (by positivity) (by rw [scaled_back]; exact h1) (by rw [scaled_back]; exact h2) ha0 ha1,
    scaled_back, sigma_of_equatorial (by linarith [asin23_nonneg]) hle, planeY_of_equatorial (by linarith [asin23_nonneg]) hle,
    Real.sin_arcsin (by linarith) (by linarith), Nat.mod_eq_of_lt (by omega)]
  congr 2
  · push_cast; ring
  · ring

theorem proj_capLat (k : ℕ) (hk : k < 128) (l y : ℝ) (hl1 : -1 ≤ l) (hl2 : l < 1) (hy1 : 1 < y) (hy2 : y ≤ 2) :
    proj (α := ℝ) ((l + (2 * k + 1)) * (π / 4)) (capLat y) = some (l * (2 - y) + ((2 * k + 1) % 8 : ℕ), y) := by
  have hpi := pi_pos
  obtain ⟨hreg, hlat0, hlat, hsig⟩ := capLat_props y hy1 hy2
  have hk0 : (0 : ℝ) ≤ k := Nat.cast_nonneg k
  rw [proj_pos _ _ k hk (mul_nonneg (by linarith) (by positivity))
    (by rw [scaled_back]; linarith) (by rw [scaled_back]; linarith) hlat0.le hlat, scaled_back,
    sigma_of_north (not_le.mp hreg), planeY_of_north (not_le.mp hreg), hsig]
  congr 3 <;> ring

theorem proj_unproj_cap_pos (k : ℕ) (hk : k < 4) (x y : ℝ) (hy1 : 1 < y) (hy2 : y ≤ 2)
    (hpole : (Num.epsPole : ℝ) < 2 - y) (ht1 : -(2 - y) ≤ x - (2 * k + 1)) (ht2 : x - (2 * k + 1) < 2 - y) :
    ∃ lon lat, unproj (α := ℝ) x y = some (lon, lat) ∧ 0 ≤ lon ∧ lon < 2 * π ∧ (x ≠ y - 1 → 0 < lon) ∧ 0 < lat ∧
      lat ≤ π / 2 ∧ proj (α := ℝ) lon lat = some (x, y) := by
  have hpi := pi_pos
  have ht : 0 < 2 - y := lt_trans epsPole_pos hpole
  obtain ⟨-, hl0, hl1, -⟩ := capLat_props y hy1 hy2
  have hk0 : (0 : ℝ) ≤ k := Nat.cast_nonneg k
  set l := (x - (2 * k + 1)) / (2 - y) with hl
  have hlt : l * (2 - y) = x - (2 * k + 1) := by rw [hl]; field_simp
  have hm1 : -1 ≤ l := by rw [hl, le_div_iff₀ ht]; linarith
  have hp1 : l < 1 := by rw [hl, div_lt_one ht]; linarith
  have hcl : clamp1 l = l := by unfold clamp1; rw [if_neg (by linarith), if_neg (by linarith)]
  have hk3 : (k : ℝ) ≤ 3 := by
    have : k ≤ 3 := by omega
    exact_mod_cast this
  refine ⟨(l + (2 * k + 1)) * (π / 4), capLat y, ?_, ?_, ?_, ?_, hl0, hl1, ?_⟩
  · rw [unproj_cap_pos k hk x y (by linarith) (by linarith) hy1 hy2 hpole, hcl]
  · exact mul_nonneg (by linarith) (by positivity)
  · rw [show 2 * π = 8 * (π / 4) by ring]
    exact mul_lt_mul_of_pos_right (by linarith) (by positivity)
  · intro hne
    have : 0 < l + (2 * k + 1) := by
      rcases Nat.eq_zero_or_pos k with rfl | hkp
      · have : l ≠ -1 := by
          intro h; apply hne; rw [h] at hlt; push_cast at hlt; linarith
        have : -1 < l := lt_of_le_of_ne hm1 (Ne.symm this)
        push_cast; linarith
      · have : (1 : ℝ) ≤ k := by exact_mod_cast hkp
        linarith
    positivity
  · rw [proj_capLat k (by omega) l y hm1 hp1 hy1 hy2, hlt, Nat.mod_eq_of_lt (by omega)]
    congr 2; push_cast; ring

/-- the image of the sphere in the projection plane, as the code parametrises it: in the caps (`|y| > 1`), `|x|` inside one
    of the four Collignon triangles, left edge included, right edge — the same points of the sphere as the left edge of
    the next triangle — excluded; the four apices `(2k+1, ±2)`, images of the poles, are not in it -/
def InProjDomain (x y : ℝ) : Prop :=
  |x| < 8 ∧ |y| ≤ 2 ∧
    (1 < |y| → ∃ k : ℕ, k < 4 ∧ -(2 - |y|) ≤ |x| - (2 * k + 1) ∧ |x| - (2 * k + 1) < 2 - |y|)

theorem proj_unproj_pos (x y : ℝ) (hx : 0 ≤ x) (hy : 0 ≤ y) (hd : InProjDomain x y)
    (hpole : (Num.epsPole : ℝ) < 2 - y) :
    ∃ lon lat, unproj (α := ℝ) x y = some (lon, lat) ∧ 0 ≤ lon ∧ lon < 2 * π ∧ ((1 < y → x ≠ y - 1) → 0 < x → 0 < lon) ∧
      0 ≤ lat ∧ (0 < y → 0 < lat) ∧ lat ≤ π / 2 ∧ proj (α := ℝ) lon lat = some (x, y) := by
  have hpi := pi_pos
  obtain ⟨hx8, hy2, hcap⟩ := hd
  rw [abs_of_nonneg hx] at hx8 hcap
  rw [abs_of_nonneg hy] at hy2 hcap
  by_cases hy1 : y ≤ 1
  · obtain ⟨k, hk, h1, h2⟩ := facet_exists x hx 4 (by push_cast; linarith)
    obtain ⟨a0, a1, a2, a3⟩ := proj_eq_pos k hk x y h1 h2 hy hy1
    exact ⟨_, _, unproj_eq_pos k hk x y h1 h2 hy hy1, by positivity, by nlinarith, fun _ h => by positivity, a0, a2, a1, a3⟩
  · rw [not_le] at hy1
    obtain ⟨k, hk, t1, t2⟩ := hcap hy1
    obtain ⟨lon, lat, hu, l0, l2, l1, b0, b1, hp⟩ := proj_unproj_cap_pos k hk x y hy1 hy2 hpole t1 t2
    exact ⟨lon, lat, hu, l0, l2, fun h _ => l1 (h hy1), le_of_lt b0, fun _ => b0, b1, hp⟩

/-- **`proj ∘ unproj = id` over ℝ on the projected domain, every sign quadrant**, away from the pole threshold.
    The last hypothesis excludes, for negative `x` only, the left edge of the first triangle (`|x| = |y| - 1`, longitude 0):
    there `unproj` returns the longitude `-0.0`, which does not exist over ℝ (see `proj_unproj_neg_zero`). -/
theorem proj_unproj (x y : ℝ) (hd : InProjDomain x y) (hpole : (Num.epsPole : ℝ) < 2 - |y|)
    (hneg : x < 0 → 1 < |y| → |x| ≠ |y| - 1) :
    ∃ lon lat, unproj (α := ℝ) x y = some (lon, lat) ∧ -(π / 2) ≤ lat ∧ lat ≤ π / 2 ∧ |lon| < 2 * π ∧
      proj (α := ℝ) lon lat = some (x, y) := by
  have hpi := pi_pos
  have hd' : InProjDomain |x| |y| := by unfold InProjDomain; rw [abs_abs, abs_abs]; exact hd
  obtain ⟨L, B, hu, l0, l2, l1, b0, b1, b2, hp⟩ := proj_unproj_pos |x| |y| (abs_nonneg x) (abs_nonneg y) hd' hpole
  refine ⟨sgn x L, sgn y B, ?_, ?_, ?_, ?_, ?_⟩
  · rw [unproj_sym, hu, Option.map_some]
  · unfold sgn; split
    · rw [abs_of_nonneg b0]; linarith
    · linarith
  · unfold sgn; split
    · rw [abs_of_nonneg b0]; linarith
    · linarith
  · rw [abs_sgn, abs_of_nonneg l0]; exact l2
  · have := sgn_lift _ proj_sym x y L B |x| |y| l0 b0 hp
      (fun h => l1 (fun h1 => hneg h h1) (abs_pos.mpr (ne_of_lt h))) (fun h => b1 (abs_pos.mpr (ne_of_lt h)))
    rw [this, sgn_abs_self, sgn_abs_self]

/-- the hypotheses of `proj_unproj` are satisfiable in the equatorial band and in a (south-west) cap -/
example : InProjDomain (1 / 2) (1 / 2) ∧ (Num.epsPole : ℝ) < 2 - |(1 / 2 : ℝ)| ∧
    ((1 / 2 : ℝ) < 0 → 1 < |(1 / 2 : ℝ)| → |(1 / 2 : ℝ)| ≠ |(1 / 2 : ℝ)| - 1) := by
  have := epsPole_lt_small
  refine ⟨⟨by norm_num [abs_of_pos], by norm_num [abs_of_pos], ?_⟩, by norm_num [abs_of_pos]; linarith, by norm_num⟩
  intro h; norm_num [abs_of_pos] at h
example : InProjDomain (-5 / 2) (-3 / 2) ∧ (Num.epsPole : ℝ) < 2 - |(-3 / 2 : ℝ)| ∧
    ((-5 / 2 : ℝ) < 0 → 1 < |(-3 / 2 : ℝ)| → |(-5 / 2 : ℝ)| ≠ |(-3 / 2 : ℝ)| - 1) := by
  have := epsPole_lt_small
  have e1 : |(-5 / 2 : ℝ)| = 5 / 2 := by rw [abs_of_neg (by norm_num)]; norm_num
  have e2 : |(-3 / 2 : ℝ)| = 3 / 2 := by rw [abs_of_neg (by norm_num)]; norm_num
  rw [InProjDomain, e1, e2]
  refine ⟨⟨by norm_num, by norm_num, fun _ => ⟨1, by norm_num, by norm_num, by norm_num⟩⟩, by linarith, ?_⟩
  intro _ _; norm_num

/-- **real/float difference** (not a defect): for `x < 0` on the left edge of the first Collignon triangle (`|x| = |y| - 1`,
    the meridian `lon = 0`), `unproj` over ℝ returns the longitude `-|0| = 0`, whose sign bit is lost, and `proj` sends it
    to `(+|x|, y)`.  At `Float` the longitude is `-0.0`, the sign bit survives and `proj (unproj (x, y)) = (x, y)`. -/
theorem proj_unproj_neg_zero (x y : ℝ) (hx : x < 0) (hy1 : 1 < |y|) (hy2 : |y| ≤ 2) (hedge : |x| = |y| - 1)
    (hpole : (Num.epsPole : ℝ) < 2 - |y|) :
    ∃ lat, unproj (α := ℝ) x y = some (0, lat) ∧ proj (α := ℝ) 0 lat = some (-x, y) := by
  have ht : 0 < 2 - |y| := lt_trans epsPole_pos hpole
  obtain ⟨-, hl0, -, -⟩ := capLat_props |y| hy1 hy2
  have hu := unproj_cap_pos 0 (by norm_num) |x| |y| (by push_cast; linarith [abs_nonneg x]) (by push_cast; linarith) hy1 hy2 hpole
  have hr : (|x| - (2 * ((0 : ℕ) : ℝ) + 1)) / (2 - |y|) = -1 := by
    rw [div_eq_iff (ne_of_gt ht), hedge]; push_cast; ring
  have hc : clamp1 (-1) = -1 := by unfold clamp1; norm_num
  rw [hr, hc] at hu
  have hu0 : unproj (α := ℝ) |x| |y| = some (0, capLat |y|) := by rw [hu]; congr 2; push_cast; ring
  refine ⟨sgn y (capLat |y|), ?_, ?_⟩
  · rw [unproj_sym, hu0, Option.map_some]; congr 2; unfold sgn; simp
  · have hp := proj_capLat 0 (by norm_num) (-1) |y| (le_refl _) (by norm_num) hy1 hy2
    have hp0 : proj (α := ℝ) 0 (capLat |y|) = some (|x|, |y|) := by
      have e : ((-1 : ℝ) + (2 * ((0 : ℕ) : ℝ) + 1)) * (π / 4) = 0 := by push_cast; ring
      rw [e] at hp; rw [hp, hedge]; congr 2
      norm_num; ring
    have := sgn_lift _ proj_sym 0 y 0 (capLat |y|) |x| |y| (le_refl _) (le_of_lt hl0) hp0 (fun h => absurd h (lt_irrefl _))
      (fun _ => hl0)
    rw [sgn_of_nonneg (le_refl (0 : ℝ)), sgn_of_nonneg (le_refl (0 : ℝ)), sgn_abs_self, abs_of_neg hx] at this
    exact this

/-- the hypotheses of `proj_unproj_neg_zero` on `(x, y)` are satisfiable -/
example : ((-1 / 2 : ℝ) < 0) ∧ 1 < |(3 / 2 : ℝ)| ∧ |(3 / 2 : ℝ)| ≤ 2 ∧ |(-1 / 2 : ℝ)| = |(3 / 2 : ℝ)| - 1 := by
  have e1 : |(-1 / 2 : ℝ)| = 1 / 2 := by rw [abs_of_neg (by norm_num)]; norm_num
  have e2 : |(3 / 2 : ℝ)| = 3 / 2 := abs_of_pos (by norm_num)
  rw [e1, e2]; norm_num

/-- **the boundary `|x| = 8`** is identified with `x = 0`: `pm1_offset_decompose 8 = (1, -1)`, so in the equatorial band
    `unproj (±8, y) = (0, lat)` and `proj` brings it back to `(0, y)`, not to `(±8, y)`: the domain of `proj_unproj` is
    `|x| < 8` -/
theorem proj_unproj_at_eight (y : ℝ) (hy : |y| ≤ 1) :
    ∃ lat, unproj (α := ℝ) 8 y = some (0, lat) ∧ unproj (α := ℝ) (-8) y = some (0, lat) ∧
      proj (α := ℝ) 0 lat = some (0, y) := by
  have hpi := pi_pos
  have h8 : unproj (α := ℝ) 8 |y| = some (0, Real.arcsin (|y| * (2 / 3))) := by
    rw [unproj_pos 8 |y| 4 (by norm_num) (by norm_num) (by norm_num) (abs_nonneg y) (by linarith), if_pos hy]
    congr 2; norm_num
  obtain ⟨a0, a1, a2, a3⟩ := proj_eq_pos 0 (by norm_num) 0 |y| (by norm_num) (by norm_num) (abs_nonneg y) hy
  rw [zero_mul] at a3
  refine ⟨sgn y (Real.arcsin (|y| * (2 / 3))), ?_, ?_, ?_⟩
  · rw [unproj_sym, abs_of_pos (by norm_num : (0 : ℝ) < 8), h8, Option.map_some]; congr 2; unfold sgn; simp
  · rw [unproj_sym, abs_neg, abs_of_pos (by norm_num : (0 : ℝ) < 8), h8, Option.map_some]; congr 2; unfold sgn; simp
  · have := sgn_lift _ proj_sym 0 y 0 _ 0 |y| (le_refl _) a0 a3 (fun h => absurd h (lt_irrefl _))
      (fun h => a2 (abs_pos.mpr (ne_of_lt h)))
    rw [sgn_of_nonneg (le_refl (0 : ℝ)), sgn_abs_self] at this
    exact this

/-- right of the triangle of facet `k` (right edge included): the ratio is clamped to `+1`, `unproj` returns the meridian
    between the two facets and `proj` maps it to the left edge of the next triangle -/
theorem proj_unproj_clamped_right (k : ℕ) (hk : k < 4) (x y : ℝ) (h2 : x < 2 * k + 2) (hy1 : 1 < y) (hy2 : y ≤ 2)
    (hpole : (Num.epsPole : ℝ) < 2 - y) (ht : 2 - y ≤ x - (2 * k + 1)) :
    ∃ lat, unproj (α := ℝ) x y = some ((2 * k + 2) * (π / 4), lat) ∧
      proj (α := ℝ) ((2 * k + 2) * (π / 4)) lat = some ((((2 * k + 3) % 8 : ℕ) : ℝ) - (2 - y), y) := by
  have ht0 : 0 < 2 - y := lt_trans epsPole_pos hpole
  have hr : 1 ≤ (x - (2 * k + 1)) / (2 - y) := by rw [le_div_iff₀ ht0]; linarith
  have hc : clamp1 ((x - (2 * k + 1)) / (2 - y)) = 1 := by
    unfold clamp1
    rcases lt_or_eq_of_le hr with h | h
    · rw [if_pos h]
    · rw [← h]; norm_num
  refine ⟨capLat y, ?_, ?_⟩
  · rw [unproj_cap_pos k hk x y (by linarith) h2 hy1 hy2 hpole, hc]; congr 2; ring
  · rw [show ((2 * k + 2 : ℝ)) * (π / 4) = (-1 + (2 * ((k + 1 : ℕ) : ℝ) + 1)) * (π / 4) by push_cast; ring,
      proj_capLat (k + 1) (by omega) (-1) y (le_refl _) (by norm_num) hy1 hy2]
    congr 2
    rw [show 2 * (k + 1) + 1 = 2 * k + 3 by ring]; ring

/-- left of the triangle of facet `k`: the ratio is clamped to `-1`, `unproj` returns the meridian on its left and `proj`
    maps it to the left edge of the same triangle -/
theorem proj_unproj_clamped_left (k : ℕ) (hk : k < 4) (x y : ℝ) (h1 : (2 * k : ℝ) ≤ x) (hy1 : 1 < y) (hy2 : y ≤ 2)
    (hpole : (Num.epsPole : ℝ) < 2 - y) (ht : x - (2 * k + 1) < -(2 - y)) :
    ∃ lat, unproj (α := ℝ) x y = some (2 * k * (π / 4), lat) ∧
      proj (α := ℝ) (2 * k * (π / 4)) lat = some ((2 * k + 1 : ℝ) - (2 - y), y) := by
  have ht0 : 0 < 2 - y := lt_trans epsPole_pos hpole
  have hr : (x - (2 * k + 1)) / (2 - y) < -1 := by rw [div_lt_iff₀ ht0]; linarith
  have hc : clamp1 ((x - (2 * k + 1)) / (2 - y)) = -1 := by
    unfold clamp1; rw [if_neg (by linarith), if_pos hr]
  refine ⟨capLat y, ?_, ?_⟩
  · rw [unproj_cap_pos k hk x y h1 (by linarith) hy1 hy2 hpole, hc]; congr 2; ring
  · rw [show (2 * k : ℝ) * (π / 4) = (-1 + (2 * (k : ℝ) + 1)) * (π / 4) by ring,
      proj_capLat k (by omega) (-1) y (le_refl _) (by norm_num) hy1 hy2, Nat.mod_eq_of_lt (by omega)]
    congr 2; push_cast; ring

/-- beyond the pole threshold (`2 - y ≤ EPS_POLE`, the pole `y = 2` included) `unproj` does not divide: it returns
    `lon = x·π/4`, and `proj` contracts the abscissa towards the facet centre -/
theorem proj_unproj_near_pole (k : ℕ) (hk : k < 4) (x y : ℝ) (h1 : (2 * k : ℝ) ≤ x) (h2 : x < 2 * k + 2) (hy2 : y ≤ 2)
    (hpole : 2 - y ≤ (Num.epsPole : ℝ)) :
    ∃ lat, unproj (α := ℝ) x y = some (x * (π / 4), lat) ∧
      proj (α := ℝ) (x * (π / 4)) lat = some ((2 * k + 1 : ℝ) + (x - (2 * k + 1)) * (2 - y), y) := by
  have hy1 : 1 < y := by linarith [epsPole_lt_small]
  refine ⟨capLat y, ?_, ?_⟩
  · rw [unproj_pos x y k (by omega) h1 h2 (by linarith) hy2, if_neg (not_le.mpr hy1), if_neg (not_lt.mpr hpole),
      Nat.mod_eq_of_lt (by omega)]
    congr 3; push_cast; ring
  · rw [show x * (π / 4) = (x - (2 * k + 1) + (2 * (k : ℝ) + 1)) * (π / 4) by ring,
      proj_capLat k (by omega) (x - (2 * k + 1)) y (by linarith) (by linarith) hy1 hy2, Nat.mod_eq_of_lt (by omega)]
    congr 2; push_cast; ring

/-- **range of `proj`** for `|lon|·4/π < 256` (`|lon| < 64π`, the range on which the `as u8` of `pm1_offset_decompose` does
    not saturate): `|x| = 8` is never produced; `x` carries the sign of `lon`, `y` the sign of `lat` -/
theorem proj_range (lon lat : ℝ) (hlon : |lon| * (4 / π) < 256) (hlat0 : -(π / 2) ≤ lat) (hlat1 : lat ≤ π / 2) :
    ∃ X Y, proj (α := ℝ) lon lat = some (X, Y) ∧ |X| < 8 ∧ |Y| ≤ 2 ∧ (0 ≤ lon → 0 ≤ X) ∧ (lon < 0 → X ≤ 0) ∧
      (0 ≤ lat → 0 ≤ Y) ∧ (lat < 0 → Y < 0) ∧ (lon < 0 → |lon| < 2 * π → X < 0) := by
  have hpi := pi_pos
  obtain ⟨k, hk, h1, h2, hP⟩ := proj_closed lon lat hlon hlat0 hlat1
  obtain ⟨s0, s1⟩ := sigma_bounds lat hlat0 hlat1
  have hY := planeY_abs_le lat hlat0 hlat1
  have ho1 : (1 : ℝ) ≤ (((2 * k + 1) % 8 : ℕ) : ℝ) := by exact_mod_cast (by omega : 1 ≤ (2 * k + 1) % 8)
  have ho7 : (((2 * k + 1) % 8 : ℕ) : ℝ) ≤ 7 := by exact_mod_cast (by omega : (2 * k + 1) % 8 ≤ 7)
  obtain ⟨c1, c2⟩ := contract_between (|lon| * (4 / π) - (2 * k + 1)) (((2 * k + 1) % 8 : ℕ) : ℝ) s0 s1
  have b1 : 0 ≤ (|lon| * (4 / π) - (2 * k + 1)) * sigma lat + (((2 * k + 1) % 8 : ℕ) : ℝ) :=
    le_trans (le_min (by linarith only [ho1]) (by linarith only [ho1, h1])) c1
  refine ⟨_, _, hP, ?_, by linarith only [hY, s0], ?_, ?_, ?_, ?_, ?_⟩
  · rw [abs_sgn, abs_of_nonneg b1]
    exact lt_of_le_of_lt c2 (max_lt (by linarith only [ho7]) (by linarith only [ho7, h2]))
  · intro h; rw [sgn_of_nonneg h]; exact b1
  · intro h; rw [sgn_of_neg h]; simp
  · intro h; exact (sigma_planeY_pos lat h hlat1).2.2.1
  · intro h
    have := (sigma_planeY_pos (-lat) (by linarith only [h]) (by linarith only [hlat0])).2.2.2.2 (by linarith only [h])
    rw [(sigma_planeY_neg lat).2] at this
    linarith only [this]
  · intro h h2π
    have hk4 : k < 4 := by
      have := (lon_scaled_bounds |lon| (abs_nonneg lon) h2π).2
      push_cast at this
      exact_mod_cast (by linarith only [this, h1] : (k : ℝ) < 4)
    rw [Nat.mod_eq_of_lt (by omega)] at c1
    push_cast at c1
    rw [sgn_of_neg h, abs_of_nonneg b1, neg_lt_zero, Nat.mod_eq_of_lt (by omega)]
    push_cast
    refine lt_of_lt_of_le (lt_min (by positivity) ?_) c1
    rw [sub_add_cancel]; exact mul_pos (abs_pos.mpr h.ne) (by positivity)

/-- the longitude hypothesis of `proj_range` is satisfiable -/
example : |(1 : ℝ)| * (4 / π) < 256 := by
  have := Real.two_le_pi
  rw [abs_one, one_mul, div_lt_iff₀ (by positivity)]; linarith

theorem proj_periodic (lon lat : ℝ) (hlon0 : 0 ≤ lon) (hlon : (lon + 2 * π) * (4 / π) < 256) :
    proj (α := ℝ) (lon + 2 * π) lat = proj (α := ℝ) lon lat := by
  have hpi := pi_pos
  by_cases hc : checkLat (α := ℝ) lat = true
  · obtain ⟨hlat0, hlat1⟩ := (checkLat_iff lat).mp hc
    have hb0 := abs_nonneg lat
    have hb1 : |lat| ≤ π / 2 := abs_le.mpr ⟨hlat0, hlat1⟩
    have e8 : (lon + 2 * π) * (4 / π) = lon * (4 / π) + 8 := by field_simp; ring
    have hx0 : 0 ≤ lon * (4 / π) := by positivity
    obtain ⟨k, hk, h1, h2⟩ := facet_exists _ hx0 124 (by push_cast; linarith)
    have hq := proj_pos lon |lat| k (by omega) hlon0 h1 h2 hb0 hb1
    have hq' := proj_pos (lon + 2 * π) |lat| (k + 4) (by omega) (by positivity) (by rw [e8]; push_cast; linarith)
      (by rw [e8]; push_cast; linarith) hb0 hb1
    rw [proj_sym, proj_sym lon, abs_of_nonneg hlon0, abs_of_nonneg (by positivity : 0 ≤ lon + 2 * π), hq, hq', e8,
      show (2 * (k + 4) + 1) % 8 = (2 * k + 1) % 8 by omega, Option.map_some, Option.map_some, sgn_of_nonneg hlon0,
      sgn_of_nonneg (by positivity : 0 ≤ lon + 2 * π)]
    push_cast
    rw [show lon * (4 / π) + 8 - (2 * ((k : ℝ) + 4) + 1) = lon * (4 / π) - (2 * k + 1) by ring]
  · rw [Bool.not_eq_true] at hc
    unfold proj; simp [hc]

/-- **at `lon = 2π` exactly** the model gives the same point as at `lon = 0` (`8 as u8 = 8`, odd floor 9, offset
    `9 & 7 = 1`, `pm1 = -1`): `x = 0` in the equatorial band, never `8` -/
theorem proj_two_pi (lat : ℝ) : proj (α := ℝ) (2 * π) lat = proj (α := ℝ) 0 lat := by
  have hpi := pi_pos
  have := proj_periodic 0 lat (le_refl _) (by
    rw [zero_add, show 2 * π * (4 / π) = 8 by field_simp; ring]; norm_num)
  rwa [zero_add] at this

theorem proj_zero_equatorial (lat : ℝ) (h : |lat| ≤ Real.arcsin (2 / 3)) :
    proj (α := ℝ) 0 lat = some (0, 3 / 2 * Real.sin lat) := by
  have hpi := pi_pos
  have ha := Real.arcsin_le_pi_div_two (2 / 3)
  obtain ⟨h1, h2⟩ := abs_le.mp h
  obtain ⟨k, -, hk, -, hP⟩ := proj_closed_turn 0 lat (by rw [abs_zero]; positivity) (by linarith) (by linarith)
  rw [abs_zero, zero_mul] at hk hP
  obtain rfl : k = 0 := Nat.le_zero.mp (by exact_mod_cast (by linarith : (k : ℝ) ≤ 0))
  rw [hP, sigma_of_equatorial h1 h2, planeY_of_equatorial h1 h2, sgn_of_nonneg le_rfl]
  congr 2
  · push_cast; ring
  · ring

/-- beyond `|lon|·4/π ≥ 256` the conversion `as u8` saturates at 255 and the range property is lost (`lon > 200 rad`;
    the documentation of `proj` only promises "reasonably large" longitudes) -/
theorem pm1OffsetDecompose_saturated (x : ℝ) (h : 256 ≤ x) :
    pm1OffsetDecompose (α := ℝ) x = (7, x - 255) := by
  unfold pm1OffsetDecompose
  simp only [oddFloor_saturated x h, r_ofNat]
  norm_num; rfl

/-- consequence: on the equator, for `lon ≥ 64π`, `proj` returns `x = lon·4/π − 248 ≥ 8`, outside the range -/
theorem proj_saturated (lon : ℝ) (h : 256 ≤ lon * (4 / π)) :
    proj (α := ℝ) lon 0 = some (lon * (4 / π) - 248, 0) ∧ 8 ≤ lon * (4 / π) - 248 := by
  have hpi := pi_pos
  have hlon : 0 ≤ lon := by
    by_contra hn; rw [not_le] at hn
    have : lon * (4 / π) < 0 := mul_neg_of_neg_of_pos hn (by positivity)
    linarith
  have hA := asin23_nonneg
  refine ⟨?_, by linarith⟩
  rw [proj_of_decompose lon 0 _ _ hlon (pm1OffsetDecompose_saturated _ h) le_rfl (by positivity),
    sigma_of_equatorial (by linarith) hA, planeY_of_equatorial (by linarith) hA, Real.sin_zero]
  congr 2
  · push_cast; ring
  · ring

#print axioms proj_unproj
#print axioms proj_unproj_neg_zero
#print axioms proj_unproj_at_eight
#print axioms proj_unproj_clamped_right
#print axioms proj_unproj_clamped_left
#print axioms proj_unproj_near_pole
#print axioms proj_range
#print axioms proj_periodic
#print axioms proj_two_pi
#print axioms proj_zero_equatorial
#print axioms proj_saturated
end Hpx.Proj
