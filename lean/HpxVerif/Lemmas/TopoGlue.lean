/-
C04 — gluing: the keys of two lattice corners of base cells are equal iff the corners are glued (`Glue`).
`TopoGlue{N,E}.lean` prove it for the base cells `0`, `4` of column 0 against all twelve (`glue_0`, `glue_4`); base cell `8` is
the mirror image of base cell `0` (`TopoGlueS.lean`); the keys commute with the rotation by a quarter turn (`Kp_eq_rot`), so
the other columns follow.
-/
import HpxVerif.Lemmas.TopoGlueN
import HpxVerif.Lemmas.TopoGlueE
import HpxVerif.Lemmas.TopoGlueS

namespace Hpx.TopoNeigh
open Hpx Hpx.TopoSpec

section
variable (n a c : Int) (hn : 0 < n) (ha : 0 ≤ a) (ha' : a ≤ n) (hc : 0 ≤ c) (hc' : c ≤ n)
include hn ha ha' hc hc'

theorem Kp_eq_rot (a' c' : Int) (hd : 0 ≤ a') (hd' : a' ≤ n) (he : 0 ≤ c') (he' : c' ≤ n) (b b' : Nat) (hb : b < 12)
    (hb' : b' < 12) (h : Kp n b a c = Kp n b' a' c') : ∀ k, Kp n (rotB k b) a c = Kp n (rotB k b') a' c'
  | 0 => by rwa [show rotB 0 b = b by unfold rotB; omega, show rotB 0 b' = b' by unfold rotB; omega]
  | k + 1 => by
    rw [show rotB (k + 1) b = rotB 1 (rotB k b) by unfold rotB; omega,
      show rotB (k + 1) b' = rotB 1 (rotB k b') by unfold rotB; omega,
      Kp_rot1 n a c hn ha ha' hc hc' _ ((rotB_lt k b).2 hb), Kp_rot1 n a' c' hn hd hd' he he' _ ((rotB_lt k b').2 hb'),
      Kp_eq_rot a' c' hd hd' he he' b b' hb hb' h k]

end

theorem glue (n : Int) (b b' : Nat) (a c a' c' : Int) (hn : 0 < n) (hb : b < 12) (hb' : b' < 12)
    (ha : 0 ≤ a) (ha' : a ≤ n) (hc : 0 ≤ c) (hc' : c ≤ n) (hd : 0 ≤ a') (hd' : a' ≤ n) (he : 0 ≤ c') (he' : c' ≤ n) :
    Kp n b a c = Kp n b' a' c' ↔ Glue n b b' a c a' c' := by
  obtain ⟨b, h0, k, hk, rfl⟩ := exists_col b hb
  obtain ⟨b', h0', rfl⟩ := exists_rot k b' hk hb'
  have back : ∀ x, rotB (4 - k) (rotB k x) = x := fun x => by unfold rotB; omega
  have g : Kp n b a c = Kp n b' a' c' ↔ Glue n b b' a c a' c' := by
    obtain rfl | rfl | rfl := h0
    · exact glue_0 n a c a' c' hn ha ha' hc hc' hd hd' he he' b' h0'
    · exact glue_4 n a c a' c' hn ha ha' hc hc' hd hd' he he' b' h0'
    · -- the south polar cap is the mirror image of the north polar cap
      rw [Kp_eq_mir n 8 b' a c a' c' (by decide) h0', ← Glue_mir8 n b' a c a' c' h0']
      exact glue_0 n _ _ _ _ hn (by omega) (by omega) (by omega) (by omega) (by omega) (by omega) (by omega) (by omega) _
        (by unfold mirB; omega)
  rw [Glue_rot, ← g]
  constructor
  · intro h
    have := Kp_eq_rot n a c hn ha ha' hc hc' a' c' hd hd' he he' _ _ hb hb' h (4 - k)
    rwa [back, back] at this
  · exact fun h => Kp_eq_rot n a c hn ha ha' hc hc' a' c' hd hd' he he' _ _ (by omega) h0' h k

end Hpx.TopoNeigh
