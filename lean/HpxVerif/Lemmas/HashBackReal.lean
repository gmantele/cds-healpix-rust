/-
C03 over the reals: the back end of `hash_with_dxdy` (everything after `proj`) in the projection plane.
-/
import HpxVerif.Lemmas.CellRealPoints
import HpxVerif.Lemmas.HashReal
import Mathlib.Algebra.Order.Floor.Semifield

namespace Hpx.CellReal
open Hpx Hpx.Hash Hpx.Proj

/-- everything `hash_with_dxdy` does after `proj` -/
def hashBack {α : Type} [Num α] (cfg : Cfg) (d : Nat) (xy0 : α × α) : Option (Nat × α × α) :=
  let xy := shiftRotateScale d (ensuresXIsPositive xy0.1, xy0.2)
  let ij := (Num.truncU64 xy.1, Num.truncU64 xy.2)
  let dx := xy.1 - Num.ofNat ij.1
  let dy := xy.2 - Num.ofNat ij.2
  let i0 := (ij.1 >>> d) % 256
  let j0 := (ij.2 >>> d) % 256
  match depth0Bits d 3 i0 j0 ij xy with
  | none => none
  | some d0bits =>
    let ns := Layer.nside d
    let i := (ij.1 &&& (Layer.xyMask d >>> d)) % 2 ^ 32
    let j := (ij.2 &&& (Layer.xyMask d >>> d)) % 2 ^ 32
    match Layer.zoc cfg d with
    | none => none
    | some c =>
      if cfg.debug && !(i < ns && j < ns) then none
      else some (d0bits ||| Layer.ij2h cfg c i j, dx, dy)

theorem hashWithDxDy_eq {α : Type} [Num α] (cfg : Cfg) (d : Nat) (lon lat : α) :
    hashWithDxDy cfg d lon lat = (proj lon lat).bind (hashBack cfg d) := by
  unfold hashWithDxDy hashBack
  cases proj lon lat <;> rfl

/-- base cell of the unit square `[I, I+1] × [J, J+1]` of the rotated plane, `3 ≤ I + J ≤ 5` -/
def baseOf (I J : ℕ) : ℕ := ((5 - (I + J)) * 4) + (if I + J = 5 then (I + 3) % 4 else I % 4)

theorem depth0Bits_normal (d fuel I J : ℕ) (ij : ℕ × ℕ) (xy : ℝ × ℝ) (h3 : 3 ≤ I + J) (h5 : I + J ≤ 5) :
    depth0Bits (α := ℝ) d (fuel + 1) I J ij xy = some (baseOf I J <<< (d <<< 1)) := by
  unfold depth0Bits baseOf
  have hm : (I + J) % 256 = I + J := by omega
  simp only [hm]
  have hS : I + J = 3 ∨ I + J = 4 ∨ I + J = 5 := by omega
  rcases hS with h | h | h <;> simp only [h] <;> norm_num [Nat.shiftLeft_eq] <;> omega

example : baseOf 1 4 = 0 ∧ baseOf 4 1 = 3 ∧ baseOf 0 4 = 4 ∧ baseOf 4 0 = 4 ∧ baseOf 3 1 = 7 ∧ baseOf 0 3 = 8 ∧
    baseOf 3 0 = 11 := by decide

theorem r_scale2 (x : ℝ) (k : ℤ) : Num.scale2 x k = x * (2 : ℝ) ^ k := rfl
theorem r_gt' (x y : ℝ) : Num.gt x y = decide (y < x) := rfl

/-- rotated and scaled coordinates (`srs_real`) -/
noncomputable def uOf (d : ℕ) (X Y : ℝ) : ℝ := (X + Y + 1) * 2 ^ d / 2
noncomputable def vOf (d : ℕ) (X Y : ℝ) : ℝ := (Y - X + 9) * 2 ^ d / 2

/-- over ℝ the depth-0 multiplication by `0.5` and the exponent increment are the same scaling -/
theorem scaleByHalfNside_real (d : ℕ) (v : ℝ) : scaleByHalfNside (α := ℝ) d v = v * 2 ^ d / 2 := by
  unfold scaleByHalfNside
  by_cases h : d = 0
  · subst h
    simp only [if_true, r_half]; ring
  · simp only [h, if_false, r_scale2, HashReal.zpow_timeHalfNside]; ring

theorem srs_real (d : ℕ) (X Y : ℝ) : shiftRotateScale (α := ℝ) d (X, Y) = (uOf d X Y, vOf d X Y) := by
  unfold shiftRotateScale uOf vOf
  simp only [scaleByHalfNside_real, r_ofNat, r_one]
  ext <;> simp only <;> push_cast <;> ring

theorem trunc_floor (x : ℝ) (h0 : 0 ≤ x) (h : ⌊x⌋₊ < 2 ^ 63) : Num.truncU64 x = ⌊x⌋₊ := by
  rw [r_truncU64, max_eq_left h0]
  exact min_eq_left (by omega)

theorem and_mask (a d : ℕ) (hd : d ≤ 29) : (a &&& (Layer.xyMask d / 2 ^ d)) % 2 ^ 32 = a % 2 ^ d := by
  rw [← Nat.shiftRight_eq_div_pow, xyMask_shr, Nat.and_two_pow_sub_one_eq_mod]
  apply Nat.mod_eq_of_lt
  have h1 : a % 2 ^ d < 2 ^ d := Nat.mod_lt _ (Nat.pos_of_ne_zero (by simp))
  have h2 : 2 ^ d ≤ 2 ^ 29 := Nat.pow_le_pow_right (by decide) hd
  omega

/-- quotients (base-cell square), remainders (in-cell coordinates) and fractional parts (offsets) -/
noncomputable def hbI (d : ℕ) (X Y : ℝ) : ℕ := ⌊uOf d X Y⌋₊ / 2 ^ d
noncomputable def hbJ (d : ℕ) (X Y : ℝ) : ℕ := ⌊vOf d X Y⌋₊ / 2 ^ d
noncomputable def hbi (d : ℕ) (X Y : ℝ) : ℕ := ⌊uOf d X Y⌋₊ % 2 ^ d
noncomputable def hbj (d : ℕ) (X Y : ℝ) : ℕ := ⌊vOf d X Y⌋₊ % 2 ^ d
noncomputable def hbdx (d : ℕ) (X Y : ℝ) : ℝ := uOf d X Y - (⌊uOf d X Y⌋₊ : ℝ)
noncomputable def hbdy (d : ℕ) (X Y : ℝ) : ℝ := vOf d X Y - (⌊vOf d X Y⌋₊ : ℝ)

theorem baseOf_table : ∀ I, I < 6 → ∀ J, J < 6 → 3 ≤ I + J → I + J ≤ 5 → I < J + 5 → J < I + 5 →
    baseOf I J < 12 ∧ baseOf I J / 4 + (I + J) = 5 ∧
    I + 4 = J + (2 * (baseOf I J % 4) + (if baseOf I J / 4 = 1 then 0 else 1)) + (if I = 4 ∧ J = 0 then 8 else 0) := by
  intro I hI J hJ h3 h5 h1 h2
  interval_cases I <;> interval_cases J <;> first | omega | decide

noncomputable def hbb (d : ℕ) (X Y : ℝ) : ℕ := baseOf (hbI d X Y) (hbJ d X Y)
/-- `8` for the half `X ≥ 7` of base cell 4 (square `(4, 0)`), else `0` -/
noncomputable def hbs (d : ℕ) (X Y : ℝ) : ℝ := if hbI d X Y = 4 ∧ hbJ d X Y = 0 then 8 else 0

structure PlaneDom (X Y : ℝ) : Prop where
  hX0 : 0 ≤ X
  hX8 : X < 8
  hY1 : -2 ≤ Y
  hY2 : Y ≤ 2
  hu0 : 0 ≤ X + Y + 1
  hv0 : 0 ≤ Y - X + 9

theorem PlaneDom.u0 {X Y : ℝ} (h : PlaneDom X Y) (d : ℕ) : 0 ≤ uOf d X Y := by
  have := h.hu0; unfold uOf; positivity
theorem PlaneDom.v0 {X Y : ℝ} (h : PlaneDom X Y) (d : ℕ) : 0 ≤ vOf d X Y := by
  have := h.hv0; unfold vOf; positivity

/-- the square of a plane point does not depend on the depth -/
theorem floor_scale (d : ℕ) (a : ℝ) : ⌊a * 2 ^ d / 2⌋₊ / 2 ^ d = ⌊a / 2⌋₊ := by
  have hp := pow_pos' d
  rw [← Nat.floor_div_natCast]
  congr 1; push_cast; field_simp
theorem hbI_eq (d : ℕ) (X Y : ℝ) : hbI d X Y = ⌊(X + Y + 1) / 2⌋₊ := floor_scale d _
theorem hbJ_eq (d : ℕ) (X Y : ℝ) : hbJ d X Y = ⌊(Y - X + 9) / 2⌋₊ := floor_scale d _

/-- `u = n·I + i + dx`, remainder `i < n`, fractional part `dx ∈ [0, 1)` -/
theorem hb_u (d : ℕ) (X Y : ℝ) (h : PlaneDom X Y) :
    uOf d X Y = 2 ^ d * (hbI d X Y : ℝ) + (hbi d X Y : ℝ) + hbdx d X Y ∧ hbi d X Y < 2 ^ d ∧
    0 ≤ hbdx d X Y ∧ hbdx d X Y < 1 := by
  have := (floor_split_iff (I := hbI d X Y) (i := hbi d X Y) (dx := hbdx d X Y)
    (Nat.two_pow_pos d) (h.u0 d)).mp ⟨rfl, rfl, rfl⟩
  push_cast at this
  exact this
theorem hb_v (d : ℕ) (X Y : ℝ) (h : PlaneDom X Y) :
    vOf d X Y = 2 ^ d * (hbJ d X Y : ℝ) + (hbj d X Y : ℝ) + hbdy d X Y ∧ hbj d X Y < 2 ^ d ∧
    0 ≤ hbdy d X Y ∧ hbdy d X Y < 1 := by
  have := (floor_split_iff (I := hbJ d X Y) (i := hbj d X Y) (dx := hbdy d X Y)
    (Nat.two_pow_pos d) (h.v0 d)).mp ⟨rfl, rfl, rfl⟩
  push_cast at this
  exact this

theorem hb_sq (d : ℕ) (X Y : ℝ) (h : PlaneDom X Y) :
    hbI d X Y < 6 ∧ hbJ d X Y < 6 ∧ hbI d X Y < hbJ d X Y + 5 ∧ hbJ d X Y < hbI d X Y + 5 ∧
    hbI d X Y + hbJ d X Y ≤ 7 := by
  -- `I ≤ U < I + 1`, `J ≤ V < J + 1` with `U, V < 6`, `U − V = X − 4 ∈ [−4, 4)` and `U + V = Y + 5 ≤ 7`
  have hU0 : 0 ≤ (X + Y + 1) / 2 := by linarith only [h.hu0]
  have hV0 : 0 ≤ (Y - X + 9) / 2 := by linarith only [h.hv0]
  have lU := Nat.floor_le hU0
  have gU := Nat.lt_floor_add_one ((X + Y + 1) / 2)
  have lV := Nat.floor_le hV0
  have gV := Nat.lt_floor_add_one ((Y - X + 9) / 2)
  rw [← hbI_eq d] at lU gU
  rw [← hbJ_eq d] at lV gV
  have hX0 := h.hX0
  have hX8 := h.hX8
  have hY2 := h.hY2
  refine ⟨?_, ?_, ?_, ?_, ?_⟩
  · exact_mod_cast (by linarith only [lU, hX8, hY2] : (hbI d X Y : ℝ) < 6)
  · exact_mod_cast (by linarith only [lV, hX0, hY2] : (hbJ d X Y : ℝ) < 6)
  · exact_mod_cast (by linarith only [lU, gV, hX8] : (hbI d X Y : ℝ) < hbJ d X Y + 5)
  · exact_mod_cast (by linarith only [lV, gU, hX0] : (hbJ d X Y : ℝ) < hbI d X Y + 5)
  · exact_mod_cast (by linarith only [lU, lV, hY2] : (hbI d X Y : ℝ) + hbJ d X Y ≤ 7)

theorem hashBack_real (cfg : Cfg) (d : ℕ) (c : ZocClass) (X Y : ℝ) (hz : Layer.zoc cfg d = some c) (hd : d ≤ 29)
    (h : PlaneDom X Y) :
    hashBack (α := ℝ) cfg d (X, Y) =
      (depth0Bits (α := ℝ) d 3 (hbI d X Y) (hbJ d X Y) (⌊uOf d X Y⌋₊, ⌊vOf d X Y⌋₊) (uOf d X Y, vOf d X Y)).map fun d0 =>
        (d0 ||| Layer.ij2h cfg c (hbi d X Y) (hbj d X Y), hbdx d X Y, hbdy d X Y) := by
  obtain ⟨fu, fv, _⟩ := hb_sq d X Y h
  have mu := (hb_u d X Y h).2.1
  have mv := (hb_v d X Y h).2.1
  simp only [hbI, hbJ, hbi, hbj] at fu fv mu mv
  -- `⌊u⌋, ⌊v⌋ < 6n ≤ 6·2^29`: the conversion to `u64` does not saturate
  have hn : 2 ^ d ≤ 2 ^ 29 := Nat.pow_le_pow_right (by decide) hd
  have tu := trunc_floor (uOf d X Y) (h.u0 d) (by have := (Nat.div_lt_iff_lt_mul (Nat.two_pow_pos d)).mp fu; omega)
  have tv := trunc_floor (vOf d X Y) (h.v0 d) (by have := (Nat.div_lt_iff_lt_mul (Nat.two_pow_pos d)).mp fv; omega)
  unfold hashBack hbI hbJ hbi hbj hbdx hbdy
  simp only [r_ensures, norm8_of_nonneg X h.hX0, srs_real, tu, tv, hz, Nat.shiftRight_eq_div_pow, and_mask _ d hd,
    Nat.mod_eq_of_lt (Nat.lt_trans fu (by decide : 6 < 256)), Nat.mod_eq_of_lt (Nat.lt_trans fv (by decide : 6 < 256)),
    nside_eq, mu, mv, decide_true, Bool.and_self, Bool.not_true, Bool.and_false, Bool.false_eq_true, if_false,
    r_ofNat]
  cases depth0Bits (α := ℝ) d 3 (⌊uOf d X Y⌋₊ / 2 ^ d) (⌊vOf d X Y⌋₊ / 2 ^ d) (⌊uOf d X Y⌋₊, ⌊vOf d X Y⌋₊)
    (uOf d X Y, vOf d X Y) <;> rfl

/-- centre of base cell `b` from the row and column relations of `baseOf_table` and `sqOf_table` -/
theorem base_center {b I J s : ℕ} (hY : b / 4 + (I + J) = 5)
    (hX : I + 4 = J + (2 * (b % 4) + (if b / 4 = 1 then 0 else 1)) + s) :
    baseX b + s = (I : ℝ) - J + 4 ∧ baseY b = (I : ℝ) + J - 4 := by
  have hY' := congrArg (Nat.cast (R := ℝ)) hY
  have hX' := congrArg (Nat.cast (R := ℝ)) hX
  unfold baseX baseY
  push_cast at hY' hX' ⊢
  exact ⟨by linarith only [hX'], by linarith only [hY']⟩

theorem hbs_cases (d : ℕ) (X Y : ℝ) : hbs d X Y = 0 ∨ hbs d X Y = 8 := by
  unfold hbs; split_ifs <;> simp

theorem hb_base (d : ℕ) (X Y : ℝ) (h : PlaneDom X Y) (h3 : 3 ≤ hbI d X Y + hbJ d X Y) (h5 : hbI d X Y + hbJ d X Y ≤ 5) :
    hbb d X Y < 12 ∧ baseX (hbb d X Y) + hbs d X Y = (hbI d X Y : ℝ) - hbJ d X Y + 4 ∧
    baseY (hbb d X Y) = (hbI d X Y : ℝ) + hbJ d X Y - 4 := by
  obtain ⟨fI, fJ, hIJ1, hIJ2, _⟩ := hb_sq d X Y h
  obtain ⟨hb, tY, tX⟩ := baseOf_table _ fI _ fJ h3 h5 hIJ1 hIJ2
  obtain ⟨bX, bY⟩ := base_center tY tX
  refine ⟨hb, ?_, bY⟩
  rw [← bX, hbs]; push_cast; rfl

/-- the point whose rotated coordinates have quotients `(I, J)`, remainders `(i, j)` and fractional parts `(dx, dy)` is
    the position `(dx, dy)` of the cell `(b, i, j)`, for the base cell `b` of the square `(I, J)`; `s` is `hbs` -/
theorem cell_pt (d b i j : ℕ) (I J s dx dy X Y : ℝ) (hbx : baseX b + s = I - J + 4) (hby : baseY b = I + J - 4) :
    (uOf d X Y = 2 ^ d * I + i + dx ∧ vOf d X Y = 2 ^ d * J + j + dy) ↔
    (cellCx d b i j + (dx - dy) / 2 ^ d = X - s ∧ cellCy d b i j + (dx + dy - 1) / 2 ^ d = Y) := by
  rw [uOf, vOf, uv_iff_coo (2 ^ d) X Y I J i j dx dy (pow_pos' d)]
  unfold cellCx cellCy
  rw [hby]
  constructor <;> rintro ⟨ex, ey⟩ <;> exact ⟨by linarith only [ex, hbx], ey⟩

/-- C03 `hash_with_dxdy_plane`, the geometry of the regular case: squares `(I, J)` with `3 ≤ I + J ≤ 5` (branches
    `k = 2, 1, 0` of `depth0_bits`; always the case for a point of a base cell that is not on the north-east/north-west border
    of a north-cap base cell, `inBase_regular`).  The point of offsets `(dx, dy)` of the cell `(b, i, j)` that the back end
    returns (`hashBack_parts`) is exactly `(X, Y)`. -/
theorem hb_regular (d : ℕ) (X Y : ℝ) (h : PlaneDom X Y) (h3 : 3 ≤ hbI d X Y + hbJ d X Y)
    (h5 : hbI d X Y + hbJ d X Y ≤ 5) :
    hbdx d X Y = 2 ^ d / 2 * ((Y - baseY (hbb d X Y)) + (X - (baseX (hbb d X Y) + hbs d X Y)) + 1) - hbi d X Y ∧
    hbdy d X Y = 2 ^ d / 2 * ((Y - baseY (hbb d X Y)) - (X - (baseX (hbb d X Y) + hbs d X Y)) + 1) - hbj d X Y ∧
    cooPt d (hbb d X Y) (hbi d X Y) (hbj d X Y) (hbdx d X Y) (hbdy d X Y) = (X, Y) ∧
    InDiamond (cellCx d (hbb d X Y) (hbi d X Y) (hbj d X Y)) (cellCy d (hbb d X Y) (hbi d X Y) (hbj d X Y)) (1 / 2 ^ d)
      (X - hbs d X Y) Y := by
  obtain ⟨eu, _, dx0, dx1⟩ := hb_u d X Y h
  obtain ⟨ev, _, dy0, dy1⟩ := hb_v d X Y h
  obtain ⟨_, bX, bY⟩ := hb_base d X Y h h3 h5
  obtain ⟨ex, ey⟩ := (cell_pt d (hbb d X Y) _ _ _ _ _ _ _ X Y bX bY).mp ⟨eu, ev⟩
  unfold uOf at eu
  unfold vOf at ev
  refine ⟨by rw [bY, bX]; linarith only [eu], by rw [bY, bX]; linarith only [ev], ?_,
    inDiamond_of _ _ _ _ _ _ _ (pow_pos' d) ex ey dx0 dx1.le dy0 dy1.le⟩
  unfold cooPt
  rw [ex, ey]
  congr 1
  unfold norm8
  rcases hbs_cases d X Y with h0 | h8 <;> [rw [h0]; rw [h8]]
  · simp [not_lt.mpr h.hX0]
  · have : X - 8 < 0 := by linarith [h.hX8]
    simp [this]

/-- the unit square `[I, I+1] × [J, J+1]` of the rotated plane `(U, V) = ((X+Y+1)/2, (Y−X+9)/2)` occupied by base cell `b` -/
def sqOf (b : ℕ) : ℕ × ℕ := if b < 4 then (b + 1, 4 - b) else if b < 8 then (b - 4, 8 - b) else (b - 8, 11 - b)

theorem sqOf_table (b : ℕ) (hb : b < 12) :
    baseOf (sqOf b).1 (sqOf b).2 = b ∧ b / 4 + ((sqOf b).1 + (sqOf b).2) = 5 ∧
    (sqOf b).1 + 4 = (sqOf b).2 + (2 * (b % 4) + (if b / 4 = 1 then 0 else 1)) := by
  interval_cases b <;> decide

theorem base_center_sq (b : ℕ) (hb : b < 12) :
    baseX b = ((sqOf b).1 : ℝ) - (sqOf b).2 + 4 ∧ baseY b = ((sqOf b).1 : ℝ) + (sqOf b).2 - 4 := by
  obtain ⟨_, t1, t2⟩ := sqOf_table b hb
  simpa using base_center (s := 0) t1 t2

/-- the closed diamond is the closed unit square `(I0, J0)` of the rotated plane: the floors computed by the code are
    `(I0, J0)`, plus one in `I` exactly on the north-east border, plus one in `J` exactly on the north-west border -/
theorem sq_branch (d I0 J0 : ℕ) (cx cy X Y : ℝ) (hcx : cx = (I0 : ℝ) - J0 + 4) (hcy : cy = (I0 : ℝ) + J0 - 4)
    (h3 : 3 ≤ I0 + J0) (h5 : I0 + J0 ≤ 5) (hX0 : 0 ≤ X) (hX8 : X < 8) (hin : InDiamond cx cy 1 X Y) :
    PlaneDom X Y ∧
    hbI d X Y = I0 + (if X + Y = cx + cy + 1 then 1 else 0) ∧
    hbJ d X Y = J0 + (if Y - X = cy - cx + 1 then 1 else 0) := by
  subst hcx hcy
  obtain ⟨⟨a1, a2⟩, b1, b2⟩ := abs_add_abs_le_iff.mp hin
  have hI0 : (0 : ℝ) ≤ I0 := Nat.cast_nonneg _
  have hJ0 : (0 : ℝ) ≤ J0 := Nat.cast_nonneg _
  have h3' : (3 : ℝ) ≤ (I0 : ℝ) + J0 := by exact_mod_cast h3
  have h5' : (I0 : ℝ) + J0 ≤ 5 := by exact_mod_cast h5
  refine ⟨⟨hX0, hX8, by linarith only [a1, b1, h3'], by linarith only [a2, b2, h5'], by linarith only [a1, hI0],
    by linarith only [b1, hJ0]⟩, ?_⟩
  rw [hbI_eq, hbJ_eq, floor_closed I0 _ (by linarith only [a1]) (by linarith only [a2]),
    floor_closed J0 _ (by linarith only [b1]) (by linarith only [b2])]
  constructor <;> congr 1 <;> refine if_congr ?_ rfl rfl <;> constructor <;> intro h <;> linarith only [h]

/-- for a point of the closed diamond of base cell `b`, `I + J = 5 − b/4 + [NE] + [NW]`: the
    branches `k = 3, 4` (and the final `none`) are never taken for a point of the projection domain in exact arithmetic;
    `k = −1` is taken exactly on the north-east and north-west borders of the north-cap base cells (pole excluded) and at
    the north vertex of the equatorial base cells; `k = −2` exactly at the north pole. -/
theorem inBase_branch (d b : ℕ) (X Y : ℝ) (hb : b < 12) (hX0 : 0 ≤ X) (hX8 : X < 8)
    (hin : InDiamond (baseX b) (baseY b) 1 X Y) :
    PlaneDom X Y ∧
    hbI d X Y = (sqOf b).1 + (if X + Y = baseX b + baseY b + 1 then 1 else 0) ∧
    hbJ d X Y = (sqOf b).2 + (if Y - X = baseY b - baseX b + 1 then 1 else 0) := by
  obtain ⟨eX, eY⟩ := base_center_sq b hb
  obtain ⟨_, t1, _⟩ := sqOf_table b hb
  exact sq_branch d _ _ _ _ X Y eX eY (by omega) (by omega) hX0 hX8 hin

/-- the same for the half `X ≥ 7` of base cell 4 (diamond of centre `(8, 0)`): square `(4, 0)`; its north-east border
    is outside `X < 8` -/
theorem inBase4_branch (d : ℕ) (X Y : ℝ) (hX0 : 0 ≤ X) (hX8 : X < 8) (hin : InDiamond 8 0 1 X Y) :
    PlaneDom X Y ∧ hbI d X Y = 4 ∧ hbJ d X Y = 0 + (if Y - X = -7 then 1 else 0) := by
  obtain ⟨hdom, eI, eJ⟩ := sq_branch d 4 0 8 0 X Y (by norm_num) (by norm_num) (by norm_num) (by norm_num) hX0 hX8 hin
  obtain ⟨_, _, b2⟩ := abs_add_abs_le_iff.mp hin
  rw [if_neg (by intro h; linarith only [h, b2, hX8])] at eI
  rw [show (0 : ℝ) - 8 + 1 = -7 by norm_num] at eJ
  exact ⟨hdom, eI, eJ⟩

theorem inBase_regular (d b : ℕ) (X Y : ℝ) (hb : b < 12) (hX0 : 0 ≤ X) (hX8 : X < 8)
    (hin : InDiamond (baseX b) (baseY b) 1 X Y) (hne : X + Y ≠ baseX b + baseY b + 1)
    (hnw : Y - X ≠ baseY b - baseX b + 1) :
    PlaneDom X Y ∧ 3 ≤ hbI d X Y + hbJ d X Y ∧ hbI d X Y + hbJ d X Y ≤ 5 ∧ hbb d X Y = b ∧ hbs d X Y = 0 := by
  obtain ⟨hdom, eI, eJ⟩ := inBase_branch d b X Y hb hX0 hX8 hin
  rw [if_neg hne, Nat.add_zero] at eI
  rw [if_neg hnw, Nat.add_zero] at eJ
  obtain ⟨t0, t1, t2⟩ := sqOf_table b hb
  have h4 : b / 4 ≤ 2 := by omega
  refine ⟨hdom, by rw [eI, eJ]; omega, by rw [eI, eJ]; omega, by unfold hbb; rw [eI, eJ, t0], ?_⟩
  unfold hbs
  rw [eI, eJ]
  have : ¬ ((sqOf b).1 = 4 ∧ (sqOf b).2 = 0) := by
    rintro ⟨h1, h2⟩; rw [h1, h2] at t1 t2; split_ifs at t2 <;> omega
  rw [if_neg this]

theorem inBase4_regular (d : ℕ) (X Y : ℝ) (hX0 : 0 ≤ X) (hX8 : X < 8) (hin : InDiamond 8 0 1 X Y) (hnw : Y - X ≠ -7) :
    PlaneDom X Y ∧ 3 ≤ hbI d X Y + hbJ d X Y ∧ hbI d X Y + hbJ d X Y ≤ 5 ∧ hbb d X Y = 4 ∧ hbs d X Y = 8 := by
  obtain ⟨hdom, eI, eJ⟩ := inBase4_branch d X Y hX0 hX8 hin
  rw [if_neg hnw] at eJ
  refine ⟨hdom, by omega, by omega, by unfold hbb; rw [eI, eJ]; decide, ?_⟩
  unfold hbs; rw [eI, eJ]; simp

/-- branch `k = −1`; the two sub-cell offsets compared by the code are left as variables -/
theorem depth0Bits_km1 (d fuel I J : ℕ) (ij : ℕ × ℕ) (xy : ℝ × ℝ) (dx dy : ℝ) (h : I + J = 6)
    (hdx : xy.1 - (ij.1 : ℝ) = dx) (hdy : xy.2 - (ij.2 : ℝ) = dy) :
    depth0Bits (α := ℝ) d (fuel + 1) I J ij xy =
      if dy < dx then some (((((I + 255) % 256) &&& 3) <<< (d <<< 1)) ||| Layer.yMask d)
      else some (((((I + 2) % 256) &&& 3) <<< (d <<< 1)) ||| Layer.xMask d) := by
  subst hdx hdy
  unfold depth0Bits
  have hm : (I + J) % 256 = 6 := by omega
  simp only [hm, r_gt', r_ofNat]
  norm_num

theorem depth0Bits_km2 (d fuel I J : ℕ) (ij : ℕ × ℕ) (xy : ℝ × ℝ) (h : I + J = 7) :
    depth0Bits (α := ℝ) d (fuel + 1) I J ij xy =
      if I < 2 then none else some (((I - 2) <<< (d <<< 1)) ||| Layer.xyMask d) := by
  unfold depth0Bits
  have hm : (I + J) % 256 = 7 := by omega
  simp only [hm]
  norm_num

/-- the point `(1/2, 3/2)` (north-west border of base cell 0, on the meridian 0) reaches the branch `k = −1` -/
example : hbI 1 (1 / 2) (3 / 2) + hbJ 1 (1 / 2) (3 / 2) = 6 := by
  have hin : InDiamond (baseX 0) (baseY 0) 1 (1 / 2) (3 / 2) := by
    unfold InDiamond baseX baseY; norm_num [abs_of_nonneg, abs_of_nonpos]
  obtain ⟨_, eI, eJ⟩ := inBase_branch 1 0 (1 / 2) (3 / 2) (by decide) (by norm_num) (by norm_num) hin
  rw [eI, eJ]
  unfold baseX baseY
  norm_num [sqOf]

#print axioms hashWithDxDy_eq
#print axioms hb_regular
#print axioms inBase_branch
#print axioms inBase4_branch
#print axioms inBase_regular
#print axioms inBase4_regular

end Hpx.CellReal
