/-
C12, the statement called T2 in the C12 files: what the four tested vertices of a "fully covered" cell say about the REST of
the cell (T1, `PolyComposeFull.lean`: the flag means that the four vertices are inside the polygon).

1. The CENTRE (which the code does not test) is inside: its unit vector is a positive combination (`PosCombo3`) of those of
   three of the four vertices, so every intersection of half-spaces through the centre of the sphere that contains the
   vertices contains it.  For a strictly equatorial cell S, C, N are on one meridian and C is on the great-circle arc S–N.
   In a polar cap (Collignon part of the projection: `lon = λ₀ + (π/4)·u/σ`, `sin lat = 1 − σ²/3`, `σ` = plane distance from
   the pole, `u` = abscissa from the meridian `λ₀` of the base cell) they are not; but E, C, W are on one parallel, C
   half-way, and the vertex `F` on the equator side (S in the north, N in the south) is farther from the pole: seen from the
   pole (gnomonic view, great circles = straight lines) `C` is inside the triangle `W E F` (`cone3`).  The inequalities that
   say so hold for every diamond inside a cap: `tan(colatitude)/σ` increases with `σ` (`K1_cap`), the meridian offset of `F`
   is at most `Δ(1 − t)/(1 + t)`, `t = o/σ`, `Δ = πt/4` (`cap_delta_bound`), and `(1 + t)·cos x > 1` on the whole range
   (`cap_numeric`).  On a transition latitude `F` is on the meridian of `C` (`transition_cone`).
2. EVERY point of the cell: NO.  The sides of a cell are not great-circle arcs; in the northern hemisphere the two SOUTHERN sides
   (S–E, S–W) of an equatorial cell bulge out of the geodesic quadrilateral S E N W (in the southern hemisphere the two northern
   sides do).  A convex polygon edge can pass between the chord and the bulge: all four vertices strictly inside, flag "full",
   and a point of the cell side strictly outside.  `PolyComposeBulge.lean` gives such a polygon for the cell 23 of depth 1
   (bulge: 0.47°), proved over ℝ.
-/
import HpxVerif.Lemmas.PolyComposeFull
import HpxVerif.Lemmas.CellNumber
import HpxVerif.Lemmas.EnvelopeRealCell
import HpxVerif.Lemmas.CapChart

set_option autoImplicit false

namespace Hpx.PolyCompose
open Hpx Hpx.Cover Hpx.Bmoc Hpx.Sph Real Hpx.Proj Hpx.CellReal Hpx.EnvelopeReal Hpx.TopoLift

/-- `K·p = a·u + b·v + d·w` on the unit vectors, with positive coefficients -/
def PosCombo3 (p u v w : Coo ℝ) : Prop :=
  ∃ K a b d : ℝ, 0 < K ∧ 0 < a ∧ 0 < b ∧ 0 < d ∧ K * p.x = a * u.x + b * v.x + d * w.x ∧
    K * p.y = a * u.y + b * v.y + d * w.y ∧ K * p.z = a * u.z + b * v.z + d * w.z

theorem PosCombo3.insideAll {p u v w : Coo ℝ} (h : PosCombo3 p u v w) (o : ℝ) (vs : List (Coo ℝ))
    (hu : InsideAll o vs u) (hv : InsideAll o vs v) (hw : InsideAll o vs w) : InsideAll o vs p := by
  obtain ⟨K, a, b, d, hK, ha, hb, hd, hx, hy, hz⟩ := h
  intro e he
  have e1 : K * (o * dot p (cross e.1 e.2)) = a * (o * dot u (cross e.1 e.2)) + b * (o * dot v (cross e.1 e.2))
      + d * (o * dot w (cross e.1 e.2)) := by
    unfold dot
    linear_combination (o * (cross e.1 e.2).1) * hx + (o * (cross e.1 e.2).2.1) * hy + (o * (cross e.1 e.2).2.2) * hz
  refine (mul_pos_iff_of_pos_left hK).mp ?_
  rw [e1]
  exact add_pos (add_pos (mul_pos ha (hu e he)) (mul_pos hb (hv e he))) (mul_pos hd (hw e he))

theorem meridian_combo (l φs φc φn : ℝ) (h2 : φs < φc) (h3 : φc < φn) (h4 : φn - φs < π) :
    PosCombo3 (cooOf (l, φc)) (cooOf (l, φs)) (cooOf (l, φs)) (cooOf (l, φn)) := by
  have ec : sin (φn - φs) * cos φc = sin (φn - φc) * cos φs + sin (φc - φs) * cos φn := by
    rw [sin_sub, sin_sub, sin_sub]; ring
  have es : sin (φn - φs) * sin φc = sin (φn - φc) * sin φs + sin (φc - φs) * sin φn := by
    rw [sin_sub, sin_sub, sin_sub]; ring
  -- the south vertex counts twice, with half its coefficient
  refine ⟨sin (φn - φs), sin (φn - φc) / 2, sin (φn - φc) / 2, sin (φc - φs),
    sin_pos_of_pos_of_lt_pi (by linarith) h4, half_pos (sin_pos_of_pos_of_lt_pi (by linarith) (by linarith)),
    half_pos (sin_pos_of_pos_of_lt_pi (by linarith) (by linarith)),
    sin_pos_of_pos_of_lt_pi (by linarith) (by linarith), ?_, ?_, ?_⟩
  · show _ * (cos φc * cos l) = _ * (cos φs * cos l) + _ * (cos φs * cos l) + _ * (cos φn * cos l)
    linear_combination (cos l) * ec
  · show _ * (cos φc * sin l) = _ * (cos φs * sin l) + _ * (cos φs * sin l) + _ * (cos φn * sin l)
    linear_combination (sin l) * ec
  · show _ * sin φc = _ * sin φs + _ * sin φs + _ * sin φn
    linear_combination es

theorem unprojT_band (x y : ℝ) (hx0 : 0 ≤ x) (hx8 : x < 8) (hy : |y| ≤ 1) :
    unprojT x y = (x * (π / 4), Real.arcsin (y * (2 / 3))) := by
  have h1 := unproj_band x y hx0 hx8.le hy
  rw [unproj_eq x y (by linarith [(abs_le.mp hy).1]) (by linarith [(abs_le.mp hy).2]), if_pos hx8] at h1
  exact Option.some.inj h1

theorem vertices_some_lt {α : Type} [Num α] (cfg : Cfg) (d h : Nat) (vs : List (α × α))
    (hv : Hash.vertices (α := α) cfg d h = some vs) : h < Layer.nHash d := by
  unfold Hash.vertices Hash.centerOfProjectedCell at hv
  by_contra hc
  have : h ≥ Layer.nHash d := by omega
  simp [this] at hv

theorem band_centre_combo (X Y o : ℝ) (hX0 : 0 ≤ X) (hX8 : X < 8) (ho : 0 < o) (hY : |Y| + o ≤ 1) :
    PosCombo3 (cooOf (unprojT X Y)) (cooOf (unprojT X (Y - o))) (cooOf (unprojT X (Y - o))) (cooOf (unprojT X (Y + o))) := by
  obtain ⟨y1, y2⟩ := abs_le.mp (le_sub_iff_add_le.mpr hY)
  have hb : ∀ y, -1 ≤ y → y ≤ 1 → unprojT X y = _ := fun y h1 h2 => unprojT_band X y hX0 hX8 (abs_le.mpr ⟨h1, h2⟩)
  rw [hb Y (by linarith) (by linarith), hb (Y - o) (by linarith) (by linarith), hb (Y + o) (by linarith) (by linarith)]
  refine meridian_combo _ _ _ _ ?_ ?_ ?_
  · exact Real.arcsin_lt_arcsin (by linarith) (by linarith) (by linarith)
  · exact Real.arcsin_lt_arcsin (by linarith) (by linarith) (by linarith)
  · have := Real.arcsin_lt_pi_div_two.mpr (show (Y + o) * (2 / 3) < 1 by linarith)
    have := Real.neg_pi_div_two_le_arcsin ((Y - o) * (2 / 3))
    linarith

theorem cell_plane (cfg : Cfg) (d h : ℕ) (p : HashParts) (hd : d ≤ 29) (hh : h < 12 * 4 ^ d) (hp : partsOf d h = p) :
    TopoSpec.Valid (2 ^ d) p ∧
    Hash.vertices (α := ℝ) cfg d h = some [unprojT (norm8 (cellCx d p.d0h p.i p.j)) (cellCy d p.d0h p.i p.j - 1 / 2 ^ d),
      unprojT (norm8 (cellCx d p.d0h p.i p.j) + 1 / 2 ^ d) (cellCy d p.d0h p.i p.j),
      unprojT (norm8 (cellCx d p.d0h p.i p.j)) (cellCy d p.d0h p.i p.j + 1 / 2 ^ d),
      unprojT (norm8 (cellCx d p.d0h p.i p.j - 1 / 2 ^ d)) (cellCy d p.d0h p.i p.j)] ∧
    Hash.center (α := ℝ) cfg d h = some (unprojT (norm8 (cellCx d p.d0h p.i p.j)) (cellCy d p.d0h p.i p.j)) := by
  subst hp
  have hv := partsOf_valid d h hh
  have hdec := decodeHash_spec cfg d hd h hh
  have hh' : h < Layer.nHash d := by rw [TopoLift.nHash_eq]; exact hh
  exact ⟨hv, vertices_plane cfg d h _ _ _ hh' hdec hv.1 hv.2.1 hv.2.2, center_plane cfg d h _ _ _ hh' hdec hv.1 hv.2.1 hv.2.2⟩

theorem centre_combo_band (cfg : Cfg) (d h : ℕ) (hd : d ≤ 29) (hh : h < 12 * 4 ^ d)
    (hband : |cellCy d (partsOf d h).d0h (partsOf d h).i (partsOf d h).j| < 1) :
    ∃ (s e n w c : ℝ × ℝ), Hash.vertices (α := ℝ) cfg d h = some [s, e, n, w] ∧ Hash.center (α := ℝ) cfg d h = some c ∧
      PosCombo3 (cooOf c) (cooOf s) (cooOf s) (cooOf n) := by
  obtain ⟨⟨hb, hi, hj⟩, hv, hc⟩ := cell_plane cfg d h _ hd hh rfl
  obtain ⟨n0, n8⟩ := norm8_center_range d _ _ _ hb hi hj
  have ho : 0 < 1 / (2 : ℝ) ^ d := by positivity
  exact ⟨_, _, _, _, _, hv, hc, band_centre_combo _ _ _ n0 (by linarith) ho (cellCy_band d _ _ _ hband)⟩

theorem centre_inside_of_SN_inside (cfg : Cfg) (d h : ℕ) (hd : d ≤ 29) (hh : h < 12 * 4 ^ d)
    (hband : |cellCy d (partsOf d h).d0h (partsOf d h).i (partsOf d h).j| < 1) :
    ∃ (s e n w c : ℝ × ℝ), Hash.vertices (α := ℝ) cfg d h = some [s, e, n, w] ∧ Hash.center (α := ℝ) cfg d h = some c ∧
      ∀ (o : ℝ) (vs : List (Coo ℝ)), InsideAll o vs (cooOf s) → InsideAll o vs (cooOf n) → InsideAll o vs (cooOf c) := by
  obtain ⟨s, e, n, w, c, hv, hc, h⟩ := centre_combo_band cfg d h hd hh hband
  exact ⟨s, e, n, w, c, hv, hc, fun o vs hs hn => h.insideAll o vs hs hs hn⟩

/-- T1 for one cell flagged full, in the shape `centre_inside_of_*` needs: the cell number is one of its depth
    `≤ 29`, and the positions that `vertices` returns are those of any other successful call -/
theorem full_cell_vertices (cfg : Cfg) (depth : Nat) (lls : List (ℝ × ℝ)) (exact : Bool) (b : BMOC)
    (hr : ∀ ll ∈ lls, 0 ≤ ll.1 ∧ ll.1 < 2 * π ∧ -(π / 2) ≤ ll.2 ∧ ll.2 ≤ π / 2)
    (o : ℝ) (hcv : ConvexNoPole o (lls.map cooOf))
    (h : polygonCoverage cfg depth lls exact = some b) :
    ∃ cells : List Cell, b = { dmax := depth, entries := cells.map (encode depth) } ∧
      ∀ c ∈ cells, c.full = true → c.depth ≤ 29 ∧ c.hash < 12 * 4 ^ c.depth ∧
        ∃ s e n w : ℝ × ℝ, (∀ vs, Hash.vertices (α := ℝ) cfg c.depth c.hash = some vs → vs = [s, e, n, w]) ∧
          ∀ v ∈ [s, e, n, w], OffBoundary o (lls.map cooOf) (cooOf v) → InsideAll o (lls.map cooOf) (cooOf v) := by
  obtain ⟨hd, _, _, _, cells, _, _, _, _, hb, hcells⟩ := full_cells_inside_convex cfg depth lls exact b hr o hcv h
  refine ⟨cells, hb, fun c hc hfull => ?_⟩
  obtain ⟨hcd, _, s, e, n, w, hv, hin⟩ := hcells c hc hfull
  have hlt := vertices_some_lt cfg c.depth c.hash _ hv
  rw [TopoLift.nHash_eq] at hlt
  exact ⟨by omega, hlt, s, e, n, w, fun vs hvs => Option.some.inj (hvs.symm.trans hv), hin⟩

/-- T1 + the centre: under the hypotheses of `full_cells_inside_convex`, for every cell flagged full that is strictly
    equatorial (`|cellCy| < 1` for its parts `partsOf c.depth c.hash`): `center(c.depth, c.hash)` succeeds and, if the south
    and north vertices are not on the boundary of the polygon, the centre is strictly inside all the edge half-spaces —
    although the code never tests it. -/
theorem full_cells_centre_inside_convex (cfg : Cfg) (depth : Nat) (lls : List (ℝ × ℝ)) (exact : Bool) (b : BMOC)
    (hr : ∀ ll ∈ lls, 0 ≤ ll.1 ∧ ll.1 < 2 * π ∧ -(π / 2) ≤ ll.2 ∧ ll.2 ≤ π / 2)
    (o : ℝ) (hcv : ConvexNoPole o (lls.map cooOf))
    (h : polygonCoverage cfg depth lls exact = some b) :
    ∃ cells : List Cell, b = { dmax := depth, entries := cells.map (encode depth) } ∧
      ∀ c ∈ cells, c.full = true →
        |cellCy c.depth (partsOf c.depth c.hash).d0h (partsOf c.depth c.hash).i (partsOf c.depth c.hash).j| < 1 →
        ∃ s e n w ctr : ℝ × ℝ, Hash.vertices (α := ℝ) cfg c.depth c.hash = some [s, e, n, w] ∧
          Hash.center (α := ℝ) cfg c.depth c.hash = some ctr ∧
          (OffBoundary o (lls.map cooOf) (cooOf s) → OffBoundary o (lls.map cooOf) (cooOf n) →
            InsideAll o (lls.map cooOf) (cooOf ctr)) := by
  obtain ⟨cells, hb, hcells⟩ := full_cell_vertices cfg depth lls exact b hr o hcv h
  refine ⟨cells, hb, fun c hc hfull hband => ?_⟩
  obtain ⟨hd29, hlt, s, e, n, w, huniq, hin⟩ := hcells c hc hfull
  obtain ⟨s', e', n', w', ctr, hv', hctr, hcomb⟩ := centre_inside_of_SN_inside cfg c.depth c.hash hd29 hlt hband
  obtain ⟨rfl, rfl, rfl, rfl⟩ : s' = s ∧ e' = e ∧ n' = n ∧ w' = w := by simpa using huniq _ hv'
  exact ⟨s', e', n', w', ctr, hv', hctr, fun hs hn => hcomb o _ (hin s' (by simp) hs) (hin n' (by simp) hn)⟩

/-- the hypotheses of `centre_inside_of_SN_inside` are satisfiable: depth 2, cell 77 = base cell 4, `(i, j) = (3, 2)`,
    centre ordinate `1/2` -/
example : ∃ (s e n w c : ℝ × ℝ), Hash.vertices (α := ℝ) {} 2 77 = some [s, e, n, w] ∧ Hash.center (α := ℝ) {} 2 77 = some c ∧
    ∀ (o : ℝ) (vs : List (Coo ℝ)), InsideAll o vs (cooOf s) → InsideAll o vs (cooOf n) → InsideAll o vs (cooOf c) :=
  centre_inside_of_SN_inside {} 2 77 (by decide) (by decide) (by
    rw [show partsOf 2 77 = ⟨4, 3, 2⟩ by decide]; unfold cellCy baseY; norm_num [abs_lt])

#print axioms Hpx.PolyCompose.centre_inside_of_SN_inside
#print axioms Hpx.PolyCompose.full_cells_centre_inside_convex

end Hpx.PolyCompose

namespace Hpx.PolyCompose
open Hpx Hpx.Sph Real Hpx.Proj Hpx.CellReal Hpx.EnvelopeReal Hpx.TopoLift Hpx.EnvelopePolar

theorem PosCombo3.mirror {p u v w : ℝ × ℝ} (h : PosCombo3 (cooOf p) (cooOf u) (cooOf v) (cooOf w)) :
    PosCombo3 (cooOf (p.1, -p.2)) (cooOf (u.1, -u.2)) (cooOf (v.1, -v.2)) (cooOf (w.1, -w.2)) := by
  obtain ⟨K, a, b, d, hK, ha, hb, hd, hx, hy, hz⟩ := h
  refine ⟨K, a, b, d, hK, ha, hb, hd, ?_, ?_, ?_⟩
  · simpa only [cooOf, cos_neg] using hx
  · simpa only [cooOf, cos_neg] using hy
  · simp only [cooOf, sin_neg] at hz ⊢
    linarith

theorem PosCombo3.congr_all {p u v w p' u' v' w' : Coo ℝ} (h : PosCombo3 p u v w)
    (hp : p'.x = p.x ∧ p'.y = p.y ∧ p'.z = p.z) (hu : u'.x = u.x ∧ u'.y = u.y ∧ u'.z = u.z)
    (hv : v'.x = v.x ∧ v'.y = v.y ∧ v'.z = v.z) (hw : w'.x = w.x ∧ w'.y = w.y ∧ w'.z = w.z) : PosCombo3 p' u' v' w' := by
  obtain ⟨K, a, b, d, hK, ha, hb, hd, ex, ey, ez⟩ := h
  refine ⟨K, a, b, d, hK, ha, hb, hd, ?_, ?_, ?_⟩
  · rw [hp.1, hu.1, hv.1, hw.1]; exact ex
  · rw [hp.2.1, hu.2.1, hv.2.1, hw.2.1]; exact ey
  · rw [hp.2.2, hu.2.2, hv.2.2, hw.2.2]; exact ez

theorem PosCombo3.congr_third {p u v w v' : Coo ℝ} (h : PosCombo3 p u v w) (hx : v'.x = v.x) (hy : v'.y = v.y)
    (hz : v'.z = v.z) : PosCombo3 p u v' w :=
  h.congr_all ⟨rfl, rfl, rfl⟩ ⟨rfl, rfl, rfl⟩ ⟨hx, hy, hz⟩ ⟨rfl, rfl, rfl⟩

/-- A point on a parallel between two points `E`, `W` of that parallel, and a third point `F` nearer to the equator:
    `C = (l, φc)`, `E = (l + Δ, φc)`, `W = (l − Δ, φc)`, `F = (l + δ, φf)`.  Under the three inequalities (which say that, seen
    from the pole, `C` is inside the plane triangle `W E F`), `K·C = a·F + b·E + d·W` with positive coefficients. -/
theorem cone3 (l Δ δ φc φf : ℝ) (hrc : 0 < cos φc) (hzc : 0 < sin φc) (hΔ0 : 0 < Δ) (hΔπ : Δ < π)
    (I1 : cos φc * sin φf * cos Δ < cos φf * sin φc * cos δ)
    (I2a : cos φc * sin φf * sin Δ < cos φf * sin φc * (sin (Δ + δ) - sin δ))
    (I2b : cos φc * sin φf * sin Δ < cos φf * sin φc * (sin (Δ - δ) + sin δ)) :
    PosCombo3 (cooOf (l, φc)) (cooOf (l + δ, φf)) (cooOf (l + Δ, φc)) (cooOf (l - Δ, φc)) := by
  have hsin : 0 < sin Δ := sin_pos_of_pos_of_lt_pi hΔ0 hΔπ
  have hcos : cos Δ < 1 := by rw [← cos_zero]; exact cos_lt_cos_of_nonneg_of_le_pi (le_refl 0) hΔπ.le hΔ0
  refine ⟨2 * cos φc * sin Δ * (cos φf * sin φc * cos δ - cos φc * sin φf * cos Δ),
    2 * sin φc * cos φc ^ 2 * (1 - cos Δ) * sin Δ,
    cos φc * (cos φf * sin φc * (sin (Δ + δ) - sin δ) - cos φc * sin φf * sin Δ),
    cos φc * (cos φf * sin φc * (sin (Δ - δ) + sin δ) - cos φc * sin φf * sin Δ),
    mul_pos (mul_pos (mul_pos two_pos hrc) hsin) (sub_pos.mpr I1),
    mul_pos (mul_pos (mul_pos (mul_pos two_pos hzc) (pow_pos hrc 2)) (sub_pos.mpr hcos)) hsin,
    mul_pos hrc (sub_pos.mpr I2a), mul_pos hrc (sub_pos.mpr I2b), ?_, ?_, ?_⟩ <;>
  simp only [cooOf, cos_add, cos_sub, sin_add, sin_sub] <;> ring

theorem K1_poly (a b : ℝ) (hb0 : 0 ≤ b) (hab : b ≤ a) (ha1 : a ≤ 1) :
    (6 - b) * (1 - a / 3) ^ 2 ≤ (6 - a) * (1 - b / 3) ^ 2 := by
  have h : 0 ≤ (a - b) * (27 - 6 * (a + b) + a * b) :=
    mul_nonneg (sub_nonneg.mpr hab) (by nlinarith [mul_nonneg (hb0.trans hab) hb0])
  linarith

/-- `tan(colatitude)/σ` increases with the plane distance `σ` from the pole: `rc/(zc·σ) ≤ rf/(zf·τ)` for `σ ≤ τ`, with
    `rc`, `zc` the cosine and sine of the latitude at the distance `σ`, `rf`, `zf` at the distance `τ` -/
theorem K1_cap (σ τ rc rf : ℝ) (hσ : 0 ≤ σ) (hστ : σ ≤ τ) (hτ1 : τ ≤ 1)
    (hrc0 : 0 ≤ rc) (hrc : rc ^ 2 = σ ^ 2 * (6 - σ ^ 2) / 9) (hrf0 : 0 ≤ rf) (hrf : rf ^ 2 = τ ^ 2 * (6 - τ ^ 2) / 9) :
    τ * (rc * (1 - τ ^ 2 / 3)) ≤ σ * (rf * (1 - σ ^ 2 / 3)) := by
  have hτ0 := hσ.trans hστ
  have hτ2 : τ ^ 2 ≤ 1 := pow_le_one₀ hτ0 hτ1
  have hσ2 : σ ^ 2 ≤ τ ^ 2 := pow_le_pow_left₀ hσ hστ 2
  refine (pow_le_pow_iff_left₀ (mul_nonneg hτ0 (mul_nonneg hrc0 (by linarith)))
    (mul_nonneg hσ (mul_nonneg hrf0 (by linarith))) two_ne_zero).mp ?_
  rw [mul_pow, mul_pow, mul_pow, mul_pow, hrc, hrf]
  have h := mul_le_mul_of_nonneg_left (K1_poly _ _ (sq_nonneg σ) hσ2 hτ2) (show 0 ≤ σ ^ 2 * τ ^ 2 / 9 by positivity)
  linarith

/-- the numerical heart of the cap case: for `0 < t ≤ 1` (`t = o/σ`, ratio of the half-diagonal of the cell to the plane
    distance of its centre from the pole) and any angle `|x| ≤ π·t·(3 − t)/8`: `x² < t`, hence `(1 + t)·cos x > 1` -/
theorem cap_numeric (t x : ℝ) (ht0 : 0 < t) (ht1 : t ≤ 1) (hx : |x| ≤ π * t * (3 - t) / 8) : 1 < (1 + t) * cos x := by
  have hpi2 : π ^ 2 < 10 := (pow_lt_pow_left₀ pi_lt_d2 pi_pos.le two_ne_zero).trans (by norm_num)
  have h3 : t * (3 - t) ^ 2 ≤ 4 := by
    have := mul_nonneg (sq_nonneg (1 - t)) (show 0 ≤ 4 - t by linarith)
    linarith
  have hx2 : x ^ 2 ≤ (π * t * (3 - t) / 8) ^ 2 := by rw [← sq_abs x]; exact pow_le_pow_left₀ (abs_nonneg x) hx 2
  -- `x² ≤ π²·t·(t(3 − t)²)/64 ≤ π²·t/16 < t`
  have h5 : π ^ 2 * t * (t * (3 - t) ^ 2) ≤ π ^ 2 * t * 4 := mul_le_mul_of_nonneg_left h3 (by positivity)
  have h6 : π ^ 2 * t < 10 * t := mul_lt_mul_of_pos_right hpi2 ht0
  have h7 : x ^ 2 < t := by linarith
  have h8 : t * x ^ 2 ≤ 1 * x ^ 2 := mul_le_mul_of_nonneg_right ht1 (sq_nonneg x)
  have hc := mul_le_mul_of_nonneg_left (Real.one_sub_sq_div_two_le_cos (x := x)) (show 0 ≤ 1 + t by linarith)
  linarith

/-- the angle by which the equator-side vertex is off the meridian of the centre -/
theorem cap_delta_bound (σ o u : ℝ) (hσ : 0 < σ) (ho : 0 < o) (hou : |u| + o ≤ σ) :
    |(u / (σ + o) - u / σ) * (π / 4)| ≤ o / σ * (π / 4) * ((1 - o / σ) / (1 + o / σ)) := by
  have hpi := pi_pos
  have hso : 0 < σ + o := by linarith
  have e : (u / (σ + o) - u / σ) * (π / 4) = -(u * o / (σ * (σ + o))) * (π / 4) := by field_simp; ring
  have e2 : o / σ * (π / 4) * ((1 - o / σ) / (1 + o / σ)) = (σ - o) * o / (σ * (σ + o)) * (π / 4) := by field_simp
  rw [e, e2, abs_mul, abs_of_pos (by positivity : 0 < π / 4), abs_neg, abs_div, abs_mul, abs_of_pos ho,
    abs_of_pos (by positivity : 0 < σ * (σ + o))]
  apply mul_le_mul_of_nonneg_right _ (by positivity)
  apply div_le_div_of_nonneg_right _ (by positivity)
  apply mul_le_mul_of_nonneg_right _ ho.le
  linarith

/-- the three inequalities of `cone3` from the product bound, abstractly: `A = rc·zf`, `Bv = rf·zc` -/
theorem cap_ineqs_abs (t Δ δ A Bv : ℝ) (ht0 : 0 < t) (ht1 : t ≤ 1) (hΔ : Δ = t * (π / 4)) (hA : 0 < A)
    (K1 : (1 + t) * A ≤ Bv) (hδ : |δ| ≤ Δ * ((1 - t) / (1 + t))) :
    A * cos Δ < Bv * cos δ ∧ A * sin Δ < Bv * (sin (Δ + δ) - sin δ) ∧ A * sin Δ < Bv * (sin (Δ - δ) + sin δ) := by
  have hpi := pi_pos
  have hΔ0 : 0 < Δ := by rw [hΔ]; positivity
  have hΔ1 : Δ ≤ π / 4 := by rw [hΔ]; exact mul_le_of_le_one_left (by positivity) ht1
  -- `(1 − t)/(1 + t) ≤ 1 − t/2`: the three angles `δ`, `δ + Δ/2`, `Δ/2 − δ` are at most `Δ(3 − t)/2` in absolute value
  have h1t : 0 < 1 + t := add_pos zero_lt_one ht0
  have hq : (1 - t) / (1 + t) ≤ 1 - t / 2 := by
    rw [div_le_iff₀ h1t]
    have := mul_nonneg ht0.le (show 0 ≤ 3 - t by linarith)
    linarith
  have hδ' := hδ.trans (mul_le_mul_of_nonneg_left hq hΔ0.le)
  have hΔ2 : |Δ / 2| ≤ Δ / 2 := (abs_of_pos (half_pos hΔ0)).le
  have hB : π * t * (3 - t) / 8 = Δ * (1 - t / 2) + Δ / 2 := by rw [hΔ]; ring
  -- `A·cos y ≤ A < Bv·cos x` for each of the three angles `x`
  have h3 : ∀ y, A * cos y ≤ A := fun y => mul_le_of_le_one_right hA.le (cos_le_one y)
  have key : ∀ x, |x| ≤ Δ * (1 - t / 2) + Δ / 2 → A < Bv * cos x := by
    intro x hx
    have hc := cap_numeric t x ht0 ht1 (hB ▸ hx)
    have hc0 : 0 < cos x := (mul_pos_iff_of_pos_left h1t).mp (zero_lt_one.trans hc)
    calc A < (1 + t) * cos x * A := lt_mul_of_one_lt_left hA hc
      _ = (1 + t) * A * cos x := by ring
      _ ≤ Bv * cos x := mul_le_mul_of_nonneg_right K1 hc0.le
  have hs2 : 0 < 2 * sin (Δ / 2) := mul_pos two_pos (sin_pos_of_pos_of_lt_pi (half_pos hΔ0) (by linarith))
  have e2 : sin Δ = 2 * sin (Δ / 2) * cos (Δ / 2) := by rw [← sin_two_mul, mul_div_cancel₀ _ two_ne_zero]
  -- the third inequality is the second at `-δ`
  have I2 : ∀ ε, |ε| ≤ Δ * (1 - t / 2) → A * sin Δ < Bv * (sin (Δ + ε) - sin ε) := by
    intro ε hε
    have e1 : sin (Δ + ε) - sin ε = 2 * sin (Δ / 2) * cos (ε + Δ / 2) := by
      rw [sin_sub_sin]; congr 2 <;> ring_nf
    rw [e1, e2, mul_left_comm, mul_left_comm Bv]
    exact mul_lt_mul_of_pos_left ((h3 _).trans_lt (key _ ((abs_add_le _ _).trans (add_le_add hε hΔ2)))) hs2
  refine ⟨(h3 Δ).trans_lt (key δ (hδ'.trans (le_add_of_nonneg_right (half_pos hΔ0).le))), I2 δ hδ', ?_⟩
  have h := I2 (-δ) (by rwa [abs_neg])
  rwa [sin_neg, sub_neg_eq_add, ← sub_eq_add_neg] at h

theorem capLat_two_sub (σ : ℝ) (h0 : 0 ≤ σ) (h1 : σ ≤ 1) :
    sin (capLat (2 - σ)) = 1 - σ ^ 2 / 3 ∧ cos (capLat (2 - σ)) ^ 2 = σ ^ 2 * (6 - σ ^ 2) / 9 ∧
      0 ≤ cos (capLat (2 - σ)) := by
  have e : 2 - (2 - σ) = σ := sub_sub_cancel 2 σ
  have a1 : 1 ≤ 2 - σ := by linarith
  have a2 : 2 - σ ≤ 2 := by linarith
  exact ⟨by rw [sin_capLat' _ a1 a2, e], by rw [cos_sq_capLat _ a1 a2, e], cos_capLat_nonneg _ a1 a2⟩

theorem cap_cone (B t σ o : ℝ) (hσ : 0 < σ) (ho : 0 < o) (hou : |t| + o ≤ σ) (hσ1 : σ + o ≤ 1) :
    PosCombo3 (cooOf ((t / σ + B) * (π / 4), capLat (2 - σ))) (cooOf ((t / (σ + o) + B) * (π / 4), capLat (2 - (σ + o))))
      (cooOf (((t + o) / σ + B) * (π / 4), capLat (2 - σ))) (cooOf (((t + -o) / σ + B) * (π / 4), capLat (2 - σ))) := by
  have hpi := pi_pos
  have hoσ : o ≤ σ := by linarith [abs_nonneg t]
  have hσle : σ ≤ 1 := by linarith
  have hso0 : 0 ≤ σ + o := by linarith
  have hσ2 : σ ^ 2 ≤ 1 := pow_le_one₀ hσ.le hσle
  have hso2 : (σ + o) ^ 2 ≤ 1 := pow_le_one₀ hso0 hσ1
  have zc0 : 0 < 1 - σ ^ 2 / 3 := by linarith
  have zf0 : 0 < 1 - (σ + o) ^ 2 / 3 := by linarith
  have h6 : 0 < σ ^ 2 * (6 - σ ^ 2) / 9 := div_pos (mul_pos (pow_pos hσ 2) (by linarith)) (by norm_num)
  have ht0 : 0 < o / σ := div_pos ho hσ
  have ht1 : o / σ ≤ 1 := (div_le_one hσ).mpr hoσ
  have hΔ0 : 0 < o / σ * (π / 4) := by positivity
  have hΔπ : o / σ * (π / 4) < π := (mul_le_of_le_one_left (by positivity) ht1).trans_lt (by linarith)
  obtain ⟨zc, rc2, rc0⟩ := capLat_two_sub σ hσ.le hσle
  obtain ⟨zf, rf2, rf0⟩ := capLat_two_sub (σ + o) hso0 hσ1
  have rcp : 0 < cos (capLat (2 - σ)) :=
    lt_of_le_of_ne rc0 fun h0 => by rw [← h0, zero_pow two_ne_zero] at rc2; exact h6.ne rc2
  have K1 := K1_cap σ (σ + o) _ _ hσ.le (by linarith) hσ1 rc0 rc2 rf0 rf2
  rw [← zf, ← zc, ← div_le_iff₀' hσ, ← div_mul_eq_mul_div, ← one_add_div hσ.ne'] at K1
  rw [← zc] at zc0
  rw [← zf] at zf0
  obtain ⟨I1, I2a, I2b⟩ := cap_ineqs_abs (o / σ) _ _ _ _ ht0 ht1 rfl (mul_pos rcp zf0) K1
    (cap_delta_bound σ o t hσ ho hou)
  have h := cone3 ((t / σ + B) * (π / 4)) (o / σ * (π / 4)) ((t / (σ + o) - t / σ) * (π / 4))
    (capLat (2 - σ)) (capLat (2 - (σ + o))) rcp zc0 hΔ0 hΔπ I1 I2a I2b
  rw [show (t / (σ + o) + B) * (π / 4) = (t / σ + B) * (π / 4) + (t / (σ + o) - t / σ) * (π / 4) by ring,
    show ((t + o) / σ + B) * (π / 4) = (t / σ + B) * (π / 4) + o / σ * (π / 4) by ring,
    show ((t + -o) / σ + B) * (π / 4) = (t / σ + B) * (π / 4) - o / σ * (π / 4) by ring]
  exact h

/-- a diamond centred on the north transition latitude: the corner `F` is on the meridian of the centre (`δ = 0` in `cone3`) -/
theorem transition_cone (X o : ℝ) (ho : 0 < o) (ho1 : o ≤ 1) :
    PosCombo3 (cooOf (X * (π / 4), Real.arcsin (1 * (2 / 3)))) (cooOf (X * (π / 4), Real.arcsin ((1 - o) * (2 / 3))))
      (cooOf ((X + o) * (π / 4), Real.arcsin (1 * (2 / 3)))) (cooOf ((X - o) * (π / 4), Real.arcsin (1 * (2 / 3)))) := by
  have hpi := pi_pos
  have hf0 : 0 ≤ (1 - o) * (2 / 3) := by linarith
  have hf1 : (1 - o) * (2 / 3) < 1 * (2 / 3) := by linarith
  have hΔ0 : 0 < o * (π / 4) := by positivity
  have hΔπ : o * (π / 4) < π := (mul_le_of_le_one_left (by positivity) ho1).trans_lt (by linarith)
  have hφf0 : 0 ≤ Real.arcsin ((1 - o) * (2 / 3)) := Real.arcsin_nonneg.mpr hf0
  have hφfc := Real.arcsin_le_arcsin hf1.le
  have hφc1 : Real.arcsin (1 * (2 / 3)) < π / 2 := Real.arcsin_lt_pi_div_two.mpr (by norm_num)
  have hφcπ : Real.arcsin (1 * (2 / 3)) ≤ π := hφc1.le.trans (by linarith)
  have zc : sin (Real.arcsin (1 * (2 / 3))) = 1 * (2 / 3) := Real.sin_arcsin (by norm_num) (by norm_num)
  have zf : sin (Real.arcsin ((1 - o) * (2 / 3))) = (1 - o) * (2 / 3) :=
    Real.sin_arcsin ((neg_one_lt_zero.le).trans hf0) (hf1.le.trans (by norm_num))
  have rc0 : 0 < cos (Real.arcsin (1 * (2 / 3))) :=
    cos_pos_of_mem_Ioo ⟨(Real.neg_pi_div_two_lt_arcsin.mpr (by norm_num)), hφc1⟩
  have rcf := Real.cos_le_cos_of_nonneg_of_le_pi hφf0 hφcπ hφfc
  have rf0 := rc0.trans_le rcf
  -- `rc·zf < rf·zc`
  have key : cos (Real.arcsin (1 * (2 / 3))) * sin (Real.arcsin ((1 - o) * (2 / 3))) <
      cos (Real.arcsin ((1 - o) * (2 / 3))) * sin (Real.arcsin (1 * (2 / 3))) := by
    rw [zc, zf]
    exact (mul_le_mul_of_nonneg_right rcf hf0).trans_lt (mul_lt_mul_of_pos_left hf1 rf0)
  have hsin : 0 < sin (o * (π / 4)) := sin_pos_of_pos_of_lt_pi hΔ0 hΔπ
  have h := cone3 (X * (π / 4)) (o * (π / 4)) 0 (Real.arcsin (1 * (2 / 3))) (Real.arcsin ((1 - o) * (2 / 3))) rc0
    (by rw [zc]; norm_num) hΔ0 hΔπ
    (by rw [cos_zero, mul_one]
        exact (mul_le_of_le_one_right (mul_nonneg rc0.le (by rw [zf]; exact hf0)) (cos_le_one _)).trans_lt key)
    (by rw [add_zero, sin_zero, sub_zero]; exact mul_lt_mul_of_pos_right key hsin)
    (by rw [sub_zero, sin_zero, add_zero]; exact mul_lt_mul_of_pos_right key hsin)
  rw [add_zero, ← add_mul, ← sub_mul] at h
  exact h

theorem cooOf_sub_two_pi (l φ : ℝ) : (cooOf (l - 2 * π, φ)).x = (cooOf (l, φ)).x ∧ (cooOf (l - 2 * π, φ)).y = (cooOf (l, φ)).y ∧
    (cooOf (l - 2 * π, φ)).z = (cooOf (l, φ)).z := by
  simp only [cooOf, cos_sub_two_pi, sin_sub_two_pi, and_self]

/-- the unit vector of the position returned for the plane point `(x, y)` of the closed equatorial band (the longitude is
    `0`, not `2π`, for `x = 8`) -/
theorem band_position (x y : ℝ) (hx0 : 0 ≤ x) (hx8 : x ≤ 8) (hy : |y| ≤ 1) :
    (cooOf (unprojT x y)).x = (cooOf (x * (π / 4), Real.arcsin (y * (2 / 3)))).x ∧
      (cooOf (unprojT x y)).y = (cooOf (x * (π / 4), Real.arcsin (y * (2 / 3)))).y ∧
      (cooOf (unprojT x y)).z = (cooOf (x * (π / 4), Real.arcsin (y * (2 / 3)))).z := by
  have h1 := unproj_band x y hx0 hx8 hy
  rw [unproj_eq x y (by linarith [(abs_le.mp hy).1]) (by linarith [(abs_le.mp hy).2])] at h1
  rw [Option.some.inj h1]
  by_cases h8 : x < 8
  · rw [if_pos h8]; exact ⟨rfl, rfl, rfl⟩
  · rw [if_neg h8, show (x - 8) * (π / 4) = x * (π / 4) - 2 * π by ring]
    exact cooOf_sub_two_pi _ _

theorem PosCombo3.sign (s : ℝ) (hs : s = 1 ∨ s = -1) {p u v w : ℝ × ℝ}
    (h : PosCombo3 (cooOf p) (cooOf u) (cooOf v) (cooOf w)) :
    PosCombo3 (cooOf (p.1, s * p.2)) (cooOf (u.1, s * u.2)) (cooOf (v.1, s * v.2)) (cooOf (w.1, s * w.2)) := by
  rcases hs with rfl | rfl
  · simpa only [one_mul] using h
  · simpa only [neg_one_mul] using h.mirror

theorem capPt_cone (s : ℝ) (hs : s = 1 ∨ s = -1) (k : ℕ) (t σ δ : ℝ) (hσ : 0 < σ) (hδ : 0 < δ) (ht : |t| + δ ≤ σ)
    (hσ1 : σ + δ ≤ 1) :
    PosCombo3 (cooOf (capPt s k t σ)) (cooOf (capPt s k t (σ + δ))) (cooOf (capPt s k (t + δ) σ))
      (cooOf (capPt s k (t + -δ) σ)) :=
  (cap_cone (2 * k + 1) t σ δ hσ hδ ht hσ1).sign s hs

/-- `transition_cone` on the positions returned by `unproj`, either transition latitude: at `x = 8` the longitude is `0`, not
    `2π`, hence the statement on unit vectors -/
theorem ring_combo (s : ℝ) (hs : s = 1 ∨ s = -1) (X o : ℝ) (ho : 0 < o) (ho1 : o ≤ 1) (hX0 : o ≤ X) (hX8 : X + o ≤ 8) :
    PosCombo3 (cooOf (unprojT X s)) (cooOf (unprojT X (s * (1 - o)))) (cooOf (unprojT (X + o) s))
      (cooOf (unprojT (X - o) s)) := by
  have hs1 : |s| = 1 := by rcases hs with rfl | rfl <;> simp
  have harc : ∀ y : ℝ, Real.arcsin (s * y * (2 / 3)) = s * Real.arcsin (y * (2 / 3)) := by
    intro y; rcases hs with rfl | rfl
    · rw [one_mul, one_mul]
    · rw [neg_one_mul, neg_one_mul, neg_mul, Real.arcsin_neg]
  have hb : ∀ x y : ℝ, 0 ≤ x → x ≤ 8 → |y| ≤ 1 → _ := fun x y h0 h8 hy =>
    (harc y) ▸ band_position x (s * y) h0 h8 (by rw [abs_mul, hs1, one_mul]; exact hy)
  have h := ((transition_cone X o ho ho1).sign s hs).congr_all
    (hb X 1 (by linarith) (by linarith) (by norm_num))
    (hb X (1 - o) (by linarith) (by linarith) (abs_le.mpr ⟨by linarith, by linarith⟩))
    (hb (X + o) 1 (by linarith) (by linarith) (by norm_num))
    (hb (X - o) 1 (by linarith) (by linarith) (by norm_num))
  simpa only [mul_one] using h

theorem centre_combo_cap (cfg : Cfg) (d h : ℕ) (hd : d ≤ 29) (hh : h < 12 * 4 ^ d) (sg : ℝ) (k m : ℕ)
    (hc : CapCell d (partsOf d h).d0h (partsOf d h).i (partsOf d h).j sg k m) :
    ∃ (s e n w c : ℝ × ℝ), Hash.vertices (α := ℝ) cfg d h = some [s, e, n, w] ∧ Hash.center (α := ℝ) cfg d h = some c ∧
      (sg = 1 → PosCombo3 (cooOf c) (cooOf s) (cooOf e) (cooOf w)) ∧
      (sg = -1 → PosCombo3 (cooOf c) (cooOf n) (cooOf e) (cooOf w)) := by
  obtain ⟨hs, -, hx, hy, ht, -, -⟩ := hc.plane
  have hδ : 0 < 1 / (2 : ℝ) ^ d := by positivity
  have hta := abs_nonneg ((((partsOf d h).i : ℝ) - (partsOf d h).j) * (1 / 2 ^ d))
  rcases (by have := hc.2.2.2.1; omega : m + 1 ≤ 2 ^ d ∨ m = 2 ^ d) with hm | rfl
  · -- inside the cap: the five points are in the chart
    obtain ⟨hcen, hv⟩ := cap_cell cfg d h _ _ _ hd (by rw [TopoLift.nHash_eq]; exact hh) (decodeHash_spec cfg d hd h hh) sg k m hc hm
    have key := capPt_cone sg hs k _ _ _ (by linarith) hδ ht (step_mul_inside hm)
    refine ⟨_, _, _, _, _, hv, hcen, ?_, ?_⟩
    · rintro rfl; rwa [one_mul]
    · rintro rfl; rwa [neg_one_mul, sub_neg_eq_add]
  · -- on the transition ring: `σ = 1`, the vertex on the equator side is in the equatorial band
    obtain ⟨-, hv, hcen⟩ := cell_plane cfg d h _ hd hh rfl
    have hk3 : (k : ℝ) ≤ 3 := by exact_mod_cast (show k ≤ 3 by have := hc.1; omega)
    rw [show (((2 ^ d : ℕ) : ℝ)) * (1 / 2 ^ d) = 1 by push_cast; exact mul_one_div_cancel (pow_pos' d).ne'] at ht hy
    rw [show (2 : ℝ) - 1 = 1 by norm_num, mul_one] at hy
    obtain ⟨t1, t2⟩ := abs_le.mp (le_sub_iff_add_le.mpr ht)
    have hx0 : 1 / 2 ^ d ≤ norm8 (cellCx d (partsOf d h).d0h (partsOf d h).i (partsOf d h).j) := by
      rw [hx]; linarith [(Nat.cast_nonneg k : (0 : ℝ) ≤ k)]
    rw [norm8_sub _ _ hδ.le hx0, hy] at hv
    rw [hy] at hcen
    have key := ring_combo sg hs _ _ hδ (by linarith) hx0 (by rw [hx]; linarith)
    refine ⟨_, _, _, _, _, hv, hcen, ?_, ?_⟩
    · rintro rfl; rwa [one_mul] at key
    · rintro rfl; rwa [show (-1 : ℝ) * (1 - 1 / 2 ^ d) = -1 + 1 / 2 ^ d by ring] at key

/-- The centre of EVERY cell (every depth `≤ 29`, every cell number) is in the open cone of three of its four vertices:
    S–N (one meridian, S counted twice) in the band, S–E–W in the north cap and on its transition ring, N–E–W in the south. -/
theorem centre_combo (cfg : Cfg) (d h : ℕ) (hd : d ≤ 29) (hh : h < 12 * 4 ^ d) :
    ∃ (s e n w c : ℝ × ℝ), Hash.vertices (α := ℝ) cfg d h = some [s, e, n, w] ∧ Hash.center (α := ℝ) cfg d h = some c ∧
      (PosCombo3 (cooOf c) (cooOf s) (cooOf s) (cooOf n) ∨ PosCombo3 (cooOf c) (cooOf s) (cooOf e) (cooOf w) ∨
        PosCombo3 (cooOf c) (cooOf n) (cooOf e) (cooOf w)) := by
  obtain ⟨hb12, hi, hj⟩ := partsOf_valid d h hh
  rcases cell_zone d _ _ _ hb12 hi hj with hc | ⟨sg, k, m, hc⟩
  · obtain ⟨s, e, n, w, c, hv, hcen, hcomb⟩ := centre_combo_band cfg d h hd hh hc
    exact ⟨s, e, n, w, c, hv, hcen, Or.inl hcomb⟩
  · obtain ⟨s, e, n, w, c, hv, hcen, h1, h2⟩ := centre_combo_cap cfg d h hd hh sg k m hc
    exact ⟨s, e, n, w, c, hv, hcen, Or.inr (hc.plane.1.imp h1 h2)⟩

/-- T2, the centre, EVERY cell (equatorial band, both polar caps, both transition rings).  `vertices` and `center` succeed
    and, whatever the polygon (any vertex list `vs`, any winding `o` — no convexity is needed beyond the fact that a polygon
    "inside all the edge half-spaces" is an intersection of half-spaces): if the four vertices are strictly inside all the
    edge half-spaces, so is the centre. -/
theorem centre_inside_of_vertices_inside (cfg : Cfg) (d h : ℕ) (hd : d ≤ 29) (hh : h < 12 * 4 ^ d) :
    ∃ (s e n w c : ℝ × ℝ), Hash.vertices (α := ℝ) cfg d h = some [s, e, n, w] ∧ Hash.center (α := ℝ) cfg d h = some c ∧
      ∀ (o : ℝ) (vs : List (Coo ℝ)), (∀ v ∈ [s, e, n, w], InsideAll o vs (cooOf v)) → InsideAll o vs (cooOf c) := by
  obtain ⟨s, e, n, w, c, hv, hcen, h | h | h⟩ := centre_combo cfg d h hd hh <;>
    exact ⟨s, e, n, w, c, hv, hcen, fun o vs hall => h.insideAll o vs (hall _ (by simp)) (hall _ (by simp)) (hall _ (by simp))⟩

/-- T1 + T2: C12's sentence "a cell is marked fully covered only if its four vertices and its centre are inside the polygon",
    for convex polygons (ℝ, both modes, every depth `≤ 29`).  Every cell of the BMOC
    returned by `polygon_coverage` that carries the full flag — wherever it is on the sphere — has `vertices` and `center`
    succeed, and if its four vertices are not on the boundary of the polygon then its four vertices AND ITS CENTRE are
    strictly inside all the edge half-spaces.  (The code tests the four vertices only; the centre follows.) -/
theorem full_cells_vertices_and_centre_inside_convex (cfg : Cfg) (depth : Nat) (lls : List (ℝ × ℝ)) (exact : Bool) (b : Bmoc.BMOC)
    (hr : ∀ ll ∈ lls, 0 ≤ ll.1 ∧ ll.1 < 2 * π ∧ -(π / 2) ≤ ll.2 ∧ ll.2 ≤ π / 2)
    (o : ℝ) (hcv : ConvexNoPole o (lls.map cooOf))
    (h : Sph.polygonCoverage cfg depth lls exact = some b) :
    ∃ cells : List Bmoc.Cell, b = { dmax := depth, entries := cells.map (Bmoc.encode depth) } ∧
      ∀ c ∈ cells, c.full = true →
        ∃ s e n w ctr : ℝ × ℝ, Hash.vertices (α := ℝ) cfg c.depth c.hash = some [s, e, n, w] ∧
          Hash.center (α := ℝ) cfg c.depth c.hash = some ctr ∧
          ((∀ v ∈ [s, e, n, w], OffBoundary o (lls.map cooOf) (cooOf v)) →
            (∀ v ∈ [s, e, n, w], InsideAll o (lls.map cooOf) (cooOf v)) ∧ InsideAll o (lls.map cooOf) (cooOf ctr)) := by
  obtain ⟨cells, hb, hcells⟩ := full_cell_vertices cfg depth lls exact b hr o hcv h
  refine ⟨cells, hb, fun c hc hfull => ?_⟩
  obtain ⟨hd29, hlt, s, e, n, w, huniq, hin⟩ := hcells c hc hfull
  obtain ⟨s', e', n', w', ctr, hv', hctr, hcomb⟩ := centre_inside_of_vertices_inside cfg c.depth c.hash hd29 hlt
  obtain ⟨rfl, rfl, rfl, rfl⟩ : s' = s ∧ e' = e ∧ n' = n ∧ w' = w := by simpa using huniq _ hv'
  refine ⟨s', e', n', w', ctr, hv', hctr, fun hoff => ?_⟩
  have hall : ∀ v ∈ [s', e', n', w'], InsideAll o (lls.map cooOf) (cooOf v) := fun v hv => hin v hv (hoff v hv)
  exact ⟨hall, hcomb o _ hall⟩

theorem parts_2_15 : partsOf 2 15 = ⟨0, 3, 3⟩ := by decide
theorem parts_2_6 : partsOf 2 6 = ⟨0, 2, 1⟩ := by decide
theorem parts_2_137 : partsOf 2 137 = ⟨8, 1, 2⟩ := by decide

/-- depth 2, cell 15 = base cell 0, `(i, j) = (3, 3)`: the cell whose north vertex is the north pole (`cy = 7/4`) -/
example : ∃ (s e n w c : ℝ × ℝ), Hash.vertices (α := ℝ) {} 2 15 = some [s, e, n, w] ∧ Hash.center (α := ℝ) {} 2 15 = some c ∧
    PosCombo3 (cooOf c) (cooOf s) (cooOf e) (cooOf w) :=
  let ⟨s, e, n, w, c, hv, hc, h, _⟩ := centre_combo_cap {} 2 15 (by decide) (by decide) 1 0 1
    (by rw [parts_2_15]; exact ⟨by decide, by decide, by decide, by decide, Or.inl ⟨rfl, rfl, by decide⟩⟩)
  ⟨s, e, n, w, c, hv, hc, h rfl⟩

/-- depth 2, cell 6 = base cell 0, `(i, j) = (2, 1)`: centred on the north transition latitude, off the base-cell meridian -/
example : ∃ (s e n w c : ℝ × ℝ), Hash.vertices (α := ℝ) {} 2 6 = some [s, e, n, w] ∧ Hash.center (α := ℝ) {} 2 6 = some c ∧
    PosCombo3 (cooOf c) (cooOf s) (cooOf e) (cooOf w) :=
  let ⟨s, e, n, w, c, hv, hc, h, _⟩ := centre_combo_cap {} 2 6 (by decide) (by decide) 1 0 4
    (by rw [parts_2_6]; exact ⟨by decide, by decide, by decide, by decide, Or.inl ⟨rfl, rfl, by decide⟩⟩)
  ⟨s, e, n, w, c, hv, hc, h rfl⟩

/-- depth 2, cell 137 = base cell 8, `(i, j) = (1, 2)`: centred on the south transition latitude -/
example : ∃ (s e n w c : ℝ × ℝ), Hash.vertices (α := ℝ) {} 2 137 = some [s, e, n, w] ∧ Hash.center (α := ℝ) {} 2 137 = some c ∧
    PosCombo3 (cooOf c) (cooOf n) (cooOf e) (cooOf w) :=
  let ⟨s, e, n, w, c, hv, hc, _, h⟩ := centre_combo_cap {} 2 137 (by decide) (by decide) (-1) 0 4
    (by rw [parts_2_137]; exact ⟨by decide, by decide, by decide, by decide, Or.inr ⟨rfl, rfl, by decide⟩⟩)
  ⟨s, e, n, w, c, hv, hc, h rfl⟩

#print axioms Hpx.PolyCompose.centre_inside_of_vertices_inside
#print axioms Hpx.PolyCompose.full_cells_vertices_and_centre_inside_convex

end Hpx.PolyCompose
