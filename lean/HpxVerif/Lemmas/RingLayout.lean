/-
The rings of the RING scheme in integers, for every `nside` (C10, C11).

Conventions.  `n = nside ≥ 1`.  Rings are numbered from the north pole, `r = 0 .. 4n−2` (0-based: the property's ring
number is `r + 1`).  Ring `r` holds `4·perFacet n r` cells, the first is `ringStart n r`; cell `i` of ring `r` has its
centre at `(cxI n r i / n, cyI n r / n)` in the projection plane.  The two transition rings `y = ±1` count with the
equatorial band.

Every theorem that mentions `polarRingIndex` (float square root + integer correction) assumes that it is exact on the
range that is used: `RingIndexExact n`, that is `RingBij.ExactBelow RingBij.realRI (tri4 n)`.  The hypothesis cannot be
stated for *every* natural number `x`: for astronomically large `x` the `u64` conversion saturates and the estimate is
far off.
-/
import HpxVerif.Model.Ring
import Mathlib.Tactic.Ring
import Mathlib.Tactic.Linarith

/-! ## the polar-cap ring index: ring `t` from the pole starts at cell `tri4 t = 2t(t+1)`; the correction loops -/

namespace Hpx.RingBij
open Hpx Hpx.Layer

theorem tri4_eq (n : Nat) : tri4 n = 2 * (n * n) + 2 * n := by
  unfold tri4; rw [Nat.shiftLeft_eq]; ring

theorem tri4_succ (n : Nat) : tri4 (n + 1) = tri4 n + 4 * (n + 1) := by
  rw [tri4_eq, tri4_eq]; ring

theorem tri4_mono {a b : Nat} (h : a ≤ b) : tri4 a ≤ tri4 b := by
  rw [tri4_eq, tri4_eq]
  have : a * a ≤ b * b := Nat.mul_le_mul h h
  omega

theorem tri4_lt_of_lt {a b : Nat} (h : tri4 a < tri4 b) : a < b := by
  apply Nat.lt_of_not_le; intro hle
  have := tri4_mono hle; omega

def ExactRI (RI : Nat → Nat) : Prop := ∀ x, tri4 (RI x) ≤ x ∧ x < tri4 (RI x + 1)

/-- `from_ring` consults its ring-index function only below `firstHashInEqr d`, the RING scheme only below `tri4 nside` -/
def ExactBelow (RI : Nat → Nat) (B : Nat) : Prop := ∀ x, x < B → tri4 (RI x) ≤ x ∧ x < tri4 (RI x + 1)

theorem ExactRI.below {RI : Nat → Nat} (h : ExactRI RI) (B : Nat) : ExactBelow RI B := fun x _ => h x

theorem ExactBelow.eq {RI : Nat → Nat} {B : Nat} (h : ExactBelow RI B) {x t : Nat} (hx : x < B) (h1 : tri4 t ≤ x)
    (h2 : x < tri4 (t + 1)) : RI x = t := by
  obtain ⟨a, b⟩ := h x hx
  have h3 : RI x < t + 1 := tri4_lt_of_lt (by omega)
  have h4 : t < RI x + 1 := tri4_lt_of_lt (by omega)
  omega

/-- the correction loops of `polar_cap_ring_index` reach the exact ring index from any estimate within `fuel` of it -/
theorem polar_ring_index_correct (fuel x n t : Nat) (ht1 : tri4 t ≤ x) (ht2 : x < tri4 (t + 1))
    (hd : n ≤ t + fuel ∧ t ≤ n + fuel) : polarRingIndexFrom fuel x n = t := by
  induction fuel generalizing n with
  | zero =>
    have : n = t := by omega
    simp [polarRingIndexFrom, this]
  | succ f ih =>
    simp only [polarRingIndexFrom]
    split
    · have : t < n := tri4_lt_of_lt (by omega)
      exact ih (n - 1) (by omega)
    · split
      · have : n + 1 < t + 1 := tri4_lt_of_lt (by omega)
        exact ih (n + 1) (by omega)
      · have h3 : n < t + 1 := tri4_lt_of_lt (by omega)
        have h4 : t < n + 1 := tri4_lt_of_lt (by omega)
        omega

theorem ring_index_exists (x : Nat) : ∃ t, tri4 t ≤ x ∧ x < tri4 (t + 1) := by
  induction x with
  | zero => exact ⟨0, by simp [tri4], by simp [tri4]⟩
  | succ x ih =>
    obtain ⟨t, h1, h2⟩ := ih
    by_cases h : x + 1 < tri4 (t + 1)
    · exact ⟨t, by omega, h⟩
    · exact ⟨t + 1, by omega, by rw [tri4_succ (t + 1)]; omega⟩

theorem polarRingIndexFrom_exact {fuel x n : Nat}
    (hd : ∀ t, tri4 t ≤ x → x < tri4 (t + 1) → n ≤ t + fuel ∧ t ≤ n + fuel) :
    tri4 (polarRingIndexFrom fuel x n) ≤ x ∧ x < tri4 (polarRingIndexFrom fuel x n + 1) := by
  obtain ⟨t, h1, h2⟩ := ring_index_exists x
  rw [polar_ring_index_correct fuel x n t h1 h2 (hd t h1 h2)]
  exact ⟨h1, h2⟩

/-- a computable exact ring-index function (linear search from 0) -/
def exactRI (x : Nat) : Nat := polarRingIndexFrom (x + 1) x 0

theorem exactRI_exact : ExactRI exactRI := fun x =>
  polarRingIndexFrom_exact fun t h1 _ => by rw [tri4_eq] at h1; omega

/-- the ring-index function of `fromRing` and `Ring.polarRingIndex`: the float estimate, then the correction loops of
    `polar_cap_ring_index` (`while` loops in the crate) cut at 4 steps -/
def realRI (x : Nat) : Nat := polarRingIndexFrom 4 x (polarRingApprox x)

/-- within 4 is what the 4 correction steps of `realRI` can repair.  A fact about `f64::sqrt`: below `2^63` the estimate is
    in fact exact or one too large (`SqrtApprox.polarRingApprox_sharp`, hence `SqrtApprox.approxOK_2_60`); also monitored
    by the differential check -/
def ApproxOK (B : Nat) : Prop :=
  ∀ x t, x < B → tri4 t ≤ x → x < tri4 (t + 1) → polarRingApprox x ≤ t + 4 ∧ t ≤ polarRingApprox x + 4

theorem ApproxOK.mono {B B' : Nat} (h : ApproxOK B) (hle : B' ≤ B) : ApproxOK B' :=
  fun x t hx h1 h2 => h x t (by omega) h1 h2

theorem realRI_exactBelow {B : Nat} (h : ApproxOK B) : ExactBelow realRI B := fun x hx =>
  polarRingIndexFrom_exact fun t => h x t hx

end Hpx.RingBij

namespace Hpx.RingReal
open Hpx Hpx.Ring

theorem tri4_eq (n : Nat) : tri4 n = 2 * (n * (n + 1)) := by
  unfold tri4; rw [Nat.shiftLeft_eq]; omega

theorem tri4_zero : tri4 0 = 0 := by simp [tri4]

theorem tri4_succ (n : Nat) : tri4 (n + 1) = tri4 n + 4 * (n + 1) := RingBij.tri4_succ n

theorem tri4_mono {a b : Nat} (h : a ≤ b) : tri4 a ≤ tri4 b := RingBij.tri4_mono h

theorem tri4_lt_of_lt {a b : Nat} (h : tri4 a < tri4 b) : a < b := RingBij.tri4_lt_of_lt h

theorem tri4_same : Layer.tri4 = Ring.tri4 := rfl

/-- the ring-index function of the code is exact below `tri4 n` (all the theorems need) -/
def RingIndexExact (n : Nat) : Prop :=
  ∀ x, x < tri4 n → tri4 (polarRingIndex x) ≤ x ∧ x < tri4 (polarRingIndex x + 1)

/-- `RingIndexExact` holds whenever the float estimate is within 4 of the true ring index: the model runs the correction
    loops 4 times (`RingBij.polar_ring_index_correct`) -/
theorem ringIndexExact_of_approx (n : Nat)
    (happ : ∀ x t, x < tri4 n → tri4 t ≤ x → x < tri4 (t + 1) →
      Layer.polarRingApprox x ≤ t + 4 ∧ t ≤ Layer.polarRingApprox x + 4) : RingIndexExact n :=
  RingBij.realRI_exactBelow (B := tri4 n) happ

/-- the hypothesis is satisfiable: it holds (by evaluation) at `n = 3` -/
example : RingIndexExact 3 := by unfold RingIndexExact; decide +kernel

/-- cells per facet (quarter) of ring `r` -/
def perFacet (n r : Nat) : Nat := if r + 1 < n then r + 1 else if r < 3 * n then n else 4 * n - 1 - r

/-- first cell of ring `r`.  The transition rings `n − 1` and `3n − 1` are counted with the equatorial band, as
    `center_of_projected_cell` does; `RingBij.ringStart` (`nside = 2^d`) counts them with the caps, and
    `RingCenter.ringStart_same` reconciles the two -/
def ringStart (n r : Nat) : Nat :=
  if r + 1 < n then tri4 r else if r < 3 * n then tri4 (n - 1) + (r + 1 - n) * (4 * n)
  else 12 * n * n - tri4 (4 * n - 1 - r)

/-- abscissa (in units of `1/n`) of the first centre of a facet of ring `r`, relative to the facet's west corner -/
def cxOff (n r : Nat) : Nat := if r + 1 < n then n - r else if r < 3 * n then (r + n) % 2 else r + 2 - 3 * n

def cxI (n r i : Nat) : Nat := 2 * n * (i / perFacet n r) + 2 * (i % perFacet n r) + cxOff n r

def cyI (n r : Nat) : Int := 2 * (n : Int) - 1 - r

/-! the three regions, each closed: north cap `r ≤ n − 1`, equatorial band `n − 1 ≤ r ≤ 3n − 1`, south cap `3n − 1 ≤ r`.
They overlap in the transition rings, where the formulas of both regions agree: `to_ring` branches with the transition
rings in the caps, `center_of_projected_cell` and `hash` with them in the band, and two consecutive rings always lie
in one region -/

theorem perFacet_north {n t : Nat} (ht : t < n) : perFacet n t = t + 1 := by
  unfold perFacet; split_ifs <;> omega

theorem cxOff_north {n t : Nat} (ht : t < n) : cxOff n t = n - t := by
  unfold cxOff; split_ifs <;> omega

theorem perFacet_eq {n t : Nat} (h1 : n ≤ t + 1) (h2 : t < 3 * n) : perFacet n t = n := by
  unfold perFacet; split_ifs <;> omega

theorem cxOff_eq {n t : Nat} (h1 : n ≤ t + 1) (h2 : t < 3 * n) : cxOff n t = (t + n) % 2 := by
  unfold cxOff; split_ifs <;> omega

theorem perFacet_south {n t : Nat} (h1 : 3 * n ≤ t + 1) (h2 : t + 1 < 4 * n) : perFacet n t = 4 * n - 1 - t := by
  unfold perFacet; split_ifs <;> omega

theorem cxOff_south {n t : Nat} (h1 : 3 * n ≤ t + 1) : cxOff n t = t + 2 - 3 * n := by
  unfold cxOff; split_ifs <;> omega

/-- the south cap counted from the south pole: ring `r` is the `t`-th from the pole, the mirror image of ring `t` -/
theorem south_cap {n r t : Nat} (hrt : r + t + 2 = 4 * n) (ht : t < n) :
    perFacet n r = t + 1 ∧ cxOff n r = n - t ∧ cyI n r = -((2 * n - 1 - t : Nat) : Int) :=
  ⟨by rw [perFacet_south (by omega) (by omega)]; omega, by rw [cxOff_south (by omega)]; omega, by unfold cyI; omega⟩

theorem perFacet_pos {n r : Nat} (hn : 1 ≤ n) (hr : r < 4 * n - 1) : 0 < perFacet n r := by
  unfold perFacet; split
  · omega
  · split <;> omega

theorem perFacet_le {n r : Nat} (hn : 1 ≤ n) : perFacet n r ≤ n := by
  unfold perFacet; split
  · omega
  · split <;> omega

theorem cxOff_add_perFacet {n r : Nat} (hn : 1 ≤ n) (hr : r < 4 * n - 1) :
    cxOff n r + perFacet n r ≤ n + 1 ∧ (perFacet n r < n → cxOff n r + perFacet n r = n + 1) := by
  unfold cxOff perFacet; split
  · omega
  · split <;> omega

theorem tri4_pred_two (n : Nat) (hn : 1 ≤ n) : tri4 (n - 1) + 2 * n = 2 * (n * n) := by
  obtain ⟨m, rfl⟩ : ∃ m, n = m + 1 := ⟨n - 1, by omega⟩
  simp only [Nat.add_sub_cancel, tri4_eq]; ring

/-- the cell numbers at which `center_of_projected_cell` branches, in units of `n²`: `12n²` cells, the north cap below
    `tri4 (n − 1) = 2n² − 2n`, the south cap from `2n(5n + 1)` on -/
theorem thresholds {n : Nat} (hn : 1 ≤ n) :
    nHash n = 12 * (n * n) ∧ tri4 (n - 1) + 2 * n = 2 * (n * n) ∧ (n * (5 * n + 1)) <<< 1 = 10 * (n * n) + 2 * n :=
  ⟨by unfold nHash; ring, tri4_pred_two n hn, by rw [Nat.shiftLeft_eq]; ring⟩

theorem tri4_le_sq {t n : Nat} (h : t + 1 ≤ n) : tri4 t + 2 * n ≤ 2 * (n * n) := by
  have h1 : tri4 t ≤ tri4 (n - 1) := tri4_mono (by omega)
  have := tri4_pred_two n (by omega); omega

theorem tri4_pred {n : Nat} (hn : 1 ≤ n) : tri4 n = tri4 (n - 1) + 4 * n := by
  have := tri4_succ (n - 1)
  rwa [show n - 1 + 1 = n by omega] at this

theorem ringStart_band {n t : Nat} (h1 : n ≤ t + 1) (h2 : t < 3 * n) :
    ringStart n t = tri4 (n - 1) + (t + 1 - n) * (4 * n) := by
  unfold ringStart; rw [if_neg (by omega), if_pos h2]

theorem ringStart_north {n t : Nat} (ht : t < n) : ringStart n t = tri4 t := by
  by_cases h : t + 1 < n
  · unfold ringStart; rw [if_pos h]
  · rw [ringStart_band (by omega) (by omega), show t + 1 - n = 0 by omega, show t = n - 1 by omega]; omega

theorem ringStart_eq {n t : Nat} (h1 : n ≤ t) (h2 : t + 1 < 3 * n) :
    ringStart n t = tri4 n + 4 * ((t - n) * n) := by
  rw [ringStart_band (by omega) (by omega), tri4_pred (n := n) (by omega), show t + 1 - n = (t - n) + 1 by omega,
    Nat.add_mul, Nat.mul_left_comm]
  omega

theorem ringStart_south {n t : Nat} (h1 : 3 * n ≤ t + 1) :
    ringStart n t = 12 * (n * n) - tri4 (4 * n - 1 - t) := by
  by_cases h : t < 3 * n
  · have hsq := tri4_pred_two n (by omega)
    have hs := tri4_pred (n := n) (by omega)
    have e8 : 2 * n * (4 * n) = 8 * (n * n) := by ring
    rw [ringStart_band (by omega) h, show t + 1 - n = 2 * n by omega, show 4 * n - 1 - t = n by omega, e8]
    omega
  · unfold ringStart; rw [if_neg (by omega), if_neg h, Nat.mul_assoc]

theorem ringStart_zero (n : Nat) (hn : 1 ≤ n) : ringStart n 0 = 0 := by
  rw [ringStart_north hn, tri4_zero]

theorem ringStart_succ {n r : Nat} (hn : 1 ≤ n) (hr : r < 4 * n - 1) :
    ringStart n (r + 1) = ringStart n r + 4 * perFacet n r := by
  by_cases h1 : r + 1 < n
  · rw [ringStart_north h1, ringStart_north (by omega), perFacet_north (by omega), tri4_succ]
  · by_cases h2 : r + 1 < 3 * n
    · rw [ringStart_band (by omega) h2, ringStart_band (by omega) (by omega), perFacet_eq (by omega) (by omega),
        show r + 1 + 1 - n = (r + 1 - n) + 1 by omega, Nat.add_mul]
      omega
    · have hsq := tri4_pred_two n hn
      have hs := tri4_pred hn
      have hm : tri4 (4 * n - 1 - (r + 1) + 1) ≤ tri4 n := tri4_mono (by omega)
      rw [tri4_succ] at hm
      rw [ringStart_south (by omega), ringStart_south (by omega), perFacet_south (by omega) (by omega),
        show 4 * n - 1 - r = (4 * n - 1 - (r + 1)) + 1 by omega, tri4_succ]
      omega

theorem ringStart_last (n : Nat) (hn : 1 ≤ n) : ringStart n (4 * n - 1) = 12 * n * n := by
  unfold ringStart
  rw [if_neg (by omega), if_neg (by omega)]
  have : 4 * n - 1 - (4 * n - 1) = 0 := by omega
  rw [this, tri4_zero]; rfl

theorem ringStart_mono {n r r' : Nat} (hn : 1 ≤ n) (h : r < r') (hr' : r' ≤ 4 * n - 1) :
    ringStart n r + 4 * perFacet n r ≤ ringStart n r' := by
  induction r' with
  | zero => omega
  | succ k ih =>
    rw [ringStart_succ hn (by omega)]
    by_cases hk : r = k
    · subst hk; omega
    · have := ih (by omega) (by omega); omega

theorem ring_decompose {n : Nat} (hn : 1 ≤ n) (h : Nat) (hh : h < 12 * n * n) :
    ∃ r i, r < 4 * n - 1 ∧ i < 4 * perFacet n r ∧ h = ringStart n r + i := by
  have key : ∀ r, r ≤ 4 * n - 1 → h < ringStart n r →
      ∃ r i, r < 4 * n - 1 ∧ i < 4 * perFacet n r ∧ h = ringStart n r + i := by
    intro r
    induction r with
    | zero => intro _ h0; rw [ringStart_zero n hn] at h0; omega
    | succ k ih =>
      intro hk hlt
      rw [ringStart_succ hn (by omega)] at hlt
      by_cases hc : h < ringStart n k
      · exact ih (by omega) hc
      · exact ⟨k, h - ringStart n k, by omega, by omega, by omega⟩
  exact key (4 * n - 1) (by omega) (by rw [ringStart_last n hn]; exact hh)

theorem ringStart_add_lt_iff {n r i r' i' : Nat} (hn : 1 ≤ n) (hr : r < 4 * n - 1) (hr' : r' < 4 * n - 1)
    (hi : i < 4 * perFacet n r) (hi' : i' < 4 * perFacet n r') :
    ringStart n r + i < ringStart n r' + i' ↔ r < r' ∨ (r = r' ∧ i < i') := by
  rcases Nat.lt_trichotomy r r' with h | h | h
  · have := ringStart_mono hn h (by omega); omega
  · subst h; omega
  · have := ringStart_mono hn h (by omega); omega

theorem ring_decompose_unique {n r i r' i' : Nat} (hn : 1 ≤ n) (hr : r < 4 * n - 1) (hr' : r' < 4 * n - 1)
    (hi : i < 4 * perFacet n r) (hi' : i' < 4 * perFacet n r') (e : ringStart n r + i = ringStart n r' + i') :
    r = r' ∧ i = i' := by
  have h1 := ringStart_add_lt_iff hn hr hr' hi hi'
  have h2 := ringStart_add_lt_iff hn hr' hr hi' hi
  omega

theorem ringStart_add_lt {n r i : Nat} (hn : 1 ≤ n) (hr : r < 4 * n - 1) (hi : i < 4 * perFacet n r) :
    ringStart n r + i < 12 * n * n := by
  have h1 : ringStart n r + 4 * perFacet n r ≤ ringStart n (4 * n - 1) := ringStart_mono hn hr (by omega)
  rw [ringStart_last n hn] at h1; omega

theorem cxI_facet {n r q j : Nat} (hj : j < perFacet n r) :
    cxI n r (q * perFacet n r + j) = 2 * n * q + 2 * j + cxOff n r := by
  unfold cxI
  have hp : 0 < perFacet n r := by omega
  have e1 : (q * perFacet n r + j) / perFacet n r = q := by
    rw [Nat.mul_comm, Nat.mul_add_div hp, Nat.div_eq_of_lt hj]; rfl
  have e2 : (q * perFacet n r + j) % perFacet n r = j := by
    rw [Nat.mul_comm, Nat.mul_add_mod, Nat.mod_eq_of_lt hj]
  rw [e1, e2]

/-- twice the index, plus the gap `2(n − p)/n` left at each facet corner passed (no gap in the band, where `p = n`) -/
theorem cxI_eq {n r : Nat} (hle : perFacet n r ≤ n) (i : Nat) :
    cxI n r i = 2 * i + 2 * (n - perFacet n r) * (i / perFacet n r) + cxOff n r := by
  unfold cxI
  generalize perFacet n r = p at *
  obtain ⟨k, rfl⟩ := Nat.exists_eq_add_of_le hle
  have dm := Nat.div_add_mod i p
  rw [Nat.add_sub_cancel_left, Nat.mul_assoc, Nat.mul_assoc, Nat.add_mul]
  omega

theorem cxI_band {n r : Nat} (h1 : n ≤ r + 1) (h2 : r < 3 * n) (i : Nat) : cxI n r i = 2 * i + (r + n) % 2 := by
  have hp := perFacet_eq h1 h2
  rw [cxI_eq hp.le, hp, cxOff_eq h1 h2, Nat.sub_self, Nat.mul_zero, Nat.zero_mul, Nat.add_zero]

theorem facet_index_lt {p q j : Nat} (hq : q < 4) (hj : j < p) : q * p + j < 4 * p := by
  have : q * p ≤ 3 * p := Nat.mul_le_mul_right _ (by omega)
  omega

theorem cxI_lt {n r i : Nat} (hn : 1 ≤ n) (hr : r < 4 * n - 1) (hi : i < 4 * perFacet n r) : cxI n r i < 8 * n := by
  have hq : i / perFacet n r < 4 := (Nat.div_lt_iff_lt_mul (perFacet_pos hn hr)).mpr hi
  have := (cxOff_add_perFacet hn hr).1
  have hle := perFacet_le (n := n) (r := r) hn
  have := Nat.mul_le_mul_left (2 * (n - perFacet n r)) (Nat.le_of_lt_succ hq)
  rw [cxI_eq hle]
  omega

theorem cxI_strictMono {n r : Nat} (hn : 1 ≤ n) : StrictMono (cxI n r) := by
  intro i i' h
  have hle := perFacet_le (n := n) (r := r) hn
  have := Nat.mul_le_mul_left (2 * (n - perFacet n r)) (Nat.div_le_div_right (c := perFacet n r) h.le)
  rw [cxI_eq hle, cxI_eq hle]
  omega

/-- the RING order: cell numbers increase from north to south and, in a ring, from west to east -/
theorem layout_order {n r i r' i' : Nat} (hn : 1 ≤ n) (hr : r < 4 * n - 1) (hr' : r' < 4 * n - 1)
    (hi : i < 4 * perFacet n r) (hi' : i' < 4 * perFacet n r') :
    ringStart n r + i < ringStart n r' + i' ↔
      (cyI n r' < cyI n r ∨ (cyI n r = cyI n r' ∧ (cxI n r i : Int) < cxI n r' i')) := by
  have hy : cyI n r' < cyI n r ↔ r < r' := by unfold cyI; omega
  have he : cyI n r = cyI n r' ↔ r = r' := by unfold cyI; omega
  rw [ringStart_add_lt_iff hn hr hr' hi hi', hy, he]
  exact or_congr_right (and_congr_right fun e => by rw [← e, Int.ofNat_lt, (cxI_strictMono hn).lt_iff_lt])

/-- within a facet, consecutive centres of a ring are `2/n` apart -/
theorem cxI_step {n r q j : Nat} (hj : j + 1 < perFacet n r) :
    cxI n r (q * perFacet n r + (j + 1)) = cxI n r (q * perFacet n r + j) + 2 := by
  rw [cxI_facet hj, cxI_facet (by omega)]; omega

/-- from a facet to the next one the pattern of centres is translated by `2n/n = 2` -/
theorem cxI_facet_shift {n r q j : Nat} (hj : j < perFacet n r) :
    cxI n r ((q + 1) * perFacet n r + j) = cxI n r (q * perFacet n r + j) + 2 * n := by
  rw [cxI_facet hj, cxI_facet hj, Nat.mul_add]; omega

/-- consecutive equatorial rings (`n − 1 ≤ r`, `r + 1 ≤ 3n − 1`) are offset by half a step: one of them has a centre
    at `x = 0`, the other at `x = 1/n` -/
theorem cxOff_equatorial {n r : Nat} (h1 : n ≤ r + 1) (h2 : r + 1 < 3 * n) : cxOff n r + cxOff n (r + 1) = 1 := by
  rw [cxOff_eq (by omega) (by omega), cxOff_eq (by omega) h2]; omega

/-- the number of cells of ring `r`, the transition rings with the equatorial band (C11) -/
theorem ring_cell_count {n r : Nat} (hn : 1 ≤ n) (hr : r < 4 * n - 1) :
    ringStart n (r + 1) - ringStart n r = 4 * perFacet n r ∧
    (r + 1 < n → perFacet n r = r + 1) ∧ (n ≤ r + 1 → r < 3 * n → perFacet n r = n) ∧
    (3 * n ≤ r → perFacet n r = 4 * n - 1 - r) :=
  ⟨by rw [ringStart_succ hn hr]; omega, fun h => perFacet_north (by omega), perFacet_eq,
    fun h => perFacet_south (by omega) (by omega)⟩

end Hpx.RingReal
