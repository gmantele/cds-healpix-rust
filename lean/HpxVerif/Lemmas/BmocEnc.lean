import HpxVerif.Lemmas.BmocLists
import Mathlib.Tactic.Ring
import Mathlib.Tactic.Linarith

/-! Raw encoding: `Cell::new ∘ build_raw_value = id`, raw values fit in 64 bits, raw order = z-order. -/

namespace Hpx.Bmoc

theorem shl_eq_mul (h k : Nat) : h <<< (k <<< 1) = h * 4 ^ k := by
  rw [Nat.shiftLeft_eq, Nat.shiftLeft_eq, Nat.pow_one, Nat.pow_mul']

theorem tzAux_odd_mul (n j m : Nat) (hm : m % 2 = 1) (hj : j < n) : tzAux n (m * 2 ^ j) = j := by
  induction j generalizing n with
  | zero =>
    cases n with
    | zero => omega
    | succ n => simp [tzAux, hm]
  | succ j ih =>
    cases n with
    | zero => omega
    | succ n =>
      have h1 : m * 2 ^ (j + 1) = 2 * (m * 2 ^ j) := by rw [Nat.pow_succ]; ac_rfl
      have h2 : (m * 2 ^ (j + 1)) % 2 = 0 := by omega
      have h3 : (m * 2 ^ (j + 1)) / 2 = m * 2 ^ j := by omega
      simp only [tzAux, h2, h3]
      rw [ih n (by omega)]
      simp; omega

theorem tz64_odd_mul (j m : Nat) (hm : m % 2 = 1) (hlt : m * 2 ^ j < 2 ^ 64) : tz64 (m * 2 ^ j) = j := by
  have hpos : 0 < m * 2 ^ j := Nat.mul_pos (by omega) (Nat.two_pow_pos j)
  have hj : j < 64 := by
    apply Nat.lt_of_not_le; intro hge
    have : 2 ^ 64 ≤ 2 ^ j := Nat.pow_le_pow_right (by decide) hge
    have : 2 ^ j ≤ m * 2 ^ j := Nat.le_mul_of_pos_left _ (by omega)
    omega
  unfold tz64
  rw [Nat.mod_eq_of_lt hlt]
  have : ¬ (m * 2 ^ j = 0) := by omega
  simp only [this, if_false]
  exact tzAux_odd_mul 64 j m hm hj

theorem flag_lt (f : Bool) (k : Nat) : (if f then 1 else 0) < 2 ^ (1 + k) := by
  have : 2 ^ 1 ≤ 2 ^ (1 + k) := Nat.pow_le_pow_right (by decide) (by omega)
  split <;> omega

theorem mul_or_flag (x k : Nat) (f : Bool) :
    x * 2 ^ (1 + k) ||| (if f then 1 else 0) = x * 2 ^ (1 + k) + (if f then 1 else 0) := by
  have := Nat.two_pow_add_eq_or_of_lt (flag_lt f k) x
  rw [Nat.mul_comm] at this
  exact this.symm

theorem buildRaw_eq (d h : Nat) (f : Bool) (dm : Nat) :
    buildRaw d h f dm = (2 * h + 1) * 2 ^ (1 + 2 * (dm - d)) + (if f then 1 else 0) := by
  unfold buildRaw
  have e1 : (h <<< 1) ||| 1 = 2 * h + 1 := by
    rw [Nat.shiftLeft_eq, Nat.pow_one]
    have := Nat.two_pow_add_eq_or_of_lt (i := 1) (b := 1) (by decide) h
    simp at this
    rw [Nat.mul_comm h 2, ← this]
  have e2 : (dm - d) <<< 1 = 2 * (dm - d) := by rw [Nat.shiftLeft_eq, Nat.pow_one]; omega
  rw [e1, e2, Nat.shiftLeft_eq]
  exact mul_or_flag _ _ f

theorem tz_buildRaw (d h : Nat) (f : Bool) (dm : Nat)
    (hfit : (2 * h + 1) * 2 ^ (1 + 2 * (dm - d)) < 2 ^ 64) :
    tz64 (buildRaw d h f dm >>> 1) >>> 1 = dm - d := by
  have hk : 1 + 2 * (dm - d) = (2 * (dm - d)) + 1 := by omega
  have hraw := buildRaw_eq d h f dm
  have hfb : (if f then 1 else 0) < 2 := by split <;> omega
  have h1 : buildRaw d h f dm >>> 1 = (2 * h + 1) * 2 ^ (2 * (dm - d)) := by
    rw [hraw, Nat.shiftRight_eq_div_pow, Nat.pow_one, hk, Nat.pow_succ]
    have : (2 * h + 1) * (2 ^ (2 * (dm - d)) * 2) = 2 * ((2 * h + 1) * 2 ^ (2 * (dm - d))) := by ac_rfl
    rw [this]; omega
  have hfit2 : (2 * h + 1) * 2 ^ (2 * (dm - d)) < 2 ^ 64 := by
    have : (2 * h + 1) * 2 ^ (2 * (dm - d)) ≤ (2 * h + 1) * 2 ^ (1 + 2 * (dm - d)) :=
      Nat.mul_le_mul_left _ (Nat.pow_le_pow_right (by decide) (by omega))
    omega
  rw [h1, tz64_odd_mul _ _ (by omega) hfit2, Nat.shiftRight_eq_div_pow]; omega

theorem buildRaw_and_one (d h : Nat) (f : Bool) (dm : Nat) : buildRaw d h f dm &&& 1 = if f then 1 else 0 := by
  have : (2 * h + 1) * 2 ^ (1 + 2 * (dm - d)) = 2 * ((2 * h + 1) * 2 ^ (2 * (dm - d))) := by
    rw [Nat.pow_add, Nat.pow_one]; ac_rfl
  rw [buildRaw_eq, Nat.and_one_is_mod, this]
  split <;> omega

theorem buildRaw_shr_hash (d h : Nat) (f : Bool) (dm : Nat) : buildRaw d h f dm >>> (2 + ((dm - d) <<< 1)) = h := by
  have e : 2 ^ (2 + 2 * (dm - d)) = 2 ^ (1 + 2 * (dm - d)) * 2 := by rw [← Nat.pow_succ]; congr 1; omega
  have hp : 0 < 2 ^ (1 + 2 * (dm - d)) := Nat.two_pow_pos _
  rw [buildRaw_eq, shl1, Nat.shiftRight_eq_div_pow, e, ← Nat.div_div_eq_div_mul, Nat.mul_comm, Nat.mul_add_div hp,
    Nat.div_eq_of_lt (flag_lt f _)]
  omega

theorem decode_buildRaw (d h : Nat) (f : Bool) (dm : Nat) (hd : d ≤ dm)
    (hfit : (2 * h + 1) * 2 ^ (1 + 2 * (dm - d)) < 2 ^ 64) :
    decode (buildRaw d h f dm) dm = { depth := d, hash := h, full := f } := by
  unfold decode
  simp only [tz_buildRaw d h f dm hfit, buildRaw_shr_hash, buildRaw_and_one, show dm - (dm - d) = d by omega]
  cases f <;> rfl

theorem raw_fits {d h dm : Nat} (hd : d ≤ dm) (hdm : dm ≤ 29) (hh : h < 12 * 4 ^ d) :
    (2 * h + 1) * 2 ^ (1 + 2 * (dm - d)) < 2 ^ 64 := by
  have h4 : (4 : Nat) ^ d = 2 ^ (2 * d) := by rw [Nat.pow_mul]
  have e : 2 ^ (2 * d) * 2 ^ (1 + 2 * (dm - d)) = 2 ^ (1 + 2 * dm) := by rw [← Nat.pow_add]; congr 1; omega
  have hle : 2 ^ (1 + 2 * dm) ≤ 2 ^ 59 := Nat.pow_le_pow_right (by decide) (by omega)
  have h1 : 2 * h + 1 < 24 * 2 ^ (2 * d) := by omega
  calc (2 * h + 1) * 2 ^ (1 + 2 * (dm - d)) < (24 * 2 ^ (2 * d)) * 2 ^ (1 + 2 * (dm - d)) :=
        Nat.mul_lt_mul_of_pos_right h1 (Nat.two_pow_pos _)
    _ = 24 * 2 ^ (1 + 2 * dm) := by rw [Nat.mul_assoc, e]
    _ ≤ 24 * 2 ^ 59 := Nat.mul_le_mul_left _ hle
    _ < 2 ^ 64 := by decide

theorem decode_encode {dm : Nat} {c : Cell} (hd : c.depth ≤ dm) (hdm : dm ≤ 29) (hh : c.hash < 12 * 4 ^ c.depth) :
    decode (encode dm c) dm = c := by
  unfold encode
  rw [decode_buildRaw c.depth c.hash c.full dm hd (raw_fits hd hdm hh)]

theorem encode_lt {dm : Nat} {c1 c2 : Cell} (hlt : hi dm c1 ≤ lo dm c2) : encode dm c1 < encode dm c2 := by
  unfold encode
  rw [buildRaw_eq, buildRaw_eq]
  unfold hi lo at hlt
  have e1 : (2:Nat) ^ (1 + 2 * (dm - c1.depth)) = 2 * 4 ^ (dm - c1.depth) := by
    rw [Nat.pow_add, Nat.pow_mul]
  have e2 : (2:Nat) ^ (1 + 2 * (dm - c2.depth)) = 2 * 4 ^ (dm - c2.depth) := by
    rw [Nat.pow_add, Nat.pow_mul]
  rw [e1, e2]
  have p1 : 0 < 4 ^ (dm - c1.depth) := Nat.pow_pos (by decide)
  have p2 : 0 < 4 ^ (dm - c2.depth) := Nat.pow_pos (by decide)
  generalize 4 ^ (dm - c1.depth) = w1 at *
  generalize 4 ^ (dm - c2.depth) = w2 at *
  have f1 : (if c1.full then 1 else 0) ≤ 1 := by split <;> omega
  have a1 : (2 * c1.hash + 1) * (2 * w1) = 4 * (c1.hash * w1) + 2 * w1 := by ring
  have a2 : (2 * c2.hash + 1) * (2 * w2) = 4 * (c2.hash * w2) + 2 * w2 := by ring
  have a3 : (c1.hash + 1) * w1 = c1.hash * w1 + w1 := by ring
  rw [a1, a2]
  rw [a3] at hlt
  omega

end Hpx.Bmoc
