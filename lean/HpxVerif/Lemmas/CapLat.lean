/-
The latitude `capLat y` that `deproj_collignon` returns for a cap ordinate `1 ≤ y ≤ 2`, and `unproj` on a point of a north
cap in its terms (`unproj_cap_pos`): what the polar caps of C16 and the ring of the transition latitude use of the inverse
projection.
-/
import HpxVerif.Lemmas.ProjReal
namespace Hpx.Proj
open Real

/-- latitude returned by `deproj_collignon` for the ordinate `y` -/
noncomputable def capLat (y : ℝ) : ℝ := 2 * Real.arccos ((2 - y) * (1 / Real.sqrt 6)) - π / 2

theorem capLat_le (y : ℝ) (hy2 : y ≤ 2) : capLat y ≤ π / 2 := by
  have := Real.arccos_le_pi_div_two.mpr (mul_nonneg (sub_nonneg.mpr hy2) (one_div_nonneg.mpr (Real.sqrt_nonneg 6)))
  unfold capLat; linarith

theorem neg_le_capLat (y : ℝ) : -(π / 2) ≤ capLat y := by
  have := Real.arccos_nonneg ((2 - y) * (1 / Real.sqrt 6))
  unfold capLat; linarith [pi_pos]

theorem sig_capLat (y : ℝ) (hy1 : 1 ≤ y) (hy2 : y ≤ 2) : sig (capLat y) = 2 - y := by
  have h6 : 0 < Real.sqrt 6 := Real.sqrt_pos.mpr (by norm_num)
  have h61 : 1 < Real.sqrt 6 := by
    rw [show (1 : ℝ) = Real.sqrt 1 by simp]; exact Real.sqrt_lt_sqrt (by norm_num) (by norm_num)
  have hq0 : 0 ≤ (2 - y) * (1 / Real.sqrt 6) := mul_nonneg (by linarith) (by positivity)
  have hq1 : (2 - y) * (1 / Real.sqrt 6) ≤ 1 := by
    rw [mul_one_div, div_le_one h6]; linarith
  unfold sig capLat
  rw [show 1 / 2 * (2 * Real.arccos ((2 - y) * (1 / Real.sqrt 6)) - π / 2) + π / 4 =
    Real.arccos ((2 - y) * (1 / Real.sqrt 6)) by ring, Real.cos_arccos (by linarith) hq1]
  field_simp

theorem sin_capLat' (y : ℝ) (hy1 : 1 ≤ y) (hy2 : y ≤ 2) : Real.sin (capLat y) = 1 - (2 - y) ^ 2 / 3 := by
  rw [sin_of_sig, sig_capLat y hy1 hy2]

theorem capLat_props (y : ℝ) (hy1 : 1 < y) (hy2 : y ≤ 2) :
    ¬ capLat y ≤ Real.arcsin (2 / 3) ∧ 0 < capLat y ∧ capLat y ≤ π / 2 ∧ sig (capLat y) = 2 - y := by
  have hsig := sig_capLat y hy1.le hy2
  have hl1 := capLat_le y hy2
  have hreg : ¬ capLat y ≤ Real.arcsin (2 / 3) := (sig_lt_one_iff _ (neg_le_capLat y) hl1).mp (by rw [hsig]; linarith)
  exact ⟨hreg, lt_of_le_of_lt asin23_nonneg (not_le.mp hreg), hl1, hsig⟩

theorem unproj_cap_pos (k : ℕ) (hk : k < 4) (x y : ℝ) (h1 : (2 * k : ℝ) ≤ x) (h2 : x < 2 * k + 2) (hy1 : 1 < y) (hy2 : y ≤ 2)
    (hpole : (Num.epsPole : ℝ) < 2 - y) :
    unproj (α := ℝ) x y = some ((clamp1 ((x - (2 * k + 1)) / (2 - y)) + (2 * k + 1)) * (π / 4), capLat y) := by
  rw [unproj_pos x y k (by omega) h1 h2 (by linarith) hy2, if_neg (not_le.mpr hy1), if_pos hpole,
    Nat.mod_eq_of_lt (by omega)]
  congr 3; push_cast; ring

end Hpx.Proj
