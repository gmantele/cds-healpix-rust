/-
C03 over the reals, the accessors that return other points of a cell than its centre and vertices, in the plane description of
`CellReal.lean`: `sph_coo` un-projects the point of offsets `(dx, dy)` in the diamond; `path_along_cell_side` and
`path_along_cell_edge` return points of its border, from vertex to vertex; `grid` returns points of the closed diamond and its
corners are the vertices, up to the longitude `2π` at the west corner of the cells of base cell 4 centred on the meridian 0
(`grid_corner_W_base4`).
-/
import HpxVerif.Lemmas.CellReal

namespace Hpx.CellReal
open Hpx Hpx.Hash Hpx.Proj

/-- the plane point of the position `(dx, dy)` (offsets along the south-to-east and south-to-west axes, in cell units) -/
noncomputable def cooPt (d b i j : ℕ) (dx dy : ℝ) : ℝ × ℝ :=
  (norm8 (cellCx d b i j + (dx - dy) / 2 ^ d), cellCy d b i j + (dx + dy - 1) / 2 ^ d)

theorem abs_diamond_unit (x y : ℝ) (hx0 : 0 ≤ x) (hx1 : x ≤ 1) (hy0 : 0 ≤ y) (hy1 : y ≤ 1) :
    |x - y| + |x + y - 1| ≤ 1 :=
  abs_add_abs_le_iff.mpr ⟨⟨by linarith only [hx0], by linarith only [hx1]⟩, by linarith only [hy0], by linarith only [hy1]⟩

theorem inDiamond_of (cx cy N x y dx dy : ℝ) (hN : 0 < N) (hx : cx + (dx - dy) / N = x)
    (hy : cy + (dx + dy - 1) / N = y) (dx0 : 0 ≤ dx) (dx1 : dx ≤ 1) (dy0 : 0 ≤ dy) (dy1 : dy ≤ 1) :
    InDiamond cx cy (1 / N) x y := by
  subst hx hy
  unfold InDiamond
  rw [add_sub_cancel_left, add_sub_cancel_left, abs_div, abs_div, abs_of_pos hN, ← add_div,
    div_le_div_iff_of_pos_right hN]
  exact abs_diamond_unit dx dy dx0 dx1 dy0 dy1

theorem unproj_of_inDiamond {cx cy o x y : ℝ} (x' : ℝ) (h : InDiamond cx cy o x y) (h1 : -2 + o ≤ cy) (h2 : cy ≤ 2 - o) :
    unproj x' y = some (unprojT x' y) := by
  obtain ⟨y1, y2⟩ := abs_le.mp (show |y - cy| ≤ o by unfold InDiamond at h; linarith only [h, abs_nonneg (x - cx)])
  exact unproj_eq _ _ (by linarith only [y1, h1]) (by linarith only [y2, h2])

theorem coo_offsets (d : ℕ) (dx dy : ℝ) (hx0 : 0 ≤ dx) (hx1 : dx < 1) (hy0 : 0 ≤ dy) (hy1 : dy < 1) :
    (-(1 / 2 ^ d) < (dx - dy) / 2 ^ d ∧ (dx - dy) / 2 ^ d < 1 / 2 ^ d) ∧
    (-(1 / 2 ^ d) ≤ (dx + dy - 1) / 2 ^ d ∧ (dx + dy - 1) / 2 ^ d ≤ 1 / 2 ^ d) := by
  have hp := pow_pos' d
  rw [← neg_div, div_lt_div_iff_of_pos_right hp, div_lt_div_iff_of_pos_right hp, div_le_div_iff_of_pos_right hp,
    div_le_div_iff_of_pos_right hp]
  exact ⟨⟨by linarith only [hx0, hy1], by linarith only [hx1, hy0]⟩, by linarith only [hx0, hy0], by linarith only [hx1, hy1]⟩

theorem cooPt_range (d b i j : ℕ) (dx dy : ℝ) (hb : b < 12) (hi : i < 2 ^ d) (hj : j < 2 ^ d)
    (hx0 : 0 ≤ dx) (hx1 : dx < 1) (hy0 : 0 ≤ dy) (hy1 : dy < 1) :
    norm8 (norm8 (cellCx d b i j) + (dx - dy) / 2 ^ d) = (cooPt d b i j dx dy).1 ∧
    0 ≤ (cooPt d b i j dx dy).1 ∧ (cooPt d b i j dx dy).1 < 8 ∧
    -2 ≤ (cooPt d b i j dx dy).2 ∧ (cooPt d b i j dx dy).2 ≤ 2 := by
  obtain ⟨c1, c2, _, c4, c5⟩ := center_ranges d b i j hb hi hj
  obtain ⟨⟨hl1, hl2⟩, hh1, hh2⟩ := coo_offsets d dx dy hx0 hx1 hy0 hy1
  have hr := norm8_range (cellCx d b i j + (dx - dy) / 2 ^ d) (by linarith only [c1, hl1]) (by linarith only [c2, hl2])
  refine ⟨norm8_center_add d b i j hb hi hj _ hl1.le hl2, hr.1, hr.2, ?_, ?_⟩
  · show -2 ≤ cellCy d b i j + (dx + dy - 1) / 2 ^ d; linarith only [c4, hh1]
  · show cellCy d b i j + (dx + dy - 1) / 2 ^ d ≤ 2; linarith only [c5, hh2]

/-- C03: for `dx, dy ∈ [0, 1)`, `sph_coo` un-projects the point of offsets `(dx, dy)` of the cell, which lies in its closed
    diamond (before the reduction modulo 8) -/
theorem sph_coo_plane (cfg : Cfg) (d hash b i j : ℕ) (dx dy : ℝ) (hh : hash < Layer.nHash d)
    (hdec : Layer.decodeHash cfg d hash = some ⟨b, i, j⟩) (hb : b < 12) (hi : i < 2 ^ d) (hj : j < 2 ^ d)
    (hx0 : 0 ≤ dx) (hx1 : dx < 1) (hy0 : 0 ≤ dy) (hy1 : dy < 1) :
    sphCoo (α := ℝ) cfg d hash dx dy = some (unprojT (cooPt d b i j dx dy).1 (cooPt d b i j dx dy).2) ∧
    0 ≤ (cooPt d b i j dx dy).1 ∧ (cooPt d b i j dx dy).1 < 8 ∧
    InDiamond (cellCx d b i j) (cellCy d b i j) (1 / 2 ^ d)
      (cellCx d b i j + (dx - dy) / 2 ^ d) (cellCy d b i j + (dx + dy - 1) / 2 ^ d) := by
  obtain ⟨hnorm, r0, r8, y1, y2⟩ := cooPt_range d b i j dx dy hb hi hj hx0 hx1 hy0 hy1
  refine ⟨?_, r0, r8, inDiamond_of _ _ _ _ _ dx dy (pow_pos' d) rfl rfl hx0 hx1.le hy0 hy1.le⟩
  unfold sphCoo
  have g1 : (Num.le (Num.zero : ℝ) dx && Num.lt dx (Num.one : ℝ)) = true := by
    rw [r_le, r_lt, r_zero, r_one]; simp [hx0, hx1]
  have g2 : (Num.le (Num.zero : ℝ) dy && Num.lt dy (Num.one : ℝ)) = true := by
    rw [r_le, r_lt, r_zero, r_one]; simp [hy0, hy1]
  simp only [g1, g2, Bool.not_true, Bool.false_eq_true, if_false]
  rw [center_eq cfg d hash b i j hh hdec hb]
  simp only [Option.bind_some, r_ensures, r_one, r_ofNat, nside_real]
  rw [mul_one_div, mul_one_div, hnorm]
  exact unproj_eq _ _ y1 y2

theorem sph_coo_half (cfg : Cfg) (d hash b i j : ℕ) (hh : hash < Layer.nHash d)
    (hdec : Layer.decodeHash cfg d hash = some ⟨b, i, j⟩) (hb : b < 12) (hi : i < 2 ^ d) (hj : j < 2 ^ d) :
    sphCoo (α := ℝ) cfg d hash (1 / 2) (1 / 2) = center (α := ℝ) cfg d hash := by
  rw [(sph_coo_plane cfg d hash b i j (1 / 2) (1 / 2) hh hdec hb hi hj (by norm_num) (by norm_num) (by norm_num)
    (by norm_num)).1, center_plane cfg d hash b i j hh hdec hb hi hj]
  unfold cooPt
  norm_num

/-- point number `t` of the path from vertex `f` to vertex `g` in `nseg` steps, abscissa not reduced -/
noncomputable def sidePt (c : ℝ × ℝ) (o : ℝ) (f g nseg t : ℕ) : ℝ × ℝ :=
  ((rawVtx c o f).1 + (t : ℝ) / nseg * ((rawVtx c o g).1 - (rawVtx c o f).1),
   (rawVtx c o f).2 + (t : ℝ) / nseg * ((rawVtx c o g).2 - (rawVtx c o f).2))

theorem offWe_abs (k : ℕ) (o : ℝ) (ho : 0 ≤ o) : -o ≤ offWe k o ∧ offWe k o ≤ o := by
  unfold offWe; split_ifs <;> constructor <;> linarith
theorem offSn_abs (k : ℕ) (o : ℝ) (ho : 0 ≤ o) : -o ≤ offSn k o ∧ offSn k o ≤ o := by
  unfold offSn; split_ifs <;> constructor <;> linarith

theorem lam_range (nseg t : ℕ) (ht : t ≤ nseg) : 0 ≤ (t : ℝ) / nseg ∧ (t : ℝ) / nseg ≤ 1 := by
  have h0 : (0 : ℝ) ≤ t := Nat.cast_nonneg t
  have h1 : (t : ℝ) ≤ nseg := by exact_mod_cast ht
  exact ⟨div_nonneg h0 (Nat.cast_nonneg _), div_le_one_of_le₀ h1 (Nat.cast_nonneg _)⟩

theorem pathSide_plane (d : ℕ) (c : ℝ × ℝ) (f g : ℕ) (incl : Bool) (nseg : ℕ) :
    pathSideInternal (α := ℝ) d c f g incl nseg =
      (List.range (if incl then nseg + 1 else nseg)).mapM fun t =>
        unproj (norm8 (sidePt c (1 / 2 ^ d) f g nseg t).1) (sidePt c (1 / 2 ^ d) f g nseg t).2 := by
  unfold pathSideInternal
  simp only [r_one, r_ofNat, nside_real, r_ensures, r_offsetWe, r_offsetSn]
  congr 1
  funext t
  unfold sidePt rawVtx
  congr 1 <;> ring_nf

theorem sidePt_zero (c : ℝ × ℝ) (o : ℝ) (f g nseg : ℕ) : sidePt c o f g nseg 0 = rawVtx c o f := by
  unfold sidePt; simp

theorem sidePt_last (c : ℝ × ℝ) (o : ℝ) (f g nseg : ℕ) (h : 0 < nseg) : sidePt c o f g nseg nseg = rawVtx c o g := by
  have : (nseg : ℝ) ≠ 0 := by exact_mod_cast (Nat.pos_iff_ne_zero.mp h)
  unfold sidePt; rw [div_self this]; ext <;> simp

theorem sidePt_on_segment (c : ℝ × ℝ) (o : ℝ) (f g nseg t : ℕ) (ht : t ≤ nseg) :
    ∃ lam : ℝ, 0 ≤ lam ∧ lam ≤ 1 ∧
      sidePt c o f g nseg t = ((1 - lam) * (rawVtx c o f).1 + lam * (rawVtx c o g).1,
                               (1 - lam) * (rawVtx c o f).2 + lam * (rawVtx c o g).2) := by
  obtain ⟨h0, h1⟩ := lam_range nseg t ht
  refine ⟨(t : ℝ) / nseg, h0, h1, ?_⟩
  unfold sidePt; ext <;> simp only <;> ring

theorem sidePt_rel (c : ℝ × ℝ) (o : ℝ) (f g nseg t : ℕ) :
    (sidePt c o f g nseg t).1 - c.1 = (1 - (t : ℝ) / nseg) * offWe f o + (t : ℝ) / nseg * offWe g o ∧
    (sidePt c o f g nseg t).2 - c.2 = (1 - (t : ℝ) / nseg) * offSn f o + (t : ℝ) / nseg * offSn g o := by
  unfold sidePt rawVtx; constructor <;> simp only <;> ring

theorem off_l1 (k : ℕ) (o : ℝ) (ho : 0 ≤ o) : |offWe k o| + |offSn k o| ≤ o := by
  unfold offWe offSn
  split_ifs <;> simp [abs_of_nonneg ho] <;> omega

theorem sidePt_in_diamond (c : ℝ × ℝ) (o : ℝ) (ho : 0 ≤ o) (f g nseg t : ℕ) (ht : t ≤ nseg) :
    InDiamond c.1 c.2 o (sidePt c o f g nseg t).1 (sidePt c o f g nseg t).2 := by
  obtain ⟨h0, h1⟩ := lam_range nseg t ht
  obtain ⟨e1, e2⟩ := sidePt_rel c o f g nseg t
  unfold InDiamond
  rw [e1, e2]
  set lam := (t : ℝ) / nseg
  have hf := off_l1 f o ho
  have hg := off_l1 g o ho
  have a1 := abs_add_le ((1 - lam) * offWe f o) (lam * offWe g o)
  have a2 := abs_add_le ((1 - lam) * offSn f o) (lam * offSn g o)
  rw [abs_mul, abs_mul, abs_of_nonneg (sub_nonneg.mpr h1), abs_of_nonneg h0] at a1 a2
  linarith only [a1, a2, mul_le_mul_of_nonneg_left hf (sub_nonneg.mpr h1), mul_le_mul_of_nonneg_left hg h0]

theorem off_axis (k : ℕ) (o : ℝ) (ho : 0 ≤ o) (hk : k < 4) :
    (k % 2 = 0 → offWe k o = 0 ∧ |offSn k o| = o) ∧ (k % 2 = 1 → offSn k o = 0 ∧ |offWe k o| = o) := by
  interval_cases k <;> simp [offWe, offSn, abs_of_nonneg ho]

/-- `hadj`: the two directions are adjacent cardinal points -/
theorem sidePt_on_border (c : ℝ × ℝ) (o : ℝ) (ho : 0 ≤ o) (f g nseg t : ℕ) (ht : t ≤ nseg) (hf : f < 4) (hg : g < 4)
    (hadj : (f + g) % 2 = 1) : OnDiamond c.1 c.2 o (sidePt c o f g nseg t).1 (sidePt c o f g nseg t).2 := by
  obtain ⟨h0, h1⟩ := lam_range nseg t ht
  obtain ⟨e1, e2⟩ := sidePt_rel c o f g nseg t
  unfold OnDiamond
  rw [e1, e2]
  set lam := (t : ℝ) / nseg
  have h1' : 0 ≤ 1 - lam := sub_nonneg.mpr h1
  -- adjacent directions lie on different axes: each coordinate of the point comes from one end only
  rcases Nat.mod_two_eq_zero_or_one f with hp | hp
  · obtain ⟨fw, fs⟩ := (off_axis f o ho hf).1 hp
    obtain ⟨gs, gw⟩ := (off_axis g o ho hg).2 (by omega)
    rw [fw, gs, mul_zero, mul_zero, zero_add, add_zero, abs_mul, abs_mul, fs, gw, abs_of_nonneg h0, abs_of_nonneg h1']
    ring
  · obtain ⟨fs, fw⟩ := (off_axis f o ho hf).2 hp
    obtain ⟨gw, gs⟩ := (off_axis g o ho hg).1 (by omega)
    rw [fs, gw, mul_zero, mul_zero, zero_add, add_zero, abs_mul, abs_mul, fw, gs, abs_of_nonneg h0, abs_of_nonneg h1']
    ring

noncomputable def sideList (d : ℕ) (c : ℝ × ℝ) (f g npts nseg : ℕ) : List (ℝ × ℝ) :=
  (List.range npts).map fun t =>
    unprojT (norm8 (sidePt c (1 / 2 ^ d) f g nseg t).1) (sidePt c (1 / 2 ^ d) f g nseg t).2

theorem pathSide_some (d : ℕ) (c : ℝ × ℝ) (f g : ℕ) (incl : Bool) (nseg : ℕ)
    (hc1 : -2 + 1 / 2 ^ d ≤ c.2) (hc2 : c.2 ≤ 2 - 1 / 2 ^ d) :
    pathSideInternal (α := ℝ) d c f g incl nseg = some (sideList d c f g (if incl then nseg + 1 else nseg) nseg) := by
  have ho : 0 < 1 / (2 : ℝ) ^ d := by positivity
  rw [pathSide_plane]
  apply mapM_some
  intro t ht
  have ht' : t ≤ nseg := by
    have := List.mem_range.mp ht
    cases incl <;> simp at this <;> omega
  exact unproj_of_inDiamond _ (sidePt_in_diamond c (1 / 2 ^ d) ho.le f g nseg t ht') hc1 hc2

/-- `path_along_cell_side` for a valid cell: no point fails; what the points are is said by the lemmas on `sidePt` -/
theorem path_side_plane (cfg : Cfg) (d hash b i j f g : ℕ) (incl : Bool) (nseg : ℕ) (hh : hash < Layer.nHash d)
    (hdec : Layer.decodeHash cfg d hash = some ⟨b, i, j⟩) (hb : b < 12) (hi : i < 2 ^ d) (hj : j < 2 ^ d) :
    pathAlongCellSide (α := ℝ) cfg d hash f g incl nseg =
      some (sideList d (norm8 (cellCx d b i j), cellCy d b i j) f g (if incl then nseg + 1 else nseg) nseg) := by
  obtain ⟨c1, c2, c3, c4, c5⟩ := center_ranges d b i j hb hi hj
  unfold pathAlongCellSide
  rw [center_eq cfg d hash b i j hh hdec hb, Option.bind_some]
  exact pathSide_some d _ f g incl nseg c4 c5

/-- C03: the end points of a side path are the vertices returned by `vertex` (same plane points given to `unproj`) -/
theorem path_side_endpoints (cfg : Cfg) (d hash b i j f g : ℕ) (nseg : ℕ) (hh : hash < Layer.nHash d)
    (hdec : Layer.decodeHash cfg d hash = some ⟨b, i, j⟩) (hb : b < 12) (hi : i < 2 ^ d) (hj : j < 2 ^ d)
    (hf : f < 4) (hg : g < 4) (hn : 0 < nseg) :
    ∃ l, pathAlongCellSide (α := ℝ) cfg d hash f g true nseg = some l ∧ l.length = nseg + 1 ∧
      l[0]? = vertex (α := ℝ) cfg d hash f ∧ l[nseg]? = vertex (α := ℝ) cfg d hash g := by
  refine ⟨_, path_side_plane cfg d hash b i j f g true nseg hh hdec hb hi hj, ?_, ?_, ?_⟩
  · simp [sideList]
  · rw [vertex_plane cfg d hash b i j f hh hdec hb hi hj hf, ← rawVtx_norm d b i j f hb hi hj hf]
    simp [sideList, sidePt_zero]
  · rw [vertex_plane cfg d hash b i j g hh hdec hb hi hj hg, ← rawVtx_norm d b i j g hb hi hj hg]
    simp [sideList, sidePt_last _ _ _ _ _ hn]

theorem path_edge_plane (cfg : Cfg) (d hash b i j start : ℕ) (cw : Bool) (nseg : ℕ) (hh : hash < Layer.nHash d)
    (hdec : Layer.decodeHash cfg d hash = some ⟨b, i, j⟩) (hb : b < 12) (hi : i < 2 ^ d) (hj : j < 2 ^ d) :
    let nx := if cw then nextClockwise else nextCounterClockwise
    let c : ℝ × ℝ := (norm8 (cellCx d b i j), cellCy d b i j)
    pathAlongCellEdge (α := ℝ) cfg d hash start cw nseg =
      some (sideList d c start (nx start) nseg nseg ++ sideList d c (nx start) (nx (nx start)) nseg nseg ++
            sideList d c (nx (nx start)) (nx (nx (nx start))) nseg nseg ++
            sideList d c (nx (nx (nx start))) start nseg nseg) := by
  obtain ⟨c1, c2, c3, c4, c5⟩ := center_ranges d b i j hb hi hj
  have hs := fun f g => pathSide_some d (norm8 (cellCx d b i j), cellCy d b i j) f g false nseg c4 c5
  simp only [Bool.false_eq_true, if_false] at hs
  intro nx c
  unfold pathAlongCellEdge
  rw [center_eq cfg d hash b i j hh hdec hb, Option.bind_some]
  simp only [hs]
  rfl

theorem sideList_length (d : ℕ) (c : ℝ × ℝ) (f g n nseg : ℕ) : (sideList d c f g n nseg).length = n := by
  simp [sideList]

theorem sideList_head (d : ℕ) (c : ℝ × ℝ) (f g n nseg : ℕ) (hn : 0 < n) :
    (sideList d c f g n nseg)[0]? = some (unprojT (norm8 (rawVtx c (1 / 2 ^ d) f).1) (rawVtx c (1 / 2 ^ d) f).2) := by
  simp [sideList, sidePt_zero, hn]

theorem next_lt (cw : Bool) (k : ℕ) : (if cw then nextClockwise else nextCounterClockwise) k < 4 := by
  cases cw
  · simp only [Bool.false_eq_true, if_false]; unfold nextCounterClockwise; split <;> decide
  · simp only [if_true]; unfold nextClockwise; split <;> decide

/-- C03: `path_along_cell_edge` passes through the four vertices returned by `vertex`, in the order of the cycle -/
theorem path_edge_vertices (cfg : Cfg) (d hash b i j start : ℕ) (cw : Bool) (nseg : ℕ) (hh : hash < Layer.nHash d)
    (hdec : Layer.decodeHash cfg d hash = some ⟨b, i, j⟩) (hb : b < 12) (hi : i < 2 ^ d) (hj : j < 2 ^ d)
    (hs : start < 4) (hn : 0 < nseg) :
    let nx := if cw then nextClockwise else nextCounterClockwise
    ∃ l, pathAlongCellEdge (α := ℝ) cfg d hash start cw nseg = some l ∧ l.length = 4 * nseg ∧
      l[0]? = vertex (α := ℝ) cfg d hash start ∧ l[nseg]? = vertex (α := ℝ) cfg d hash (nx start) ∧
      l[2 * nseg]? = vertex (α := ℝ) cfg d hash (nx (nx start)) ∧
      l[3 * nseg]? = vertex (α := ℝ) cfg d hash (nx (nx (nx start))) := by
  intro nx
  have hv := fun k hk => vertex_plane cfg d hash b i j k hh hdec hb hi hj hk
  have hr := fun k hk => rawVtx_norm d b i j k hb hi hj hk
  have h1 : nx start < 4 := next_lt cw _
  have h2 : nx (nx start) < 4 := next_lt cw _
  have h3 : nx (nx (nx start)) < 4 := next_lt cw _
  refine ⟨_, path_edge_plane cfg d hash b i j start cw nseg hh hdec hb hi hj, ?_, ?_, ?_, ?_, ?_⟩
  · simp only [List.length_append, sideList_length]; omega
  · rw [hv _ hs, ← hr _ hs]
    rw [List.append_assoc, List.append_assoc, List.getElem?_append_left (by rw [sideList_length]; exact hn)]
    exact sideList_head _ _ _ _ _ _ hn
  · rw [hv _ h1, ← hr _ h1]
    rw [List.append_assoc, List.append_assoc, List.getElem?_append_right (by rw [sideList_length]),
      sideList_length, Nat.sub_self, List.getElem?_append_left (by rw [sideList_length]; exact hn)]
    exact sideList_head _ _ _ _ _ _ hn
  · rw [hv _ h2, ← hr _ h2]
    rw [List.append_assoc, List.append_assoc, List.getElem?_append_right (by rw [sideList_length]; omega),
      sideList_length, List.getElem?_append_right (by rw [sideList_length]; omega), sideList_length,
      show 2 * nseg - nseg - nseg = 0 by omega, List.getElem?_append_left (by rw [sideList_length]; exact hn)]
    exact sideList_head _ _ _ _ _ _ hn
  · rw [hv _ h3, ← hr _ h3]
    rw [List.append_assoc, List.append_assoc, List.getElem?_append_right (by rw [sideList_length]; omega),
      sideList_length, List.getElem?_append_right (by rw [sideList_length]; omega), sideList_length,
      List.getElem?_append_right (by rw [sideList_length]; omega), sideList_length,
      show 3 * nseg - nseg - nseg - nseg = 0 by omega]
    exact sideList_head _ _ _ _ _ _ hn

/-- plane point number `t` of `grid`; the abscissa is **not** reduced modulo 8 by the code -/
noncomputable def gridPt (c : ℝ × ℝ) (o : ℝ) (nseg t : ℕ) : ℝ × ℝ :=
  (c.1 + (((t / (nseg + 1) : ℕ) : ℝ) / nseg - ((t % (nseg + 1) : ℕ) : ℝ) / nseg) * o,
   c.2 + (((t / (nseg + 1) : ℕ) : ℝ) / nseg + ((t % (nseg + 1) : ℕ) : ℝ) / nseg - 1) * o)

theorem gridPt_in_diamond (c : ℝ × ℝ) (o : ℝ) (ho : 0 ≤ o) (nseg t : ℕ) (ht : t < (nseg + 1) * (nseg + 1)) :
    InDiamond c.1 c.2 o (gridPt c o nseg t).1 (gridPt c o nseg t).2 := by
  have hi : t / (nseg + 1) ≤ nseg := by
    have := (Nat.div_lt_iff_lt_mul (by omega : 0 < nseg + 1)).mpr ht
    omega
  have hj : t % (nseg + 1) ≤ nseg := by
    have := Nat.mod_lt t (by omega : 0 < nseg + 1)
    omega
  obtain ⟨x0, x1⟩ := lam_range nseg _ hi
  obtain ⟨y0, y1⟩ := lam_range nseg _ hj
  have h := abs_diamond_unit _ _ x0 x1 y0 y1
  unfold InDiamond gridPt
  simp only [add_sub_cancel_left]
  rw [abs_mul, abs_mul, abs_of_nonneg ho, ← add_mul]
  exact mul_le_of_le_one_left ho h

theorem grid_plane (cfg : Cfg) (d hash b i j nseg : ℕ) (hh : hash < Layer.nHash d)
    (hdec : Layer.decodeHash cfg d hash = some ⟨b, i, j⟩) (hb : b < 12) (hi : i < 2 ^ d) (hj : j < 2 ^ d) :
    grid (α := ℝ) cfg d hash nseg =
      some ((List.range ((nseg + 1) * (nseg + 1))).map fun t =>
        unprojT (gridPt (norm8 (cellCx d b i j), cellCy d b i j) (1 / 2 ^ d) nseg t).1
          (gridPt (norm8 (cellCx d b i j), cellCy d b i j) (1 / 2 ^ d) nseg t).2) := by
  obtain ⟨c1, c2, c3, c4, c5⟩ := center_ranges d b i j hb hi hj
  have ho : 0 < 1 / (2 : ℝ) ^ d := by positivity
  unfold grid
  rw [center_eq cfg d hash b i j hh hdec hb, Option.bind_some]
  simp only [r_one, r_ofNat, nside_real]
  apply mapM_some
  intro t ht
  have ht' := List.mem_range.mp ht
  exact unproj_of_inDiamond _ (gridPt_in_diamond (norm8 (cellCx d b i j), cellCy d b i j) (1 / 2 ^ d) ho.le nseg t ht') c4 c5

theorem gridPt_corners (c : ℝ × ℝ) (o : ℝ) (nseg : ℕ) (hn : 0 < nseg) :
    gridPt c o nseg 0 = rawVtx c o 0 ∧ gridPt c o nseg nseg = rawVtx c o 3 ∧
    gridPt c o nseg (nseg * (nseg + 1)) = rawVtx c o 1 ∧ gridPt c o nseg (nseg * (nseg + 1) + nseg) = rawVtx c o 2 := by
  have hne : (nseg : ℝ) ≠ 0 := by exact_mod_cast (Nat.pos_iff_ne_zero.mp hn)
  have d1 : nseg / (nseg + 1) = 0 := Nat.div_eq_of_lt (by omega)
  have m1 : nseg % (nseg + 1) = nseg := Nat.mod_eq_of_lt (by omega)
  have d2 : nseg * (nseg + 1) / (nseg + 1) = nseg := Nat.mul_div_cancel _ (by omega)
  have m2 : nseg * (nseg + 1) % (nseg + 1) = 0 := Nat.mul_mod_left _ _
  have d3 : (nseg * (nseg + 1) + nseg) / (nseg + 1) = nseg := by
    rw [Nat.add_comm, Nat.add_mul_div_right _ _ (by omega), d1, Nat.zero_add]
  have m3 : (nseg * (nseg + 1) + nseg) % (nseg + 1) = nseg := by
    rw [Nat.add_comm, Nat.add_mul_mod_self_right, m1]
  obtain ⟨r0, r1, r2, r3⟩ := rawVtx_vals c o
  rw [r0, r1, r2, r3]
  unfold gridPt
  refine ⟨?_, ?_, ?_, ?_⟩
  · simp only [Nat.zero_div, Nat.zero_mod]; ext <;> simp; ring
  · simp only [d1, m1, div_self hne]; ext <;> simp; ring
  · simp only [d2, m2, div_self hne]; ext <;> simp
  · simp only [d3, m3, div_self hne]; ext <;> simp

theorem cellCx_ge (d b i j : ℕ) (hi : i < 2 ^ d) (hj : j < 2 ^ d) (h1 : 1 ≤ baseX b) : 1 / 2 ^ d ≤ cellCx d b i j := by
  obtain ⟨fx1, _⟩ := frac_bounds d ((i : ℝ) - j) (by linarith only [Nat.cast_nonneg (α := ℝ) i, cast_lt_pow hj])
    (by linarith only [Nat.cast_nonneg (α := ℝ) j, cast_lt_pow hi])
  unfold cellCx; linarith only [fx1, h1]

theorem norm8_center_ge (d b i j : ℕ) (hb : b < 12) (hi : i < 2 ^ d) (hj : j < 2 ^ d) (hne : ¬ (b = 4 ∧ i = j)) :
    1 / 2 ^ d ≤ norm8 (cellCx d b i j) := by
  obtain ⟨c1, _⟩ := center_ranges d b i j hb hi hj
  have hp := pow_pos' d
  unfold norm8; split_ifs with h
  · linarith only [c1]
  · rcases baseX_cases b hb with ⟨h4, h0⟩ | ⟨h1, _⟩
    · unfold cellCx at h ⊢
      rw [h0, zero_add] at h ⊢
      have hji : j ≤ i := by
        exact_mod_cast sub_nonneg.mp (not_lt.mp fun h' : (i : ℝ) - j < 0 => h (div_neg_of_neg_of_pos h' hp))
      have : (j : ℝ) + 1 ≤ i := by exact_mod_cast lt_of_le_of_ne hji (fun e => hne ⟨h4, e.symm⟩)
      rw [div_le_div_iff_of_pos_right hp]; linarith only [this]
    · exact cellCx_ge d b i j hi hj h1

/-- C03: the corners of `grid` and the vertices of `vertex`/`vertices`: S, E, N are the same plane points given to
    `unproj`; W is the same plane point **unless the centre of the cell has abscissa 0** (`b = 4`, `i = j`), where
    `grid` un-projects `(−1/n, cy)` and `vertex`/`vertices` un-project `(8 − 1/n, cy)` (same point modulo 8). -/
theorem grid_corners_agree (cfg : Cfg) (d hash b i j nseg : ℕ) (hh : hash < Layer.nHash d)
    (hdec : Layer.decodeHash cfg d hash = some ⟨b, i, j⟩) (hb : b < 12) (hi : i < 2 ^ d) (hj : j < 2 ^ d) (hn : 0 < nseg) :
    ∃ l, grid (α := ℝ) cfg d hash nseg = some l ∧ l.length = (nseg + 1) * (nseg + 1) ∧
      l[0]? = vertex (α := ℝ) cfg d hash 0 ∧
      l[nseg * (nseg + 1)]? = vertex (α := ℝ) cfg d hash 1 ∧
      l[nseg * (nseg + 1) + nseg]? = vertex (α := ℝ) cfg d hash 2 ∧
      (¬ (b = 4 ∧ i = j) → l[nseg]? = vertex (α := ℝ) cfg d hash 3) ∧
      (b = 4 ∧ i = j → l[nseg]? = some (unprojT (-(1 / 2 ^ d)) (cellCy d b i j)) ∧
        vertex (α := ℝ) cfg d hash 3 = some (unprojT (8 - 1 / 2 ^ d) (cellCy d b i j))) := by
  obtain ⟨g0, g3, g1, g2⟩ := gridPt_corners (norm8 (cellCx d b i j), cellCy d b i j) (1 / 2 ^ d) nseg hn
  obtain ⟨r0, r1, r2, r3⟩ := rawVtx_vals (norm8 (cellCx d b i j), cellCy d b i j) (1 / 2 ^ d)
  rw [r0] at g0; rw [r1] at g1; rw [r2] at g2; rw [r3] at g3
  have ho : 0 < 1 / (2 : ℝ) ^ d := by positivity
  have lt0 : 0 < (nseg + 1) * (nseg + 1) := Nat.mul_pos (by omega) (by omega)
  have lt1 : nseg * (nseg + 1) + nseg < (nseg + 1) * (nseg + 1) := by
    have : (nseg + 1) * (nseg + 1) = nseg * (nseg + 1) + nseg + 1 := by ring
    omega
  have lt2 : nseg * (nseg + 1) < (nseg + 1) * (nseg + 1) := by omega
  have lt3 : nseg < (nseg + 1) * (nseg + 1) := by
    have : nseg + 1 ≤ (nseg + 1) * (nseg + 1) := Nat.le_mul_of_pos_left _ (by omega)
    omega
  have hv := fun k hk => vertex_plane cfg d hash b i j k hh hdec hb hi hj hk
  refine ⟨_, grid_plane cfg d hash b i j nseg hh hdec hb hi hj, by simp, ?_, ?_, ?_, ?_, ?_⟩
  · rw [hv 0 (by decide)]
    simp only [List.getElem?_map, List.getElem?_range lt0, Option.map_some, g0]; rfl
  · rw [hv 1 (by decide)]
    simp only [List.getElem?_map, List.getElem?_range lt2, Option.map_some, g1]; rfl
  · rw [hv 2 (by decide)]
    simp only [List.getElem?_map, List.getElem?_range lt1, Option.map_some, g2]; rfl
  · intro hne
    have e := norm8_sub (cellCx d b i j) (1 / 2 ^ d) ho.le (norm8_center_ge d b i j hb hi hj hne)
    rw [hv 3 (by decide)]
    simp only [List.getElem?_map, List.getElem?_range lt3, Option.map_some, g3]
    show _ = some (unprojT (norm8 (cellCx d b i j - 1 / 2 ^ d)) _); rw [e]; rfl
  · rintro ⟨h4, hij⟩
    subst h4; subst hij
    have hcx : cellCx d 4 i i = 0 := by unfold cellCx baseX; norm_num
    constructor
    · simp only [List.getElem?_map, List.getElem?_range lt3, Option.map_some, g3]
      simp only [hcx, norm8, lt_irrefl, if_false, zero_sub]
    · have e : norm8 (cellCx d 4 i i - 1 / 2 ^ d) = 8 - 1 / 2 ^ d := by
        rw [hcx, norm8, if_pos (by linarith only [ho])]; ring
      rw [hv 3 (by decide)]
      show some (unprojT (norm8 (cellCx d 4 i i - 1 / 2 ^ d)) _) = _
      rw [e]; rfl

/-- `unproj` does not reduce the longitude: it is negative for `x < 0` -/
theorem unprojT_lon_cea (x y : ℝ) (hx : |x| < 8) (hy : |y| ≤ 1) : (unprojT x y).1 = x * (Real.pi / 4) := by
  obtain ⟨k, hk, hdec, hm1, hp1⟩ := pm1OffsetDecompose_real |x| (abs_nonneg x) hx
  unfold unprojT
  simp only [r_abs, hdec, r_le, r_one, hy, decide_true, if_true, r_signBit]
  unfold deprojCea applyOffsetAndSigns
  simp only [r_ofNat, r_pi4]
  have e : |x| - ((2 * k + 1 : ℕ) : ℝ) + ((2 * k + 1 : ℕ) : ℝ) = |x| := by ring
  rw [e]
  by_cases h : x < 0
  · simp only [h, decide_true]
    show (if true = true then -|(|x|)| else |x|) * (Real.pi / 4) = _
    rw [if_pos rfl, abs_abs, abs_of_neg h, neg_neg]
  · simp only [h, decide_false]
    rw [r_orSign_false, abs_of_nonneg (not_lt.mp h)]

/-- **the west corner of `grid` for the cells `(4, i, i)`** (centre on the meridian 0): `grid` returns the longitude
    `−π/(4n)` where `vertex`/`vertices` return `2π − π/(4n)` (`grid` does not call `ensures_x_is_positive`). -/
theorem grid_corner_W_base4 (cfg : Cfg) (d hash i nseg : ℕ) (hh : hash < Layer.nHash d)
    (hdec : Layer.decodeHash cfg d hash = some ⟨4, i, i⟩) (hi : i < 2 ^ d) (hn : 0 < nseg) :
    ∃ l pg pv, grid (α := ℝ) cfg d hash nseg = some l ∧ l[nseg]? = some pg ∧ vertex (α := ℝ) cfg d hash 3 = some pv ∧
      pg.1 = -(Real.pi / 4 / 2 ^ d) ∧ pv.1 = 2 * Real.pi - Real.pi / 4 / 2 ^ d := by
  obtain ⟨l, hl, _, _, _, _, _, hw⟩ := grid_corners_agree cfg d hash 4 i i nseg hh hdec (by decide) hi hi hn
  obtain ⟨h1, h2⟩ := hw ⟨rfl, rfl⟩
  have hp := pow_pos' d
  have ho : 0 < 1 / (2 : ℝ) ^ d := by positivity
  have ho1 : 1 / (2 : ℝ) ^ d ≤ 1 := by
    rw [div_le_one hp]; exact one_le_pow₀ (by norm_num)
  have hcy : |cellCy d 4 i i| ≤ 1 := by
    have hi' := cast_lt_pow hi
    have hi0 : (0 : ℝ) ≤ i := Nat.cast_nonneg i
    obtain ⟨f1, f2⟩ := frac_bounds d ((i : ℝ) + i + 1 - 2 ^ d) (by linarith only [hi0]) (by linarith only [hi'])
    have hY : baseY 4 = 0 := by unfold baseY; norm_num
    rw [cellCy, hY, zero_add, abs_le]; constructor <;> linarith only [f1, f2, ho]
  refine ⟨l, _, _, hl, h1, h2, ?_, ?_⟩
  · rw [unprojT_lon_cea _ _ (by rw [abs_neg, abs_of_pos ho]; linarith only [ho1]) hcy]; ring
  · rw [unprojT_lon_cea _ _ (by rw [abs_of_nonneg (by linarith only [ho1])]; linarith only [ho]) hcy]; ring

/-- depth 0, cell 4 (`i = j = 0`): the west corner of the grid has longitude `−π/4`, the west vertex `7π/4` -/
example : ∃ l pg pv, grid (α := ℝ) {} 0 4 1 = some l ∧ l[1]? = some pg ∧ vertex (α := ℝ) {} 0 4 3 = some pv ∧
    pg.1 = -(Real.pi / 4 / 2 ^ 0) ∧ pv.1 = 2 * Real.pi - Real.pi / 4 / 2 ^ 0 :=
  grid_corner_W_base4 {} 0 4 0 1 (by decide) (by decide +kernel) (by decide) (by decide)

#print axioms sph_coo_plane
#print axioms sph_coo_half
#print axioms path_side_plane
#print axioms path_side_endpoints
#print axioms path_edge_plane
#print axioms path_edge_vertices
#print axioms sidePt_on_border
#print axioms grid_plane
#print axioms grid_corners_agree
#print axioms grid_corner_W_base4

end Hpx.CellReal
