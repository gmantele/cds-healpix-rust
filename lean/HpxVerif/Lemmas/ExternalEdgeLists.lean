/-
C14 — external edges: the model functions `externalPieces`, `externalEdge`, `externalEdgeStruct`
(`external_edge_generic`, `external_edge_struct` of `nested/mod.rs`) on cell NUMBERS, every depth `d`, every
`delta_depth` with `d + dd ≤ 29`, any z-order build, debug assertions on or off: their results as the explicit lists
`externalList`, built from the pieces `(dir, from_, hv)` and the sub-cells of a side / corner (`sideList`).

The masks `x_mask(0)`, `y_mask(0)`, `xy_mask(0)` are `0` (`Topo.xyMaskFn`, mirroring the crate after
`fix: x_mask, y_mask and xy_mask at depth 0`, finding F25), so `external_edge*(hash, 0)` is the list of the neighbours.
-/
import HpxVerif.Lemmas.EdgeExternal
import HpxVerif.Lemmas.NeighbourRefinement
import HpxVerif.Lemmas.TopoLiftClauses

namespace Hpx.EdgeExternal
open Hpx Hpx.Topo Hpx.TopoSpec Hpx.TopoNeigh Hpx.TopoLift Hpx.EdgeInternal MW

theorem cellVal_div (hv dd x y : Nat) (hx : x < 2 ^ dd) (hy : y < 2 ^ dd) :
    cellVal hv dd (x, y) / 4 ^ dd = hv ∧ hv * 4 ^ dd ≤ cellVal hv dd (x, y) ∧
      cellVal hv dd (x, y) < (hv + 1) * 4 ^ dd := by
  have hz := interleave_lt hx hy
  refine ⟨mul_add_div_of_lt hz, Nat.le_add_right _ _, ?_⟩
  rw [Nat.add_mul, Nat.one_mul]
  exact Nat.add_lt_add_left hz _

theorem div_lt_iff (d dd h : Nat) : h / 4 ^ dd < 12 * 4 ^ d ↔ h < 12 * 4 ^ (d + dd) := by
  rw [Nat.div_lt_iff_lt_mul (Nat.pow_pos (by decide)), Nat.mul_assoc, ← Nat.pow_add]

theorem child_block (d dd hv x y : Nat) (hsum : d + dd ≤ 32) (hx : x < 2 ^ dd) (hy : y < 2 ^ dd) :
    anc dd (partsOf (d + dd) (cellVal hv dd (x, y))) = partsOf d hv ∧
    (partsOf (d + dd) (cellVal hv dd (x, y))).i % 2 ^ dd = x ∧ (partsOf (d + dd) (cellVal hv dd (x, y))).j % 2 ^ dd = y := by
  rw [partsOf_cellVal d dd hv x y hsum hx hy]
  simp only [anc, mul_add_div_of_lt hx, mul_add_div_of_lt hy]
  exact ⟨trivial, Nat.mul_add_mod_of_lt hx, Nat.mul_add_mod_of_lt hy⟩

theorem child_decomp (d dd h : Nat) (hsum : d + dd ≤ 29) :
    anc dd (partsOf (d + dd) h) = partsOf d (h / 4 ^ dd) ∧
    h = cellVal (h / 4 ^ dd) dd ((partsOf (d + dd) h).i % 2 ^ dd, (partsOf (d + dd) h).j % 2 ^ dd) := by
  have hc : cellVal (h / 4 ^ dd) dd ((partsOf dd h).i, (partsOf dd h).j) = h := numberOf_partsOf dd h (by omega)
  obtain ⟨ha, hi, hj⟩ := child_block d dd (h / 4 ^ dd) _ _ (by omega) (partsOf_lt dd h).1 (partsOf_lt dd h).2
  rw [hc] at ha hi hj
  exact ⟨ha, by rw [hi, hj, hc]⟩

/-- the direction from which the neighbour of `hash` in direction `dir` sees `hash`, as computed by the code (`C` when
    there is no neighbour in that direction) -/
def fromD (d hash : Nat) (dir : MW) : MW :=
  match neighbourParts (2 ^ d) (partsOf d hash) dir with
  | some q => (fromDir (2 ^ d) (partsOf d hash) dir q).getD C
  | none => C

/-- `sorted_entries_vec`: insertion sort by value -/
def sortEntries (l : List (MW × Nat)) : List (MW × Nat) := l.foldr insertEntry []

/-- the neighbours in the order in which `external_edge_generic` visits them: `MainWind` index order, or increasing cell
    number -/
def orderOf (sorted : Bool) (l : List (MW × Nat)) : List (MW × Nat) := if sorted then sortEntries l else l

def piecesSpec (d hash : Nat) (sorted : Bool) : List (MW × MW × Nat) :=
  (orderOf sorted (nbList d hash false)).map fun e => (e.1, fromD d hash e.1, e.2)

theorem insertEntry_perm (e : MW × Nat) (l : List (MW × Nat)) : (insertEntry e l).Perm (e :: l) := by
  induction l with
  | nil => simp [insertEntry]
  | cons a l ih =>
    unfold insertEntry
    split
    · exact List.Perm.refl _
    · exact (List.Perm.cons a ih).trans (List.Perm.swap e a l)

theorem sortEntries_perm (l : List (MW × Nat)) : (sortEntries l).Perm l := by
  induction l with
  | nil => simp [sortEntries]
  | cons a l ih => exact (insertEntry_perm a _).trans (List.Perm.cons a ih)

theorem mem_orderOf (s : Bool) (x : MW × Nat) (l : List (MW × Nat)) : x ∈ orderOf s l ↔ x ∈ l := by
  unfold orderOf; split
  · exact (sortEntries_perm l).mem_iff
  · rfl

/-- the base cell of a cell number, as read by `h_2_d0h` -/
theorem d0h_of_number (d hv : Nat) (hh : hv < 12 * 4 ^ d) : (hv >>> (2 * d)) % 256 = (partsOf d hv).d0h := by
  have := (partsOf_valid d hv hh).1
  rw [Nat.shiftRight_eq_div_pow, ← four_pow]
  exact Nat.mod_eq_of_lt (by show hv / 4 ^ d < 256; change hv / 4 ^ d < 12 at this; omega)

theorem dirInBorder_eq (d : Nat) (hd : d ≤ 29) (hash : Nat) :
    directionInBaseCellBorder d (hash &&& Layer.xMask d) (hash &&& Layer.yMask d) =
      innerDir (2 ^ d) (partsOf d hash).i (partsOf d hash).j := by
  obtain ⟨e1, e2, e3, e4⟩ := masked_tests d hd hash
  unfold directionInBaseCellBorder innerDir cls
  rw [e1, e2, e3, e4]
  simp only [decide_eq_true_eq]

/-- the `from_` expression of the border branch is `fromDir` -/
theorem from_expr_eq (d : Nat) (hd : d ≤ 29) (hash : Nat) (dir : MW) (hv : Nat) (hhv : hv < 12 * 4 ^ d) :
    (if ((partsOf d hash).d0h == (hv >>> (2 * d)) % 256) = true then some dir.opposite
      else if (d == 0) = true then directionFromNeighbour (partsOf d hash).d0h dir
      else (directionInBaseCellBorder d (hash &&& Layer.xMask d) (hash &&& Layer.yMask d)).bind fun inner =>
        edgeCellDirectionFromNeighbour (partsOf d hash).d0h inner dir) =
      fromDir (2 ^ d) (partsOf d hash) dir (partsOf d hv) := by
  rw [d0h_of_number d hv hhv, dirInBorder_eq d hd hash]
  unfold fromDir
  have e0 : (d == 0) = true ↔ 2 ^ d = 1 := by
    rw [beq_iff_eq]
    constructor
    · rintro rfl; rfl
    · intro h
      rcases Nat.eq_zero_or_pos d with h0 | h0
      · exact h0
      · have := EdgeInternal.two_le_pow h0; omega
  simp only [beq_iff_eq, e0]

theorem isOrdinal_eq {w : MW} (h : w ≠ C) : w.isOrdinal = !w.isCardinal := by
  cases w <;> first | rfl | exact absurd rfl h

/-- `from_dir_spec` on numbers: the direction `from_` of the code leads back -/
theorem fromD_back {d : Nat} (hd : d ≤ 29) {hash : Nat} (hh : hash < 12 * 4 ^ d) {dir : MW} {hv : Nat}
    (hm : (dir, hv) ∈ nbList d hash false) :
    dir ≠ C ∧ nbG d hash dir = some hv ∧ fromD d hash dir ≠ C ∧ nbG d hv (fromD d hash dir) = some hash ∧
    fromDir (2 ^ d) (partsOf d hash) dir (partsOf d hv) = some (fromD d hash dir) ∧
    (fromD d hash dir).isCardinal = dir.isCardinal ∧ (fromD d hash dir).isOrdinal = dir.isOrdinal := by
  obtain ⟨hw, hnb⟩ := mem_nbList.1 hm
  have hdir : dir ≠ C := hw.resolve_right (by decide)
  obtain ⟨hlt, hq⟩ := (nbG_eq_some hd hh).1 hnb
  obtain ⟨f, hf, hback, hcard, hfC⟩ :=
    from_dir_spec (2 ^ d) _ _ dir (one_le_pow d) (pow_le_u32 d hd) (partsOf_valid d hash hh) hdir hq
  obtain rfl : fromD d hash dir = f := by unfold fromD; rw [hq]; exact congrArg (Option.getD · C) hf
  exact ⟨hdir, hnb, hfC, (nbG_eq_some hd hlt).2 ⟨hh, hback⟩, hf, hcard, by rw [isOrdinal_eq hfC, isOrdinal_eq hdir, hcard]⟩

theorem fromD_inner (d hash : Nat) (dir : MW) (hi0 : 0 < (partsOf d hash).i) (hi1 : (partsOf d hash).i + 1 < 2 ^ d)
    (hj0 : 0 < (partsOf d hash).j) (hj1 : (partsOf d hash).j + 1 < 2 ^ d) : fromD d hash dir = dir.opposite := by
  unfold fromD
  rw [show partsOf d hash = ⟨(partsOf d hash).d0h, (partsOf d hash).i, (partsOf d hash).j⟩ from rfl,
    neighbourParts_inner (2 ^ d) _ _ _ dir hi0 hi1 hj0 hj1]
  simp [fromDir]

theorem externalPieces_spec (cfg : Cfg) (d : Nat) (hd : d ≤ 29) (hash : Nat) (hh : hash < 12 * 4 ^ d) (s : Bool) :
    externalPieces cfg d hash s = some (piecesSpec d hash s) := by
  have ho : (if s = true then List.foldr insertEntry [] (nbList d hash false) else nbList d hash false) =
      orderOf s (nbList d hash false) := rfl
  unfold externalPieces piecesSpec
  rw [if_neg (by rw [nHash_eq]; omega)]
  simp only
  by_cases hbd : isInBaseCellBorder d (hash &&& Layer.xMask d) (hash &&& Layer.yMask d) = true
  · rw [if_pos hbd, edgeCellNeighbours_spec cfg d hd hash hh, decodeHash_spec cfg d hd hash hh, ← nbList_false]
    simp only
    rw [ho]
    apply mapM_some_of_forall
    rintro ⟨dir, hv⟩ hm
    obtain ⟨_, hnb, _, _, hf, _⟩ := fromD_back hd hh ((mem_orderOf _ _ _).1 hm)
    simp only
    rw [from_expr_eq d hd hash dir hv (nbG_lt hd hh hnb), hf]; rfl
  · rw [if_neg hbd]
    rw [Bool.not_eq_true] at hbd
    obtain ⟨h1, h2, h3, h4, _⟩ := inner_bits_correct_hash cfg d hd hash hh hbd
    rw [innerCellNeighbours_spec cfg d hd hash hh hbd, ← nbList_false, Option.map_some]
    simp only [ho]
    congr 1
    apply List.map_congr_left
    rintro ⟨dir, hv⟩ _
    rw [fromD_inner d hash dir h1 h2 h3 h4]

theorem mem_piecesSpec (d hash : Nat) (s : Bool) (dir f : MW) (hv : Nat) :
    (dir, f, hv) ∈ piecesSpec d hash s ↔ (dir, hv) ∈ nbList d hash false ∧ f = fromD d hash dir := by
  unfold piecesSpec
  rw [List.mem_map]
  constructor
  · rintro ⟨⟨a, b⟩, hm, e⟩
    simp only [Prod.mk.injEq] at e
    obtain ⟨rfl, rfl, rfl⟩ := e
    exact ⟨(mem_orderOf s _ _).1 hm, rfl⟩
  · rintro ⟨hm, rfl⟩
    exact ⟨(dir, hv), (mem_orderOf s _ _).2 hm, rfl⟩

/-- **C14, `external_from_direction`**: on a cell number of the depth the computation of the pieces never
    panics (every table lookup succeeds), for both orders; the `(dir, hv)` components are the entries of
    `neighbours(hash)` (in `MainWind` index order, or sorted by number); and for every piece `(dir, from_, hv)`: `hv` is
    the neighbour of `hash` in direction `dir`, `hash` is the neighbour of `hv` in direction `from_` (`Layer::neighbour`),
    the vertices of `hv` shared with `hash` are those of its side / corner `from_`, and `from_` is cardinal (ordinal)
    iff `dir` is.  Every depth `≤ 29`, any build. -/
theorem external_from_direction (cfg : Cfg) (d : Nat) (hd : d ≤ 29) (hash : Nat) (hh : hash < 12 * 4 ^ d) (s : Bool) :
    ∃ l, externalPieces cfg d hash s = some l ∧
      l.map (fun t => (t.1, t.2.2)) = orderOf s (nbList d hash false) ∧
      Topo.neighbours cfg d hash false = some (nbList d hash false) ∧
      ∀ dir f hv, (dir, f, hv) ∈ l →
        hv < 12 * 4 ^ d ∧ hv ≠ hash ∧ dir ≠ C ∧ f ≠ C ∧
        Topo.neighbour cfg d hash dir = some (some hv) ∧ Topo.neighbour cfg d hv f = some (some hash) ∧
        shared (2 ^ d) (partsOf d hv) (partsOf d hash) = edgeOf f ∧
        f.isCardinal = dir.isCardinal ∧ f.isOrdinal = dir.isOrdinal := by
  refine ⟨_, externalPieces_spec cfg d hd hash hh s, ?_, neighbours_spec cfg d hd hash hh false, ?_⟩
  · unfold piecesSpec
    rw [List.map_map]
    exact List.map_id' _
  · intro dir f hv hm
    obtain ⟨hm', rfl⟩ := (mem_piecesSpec d hash s dir f hv).1 hm
    obtain ⟨hdir, hnb, hfC, hback, _, hcard, hord⟩ := fromD_back hd hh hm'
    have hlt := nbG_lt hd hh hnb
    exact ⟨hlt, nbG_ne_self hd hh hdir hnb, hdir, hfC, (neighbour_spec cfg d hd hash hh dir).trans (congrArg some hnb),
      (neighbour_spec cfg d hd hv hlt _).trans (congrArg some hback), nbG_labelled hd hlt hback, hcard, hord⟩

/-- in-cell coordinates of the sub-cells on the side (ordinal `f`, in increasing running coordinate) / at the corner
    (cardinal `f`) `f` of a cell refined `dd` times -/
def sideCoords (dd : Nat) (f : MW) : List (Nat × Nat) :=
  match f with
  | S => [(0, 0)]
  | E => [(2 ^ dd - 1, 0)]
  | W => [(0, 2 ^ dd - 1)]
  | N => [(2 ^ dd - 1, 2 ^ dd - 1)]
  | SE => (List.range (2 ^ dd)).map fun x => (x, 0)
  | SW => (List.range (2 ^ dd)).map fun y => (0, y)
  | NE => (List.range (2 ^ dd)).map fun y => (2 ^ dd - 1, y)
  | NW => (List.range (2 ^ dd)).map fun x => (x, 2 ^ dd - 1)
  | C => []

def sideList (hv dd : Nat) (f : MW) : List Nat := (sideCoords dd f).map (cellVal hv dd)

/-- what `append_sorted_internal_edge_element` appends for the neighbour `hv` seen from direction `f` (at `delta_depth = 0`
    the cell `hv` itself) -/
theorem side_eval_all (cfg : Cfg) (hv dd : Nat) (f : MW) (hd : dd ≤ 29) (hfit : hv < 2 ^ (64 - 2 * dd)) (hf : f ≠ C) :
    (if f.isCardinal = true then (internalCorner cfg hv dd f).map ([·])
      else if f.isOrdinal = true then internalEdgePart cfg hv dd f else none) = some (sideList hv dd f) := by
  obtain ⟨c1, c2, c3, c4, _⟩ := internalCorner_spec cfg hv dd (by omega) hfit
  obtain ⟨p1, p2, p3, p4, _⟩ := internalEdgePart_any cfg hv dd hd hfit
  cases f <;> first
    | exact absurd rfl hf
    | simp only [isCardinal, isOrdinal, if_true, Bool.false_eq_true, if_false, c1, c2, c3, c4, p1, p2, p3, p4, sideList,
        sideCoords, List.map_map, Option.map_some]; rfl

theorem mem_sideCoords (dd : Nat) (f : MW) (hf : f ≠ C) (x y : Nat) :
    (x, y) ∈ sideCoords dd f ↔ x < 2 ^ dd ∧ y < 2 ^ dd ∧ OnSide (2 ^ dd) f x y := by
  have hpos := Nat.two_pow_pos dd
  cases f
  case C => exact absurd rfl hf
  all_goals
    simp [sideCoords, OnSide, offsetSe, offsetSw]
    omega

theorem sideCoords_length (dd : Nat) (f : MW) (hf : f ≠ C) :
    (sideCoords dd f).length = if f.isCardinal then 1 else 2 ^ dd := by
  cases f <;> first | exact absurd rfl hf | simp [sideCoords, isCardinal]

theorem sideList_zero (hv : Nat) (f : MW) (hf : f ≠ C) : sideList hv 0 f = [hv] := by
  cases f <;> first | exact absurd rfl hf | simp [sideList, sideCoords, cellVal, interleave_zero_zero]

/-- the expected output of `external_edge_generic` -/
def externalList (d hash dd : Nat) (s : Bool) : List Nat :=
  (orderOf s (nbList d hash false)).flatMap fun e => sideList e.2 dd (fromD d hash e.1)

/-- **C14, `external_edge_spec` for every `delta_depth`** (`0` included): on a cell number of the depth, `d + dd ≤ 29`,
    `external_edge` (`s = false`) and `external_edge_sorted` (`s = true`) do not panic and return the concatenation, over
    the neighbours `(dir, hv)` of `hash` (in `MainWind` index order / by increasing number), of the sub-cells of `hv` on its
    side / corner facing `hash`.  Any build. -/
theorem external_edge_spec_all_delta (cfg : Cfg) (d dd : Nat) (hsum : d + dd ≤ 29) (hash : Nat)
    (hh : hash < 12 * 4 ^ d) (s : Bool) :
    externalEdge cfg d hash dd s = some (externalList d hash dd s) := by
  unfold externalEdge
  rw [externalPieces_spec cfg d (by omega) hash hh s]
  simp only [Option.bind_eq_bind, Option.bind_some]
  have hm : (piecesSpec d hash s).mapM (fun x : MW × MW × Nat =>
      if x.2.1.isCardinal = true then (internalCorner cfg x.2.2 dd x.2.1).map ([·])
      else if x.2.1.isOrdinal = true then internalEdgePart cfg x.2.2 dd x.2.1 else none) =
      some ((piecesSpec d hash s).map fun x => sideList x.2.2 dd x.2.1) := by
    apply mapM_some_of_forall
    rintro ⟨dir, f, hv⟩ hm
    obtain ⟨hm', rfl⟩ := (mem_piecesSpec d hash s dir _ hv).1 hm
    obtain ⟨_, hnb, h2, _⟩ := fromD_back (by omega) hh hm'
    have h3 := nbG_lt (by omega) hh hnb
    exact side_eval_all cfg hv dd _ (by omega) (valid_cell_fits d dd hv hsum h3) h2
  rw [hm]
  simp only [Option.bind_some, Option.pure_def]
  congr 1
  unfold externalList piecesSpec
  rw [List.map_map, List.flatMap_def]
  rfl

theorem external_edge_spec (cfg : Cfg) (d dd : Nat) (h1 : 1 ≤ dd) (hsum : d + dd ≤ 29) (hash : Nat)
    (hh : hash < 12 * 4 ^ d) (s : Bool) :
    externalEdge cfg d hash dd s = some (externalList d hash dd s) :=
  external_edge_spec_all_delta cfg d dd hsum hash hh s

/-- the piece that `external_edge_struct` files under `dir` is the piece that `external_edge_generic` appends, when
    `from_` and `dir` are of the same kind (`c`, `o`: cardinal, ordinal) -/
theorem struct_piece {α : Type} (c o : Bool) (X : Option Nat) (Y : Option (List Nat)) (dir : α) :
    (if c = true then if c = true then X.map fun v => (dir, [v]) else none
      else if o = true then if o = true then Y.map fun l => (dir, l) else none else none) =
    (if c = true then X.map ([·]) else if o = true then Y else none).map fun l => (dir, l) := by
  cases c <;> cases o <;> cases X <;> rfl

/-- **C14, `external_edge_struct_spec` for every `delta_depth`** (`0` included) -/
theorem external_edge_struct_spec_all_delta (cfg : Cfg) (d dd : Nat) (hsum : d + dd ≤ 29) (hash : Nat)
    (hh : hash < 12 * 4 ^ d) :
    externalEdgeStruct cfg d hash dd =
      some ((nbList d hash false).map fun e => (e.1, sideList e.2 dd (fromD d hash e.1))) ∧
    ∀ dir hv, (dir, hv) ∈ nbList d hash false →
      (sideList hv dd (fromD d hash dir)).length = (if dir.isCardinal then 1 else 2 ^ dd) ∧
      (fromD d hash dir).isCardinal = dir.isCardinal := by
  constructor
  · unfold externalEdgeStruct
    rw [externalPieces_spec cfg d (by omega) hash hh false]
    simp only [Option.bind_eq_bind, Option.bind_some]
    have e : (nbList d hash false).map (fun e => (e.1, sideList e.2 dd (fromD d hash e.1))) =
        (piecesSpec d hash false).map fun x => (x.1, sideList x.2.2 dd x.2.1) := by
      unfold piecesSpec orderOf
      rw [List.map_map]; rfl
    rw [e]
    apply mapM_some_of_forall
    rintro ⟨dir, f, hv⟩ hm
    obtain ⟨hm', rfl⟩ := (mem_piecesSpec d hash false dir _ hv).1 hm
    obtain ⟨_, hnb, h2, _, _, h8, h9⟩ := fromD_back (by omega) hh hm'
    have h3 := nbG_lt (by omega) hh hnb
    have hs := side_eval_all cfg hv dd _ (by omega) (valid_cell_fits d dd hv hsum h3) h2
    simp only [h8, h9] at hs ⊢
    rw [struct_piece, hs]
    rfl
  · intro dir hv hm
    obtain ⟨_, _, h2, _, _, h8, _⟩ := fromD_back (d := d) (by omega) hh hm
    refine ⟨?_, h8⟩
    unfold sideList
    rw [List.length_map, sideCoords_length dd _ h2, h8]

theorem external_edge_struct_spec (cfg : Cfg) (d dd : Nat) (h1 : 1 ≤ dd) (hsum : d + dd ≤ 29) (hash : Nat)
    (hh : hash < 12 * 4 ^ d) :
    externalEdgeStruct cfg d hash dd =
      some ((nbList d hash false).map fun e => (e.1, sideList e.2 dd (fromD d hash e.1))) ∧
    ∀ dir hv, (dir, hv) ∈ nbList d hash false →
      (sideList hv dd (fromD d hash dir)).length = (if dir.isCardinal then 1 else 2 ^ dd) ∧
      (fromD d hash dir).isCardinal = dir.isCardinal :=
  external_edge_struct_spec_all_delta cfg d dd hsum hash hh

theorem externalList_zero (d : Nat) (hd : d ≤ 29) (hash : Nat) (hh : hash < 12 * 4 ^ d) (s : Bool) :
    externalList d hash 0 s = (orderOf s (nbList d hash false)).map (·.2) := by
  unfold externalList
  rw [List.map_eq_flatMap, List.flatMap_def, List.flatMap_def]
  congr 1
  apply List.map_congr_left
  rintro ⟨dir, hv⟩ hm
  rw [mem_orderOf] at hm
  obtain ⟨_, _, h2, _⟩ := fromD_back hd hh hm
  exact sideList_zero hv _ h2

/-- **C14, `external_edge_delta0`**: with `delta_depth = 0`, `external_edge` (`s = false`) and `external_edge_sorted`
    (`s = true`) do not panic and return the neighbours of `hash` (the values of `neighbours(hash)`: in `MainWind` index
    order for `s = false`, by increasing cell number for `s = true`).  Every depth `d ≤ 29`, every cell number of the
    depth, any build (debug or release, LUT or BMI). -/
theorem external_edge_delta0 (cfg : Cfg) (d : Nat) (hd : d ≤ 29) (hash : Nat) (hh : hash < 12 * 4 ^ d) (s : Bool) :
    externalEdge cfg d hash 0 s = some ((orderOf s (nbList d hash false)).map (·.2)) := by
  rw [external_edge_spec_all_delta cfg d 0 (by omega) hash hh s, externalList_zero d hd hash hh s]

/-- **C14, `external_edge_struct_delta0`**: with `delta_depth = 0`, `external_edge_struct` does not panic and files each
    neighbour `(dir, hv)` of `hash` under `dir`, as the one-element list `[hv]` (corner for a cardinal `dir`, edge for an
    ordinal `dir`) -/
theorem external_edge_struct_delta0 (cfg : Cfg) (d : Nat) (hd : d ≤ 29) (hash : Nat) (hh : hash < 12 * 4 ^ d) :
    externalEdgeStruct cfg d hash 0 = some ((nbList d hash false).map fun e => (e.1, [e.2])) := by
  rw [(external_edge_struct_spec_all_delta cfg d 0 (by omega) hash hh).1]
  refine congrArg some ?_
  apply List.map_congr_left
  rintro ⟨dir, hv⟩ hm
  obtain ⟨_, _, h2, _⟩ := fromD_back hd hh hm
  rw [sideList_zero hv _ h2]

/-- the same in terms of the model function `Layer::neighbours`: `external_edge(hash, 0)` is the list of the values of
    `neighbours(hash, false)` in the same (`MainWind` index) order, and `external_edge_struct(hash, 0)` is that map with
    every value wrapped in a one-element list -/
theorem external_edge_delta0_neighbours (cfg : Cfg) (d : Nat) (hd : d ≤ 29) (hash : Nat) (hh : hash < 12 * 4 ^ d) :
    ∃ l, Topo.neighbours cfg d hash false = some l ∧
      externalEdge cfg d hash 0 false = some (l.map (·.2)) ∧
      externalEdge cfg d hash 0 true = some ((sortEntries l).map (·.2)) ∧
      externalEdgeStruct cfg d hash 0 = some (l.map fun e => (e.1, [e.2])) :=
  ⟨_, neighbours_spec cfg d hd hash hh false, external_edge_delta0 cfg d hd hash hh false,
    external_edge_delta0 cfg d hd hash hh true, external_edge_struct_delta0 cfg d hd hash hh⟩

/-- **test**: `externalPieces_spec`, `external_edge_spec` (both orders) and `external_edge_struct_spec` evaluated on every
    cell of a depth -/
def chkEdge (cfg : Cfg) (d dd : Nat) : Bool :=
  (List.range (12 * 4 ^ d)).all fun h =>
    ([true, false].all fun s =>
      externalPieces cfg d h s == some (piecesSpec d h s) && externalEdge cfg d h dd s == some (externalList d h dd s)) &&
    externalEdgeStruct cfg d h dd == some ((nbList d h false).map fun e => (e.1, sideList e.2 dd (fromD d h e.1)))

theorem chkEdge_true (cfg : Cfg) (d dd : Nat) (hsum : d + dd ≤ 29) : chkEdge cfg d dd = true := by
  simp only [chkEdge, List.all_eq_true, List.mem_range, Bool.and_eq_true, beq_iff_eq]
  exact fun h hh => ⟨fun s _ => ⟨externalPieces_spec cfg d (by omega) h hh s,
    external_edge_spec_all_delta cfg d dd hsum h hh s⟩, (external_edge_struct_spec_all_delta cfg d dd hsum h hh).1⟩

/-- depth 0 with one level of refinement by kernel evaluation of model and specification, the other instances from
    the theorems -/
example : chkEdge {} 0 1 = true ∧ chkEdge {} 0 2 = true ∧ chkEdge {} 1 1 = true ∧ chkEdge {} 1 2 = true ∧
    chkEdge { debug := false, bmi := true } 1 1 = true :=
  ⟨by decide +kernel, chkEdge_true _ _ _ (by decide), chkEdge_true _ _ _ (by decide),
    chkEdge_true _ _ _ (by decide), chkEdge_true _ _ _ (by decide)⟩

example : chkEdge {} 2 1 = true ∧ chkEdge {} 2 2 = true :=
  ⟨chkEdge_true _ _ _ (by decide), chkEdge_true _ _ _ (by decide)⟩

/-- the documentation example of `external_edge_sorted` (depth 1, cells 10 and 11, `delta_depth = 2`) -/
example : externalList 1 10 2 true =
      [85, 87, 93, 95, 117, 138, 139, 142, 143, 154, 176, 178, 184, 186, 415, 437, 439, 445, 447] ∧
    externalList 1 11 2 true =
      [63, 95, 117, 119, 125, 127, 143, 154, 155, 158, 159, 165, 167, 173, 175, 239, 250, 251, 254, 255] := by
  decide +kernel

/-- the hypotheses are satisfiable by a non-trivial value: the last cell of depth 9 refined by 20 levels (depth 29) -/
example : (1 : Nat) ≤ 20 ∧ 9 + 20 ≤ 29 ∧ 12 * 4 ^ 9 - 1 < 12 * 4 ^ 9 := by decide

/-- a piece across a base-cell border: depth 1, cell 10 = `(2, 0, 1)`; its `N` neighbour is cell 7, which sees it in
    direction `E`; the facing sub-cell (`dd = 1`) is the east corner `7·4 + 1 = 29` -/
example : piecesSpec 1 10 false =
    [(S, N, 25), (SE, NW, 8), (E, W, 9), (SW, NE, 27), (NE, SW, 11), (NW, NE, 5), (N, E, 7)] ∧
    sideList 7 1 E = [29] := by decide +kernel

/-- depth 1, cell 10 (one of the 24 cells with 7 neighbours) and depth 0, cell 3, in the four builds -/
example : externalEdge { debug := true, bmi := false } 1 10 0 false = some [25, 8, 9, 27, 11, 5, 7] ∧
    externalEdge { debug := false, bmi := true } 1 10 0 true = some [5, 7, 8, 9, 11, 25, 27] ∧
    (orderOf false (nbList 1 10 false)).map (·.2) = [25, 8, 9, 27, 11, 5, 7] ∧
    (orderOf true (nbList 1 10 false)).map (·.2) = [5, 7, 8, 9, 11, 25, 27] ∧
    externalEdge { debug := false, bmi := false } 0 3 0 false = some [11, 4, 7, 0, 2, 1] ∧
    externalEdge { debug := true, bmi := true } 0 3 0 true = some [0, 1, 2, 4, 7, 11] ∧
    (orderOf false (nbList 0 3 false)).map (·.2) = [11, 4, 7, 0, 2, 1] ∧
    externalEdgeStruct {} 1 10 0 = some [(S, [25]), (SE, [8]), (E, [9]), (SW, [27]), (NE, [11]), (NW, [5]), (N, [7])] ∧
    externalEdgeStruct {} 0 3 0 = some [(S, [11]), (SE, [4]), (SW, [7]), (NE, [0]), (NW, [2]), (N, [1])] := by
  decide +kernel

/-- **test**: `external_edge_delta0` and `external_edge_struct_delta0` evaluated on every cell of a depth -/
def chkDelta0 (cfg : Cfg) (d : Nat) : Bool :=
  (List.range (12 * 4 ^ d)).all fun h =>
    ([true, false].all fun s => externalEdge cfg d h 0 s == some ((orderOf s (nbList d h false)).map (·.2))) &&
    externalEdgeStruct cfg d h 0 == some ((nbList d h false).map fun e => (e.1, [e.2]))

theorem chkDelta0_true (cfg : Cfg) (d : Nat) (hd : d ≤ 29) : chkDelta0 cfg d = true := by
  simp only [chkDelta0, List.all_eq_true, List.mem_range, Bool.and_eq_true, beq_iff_eq]
  exact fun h hh => ⟨fun s _ => external_edge_delta0 cfg d hd h hh s, external_edge_struct_delta0 cfg d hd h hh⟩

/-- depth 0 by kernel evaluation of model and specification, depth 1 from the theorems -/
example : chkDelta0 {} 0 = true ∧ chkDelta0 {} 1 = true ∧
    chkDelta0 { debug := false, bmi := true } 1 = true :=
  ⟨by decide +kernel, chkDelta0_true _ _ (by decide), chkDelta0_true _ _ (by decide)⟩

/-- the three lengths: depth 0; a cell with 7 neighbours (depth 2, cell 5); an ordinary cell -/
example : (externalList 0 3 0 false).length = 6 ∧ (externalList 2 5 0 false).length = 7 ∧
    (externalList 2 6 0 true).length = 8 := by decide +kernel

/-- the hypotheses are satisfiable by a non-trivial value: the last cell of the deepest level -/
example : (29 : Nat) ≤ 29 ∧ 12 * 4 ^ 29 - 1 < 12 * 4 ^ 29 ∧ 29 + 0 ≤ 29 := by decide

end Hpx.EdgeExternal

#print axioms Hpx.EdgeExternal.child_decomp
#print axioms Hpx.EdgeExternal.externalPieces_spec
#print axioms Hpx.EdgeExternal.external_from_direction
#print axioms Hpx.EdgeExternal.external_edge_spec
#print axioms Hpx.EdgeExternal.external_edge_struct_spec
#print axioms Hpx.EdgeExternal.side_eval_all
#print axioms Hpx.EdgeExternal.external_edge_spec_all_delta
#print axioms Hpx.EdgeExternal.external_edge_struct_spec_all_delta
#print axioms Hpx.EdgeExternal.external_edge_delta0
#print axioms Hpx.EdgeExternal.external_edge_struct_delta0
#print axioms Hpx.EdgeExternal.external_edge_delta0_neighbours
