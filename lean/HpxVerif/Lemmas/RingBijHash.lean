import HpxVerif.Lemmas.RingBij

/-!
# NESTED <-> RING conversion on cell numbers (either build, depth `≤ 29`)

`decode_hash` / `build_hash_from_parts` are inverse bijections between `[0, 12·4^d)` and the valid parts
(`h = d0h·4^d + interleave i j`, `CellNumber.lean`); with them the statements on parts lift to `to_ring` / `from_ring`.
-/

namespace Hpx.RingBij
open Hpx Hpx.Layer

theorem toRing_of_decode (cfg : Cfg) (d h : Nat) (p : HashParts) (hp : decodeHash cfg d h = some p)
    (hv : Valid d p) : toRing cfg d h = toRingParts d p := by
  unfold toRing
  rw [hp]
  have : ¬ p.d0h / 4 > 2 := by have := hv.1; omega
  simp [this]

theorem fromRing_eq_bind (cfg : Cfg) (d r : Nat) :
    fromRing cfg d r = (fromRingParts d realRI r).bind (fun p => buildHashFromParts cfg d p.d0h p.i p.j) := by
  unfold fromRing
  change (match fromRingParts d realRI r with | none => none | some p => _) = _
  cases fromRingParts d realRI r <;> rfl

theorem fromRing_toRing (cfg : Cfg) (d : Nat) (hd : d ≤ 29)
    (hA : ApproxOK (firstHashInEqr d)) (h : Nat) (hh : h < 12 * 4 ^ d) :
    ∃ r, toRing cfg d h = some r ∧ r < 12 * 4 ^ d ∧ fromRing cfg d r = some h := by
  obtain ⟨p, hp, hv, e⟩ := decode_spec cfg d hd h hh
  obtain ⟨r, hr, hlt⟩ := toRingParts_lt d p hv
  refine ⟨r, by rw [toRing_of_decode cfg d h p hp hv, hr], hlt, ?_⟩
  rw [fromRing_eq_bind, fromRing_toRing_parts d realRI (realRI_exactBelow hA) (by omega) p hv r hr]
  simp only [Option.bind_some]
  rw [(build_spec cfg d hd p hv).1, ← e]

theorem toRing_fromRing (cfg : Cfg) (d : Nat) (hd : d ≤ 29)
    (hA : ApproxOK (firstHashInEqr d)) (r : Nat) (hr : r < 12 * 4 ^ d) :
    ∃ h, fromRing cfg d r = some h ∧ h < 12 * 4 ^ d ∧ toRing cfg d h = some r := by
  obtain ⟨p, hp, hv, ht⟩ := toRing_fromRing_parts d realRI (realRI_exactBelow hA) (by omega) r hr
  obtain ⟨hbd, hlt⟩ := build_spec cfg d hd p hv
  refine ⟨_, by rw [fromRing_eq_bind, hp]; exact hbd, hlt, ?_⟩
  rw [toRing_of_decode cfg d _ p (decode_build cfg d hd p hv) hv, ht]

theorem toRing_inj (cfg : Cfg) (d : Nat) (hd : d ≤ 29) (h h' : Nat) (hh : h < 12 * 4 ^ d) (hh' : h' < 12 * 4 ^ d)
    (e : toRing cfg d h = toRing cfg d h') : h = h' := by
  obtain ⟨p, hp, hv, e1⟩ := decode_spec cfg d hd h hh
  obtain ⟨q, hq, hv', e2⟩ := decode_spec cfg d hd h' hh'
  rw [toRing_of_decode cfg d h p hp hv, toRing_of_decode cfg d h' q hq hv'] at e
  rw [e1, e2, toRingParts_injective d p q hv hv' e]

/-- `toRing_inj` under the hypotheses of the round trips (LUT build, `f64` estimate), none of which it needs -/
theorem toRing_injective (cfg : Cfg) (hb : cfg.bmi = false) (d : Nat) (hd : d ≤ 29)
    (hA : ApproxOK (firstHashInEqr d)) (h h' : Nat) (hh : h < 12 * 4 ^ d) (hh' : h' < 12 * 4 ^ d)
    (e : toRing cfg d h = toRing cfg d h') : h = h' :=
  toRing_inj cfg d hd h h' hh hh' e

/-- `to_ring` orders the cells by decreasing `Y`, then increasing `X` of their centres -/
theorem ring_order (cfg : Cfg) (hb : cfg.bmi = false) (d : Nat) (hd : d ≤ 29) (h h' : Nat) (hh : h < 12 * 4 ^ d)
    (hh' : h' < 12 * 4 ^ d) (p q : HashParts) (hp : decodeHash cfg d h = some p) (hq : decodeHash cfg d h' = some q)
    (r r' : Nat) (hr : toRing cfg d h = some r) (hr' : toRing cfg d h' = some r') :
    r < r' ↔ ((centerXY d p).2 > (centerXY d q).2 ∨
      ((centerXY d p).2 = (centerXY d q).2 ∧ (centerXY d p).1 < (centerXY d q).1)) := by
  obtain ⟨p0, hp0, hv, _⟩ := decode_spec cfg d hd h hh
  obtain ⟨q0, hq0, hv', _⟩ := decode_spec cfg d hd h' hh'
  rw [hp] at hp0; rw [hq] at hq0
  cases hp0; cases hq0
  rw [toRing_of_decode cfg d h p hp hv] at hr
  rw [toRing_of_decode cfg d h' q hq hv'] at hr'
  exact ring_order_parts d p q hv hv' r r' hr hr'

/-- the two round trips, with the hypothesis in the form "the `f64` estimate is within 4 of the exact ring index below
    `2^60`" -/
theorem ring_bijection (cfg : Cfg) (hb : cfg.bmi = false) (d : Nat) (hd : d ≤ 29) (hA : ApproxOK (2 ^ 60)) :
    (∀ h, h < 12 * 4 ^ d → ∃ r, toRing cfg d h = some r ∧ r < 12 * 4 ^ d ∧ fromRing cfg d r = some h) ∧
    (∀ r, r < 12 * 4 ^ d → ∃ h, fromRing cfg d r = some h ∧ h < 12 * 4 ^ d ∧ toRing cfg d h = some r) :=
  ⟨fun h hh => fromRing_toRing cfg d hd (approxOK_of_lt_2_60 hA d hd) h hh,
   fun r hr => toRing_fromRing cfg d hd (approxOK_of_lt_2_60 hA d hd) r hr⟩

/-- the model run in the kernel: a north-cap cell, the equatorial wrap-around case `d0h = 4 ∧ i < j`, the last cell
    (south cap) -/
example : toRing {} 1 5 = some 7 ∧ fromRing {} 1 7 = some 5 ∧
    decodeHash {} 2 73 = some ⟨4, 1, 2⟩ ∧ toRing {} 2 73 = some 103 ∧ fromRing {} 2 103 = some 73 ∧
    toRing {} 1 44 = some 47 ∧ fromRing {} 1 47 = some 44 := by decide +kernel

/-- `toRing_fromRing_parts` is not vacuous: `exactRI` is exact -/
example : ∀ d, d ≤ 2 → ∀ r, r < 12 * 4 ^ d →
    ∃ p, fromRingParts d exactRI r = some p ∧ Valid d p ∧ toRingParts d p = some r :=
  fun d hd r hr => toRing_fromRing_parts d exactRI (exactRI_exact.below _) (by omega) r hr

/-- why the round trips on parts are stated for `d ≤ 32`: `from_ring` truncates `i` and `j` to `u32`, so at depth 33
    (outside the supported depths `≤ 29`) the valid parts of RING number 0 come back cut -/
theorem fromRing_toRing_parts_fails_at_depth_33 :
    Valid 33 ⟨0, 2 ^ 33 - 1, 2 ^ 33 - 1⟩ ∧ toRingParts 33 ⟨0, 2 ^ 33 - 1, 2 ^ 33 - 1⟩ = some 0 ∧
    fromRingParts 33 exactRI 0 = some ⟨0, 2 ^ 32 - 1, 2 ^ 32 - 1⟩ := by decide +kernel

#print axioms fromRing_toRing
#print axioms toRing_fromRing
#print axioms ring_order
#print axioms ring_bijection
#print axioms fromRing_toRing_parts_fails_at_depth_33

end Hpx.RingBij
