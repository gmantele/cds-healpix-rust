/-
C14 (internal part), sorted variant: `internal_edge_sorted` returns, for every `delta_depth`, the explicit list
`sortedList` (no out-of-range write), which is strictly increasing and a permutation of the result of `internal_edge`.
-/
import Mathlib.Data.List.Perm.Subperm
import HpxVerif.Lemmas.EdgeInternal

namespace Hpx.EdgeInternal
open Hpx Hpx.Topo

abbrev sp (x : Nat) : Nat := spreadN 32 x

theorem spreadN_mono (k x x' : Nat) (h : x < x') (hx' : x' < 2 ^ k) : spreadN k x < spreadN k x' := by
  induction k generalizing x x' with
  | zero => simp at hx'; omega
  | succ k ih =>
    simp only [spreadN]
    rw [Nat.pow_succ] at hx'
    by_cases hq : x / 2 < x' / 2
    · have := ih (x / 2) (x' / 2) hq (by omega)
      omega
    · have : x / 2 = x' / 2 := by omega
      rw [this]; omega

theorem sp_mono {x x' : Nat} (h : x < x') (hx' : x' < 2 ^ 32) : sp x < sp x' := spreadN_mono 32 x x' h hx'

theorem spreadN_two_pow (k b : Nat) (hb : b < k) : spreadN k (2 ^ b) = 4 ^ b := by
  induction k generalizing b with
  | zero => omega
  | succ k ih =>
    simp only [spreadN]
    cases b with
    | zero => simp
    | succ b =>
      have h1 : 2 ^ (b + 1) % 2 = 0 := by rw [Nat.pow_succ]; omega
      have h2 : 2 ^ (b + 1) / 2 = 2 ^ b := by rw [Nat.pow_succ]; omega
      rw [h1, h2, ih b (by omega), Nat.pow_succ]; omega

theorem sp_two_pow {b : Nat} (hb : b < 32) : sp (2 ^ b) = 4 ^ b := spreadN_two_pow 32 b hb

theorem sp_lt {b x : Nat} (hb : b ≤ 32) (hx : x < 2 ^ b) : 3 * sp x < 4 ^ b := by
  unfold sp; rw [spreadN_of_lt hx hb]; exact three_spreadN_lt b x

theorem sp_ge {b x : Nat} (hb : b < 32) (hx : 2 ^ b ≤ x) (hx' : x < 2 ^ 32) : 4 ^ b ≤ sp x := by
  rw [← sp_two_pow hb]
  by_cases h : 2 ^ b = x
  · rw [h]; exact Nat.le_refl _
  · exact Nat.le_of_lt (sp_mono (by omega) hx')

theorem spreadN_compl (k x : Nat) (hx : x < 2 ^ k) :
    spreadN k (2 ^ k - 1 - x) + spreadN k x = spreadN k (2 ^ k - 1) := by
  induction k generalizing x with
  | zero => simp [spreadN]
  | succ k ih =>
    simp only [spreadN]
    rw [Nat.pow_succ] at hx ⊢
    have hp := Nat.two_pow_pos k
    have h1 : (2 ^ k * 2 - 1 - x) / 2 = 2 ^ k - 1 - x / 2 := by omega
    have h2 : (2 ^ k * 2 - 1) / 2 = 2 ^ k - 1 - 0 := by omega
    have i1 := ih (x / 2) (by omega)
    have i2 := ih 0 (by omega)
    rw [h1, h2]
    simp only [Nat.sub_zero] at i2 ⊢
    omega

theorem sp_compl {dd x : Nat} (hd : dd ≤ 32) (hx : x < 2 ^ dd) : sp (2 ^ dd - 1 - x) + sp x = sp (2 ^ dd - 1) := by
  have hp := Nat.two_pow_pos dd
  unfold sp
  rw [spreadN_of_lt (show 2 ^ dd - 1 - x < 2 ^ dd by omega) hd, spreadN_of_lt hx hd,
    spreadN_of_lt (show 2 ^ dd - 1 < 2 ^ dd by omega) hd]
  exact spreadN_compl dd x hx

theorem sp_zero : sp 0 = 0 := spreadN_zero 32

theorem cellVal_eq (hash dd x y : Nat) : cellVal hash dd (x, y) = hash * 4 ^ dd + (sp x + 2 * sp y) := by
  simp only [cellVal, interleave_eq_add]

/-- south quadrant (`x, y < N/2`): position `t` ↦ coordinates.  `(0,0)` first, then for each `b` the block
    `(2^b .. 2^(b+1)−1, 0)` followed by the block `(0, 2^b .. 2^(b+1)−1)` -/
def q0 (t : Nat) : Nat × Nat :=
  if t = 0 then (0, 0) else
  let q := 2 ^ Nat.log2 (t + 1)
  if t + 1 < q + q / 2 then (t + 1 - q / 2, 0) else (0, t + 1 - q)

theorem exists_pow_bracket (x : Nat) (hx : 1 ≤ x) : ∃ b, 2 ^ b ≤ x ∧ x < 2 ^ (b + 1) :=
  ⟨Nat.log2 x, (Nat.log2_eq_iff (by omega)).1 rfl⟩

theorem q0_zero : q0 0 = (0, 0) := by simp [q0]

theorem q0_block {b v t : Nat} (h1 : 2 ^ b ≤ v) (h2 : v < 2 ^ (b + 1)) :
    (t + 1 = v + 2 ^ b → q0 t = (v, 0)) ∧ (t + 1 = v + 2 ^ (b + 1) → q0 t = (0, v)) := by
  have e1 : 2 ^ (b + 1) = 2 * 2 ^ b := Nat.pow_succ'
  have e2 : 2 ^ (b + 1 + 1) = 4 * 2 ^ b := by rw [Nat.pow_succ, Nat.pow_succ]; omega
  have hl : 2 ^ (b + 1) ≤ t + 1 → t + 1 < 2 ^ (b + 1 + 1) → Nat.log2 (t + 1) = b + 1 := fun l u =>
    (Nat.log2_eq_iff (by omega)).2 ⟨l, u⟩
  constructor <;> intro h <;> unfold q0 <;> rw [if_neg (by omega)] <;> simp only [hl (by omega) (by omega)]
  · rw [if_pos (by omega)]; congr 1; omega
  · rw [if_neg (by omega)]; congr 1; omega

theorem q0_cases (t : Nat) : t = 0 ∨ ∃ b v, 2 ^ b ≤ v ∧ v < 2 ^ (b + 1) ∧
    (t + 1 = v + 2 ^ b ∧ q0 t = (v, 0) ∨ t + 1 = v + 2 ^ (b + 1) ∧ q0 t = (0, v)) := by
  by_cases h0 : t = 0
  · exact Or.inl h0
  right
  obtain ⟨k, hk1, hk2⟩ := exists_pow_bracket (t + 1) (by omega)
  cases k with
  | zero => simp at hk2; omega
  | succ b =>
    have e1 : 2 ^ (b + 1) = 2 * 2 ^ b := Nat.pow_succ'
    have e2 : 2 ^ (b + 1 + 1) = 4 * 2 ^ b := by rw [Nat.pow_succ, Nat.pow_succ]; omega
    by_cases hc : t + 1 < 3 * 2 ^ b
    · exact ⟨b, t + 1 - 2 ^ b, by omega, by omega, Or.inl ⟨by omega, (q0_block (b := b) (by omega) (by omega)).1 (by omega)⟩⟩
    · exact ⟨b, t + 1 - 2 ^ (b + 1), by omega, by omega,
        Or.inr ⟨by omega, (q0_block (b := b) (by omega) (by omega)).2 (by omega)⟩⟩

/-- coordinates of element number `t` of `internal_edge_sorted` (`t < 4(N−1)`), `M = N−1`, `H = N/2`:
    south quadrant `q0`; east quadrant `(H..M, 0)` then `(M, 1..H−1)`; west quadrant `(0, H..M)` then `(1..H−1, M)`;
    north quadrant = the south quadrant mirrored, backwards -/
def sortCoord (dd t : Nat) : Nat × Nat :=
  let m := 2 ^ dd - 1
  let hf := 2 ^ (dd - 1)
  if t < m then q0 t
  else if t < m + hf then (t - m + hf, 0)
  else if t < 2 * m then (m, t - (m + hf) + 1)
  else if t < 2 * m + hf then (0, t - 2 * m + hf)
  else if t < 3 * m then (t - (2 * m + hf) + 1, m)
  else (m - (q0 (4 * m - 1 - t)).1, m - (q0 (4 * m - 1 - t)).2)

def sortedList (hash dd : Nat) : List Nat :=
  (List.range (4 * (2 ^ dd - 1))).map fun t => cellVal hash dd (sortCoord dd t)

theorem sizes {dd : Nat} (h1 : 1 ≤ dd) : ∃ M H, 2 ^ dd - 1 = M ∧ 2 ^ (dd - 1) = H ∧ M + 1 = 2 * H ∧ 0 < H := by
  obtain ⟨e, rfl⟩ : ∃ e, dd = e + 1 := ⟨dd - 1, by omega⟩
  have := Nat.two_pow_pos e
  exact ⟨_, _, rfl, rfl, by rw [Nat.add_sub_cancel, Nat.pow_succ]; omega, this⟩

theorem pow_succ_le_of_lt {b e : Nat} (h : 2 ^ b < 2 ^ e) : 2 ^ (b + 1) ≤ 2 ^ e :=
  Nat.pow_le_pow_right (by decide) ((Nat.pow_lt_pow_iff_right (by decide)).1 h)

/-- `t + 1 < 3H`: up to the end of the `x`-block that starts at `H = 2^e` -/
theorem q0_bound {e H : Nat} (hH : 2 ^ e = H) (t : Nat) (ht : t + 1 < 3 * H) :
    (q0 t).1 < 2 * H ∧ (q0 t).2 < H ∧ ((q0 t).1 = 0 ∨ (q0 t).2 = 0) := by
  subst hH
  have hp := Nat.two_pow_pos e
  have e2 : 2 ^ (e + 1) = 2 * 2 ^ e := Nat.pow_succ'
  rcases q0_cases t with h | ⟨b, x, hb1, hb2, ⟨h, q⟩ | ⟨h, q⟩⟩
  · rw [h, q0_zero]; exact ⟨by omega, hp, Or.inl rfl⟩
  · -- an `x`-block that starts below `3·2^e − 2^b` has `b ≤ e`
    have e1 : 2 ^ (b + 1) = 2 * 2 ^ b := Nat.pow_succ'
    have := pow_succ_le_of_lt (b := b) (e := e + 1) (by omega)
    rw [q]
    exact ⟨by omega, hp, Or.inr rfl⟩
  · have e1 : 2 ^ (b + 1) = 2 * 2 ^ b := Nat.pow_succ'
    have := pow_succ_le_of_lt (b := b) (e := e) (by omega)
    rw [q]
    exact ⟨by omega, by omega, Or.inl rfl⟩

theorem sortCoord_eq {dd M H : Nat} (hM : 2 ^ dd - 1 = M) (hH : 2 ^ (dd - 1) = H) (t : Nat) :
    sortCoord dd t =
      if t < M then q0 t
      else if t < M + H then (t - M + H, 0)
      else if t < 2 * M then (M, t - (M + H) + 1)
      else if t < 2 * M + H then (0, t - 2 * M + H)
      else if t < 3 * M then (t - (2 * M + H) + 1, M)
      else (M - (q0 (4 * M - 1 - t)).1, M - (q0 (4 * M - 1 - t)).2) := by
  subst hM hH; rfl

/-! ## `sortCoord` by its runs

From here on `M = N − 1` and `H = N / 2` are variables tied to `dd` by equations, so that the position arithmetic is
linear.  The south half of the enumeration is `q0` up to the east corner, then the run `(M, 1..H−1)`; the north half is
its mirror image. -/

section runs
variable {dd M H : Nat} (hM : 2 ^ dd - 1 = M) (hH : 2 ^ (dd - 1) = H) (hMH : M + 1 = 2 * H)
include hM hH hMH

/-- the east run `(H..M, 0)` continues the south quadrant: it is the `x`-block `b = dd − 1` of `q0` -/
theorem sortCoord_south {t : Nat} (ht : t < M + H) : sortCoord dd t = q0 t := by
  rw [sortCoord_eq hM hH]
  by_cases c : t < M
  · rw [if_pos c]
  · have hp : 2 ^ (dd - 1 + 1) = 2 * H := by rw [Nat.pow_succ, hH, Nat.mul_comm]
    rw [if_neg c, if_pos ht, (q0_block (b := dd - 1) (v := t - M + H) (by omega) (by omega)).1 (by omega)]

theorem sortCoord_eastX {t x : Nat} (hx1 : H ≤ x) (hx2 : x ≤ M) (ht : t + 1 = x + H) : sortCoord dd t = (x, 0) := by
  rw [sortCoord_eq hM hH, if_neg (by omega), if_pos (by omega)]
  congr 1; omega

/-- the east corner (`y = 0`) included: it ends the run before and starts this one -/
theorem sortCoord_eastY {t y : Nat} (hy : y < H) (ht : t + 1 = M + H + y) : sortCoord dd t = (M, y) := by
  by_cases h0 : y = 0
  · subst h0
    exact sortCoord_eastX hM hH hMH (by omega) (Nat.le_refl _) ht
  · rw [sortCoord_eq hM hH, if_neg (by omega), if_neg (by omega), if_pos (by omega)]
    congr 1; omega

theorem sortCoord_mirror {t : Nat} (ht : t < 2 * M) :
    sortCoord dd (4 * M - (t + 1)) = (M - (sortCoord dd t).1, M - (sortCoord dd t).2) := by
  rw [sortCoord_eq hM hH (4 * M - (t + 1)), if_neg (by omega), if_neg (by omega), if_neg (by omega)]
  by_cases c1 : t < M
  · rw [if_neg (by omega), if_neg (by omega), show 4 * M - 1 - (4 * M - (t + 1)) = t by omega,
      sortCoord_south hM hH hMH (by omega)]
  by_cases c2 : t + 1 < M + H
  · rw [if_neg (by omega), if_pos (by omega), sortCoord_eastX hM hH hMH (x := t + 1 - H) (by omega) (by omega) (by omega)]
    refine Prod.ext ?_ ?_ <;> simp only [] <;> omega
  · rw [if_pos (by omega), sortCoord_eastY hM hH hMH (y := t + 1 - (M + H)) (by omega) (by omega)]
    refine Prod.ext ?_ ?_ <;> simp only [] <;> omega

theorem corner_cells : sortCoord dd 0 = (0, 0) ∧ sortCoord dd (M + H - 1) = (M, 0) ∧
    sortCoord dd (2 * M + H - 1) = (0, M) ∧ sortCoord dd (4 * M - 1) = (M, M) := by
  have hH0 : 0 < H := hH ▸ Nat.two_pow_pos _
  have s : sortCoord dd 0 = (0, 0) := by rw [sortCoord_south hM hH hMH (by omega), q0_zero]
  have e : sortCoord dd (M + H - 1) = (M, 0) := sortCoord_eastX hM hH hMH (by omega) (Nat.le_refl _) (by omega)
  have w := sortCoord_mirror hM hH hMH (t := M + H - 1) (by omega)
  have n := sortCoord_mirror hM hH hMH (t := 0) (by omega)
  rw [e, Nat.sub_self, Nat.sub_zero, show 4 * M - (M + H - 1 + 1) = 2 * M + H - 1 by omega] at w
  rw [s] at n
  exact ⟨s, e, w, n⟩

theorem sortCoord_border {t : Nat} (ht : t < 4 * M) : onBorder dd (sortCoord dd t).1 (sortCoord dd t).2 := by
  have hN := Nat.two_pow_pos dd
  have south : ∀ u, u < 2 * M → onBorder dd (sortCoord dd u).1 (sortCoord dd u).2 := by
    intro u hu
    by_cases c : u < M + H
    · obtain ⟨b1, b2, b3⟩ := q0_bound hH u (by omega)
      rw [sortCoord_south hM hH hMH c]
      exact ⟨by omega, by omega, b3.elim Or.inl fun h => Or.inr (Or.inr (Or.inl h))⟩
    · rw [sortCoord_eastY hM hH hMH (y := u + 1 - (M + H)) (by omega) (by omega)]
      exact ⟨by omega, by dsimp only; omega, Or.inr (Or.inl hM.symm)⟩
  by_cases c : t < 2 * M
  · exact south t c
  · obtain ⟨s1, s2, s3⟩ := south (4 * M - (t + 1)) (by omega)
    have m := sortCoord_mirror hM hH hMH (t := 4 * M - (t + 1)) (by omega)
    rw [show 4 * M - (4 * M - (t + 1) + 1) = t by omega] at m
    rw [m]
    refine ⟨?_, ?_, ?_⟩ <;> dsimp only <;> omega

end runs

/-! ## the enumeration is increasing -/

/-- `interleave c.1 c.2` as a sum (`interleave_eq_add`), so that `omega` compares offsets -/
def off (c : Nat × Nat) : Nat := sp c.1 + 2 * sp c.2

theorem sp_one : sp 1 = 1 := by decide

theorem pow_lt_32_of_le {b n : Nat} (h1 : 2 ^ b ≤ n) (h2 : n < 2 ^ 32) : b < 32 :=
  (Nat.pow_lt_pow_iff_right (a := 2) (by decide)).1 (by omega)

theorem q0_step (t : Nat) (ht : t + 1 < 2 ^ 32) : off (q0 t) < off (q0 (t + 1)) := by
  rcases q0_cases t with rfl | ⟨b, x, hb1, hb2, h⟩
  · rw [q0_zero, (q0_block (b := 0) (v := 1) (by simp) (by simp)).1 rfl]
    simp [off, sp_one]
  · have hp := Nat.two_pow_pos b
    have e1 : 2 ^ (b + 1) = 2 * 2 ^ b := Nat.pow_succ'
    have e4 : 4 ^ (b + 1) = 4 * 4 ^ b := Nat.pow_succ'
    have hb32 : b < 32 := pow_lt_32_of_le (n := t + 1) (by omega) ht
    -- inside a block by monotonicity; the last cell of a block lies below `4^(b+1) / 3`, the next block starts at
    -- `2·4^b` (the `y`-block) or at `4^(b+1)` (the next `x`-block)
    have mono := sp_mono (show x < x + 1 by omega) (by omega)
    have last := sp_lt (b := b + 1) (by omega) hb2
    rcases h with ⟨h, e⟩ | ⟨h, e⟩ <;> rw [e] <;> by_cases hn : x + 1 < 2 ^ (b + 1)
    · -- inside the `x`-block
      rw [(q0_block (b := b) (t := t + 1) (v := x + 1) (by omega) hn).1 (by omega)]
      simp only [off, sp_zero]; omega
    · -- from the `x`-block to the `y`-block
      rw [(q0_block (b := b) (t := t + 1) (Nat.le_refl _) (by omega)).2 (by omega)]
      have := sp_two_pow hb32
      simp only [off, sp_zero]; omega
    · -- inside the `y`-block
      rw [(q0_block (b := b) (t := t + 1) (v := x + 1) (by omega) hn).2 (by omega)]
      simp only [off, sp_zero]; omega
    · -- from the `y`-block to the next `x`-block
      have e2 : 2 ^ (b + 1 + 1) = 2 * 2 ^ (b + 1) := Nat.pow_succ'
      rw [(q0_block (b := b + 1) (t := t + 1) (Nat.le_refl _) (by omega)).1 (by omega)]
      have := sp_two_pow (pow_lt_32_of_le (b := b + 1) (n := t + 1) (by omega) ht)
      simp only [off, sp_zero]; omega

theorem off_compl (dd : Nat) (hd : dd ≤ 32) (c : Nat × Nat) (h1 : c.1 < 2 ^ dd) (h2 : c.2 < 2 ^ dd) :
    off (2 ^ dd - 1 - c.1, 2 ^ dd - 1 - c.2) + off c = 3 * sp (2 ^ dd - 1) := by
  have a1 := sp_compl hd h1
  have a2 := sp_compl hd h2
  simp only [off]; omega

/-- `hmid` is the step across the middle: `f n = C − f (n − 1)` -/
theorem mono_of_mirror (f : Nat → Nat) {n N C : Nat} (hN : N = 2 * n) (hm : ∀ u, u < n → f (N - (u + 1)) + f u = C)
    (hl : ∀ u, u + 1 < n → f u < f (u + 1)) (hmid : 0 < n → 2 * f (n - 1) < C) (t : Nat) (ht : t + 1 < N) :
    f t < f (t + 1) := by
  subst hN
  by_cases d1 : t + 1 < n
  · exact hl t d1
  by_cases d2 : t + 1 = n
  · have m := hm t (by omega)
    have hmid := hmid (by omega)
    rw [show 2 * n - (t + 1) = t + 1 by omega] at m
    rw [show n - 1 = t by omega] at hmid
    omega
  · obtain ⟨u, rfl⟩ : ∃ u, t = 2 * n - (u + 1 + 1) := ⟨2 * n - (t + 1 + 1), by omega⟩
    have hu : u + 1 < n := by omega
    have m1 := hm u (by omega)
    have m2 := hm (u + 1) hu
    have l := hl u hu
    rw [show 2 * n - (u + 1 + 1) + 1 = 2 * n - (u + 1) by omega]
    omega

theorem south_step {dd M H : Nat} (hM : 2 ^ dd - 1 = M) (hH : 2 ^ (dd - 1) = H) (hMH : M + 1 = 2 * H) (hd : dd ≤ 31)
    (u : Nat) (hu : u + 1 < 2 * M) : off (sortCoord dd u) < off (sortCoord dd (u + 1)) := by
  have h32 : M + H < 2 ^ 32 := by
    have : 2 ^ dd ≤ 2 ^ 31 := Nat.pow_le_pow_right (by decide) hd
    omega
  by_cases c1 : u + 1 < M + H
  · rw [sortCoord_south hM hH hMH (by omega), sortCoord_south hM hH hMH c1]
    exact q0_step u (by omega)
  · have m := sp_mono (show u + 1 - (M + H) < u + 1 - (M + H) + 1 by omega) (by omega)
    rw [sortCoord_eastY hM hH hMH (y := u + 1 - (M + H)) (by omega) (by omega),
      sortCoord_eastY hM hH hMH (y := u + 1 - (M + H) + 1) (by omega) (by omega)]
    simp only [off]; omega

/-- the step across the middle by the size of the last east cell `(M, H − 1)`, the north half by the mirror symmetry -/
theorem sortCoord_step (dd t : Nat) (h1 : 1 ≤ dd) (hd : dd ≤ 31) (ht : t + 1 < 4 * (2 ^ dd - 1)) :
    off (sortCoord dd t) < off (sortCoord dd (t + 1)) := by
  obtain ⟨M, H, hM, hH, hMH, hH0⟩ := sizes h1
  have h31 : 2 ^ dd ≤ 2 ^ 31 := Nat.pow_le_pow_right (by decide) hd
  have spH : sp H = 4 ^ (dd - 1) := hH ▸ sp_two_pow (by omega)
  have spH1 : 3 * sp (H - 1) < 4 ^ (dd - 1) := sp_lt (b := dd - 1) (by omega) (by omega)
  have spHM : sp H + sp (H - 1) = sp M := by
    have := sp_compl (dd := dd) (x := H - 1) (by omega) (by omega)
    rw [hM, show M - (H - 1) = H by omega] at this
    exact this
  rw [hM] at ht
  refine mono_of_mirror (fun t => off (sortCoord dd t)) (n := 2 * M) (C := 3 * sp M) (by omega) (fun u hu => ?_)
    (south_step hM hH hMH hd) (fun _ => ?_) t ht
  · have b := sortCoord_border hM hH hMH (t := u) (by omega)
    have := off_compl dd (by omega) (sortCoord dd u) b.1 b.2.1
    rw [hM] at this
    show off (sortCoord dd (4 * M - (u + 1))) + _ = _
    rw [sortCoord_mirror hM hH hMH hu]
    exact this
  · have e : sortCoord dd (2 * M - 1) = (M, H - 1) := sortCoord_eastY hM hH hMH (by omega) (by omega)
    show 2 * off (sortCoord dd (2 * M - 1)) < _
    rw [e]; simp only [off]; omega

theorem lt_of_succ_lt (f : Nat → Nat) (n : Nat) (h : ∀ t, t + 1 < n → f t < f (t + 1)) :
    ∀ i j, i < j → j < n → f i < f j := by
  intro i j hij
  induction j with
  | zero => omega
  | succ j ih =>
    intro hj
    by_cases e : i = j
    · subst e; exact h i hj
    · exact Nat.lt_trans (ih (by omega) (by omega)) (h j hj)

theorem sortCoord_lt {dd i j : Nat} (h1 : 1 ≤ dd) (hd : dd ≤ 31) (hij : i < j) (hj : j < 4 * (2 ^ dd - 1)) :
    off (sortCoord dd i) < off (sortCoord dd j) :=
  lt_of_succ_lt (fun t => off (sortCoord dd t)) _ (fun t ht => sortCoord_step dd t h1 hd ht) i j hij hj

theorem sortCoord_inj {dd M : Nat} (hM : 2 ^ dd - 1 = M) (h1 : 1 ≤ dd) (hd : dd ≤ 31) (t t' : Nat) (ht : t < 4 * M) (ht' : t' < 4 * M)
    (e : sortCoord dd t = sortCoord dd t') : t = t' := by
  subst hM
  rcases Nat.lt_trichotomy t t' with h | h | h
  · exact absurd (congrArg off e) (Nat.ne_of_lt (sortCoord_lt h1 hd h ht'))
  · exact h
  · exact absurd (congrArg off e).symm (Nat.ne_of_lt (sortCoord_lt h1 hd h ht))

/-! ## the loop -/

/-- the checked array write of the model (`none` = index out of range = panic) -/
def setOpt (a : Array Nat) (k v : Nat) : Option (Array Nat) := if k < a.size then some (a.set! k v) else none

def Good (hash dd S : Nat) (D : Nat × Nat → Prop) (a : Array Nat) : Prop :=
  a.size = S ∧ ∀ t, t < S → D (sortCoord dd t) → a[t]? = some (cellVal hash dd (sortCoord dd t))

/-- a write of the cell that the enumeration has at that position succeeds, the cell joins `D` (no other position holds
    it), and the rest of the program runs on the new array -/
theorem write_cell {hash dd S : Nat} (inj : ∀ t p, t < S → p < S → sortCoord dd t = sortCoord dd p → t = p)
    {D : Nat × Nat → Prop} {a : Array Nat} (g : Good hash dd S D a) (p : Nat) {v : Nat} {c : Nat × Nat} (hp : p < S)
    (hc : sortCoord dd p = c) (hv : v = cellVal hash dd c) :
    ∃ a', Good hash dd S (fun c' => D c' ∨ c' = c) a' ∧
      ∀ {β} (F : Array Nat → Option β), (setOpt a p v).bind F = F a' := by
  refine ⟨a.set! p v, ⟨by simp [g.1], ?_⟩, fun F => by simp [setOpt, g.1, hp]⟩
  intro t ht hD
  rw [Array.set!_eq_setIfInBounds, Array.getElem?_setIfInBounds]
  by_cases e : p = t
  · subst e; simp [g.1, hp, hv, hc]
  · rw [if_neg e]
    exact hD.elim (g.2 t ht) fun h => absurd (inj t p ht hp (h.trans hc.symm)).symm e

theorem Good.mono {hash dd S : Nat} {D Q : Nat × Nat → Prop} {a : Array Nat} (g : Good hash dd S D a)
    (h : ∀ c, Q c → D c) : Good hash dd S Q a :=
  ⟨g.1, fun t ht hq => g.2 t ht (h _ hq)⟩

/-- the border cells less than `x` away, along the border, from the nearest corner: one coordinate on a side of the
    square, the other `x' < x` away from a side.  Step `x'` of the loop writes the eight cells at distance `x'`, the images
    of `(x', 0)` under the symmetries of the square (the four writes before the loop are the corners, distance `0`) -/
def Nearer (M x : Nat) (c : Nat × Nat) : Prop :=
  ∃ x', x' < x ∧ ((c.1 = 0 ∨ c.1 = M) ∧ (c.2 = x' ∨ c.2 = M - x') ∨ (c.2 = 0 ∨ c.2 = M) ∧ (c.1 = x' ∨ c.1 = M - x'))

/-- the eight cells at distance `x`, in the order in which the loop writes them -/
theorem orbit_cases {M x : Nat} (c : Nat × Nat) (h : Nearer M (x + 1) c) :
    (((((((Nearer M x c ∨ c = (x, 0)) ∨ c = (0, x)) ∨ c = (M, x)) ∨ c = (x, M)) ∨ c = (M - x, M)) ∨
      c = (M, M - x)) ∨ c = (0, M - x)) ∨ c = (M - x, 0) := by
  obtain ⟨x', hx', h⟩ := h
  by_cases hlt : x' < x
  · have : Nearer M x c := ⟨x', hlt, h⟩
    simp [this]
  · obtain rfl : x' = x := Nat.le_antisymm (Nat.le_of_lt_succ hx') (Nat.le_of_not_lt hlt)
    rcases h with ⟨e1 | e1, e2 | e2⟩ | ⟨e2 | e2, e1 | e1⟩ <;> simp [Prod.ext_iff, e1, e2]

theorem corner_cases {M : Nat} (c : Nat × Nat) (h : Nearer M 1 c) :
    (((False ∨ c = (0, 0)) ∨ c = (M, 0)) ∨ c = (0, M)) ∨ c = (M, M) := by
  obtain ⟨x', hx', h⟩ := h
  obtain rfl : x' = 0 := Nat.lt_one_iff.1 hx'
  rcases h with ⟨e1 | e1, e2 | e2⟩ | ⟨e2 | e2, e1 | e1⟩ <;> simp [Prod.ext_iff, e1, e2]

theorem nearer_of_border {dd M H : Nat} (hM : 2 ^ dd - 1 = M) (hMH : M + 1 = 2 * H) (c : Nat × Nat)
    (hc : onBorder dd c.1 c.2) : Nearer M H c := by
  obtain ⟨ha, hb, h⟩ := hc
  rw [hM] at h
  have free : ∀ v, v < 2 ^ dd → ∃ x, x < H ∧ (v = x ∨ v = M - x) := fun v hv =>
    if hv' : v < H then ⟨v, hv', Or.inl rfl⟩ else ⟨M - v, by omega, Or.inr (by omega)⟩
  rcases h with e | e | e
  · exact (free _ hb).imp fun x h => ⟨h.1, Or.inl ⟨Or.inl e, h.2⟩⟩
  · exact (free _ hb).imp fun x h => ⟨h.1, Or.inl ⟨Or.inr e, h.2⟩⟩
  · exact (free _ ha).imp fun x h => ⟨h.1, Or.inr ⟨e, h.2⟩⟩

/-- the counters of the loop before it treats `x`, inside the z-order block `2^b ≤ x < 2^(b+1)` that ends at `lim`:
    `k0 .. k3` are the positions of the cells `(x, 0)`, `(0, x)`, `(M, x)`, `(x, M)` -/
structure Ctr (M H b : Nat) (st : IesSt) : Prop where
  lim : st.lim = 2 ^ (b + 1)
  lo : 2 ^ b ≤ st.x
  hi : st.x < 2 ^ (b + 1)
  le : st.x ≤ H
  k0 : st.k0 + 1 = st.x + 2 ^ b
  k1 : st.k1 + 1 = st.x + 2 ^ (b + 1)
  k2 : st.k2 + 1 = M + H + st.x
  k3 : st.k3 + 1 = 2 * M + H + st.x

theorem Ctr.init {M H : Nat} (h : 0 < H) (r : Array Nat) :
    Ctr M H 0 { x := 1, lim := 2, k0 := 1, k1 := 2, k2 := M + H, k3 := 2 * M + H, res := r } :=
  ⟨rfl, Nat.le_refl _, (by decide : 1 < 2), h, rfl, rfl, rfl, rfl⟩

theorem Ctr.blk {M H b e : Nat} {st : IesSt} (k : Ctr M H b st) (hH : 2 ^ e = H) (hx : st.x < H) : 2 ^ (b + 1) ≤ H :=
  hH ▸ pow_succ_le_of_lt (hH ▸ Nat.lt_of_le_of_lt k.lo hx)

theorem Ctr.same {M H b : Nat} {st : IesSt} (k : Ctr M H b st) (hx : st.x < H) (hl : st.x + 1 ≠ st.lim) (a : Array Nat) :
    Ctr M H b { x := st.x + 1, lim := st.lim, k0 := st.k0 + 1, k1 := st.k1 + 1, k2 := st.k2 + 1, k3 := st.k3 + 1, res := a } :=
  ⟨k.lim, Nat.le_succ_of_le k.lo, Nat.lt_of_le_of_ne k.hi (k.lim ▸ hl), hx,
    by dsimp only; rw [k.k0, Nat.add_right_comm], by dsimp only; rw [k.k1, Nat.add_right_comm],
    by dsimp only; rw [k.k2, Nat.add_assoc], by dsimp only; rw [k.k3, Nat.add_assoc]⟩

/-- the next `x` opens the block `b + 1`: the `x`-run jumps over the `y`-run just finished, the `y`-run over the new `x`-run -/
theorem Ctr.block {M H b e : Nat} {st : IesSt} (k : Ctr M H b st) (hH : 2 ^ e = H) (he : e < 31) (hx : st.x < H)
    (hl : st.x + 1 = st.lim) (a : Array Nat) :
    Ctr M H (b + 1)
      { x := st.x + 1, lim := (st.lim <<< 1) % 4294967296, k0 := st.k1 + 1, k1 := st.k1 + 1 + st.lim, k2 := st.k2 + 1,
        k3 := st.k3 + 1, res := a } := by
  have e1 : 2 ^ (b + 1 + 1) = 2 ^ (b + 1) + 2 ^ (b + 1) := by rw [Nat.pow_succ, Nat.mul_two]
  have hb := k.blk hH hx
  have h31 : H < 2 ^ 31 := hH ▸ Nat.pow_lt_pow_right (by decide) he
  have hsh : st.lim <<< 1 % 4294967296 = 2 ^ (b + 1 + 1) := by
    rw [k.lim, Nat.shiftLeft_eq, Nat.pow_one, Nat.mul_two, ← e1, Nat.mod_eq_of_lt (by omega)]
  have hl' : st.x + 1 = 2 ^ (b + 1) := hl.trans k.lim
  exact ⟨hsh, Nat.le_of_eq hl'.symm, by dsimp only; rw [hl', e1]; exact Nat.lt_add_of_pos_right (Nat.two_pow_pos _), hx,
    by dsimp only; rw [k.k1, Nat.add_right_comm], by have := k.k1; dsimp only; omega,
    by dsimp only; rw [k.k2, Nat.add_assoc], by dsimp only; rw [k.k3, Nat.add_assoc]⟩

theorem Ctr.cells {dd M H b : Nat} {st : IesSt} (k : Ctr M H b st) (hM : 2 ^ dd - 1 = M) (hH : 2 ^ (dd - 1) = H)
    (hMH : M + 1 = 2 * H) (hx : st.x < H) :
    st.k0 < 4 * M ∧ st.k1 < 4 * M ∧ st.k2 < 4 * M ∧ st.k3 < 4 * M ∧
    sortCoord dd st.k0 = (st.x, 0) ∧ sortCoord dd st.k1 = (0, st.x) ∧ sortCoord dd st.k2 = (M, st.x) ∧
    sortCoord dd st.k3 = (st.x, M) ∧ sortCoord dd (4 * M - (st.k0 + 1)) = (M - st.x, M) ∧
    sortCoord dd (4 * M - (st.k1 + 1)) = (M, M - st.x) ∧ sortCoord dd (4 * M - (st.k2 + 1)) = (0, M - st.x) ∧
    sortCoord dd (4 * M - (st.k3 + 1)) = (M - st.x, 0) := by
  have hb := k.blk hH hx
  have hp : 2 ^ (b + 1) = 2 * 2 ^ b := Nat.pow_succ'
  have hxM : st.x ≤ M := by omega
  have two : ∀ u, u < M → u < 2 * M := fun u h => by omega
  have r0 : st.k0 < M := by have := k.k0; omega
  have r1 : st.k1 < M := by have := k.k1; omega
  have r2 : st.k2 < 2 * M := by have := k.k2; omega
  have m := fun u hu => sortCoord_mirror hM hH hMH (t := u) hu
  have e0 : sortCoord dd st.k0 = (st.x, 0) := by
    rw [sortCoord_south hM hH hMH (Nat.lt_add_right H r0), (q0_block k.lo k.hi).1 k.k0]
  have e1 : sortCoord dd st.k1 = (0, st.x) := by
    rw [sortCoord_south hM hH hMH (Nat.lt_add_right H r1), (q0_block k.lo k.hi).2 k.k1]
  have e2 : sortCoord dd st.k2 = (M, st.x) := sortCoord_eastY hM hH hMH hx k.k2
  have e7 : sortCoord dd (4 * M - (st.k3 + 1)) = (M - st.x, 0) :=
    sortCoord_eastX hM hH hMH (by omega) (Nat.sub_le _ _) (by have := k.k3; omega)
  have e3 : sortCoord dd st.k3 = (st.x, M) := by
    have := m (4 * M - (st.k3 + 1)) (by have := k.k3; omega)
    rw [show 4 * M - (4 * M - (st.k3 + 1) + 1) = st.k3 by have := k.k3; omega, e7] at this
    exact this.trans (Prod.ext (Nat.sub_sub_self hxM) rfl)
  refine ⟨by omega, by omega, by omega, by have := k.k3; omega, e0, e1, e2, e3, ?_, ?_, ?_, e7⟩
  · rw [m _ (two _ r0), e0]; rfl
  · rw [m _ (two _ r1), e1]; rfl
  · rw [m _ r2, e2, Nat.sub_self]

theorem side_bounds {dd M H x : Nat} (hM : 2 ^ dd - 1 = M) (hMH : M + 1 = 2 * H) (hx : x < H) :
    0 < 2 ^ dd ∧ M < 2 ^ dd ∧ x < 2 ^ dd ∧ M - x < 2 ^ dd := by
  have := Nat.two_pow_pos dd
  omega

theorem loop_spec (cfg : Cfg) (c : ZocClass) (hash dd : Nat) (h1 : 1 ≤ dd) (hd : dd ≤ 31)
    (hdc : dd ≤ c.bits) {M H : Nat} (hM : 2 ^ dd - 1 = M) (hH : 2 ^ (dd - 1) = H) (hMH : M + 1 = 2 * H)
    (fuel : Nat) (st : IesSt) {b : Nat} (k : Ctr M H b st) (g : Good hash dd (4 * M) (Nearer M st.x) st.res)
    (hf : H ≤ st.x + fuel) :
    ∃ out, internalEdgeSorted.loop cfg c (interleave M 0) (interleave 0 M) (hash * 4 ^ dd) M H (4 * M) setOpt fuel st =
        some out ∧ Good hash dd (4 * M) (Nearer M H) out := by
  induction fuel generalizing st b with
  | zero =>
    exact ⟨st.res, by rw [internalEdgeSorted.loop], Nat.le_antisymm k.le hf ▸ g⟩
  | succ fuel ih =>
    rw [internalEdgeSorted.loop]
    by_cases hx : st.x < H
    · obtain ⟨p0, p1, p2, p3, e0, e1, e2, e3, e4, e5, e6, e7⟩ := k.cells hM hH hMH hx
      obtain ⟨h0N, hmN, hxN, hcx⟩ := side_bounds hM hMH hx
      have dn : ∀ p, 4 * M - (p + 1) < 4 * M := fun p => Nat.sub_lt (Nat.lt_of_le_of_lt (Nat.zero_le _) p3) (Nat.succ_pos _)
      have inj := sortCoord_inj hM h1 hd
      have vx := and_xmask hxN (M - st.x)
      have vy := and_ymask hcx st.x
      have vh := LayerBmi.layer_ij2h_interleave cfg c st.x (M - st.x) (lt_pow_of_le hdc hxN) (lt_pow_of_le hdc hcx)
      rw [hM] at vx vy
      rw [if_neg (not_not.2 hx)]
      simp only [vh, vx, vy, interleave_shl, interleave_shr]
      rw [if_neg (by simp only [not_or, Nat.not_lt]; exact ⟨p0, p1, p2, p3⟩)]
      obtain ⟨a1, g1, w⟩ := write_cell inj g st.k0 p0 e0 (or_cell hash dd st.x 0 hxN h0N)
      rw [w]
      obtain ⟨a2, g2, w⟩ := write_cell inj g1 st.k1 p1 e1 (or_cell hash dd 0 st.x h0N hxN)
      rw [w]
      obtain ⟨a3, g3, w⟩ := write_cell inj g2 st.k2 p2 e2 (or_yx_cell hash dd st.x M hmN hxN)
      rw [w]
      obtain ⟨a4, g4, w⟩ := write_cell inj g3 st.k3 p3 e3 (or_yx_cell hash dd M st.x hxN hmN)
      rw [w]
      obtain ⟨a5, g5, w⟩ := write_cell inj g4 _ (dn _) e4 (or_yx_cell hash dd M (M - st.x) hcx hmN)
      rw [w]
      obtain ⟨a6, g6, w⟩ := write_cell inj g5 _ (dn _) e5 (or_yx_cell hash dd (M - st.x) M hmN hcx)
      rw [w]
      obtain ⟨a7, g7, w⟩ := write_cell inj g6 _ (dn _) e6 (or_cell hash dd 0 (M - st.x) h0N hcx)
      rw [w]
      obtain ⟨a8, g8, w⟩ := write_cell inj g7 _ (dn _) e7 (or_cell hash dd (M - st.x) 0 hcx h0N)
      rw [w]
      have g' : Good hash dd (4 * M) (Nearer M (st.x + 1)) a8 := g8.mono orbit_cases
      have hf' : H ≤ st.x + 1 + fuel := by rw [Nat.add_right_comm]; exact hf
      have he : dd - 1 < 31 := Nat.lt_of_lt_of_le (Nat.sub_one_lt (Nat.ne_of_gt h1)) hd
      by_cases hlim : st.x + 1 = st.lim
      · rw [if_pos hlim]
        exact ih _ (k.block hH he hx hlim a8) g' hf'
      · rw [if_neg hlim]
        exact ih _ (k.same hx hlim a8) g' hf'
    · exact ⟨st.res, by rw [if_pos hx], Nat.le_antisymm k.le (Nat.le_of_not_lt hx) ▸ g⟩

/-- lets `simp` fold the inlined `let set` of the model back into `setOpt` -/
theorem setOpt_fold (a : Array Nat) (k v : Nat) : (if k < a.size then some (a.set! k v) else none) = setOpt a k v := rfl

theorem internalEdgeSorted_spec (cfg : Cfg) (hash dd : Nat) (h1 : 1 ≤ dd) (hd : dd ≤ 29)
    (hh : hash < 2 ^ (64 - 2 * dd)) : internalEdgeSorted cfg hash dd = some (sortedList hash dd) := by
  obtain ⟨c, hc, hdc⟩ := LayerBmi.zoc_curve cfg dd hd
  have hd32 : dd ≤ 32 := Nat.le_trans hd (by decide)
  obtain ⟨M, H, hM, hH, hMH, hH0⟩ := sizes h1
  obtain ⟨h0N, hmN, -, -⟩ := side_bounds hM hMH hH0
  have n2 : 2 ^ dd >>> 1 = H := by rw [Nat.shiftRight_eq_div_pow]; omega
  have n3 : M <<< 2 = 4 * M := by rw [Nat.shiftLeft_eq]; omega
  have n4 : M <<< 1 = 2 * M := by rw [Nat.shiftLeft_eq]; omega
  have q : 0 < 4 * M ∧ M + H - 1 < 4 * M ∧ 2 * M + H - 1 < 4 * M ∧ 4 * M - 1 < 4 * M ∧
      ¬ (M + H = 0 ∨ 2 * M + H = 0 ∨ 4 * M < 1) := by omega
  obtain ⟨q0, q1, q2, q3, q4⟩ := q
  obtain ⟨cs, ce, cw, cn⟩ := corner_cells hM hH hMH
  unfold internalEdgeSorted
  rw [hc, xMask_spec0 cfg dd hd32]
  simp only [Option.bind_eq_bind, Option.bind_some, interleave_shl, hash_shl hash dd hh hd32, Nat.one_shiftLeft, hM, n2,
    n3, n4, setOpt_fold]
  have hd31 : dd ≤ 31 := Nat.le_trans hd (by decide)
  have inj := sortCoord_inj hM h1 hd31
  have g0 : Good hash dd (4 * M) (fun _ => False) (Array.replicate (4 * M) 0) :=
    ⟨Array.size_replicate, fun _ _ => False.elim⟩
  obtain ⟨r1, g1, w⟩ := write_cell inj g0 0 (v := hash * 4 ^ dd) q0 cs (by simp [cellVal, interleave])
  rw [w, if_neg q4]
  obtain ⟨r2, g2, w⟩ := write_cell inj g1 _ q1 ce (or_cell hash dd M 0 hmN h0N)
  rw [w]
  obtain ⟨r3, g3, w⟩ := write_cell inj g2 _ q2 cw (or_cell hash dd 0 M h0N hmN)
  rw [w]
  obtain ⟨r4, g4, w⟩ := write_cell inj g3 _ q3 cn (or_yx_cell hash dd M M hmN hmN)
  rw [w]
  obtain ⟨out, hout, gout⟩ := loop_spec cfg c hash dd h1 hd31 hdc hM hH hMH (H + 1)
    { x := 1, lim := 2, k0 := 1, k1 := 2, k2 := M + H, k3 := 2 * M + H, res := r4 }
    (Ctr.init hH0 r4) (g4.mono corner_cases)
    (Nat.le_trans (Nat.le_succ H) (Nat.le_add_left _ _))
  rw [show (fun (a : Array Nat) k v => setOpt a k v) = setOpt from rfl, hout, Option.bind_some]
  simp only [pure, Option.some.injEq]
  apply List.ext_getElem?
  intro i
  rw [Array.getElem?_toList, sortedList, hM]
  by_cases hi : i < 4 * M
  · rw [gout.2 i hi (nearer_of_border hM hMH _ (sortCoord_border hM hH hMH hi))]
    simp [hi]
  · have h1' : out[i]? = none := by rw [Array.getElem?_eq_none_iff, gout.1]; exact Nat.le_of_not_lt hi
    rw [h1', eq_comm, List.getElem?_eq_none_iff]
    simp only [List.length_map, List.length_range]; exact Nat.le_of_not_lt hi

theorem sortedList_length (hash dd : Nat) : (sortedList hash dd).length = 4 * 2 ^ dd - 4 := by
  simp [sortedList]; omega

theorem sortedList_sorted (hash dd : Nat) (h1 : 1 ≤ dd) (hd : dd ≤ 31) : (sortedList hash dd).Pairwise (· < ·) := by
  rw [sortedList, List.pairwise_map]
  refine List.Pairwise.imp_of_mem ?_ (List.pairwise_lt_range (n := 4 * (2 ^ dd - 1)))
  intro a b _ hb hab
  have hb := List.mem_range.1 hb
  show cellVal hash dd (_, _) < cellVal hash dd (_, _)
  rw [cellVal_eq, cellVal_eq]
  exact Nat.add_lt_add_left (sortCoord_lt h1 hd hab hb) _

theorem sortedList_subset (hash dd : Nat) (h1 : 1 ≤ dd) : sortedList hash dd ⊆ edgeList hash dd := by
  intro v hv
  rw [sortedList, List.mem_map] at hv
  obtain ⟨t, ht, rfl⟩ := hv
  obtain ⟨M, H, hM, hH, hMH, -⟩ := sizes h1
  have b := sortCoord_border hM hH hMH (hM ▸ List.mem_range.1 ht)
  exact (internalEdge_mem hash dd _ h1).2 ⟨_, _, b.1, b.2.1, b.2.2, rfl⟩

theorem sortedList_perm (hash dd : Nat) (h1 : 1 ≤ dd) (hd : dd ≤ 31) : (sortedList hash dd).Perm (edgeList hash dd) := by
  have hnd : (sortedList hash dd).Nodup :=
    (sortedList_sorted hash dd h1 hd).imp (fun h => Nat.ne_of_lt h)
  exact (List.subperm_of_subset hnd (sortedList_subset hash dd h1)).perm_of_length_le
    (by rw [sortedList_length, internalEdge_length hash dd h1]; exact Nat.le_refl _)

theorem internalEdgeSorted_perm (cfg : Cfg) (hash dd : Nat) (h1 : 1 ≤ dd) (hd : dd ≤ 29)
    (hh : hash < 2 ^ (64 - 2 * dd)) :
    ∃ s l, internalEdgeSorted cfg hash dd = some s ∧ internalEdge cfg hash dd = some l ∧
      s = sortedList hash dd ∧ l = edgeList hash dd ∧
      s.length = 4 * 2 ^ dd - 4 ∧ s.Pairwise (· < ·) ∧ s.Perm l ∧
      (∀ h', h' ∈ s ↔ ∃ x y, x < 2 ^ dd ∧ y < 2 ^ dd ∧ (x = 0 ∨ x = 2 ^ dd - 1 ∨ y = 0 ∨ y = 2 ^ dd - 1) ∧
        h' = hash * 4 ^ dd + interleave x y) := by
  refine ⟨_, _, internalEdgeSorted_spec cfg hash dd h1 hd hh, internalEdge_spec cfg hash dd hd hh, rfl, rfl,
    sortedList_length hash dd, sortedList_sorted hash dd h1 (by omega), sortedList_perm hash dd h1 (by omega), ?_⟩
  intro h'
  rw [(sortedList_perm hash dd h1 (by omega)).mem_iff]
  exact internalEdge_mem hash dd h' h1

theorem internalEdgeSorted_shift (cfg : Cfg) (hbmi : cfg.bmi = false) (hash dd : Nat) (h1 : 1 ≤ dd) (hd : dd ≤ 29)
    (hh : hash < 2 ^ (64 - 2 * dd)) :
    ∃ s0, internalEdgeSorted cfg 0 dd = some s0 ∧ internalEdgeSorted cfg hash dd = some (s0.map (hash * 4 ^ dd + ·)) := by
  refine ⟨_, internalEdgeSorted_spec cfg 0 dd h1 hd (Nat.two_pow_pos _), ?_⟩
  rw [internalEdgeSorted_spec cfg hash dd h1 hd hh, sortedList, sortedList, List.map_map]
  congr 1
  apply List.map_congr_left
  intro t _
  simp [cellVal]

/-- non-vacuity: the hypotheses hold for a cell of depth 9 refined by 20 levels (depth 29) -/
example : (1 : Nat) ≤ 20 ∧ 20 ≤ 29 ∧ 12 * 4 ^ 9 - 1 < 2 ^ (64 - 2 * 20) := by decide

example : internalEdgeSorted { debug := true, bmi := false } 5 3 = some (sortedList 5 3) ∧
    internalEdge { debug := true, bmi := false } 5 3 = some (edgeList 5 3) ∧
    sortedList 5 2 = [80, 81, 82, 84, 85, 87, 88, 90, 91, 93, 94, 95] ∧
    edgeList 5 2 = [80, 81, 84, 85, 87, 93, 95, 94, 91, 90, 88, 82] := by decide +kernel

/-- the public entry points on a valid cell -/
theorem internalEdgeTop_spec (cfg : Cfg) (d hash dd : Nat) (h1 : 1 ≤ dd) (hsum : d + dd ≤ 29)
    (hh : hash < 12 * 4 ^ d) :
    internalEdgeTop cfg 29 d hash dd = some (edgeList hash dd) ∧
    internalEdgeSortedTop cfg 29 d hash dd = some (sortedList hash dd) := by
  have hfit := valid_cell_fits d dd hash hsum hh
  have hg := (internalEdgeTop_guard cfg 29 d hash dd).1 (by rw [Nat.mod_eq_of_lt (by omega)]; exact hsum)
  rw [hg.1, hg.2]
  exact ⟨internalEdge_spec cfg hash dd (by omega) hfit, internalEdgeSorted_spec cfg hash dd h1 (by omega) hfit⟩

end Hpx.EdgeInternal
