/-
Well-formedness of the BMOCs built from a coverage descent (C09): `to_bmoc_packing` of a well-formed, in-range cell list,
and the loop over strictly increasing start cells (the 12 base cells in particular), for any classifier.
-/
import HpxVerif.Lemmas.CoverLemmas
import HpxVerif.Lemmas.BmocPack

namespace Hpx.Cover
open Hpx.Bmoc

def InRange (c : Cell) : Prop := c.hash < 12 * 4 ^ c.depth

theorem entries_increasing (dm : Nat) (hdm : dm ≤ 29) (l : List Nat) (hv : ∀ r ∈ l, ValidRaw dm r)
    (hw : WF dm (cellsOf dm l)) : l.Pairwise (· < ·) := by
  rw [← map_encode_cellsOf dm hdm l hv]
  exact wf_encode_increasing dm _ hw

/-- C09: `to_bmoc_packing` of a well-formed in-range cell list is a well-formed BMOC with the same three-valued content -/
theorem packed_bmoc_wf (dm : Nat) (hdm : dm ≤ 29) (cells : List Cell) (hw : WF dm cells) (hr : ∀ c ∈ cells, InRange c) :
    let entries := pack dm (cells.map (encode dm))
    (∀ r ∈ entries, ValidRaw dm r) ∧ WF dm (cellsOf dm entries) ∧ entries.Pairwise (· < ·) ∧
    (∀ x, stOf dm (cellsOf dm entries) x = stOf dm cells x) := by
  intro entries
  have hd : ∀ c ∈ cells, c.depth ≤ dm := hw.depth_le
  have hv := validRaw_map_encode (dm := dm) hd hr
  have hcells := cellsOf_map_encode dm hdm cells hd hr
  obtain ⟨s1, s2, s3⟩ := pack_sem dm hdm (cells.map (encode dm)) hv
  have hwf : WF dm (cellsOf dm entries) := s3 (by rw [hcells]; exact hw)
  exact ⟨s2, hwf, entries_increasing dm hdm _ s2 hwf, fun x => by rw [s1 x, hcells]⟩

theorem inRange_of_below_root (D ds d h r : Nat) (hds : ds ≤ d) (hd : d ≤ D) (hr : r < 12 * 4 ^ ds)
    (hhi : hi D ⟨d, h, true⟩ ≤ hi D ⟨ds, r, true⟩) : h < 12 * 4 ^ d :=
  (hi_le_iff_inRange (c := ⟨d, h, true⟩) hd).1
    (Nat.le_trans hhi ((hi_le_iff_inRange (c := ⟨ds, r, true⟩) (Nat.le_trans hds hd)).2 hr))

theorem rootsFold_wf (target : Nat) (κ : Nat → Nat → Nat → Option Verdict) (fuel ds : Nat) (hds : ds ≤ target)
    (roots : List Nat) (hp : roots.Pairwise (· < ·)) (hr : ∀ r ∈ roots, r < 12 * 4 ^ ds) (out : List Cell)
    (h : roots.foldlM (fun acc r => (coverRec target κ fuel ds r 0).map (acc ++ ·)) [] = some out) :
    WF target out ∧ ∀ c ∈ out, InRange c := by
  obtain ⟨g1, g2, _, _⟩ := rootsFold target κ target (Nat.le_refl _) fuel ds hds roots [] out hp trivial (by simp) h
  refine ⟨g1, ?_⟩
  intro c hc
  rcases g2 c hc with h0 | ⟨r, hrm, o, ho, hco⟩
  · simp at h0
  · have hb := coverRec_below target κ target (Nat.le_refl _) fuel ds r 0 o hds ho
    obtain ⟨_, hhi, hdl, hdt⟩ := hb.2 c hco
    exact inRange_of_below_root target ds c.depth c.hash r hdl hdt (hr r hrm) hhi

theorem baseCellsFold_wf (target : Nat) (κ : Nat → Nat → Nat → Option Verdict) (fuel : Nat) (out : List Cell)
    (h : (List.range 12).foldlM (fun acc r => (coverRec target κ fuel 0 r 0).map (acc ++ ·)) [] = some out) :
    WF target out ∧ ∀ c ∈ out, InRange c :=
  rootsFold_wf target κ fuel 0 (Nat.zero_le _) (List.range 12) (by decide)
    (fun r hr => by simpa using List.mem_range.1 hr) out h

end Hpx.Cover
