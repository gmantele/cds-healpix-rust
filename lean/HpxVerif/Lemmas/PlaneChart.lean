/-
The rotated chart of the projection plane.  In the coordinates `U = (X + Y + 1)/2`, `V = (Y − X + 9)/2` a base cell is a
unit square and a diamond `|a| + |b| ≤ r` a box; at depth `d`, `n = 2^d`, the cell `(i, j)` of the square `(I, J)` and the
position `(dx, dy)` in it are quotient, remainder and fractional part of `n·U`, `n·V`.  The three facts behind this, about
variables, and the wrap of a column index modulo 4 over ℝ.
-/
import HpxVerif.Lemmas.NumReal
import Mathlib.Tactic.FieldSimp

namespace Hpx

theorem abs_add_abs_le_iff {a b r : ℝ} : |a| + |b| ≤ r ↔ (-r ≤ a + b ∧ a + b ≤ r) ∧ (-r ≤ b - a ∧ b - a ≤ r) := by
  constructor
  · intro h
    have a1 := le_abs_self a
    have a2 := neg_abs_le a
    have b1 := le_abs_self b
    have b2 := neg_abs_le b
    exact ⟨⟨by linarith only [h, a2, b2], by linarith only [h, a1, b1]⟩, by linarith only [h, a1, b2],
      by linarith only [h, a2, b1]⟩
  · rintro ⟨⟨h1, h2⟩, h3, h4⟩
    rcases abs_cases a with ⟨e1, _⟩ | ⟨e1, _⟩ <;> rcases abs_cases b with ⟨e2, _⟩ | ⟨e2, _⟩ <;> rw [e1, e2] <;>
      linarith only [h1, h2, h3, h4]

theorem floor_closed (I0 : ℕ) (U : ℝ) (h1 : (I0 : ℝ) ≤ U) (h2 : U ≤ I0 + 1) :
    ⌊U⌋₊ = I0 + (if U = I0 + 1 then 1 else 0) := by
  have h0 : 0 ≤ U := (Nat.cast_nonneg I0).trans h1
  split_ifs with he
  · rw [he]; exact_mod_cast Nat.floor_natCast (I0 + 1)
  · exact (Nat.floor_eq_iff h0).mpr ⟨h1, lt_of_le_of_ne h2 he⟩

theorem floor_split_iff {N I i : ℕ} {u dx : ℝ} (hN : 0 < N) (h0 : 0 ≤ u) :
    (⌊u⌋₊ / N = I ∧ ⌊u⌋₊ % N = i ∧ u - (⌊u⌋₊ : ℝ) = dx) ↔
      (u = (N : ℝ) * I + i + dx ∧ i < N ∧ 0 ≤ dx ∧ dx < 1) := by
  constructor
  · rintro ⟨rfl, rfl, rfl⟩
    have hr : ((N * (⌊u⌋₊ / N) + ⌊u⌋₊ % N : ℕ) : ℝ) = (⌊u⌋₊ : ℝ) := by rw [Nat.div_add_mod]
    push_cast at hr
    exact ⟨by linarith only [hr], Nat.mod_lt _ hN, sub_nonneg.mpr (Nat.floor_le h0),
      sub_lt_iff_lt_add'.mpr (Nat.lt_floor_add_one u)⟩
  · rintro ⟨hu, hi, d0, d1⟩
    have hfl : ⌊u⌋₊ = N * I + i := by
      have : u = dx + ((N * I + i : ℕ) : ℝ) := by rw [hu]; push_cast; ring
      rw [this, Nat.floor_add_natCast d0, Nat.floor_eq_zero.mpr d1, Nat.zero_add]
    refine ⟨?_, ?_, ?_⟩
    · rw [hfl, Nat.mul_add_div hN, Nat.div_eq_of_lt hi, Nat.add_zero]
    · rw [hfl, Nat.mul_add_mod, Nat.mod_eq_of_lt hi]
    · rw [hfl, hu]; push_cast; ring

/-- `(I − J + 4, I + J − 4)` is the centre of the square `(I, J)` -/
theorem uv_iff_coo (N X Y I J i j dx dy : ℝ) (hN : 0 < N) :
    ((X + Y + 1) * N / 2 = N * I + i + dx ∧ (Y - X + 9) * N / 2 = N * J + j + dy) ↔
    ((I - J + 4) + (i - j) / N + (dx - dy) / N = X ∧ (I + J - 4) + (i + j + 1 - N) / N + (dx + dy - 1) / N = Y) := by
  have hne : N ≠ 0 := hN.ne'
  constructor
  · rintro ⟨h1, h2⟩
    constructor <;> field_simp <;> linarith only [h1, h2]
  · rintro ⟨rfl, rfl⟩
    constructor <;> field_simp <;> ring

theorem cast_mod4 (k : ℕ) : ((k % 4 : ℕ) : ℝ) = (k : ℝ) - 4 * ((k / 4 : ℕ) : ℝ) := by
  have : ((4 * (k / 4) + k % 4 : ℕ) : ℝ) = (k : ℝ) := by rw [Nat.div_add_mod]
  push_cast at this; linarith only [this]

end Hpx
