/-
C01 over the reals: the closed form of the crate's projection (`Proj.proj_closed`) is the plane point `(xpm1·σ + (2q+1), planeY lat)`
described by `xpm1_and_q` and the latitude (abscissa modulo 8, `proj_plane`); the front end is `partsAt` at the offset of that point
from the facet centre (`d0hLhInD0c_eq`); with `partsAt_geom` and `gridCoord_spec`, the final theorem `hash_real_contains`.
-/
import HpxVerif.Lemmas.HashReal
import HpxVerif.Lemmas.ProjRealSpec

namespace Hpx.HashReal
open Real Hpx.Proj Hpx.Hash

theorem proj_plane (lon lat : ℝ) (hlon : |lon| * (4 / π) < 256) (hl1 : -(π / 2) ≤ lat) (hl2 : lat ≤ π / 2) :
    -1 ≤ (xpm1AndQ (α := ℝ) lon).1 ∧ (xpm1AndQ (α := ℝ) lon).1 ≤ 1 ∧ (xpm1AndQ (α := ℝ) lon).2 < 4 ∧
    ∃ X : ℝ, ∃ m : ℤ, proj (α := ℝ) lon lat = some (X, planeY lat) ∧
      X + 8 * (m : ℝ) = (xpm1AndQ (α := ℝ) lon).1 * sigma lat + (2 * ((xpm1AndQ (α := ℝ) lon).2 : ℝ) + 1) := by
  obtain ⟨k, hk, h1, h2, hP⟩ := proj_closed lon lat hlon hl1 hl2
  have hxq := xpm1AndQ_real lon k hk h1 h2
  obtain ⟨hs0, hs1⟩ := sigma_bounds lat hl1 hl2
  set x := |lon| * (4 / π)
  have hm8 : (((2 * k + 1) % 8 : ℕ) : ℝ) = 2 * ((k % 4 : ℕ) : ℝ) + 1 := by
    rw [show (2 * k + 1) % 8 = 2 * (k % 4) + 1 by omega]; push_cast; ring
  have hk40 : (0 : ℝ) ≤ ((k % 4 : ℕ) : ℝ) := Nat.cast_nonneg _
  rw [hxq, hP, hm8]
  by_cases hneg : lon < 0
  · -- `xpm1 = (2k+1) − x`, `q = 3 − k mod 4`: the abscissa `−(…)` is the point of `xpm1_and_q` minus 8
    have hprod := mul_le_mul_of_nonneg_right (by linarith only [h1] : -1 ≤ x - (2 * k + 1)) hs0
    rw [if_pos hneg, sgn_of_neg hneg, abs_of_nonneg (by linarith only [hprod, hs1, hk40])]
    refine ⟨by linarith only [h1, h2], by linarith only [h1, h2], by omega, _, 1, rfl, ?_⟩
    rw [Nat.cast_sub (by omega : k % 4 ≤ 3)]; push_cast; ring
  · rw [if_neg hneg, sgn_of_nonneg (not_lt.mp hneg)]
    exact ⟨by linarith only [h1, h2], by linarith only [h1, h2], by omega, _, 0, rfl, by push_cast; ring⟩

/-- `d0h_lh_in_d0c` is `partsAt` at the offset `(xpm1·σ, planeY lat)` of the projected point from the centre of facet `q`, an
    offset of `L¹` norm at most 2.  In the caps `|xpm1·σ| ≤ σ < 1 < 2 − σ = |planeY lat|`,
    so that the polar branches of the code are the north and the south case of the equatorial one. -/
theorem d0hLhInD0c_eq (lon lat : ℝ) (hlon : |lon| * (4 / π) < 256) (hl1 : -(π / 2) ≤ lat) (hl2 : lat ≤ π / 2) :
    (xpm1AndQ (α := ℝ) lon).2 < 4 ∧ |(xpm1AndQ (α := ℝ) lon).1 * sigma lat| + |planeY lat| ≤ 2 ∧
    d0hLhInD0c (α := ℝ) lon lat =
      partsAt ((xpm1AndQ (α := ℝ) lon).1 * sigma lat) (xpm1AndQ (α := ℝ) lon).2 (planeY lat) := by
  obtain ⟨hx1, hx2, hq, -⟩ := proj_plane lon lat hlon hl1 hl2
  obtain ⟨s0, s1⟩ := sigma_bounds lat hl1 hl2
  have hY := planeY_abs_le lat hl1 hl2
  refine ⟨hq, ?_, ?_⟩
  · rw [abs_mul, abs_of_nonneg s0]
    linarith only [mul_le_mul_of_nonneg_right (abs_le.mpr ⟨hx1, hx2⟩) s0, hY]
  unfold d0hLhInD0c partsAt sigma planeY
  generalize (xpm1AndQ (α := ℝ) lon) = p at *
  obtain ⟨x, q⟩ := p
  simp only [r_gt, r_ge, r_lt, r_transitionLat, r_sqrt6, r_cos, r_sin, r_two, r_pi4, r_ootz, r_ofInt, r_ofNat] at hq ⊢
  obtain ⟨t11, t10, t01, t00⟩ := eqD0h_table q hq
  by_cases hN : Real.arcsin (2 / 3) < lat
  · obtain ⟨a, b⟩ := collignon_y_lt_one lat hN hl2
    rw [show 1 / 2 * lat + π / 4 = lat / 2 + π / 4 by ring] at a b
    simp only [hN, decide_true, if_true]
    generalize Real.sqrt 6 * Real.cos (lat / 2 + π / 4) = s at *
    have h1 := mul_le_mul_of_nonneg_right hx1 a
    have h2 := mul_le_mul_of_nonneg_right hx2 a
    rw [if_neg (by linarith only [h2, b]), if_pos (by linarith only [h1, b])]
  · by_cases hS : lat < -Real.arcsin (2 / 3)
    · obtain ⟨a, b⟩ := collignon_south lat hl1 hS
      simp only [hN, hS, decide_true, decide_false, if_true, Bool.false_eq_true, if_false]
      generalize Real.sqrt 6 * Real.cos (lat / 2 - π / 4) = s at *
      have h1 := mul_le_mul_of_nonneg_right hx1 a
      have h2 := mul_le_mul_of_nonneg_right hx2 a
      rw [if_pos (by linarith only [h1, b]), if_neg (by linarith only [h2, b]), Nat.add_comm]
      congr 2; ring
    · simp only [hN, hS, decide_false, Bool.false_eq_true, if_false, mul_one]
      by_cases h01 : Real.sin lat * (3 / 2) < x <;> by_cases h12 : -(Real.sin lat * (3 / 2)) ≤ x <;>
        simp [h01, h12, t11, t10, t01, t00]

/-- `(X, Y)` lies in the closed diamond of cell `(b, i, j)` of the grid of size `n = 2^d` -/
def InDiamond (d b i j : ℕ) (X Y : ℝ) : Prop :=
  (i : ℝ) ≤ (2 : ℝ) ^ d / 2 * ((Y - (baseCentre b).2) + (X - (baseCentre b).1) + 1) ∧
  (2 : ℝ) ^ d / 2 * ((Y - (baseCentre b).2) + (X - (baseCentre b).1) + 1) ≤ (i : ℝ) + 1 ∧
  (j : ℝ) ≤ (2 : ℝ) ^ d / 2 * ((Y - (baseCentre b).2) - (X - (baseCentre b).1) + 1) ∧
  (2 : ℝ) ^ d / 2 * ((Y - (baseCentre b).2) - (X - (baseCentre b).1) + 1) ≤ (j : ℝ) + 1

/-- a cell lies in its base cell (the converse of `gridCoord_spec`) -/
theorem InDiamond.base {d b i j : ℕ} {X Y : ℝ} (hi : i < 2 ^ d) (hj : j < 2 ^ d) (h : InDiamond d b i j X Y) :
    (0 ≤ (Y - (baseCentre b).2) + (X - (baseCentre b).1) + 1 ∧ (Y - (baseCentre b).2) + (X - (baseCentre b).1) + 1 ≤ 2) ∧
    0 ≤ (Y - (baseCentre b).2) - (X - (baseCentre b).1) + 1 ∧ (Y - (baseCentre b).2) - (X - (baseCentre b).1) + 1 ≤ 2 := by
  have key : ∀ (k : ℕ) (u : ℝ), k < 2 ^ d → (k : ℝ) ≤ (2 : ℝ) ^ d / 2 * u → (2 : ℝ) ^ d / 2 * u ≤ (k : ℝ) + 1 → 0 ≤ u ∧ u ≤ 2 := by
    intro k u hk h1 h2
    have hn : (0 : ℝ) < (2 : ℝ) ^ d / 2 := by positivity
    have hkR : (k : ℝ) + 1 ≤ (2 : ℝ) ^ d := by exact_mod_cast (hk : k + 1 ≤ 2 ^ d)
    exact ⟨nonneg_of_mul_nonneg_right (le_trans (Nat.cast_nonneg k) h1) hn,
      le_of_mul_le_mul_left (by linarith only [h2, hkR]) hn⟩
  exact ⟨key i _ hi h.1 h.2.1, key j _ hj h.2.2.1 h.2.2.2⟩

theorem hashV2_real_eq (cfg : Cfg) (d : ℕ) (lon lat : ℝ) (hchk : checkLat (α := ℝ) lat = true) :
    hashV2 (α := ℝ) cfg d lon lat =
      Layer.buildHashFromParts cfg d (d0hLhInD0c (α := ℝ) lon lat).1
        (gridCoord d ((d0hLhInD0c (α := ℝ) lon lat).2.2 + (d0hLhInD0c (α := ℝ) lon lat).2.1))
        (gridCoord d ((d0hLhInD0c (α := ℝ) lon lat).2.2 - (d0hLhInD0c (α := ℝ) lon lat).2.1)) := by
  unfold hashV2 gridCoord
  simp only [hchk, Bool.not_true, Bool.false_eq_true, if_false]

/-- core of the containment argument for any plane point `P` congruent (abscissa modulo 8) to the point described by
    `xpm1_and_q` and the latitude -/
theorem contains_of_plane (d : ℕ) (hd : d ≤ 32) (lon lat : ℝ) (hlon : |lon| * (4 / π) < 256)
    (hl1 : -(π / 2) ≤ lat) (hl2 : lat ≤ π / 2) (P : ℝ × ℝ) (hP2 : P.2 = planeY lat)
    (hP1 : ∃ m : ℤ, P.1 + 8 * (m : ℝ) =
      (xpm1AndQ (α := ℝ) lon).1 * sigma lat + (2 * ((xpm1AndQ (α := ℝ) lon).2 : ℝ) + 1)) :
    (d0hLhInD0c (α := ℝ) lon lat).1 < 12 ∧
      gridCoord d ((d0hLhInD0c (α := ℝ) lon lat).2.2 + (d0hLhInD0c (α := ℝ) lon lat).2.1) < 2 ^ d ∧
      gridCoord d ((d0hLhInD0c (α := ℝ) lon lat).2.2 - (d0hLhInD0c (α := ℝ) lon lat).2.1) < 2 ^ d ∧
      ∃ m : ℤ, InDiamond d (d0hLhInD0c (α := ℝ) lon lat).1
        (gridCoord d ((d0hLhInD0c (α := ℝ) lon lat).2.2 + (d0hLhInD0c (α := ℝ) lon lat).2.1))
        (gridCoord d ((d0hLhInD0c (α := ℝ) lon lat).2.2 - (d0hLhInD0c (α := ℝ) lon lat).2.1))
        (P.1 + 8 * (m : ℝ)) P.2 := by
  obtain ⟨hq, hn, e⟩ := d0hLhInD0c_eq lon lat hlon hl1 hl2
  obtain ⟨m0, hX⟩ := hP1
  rw [e]
  obtain ⟨hb, ha0, ha2, hb0, hb2, hh, m1, hl⟩ := partsAt_geom _ _ _ hq hn
  generalize partsAt ((xpm1AndQ (α := ℝ) lon).1 * sigma lat) (xpm1AndQ (α := ℝ) lon).2 (planeY lat) = p at *
  obtain ⟨b, l, h⟩ := p
  simp only [] at *
  obtain ⟨hi, hi1, hi2, -⟩ := gridCoord_spec d hd (h + l) ha0 ha2
  obtain ⟨hj, hj1, hj2, -⟩ := gridCoord_spec d hd (h - l) hb0 hb2
  refine ⟨hb, hi, hj, m0 + m1, ?_⟩
  unfold InDiamond
  have e1 : P.2 - (baseCentre b).2 + (P.1 + 8 * ((m0 + m1 : ℤ) : ℝ) - (baseCentre b).1) + 1 = h + l := by
    rw [hh, hl, ← hX, hP2]; push_cast; ring
  have e2 : P.2 - (baseCentre b).2 - (P.1 + 8 * ((m0 + m1 : ℤ) : ℝ) - (baseCentre b).1) + 1 = h - l := by
    rw [hh, hl, ← hX, hP2]; push_cast; ring
  rw [e1, e2]
  exact ⟨hi1, hi2, hj1, hj2⟩

theorem lon_bound (lon : ℝ) (h : |lon| < 64 * π) : |lon| * (4 / π) < 256 := by
  have hpi := Real.pi_pos
  rw [← sub_pos]
  have : 256 - |lon| * (4 / π) = (64 * π - |lon|) * (4 / π) := by field_simp; ring
  rw [this]; exact mul_pos (by linarith) (by positivity)

/-- **C01, `hash_real_contains`**: containment with respect to the model of the crate's own projection, for every depth
    `d ≤ 32` (the crate uses `d ≤ 29`; over ℝ the `u32` saturation is harmless up to `d = 32`), every latitude in
    `[−π/2, π/2]` and every longitude with `|lon| < 64π` (beyond, the `as u8` cast of `|lon|·4/π` saturates).
    The parts are those of `hash_v2` (`hashV2_real_eq`). -/
theorem hash_real_contains (d : ℕ) (hd : d ≤ 32) (lon lat : ℝ) (hlon : |lon| < 64 * π)
    (hl1 : -(π / 2) ≤ lat) (hl2 : lat ≤ π / 2) :
    ∃ X Y : ℝ, proj (α := ℝ) lon lat = some (X, Y) ∧
      (d0hLhInD0c (α := ℝ) lon lat).1 < 12 ∧
      gridCoord d ((d0hLhInD0c (α := ℝ) lon lat).2.2 + (d0hLhInD0c (α := ℝ) lon lat).2.1) < 2 ^ d ∧
      gridCoord d ((d0hLhInD0c (α := ℝ) lon lat).2.2 - (d0hLhInD0c (α := ℝ) lon lat).2.1) < 2 ^ d ∧
      ∃ m : ℤ, InDiamond d (d0hLhInD0c (α := ℝ) lon lat).1
        (gridCoord d ((d0hLhInD0c (α := ℝ) lon lat).2.2 + (d0hLhInD0c (α := ℝ) lon lat).2.1))
        (gridCoord d ((d0hLhInD0c (α := ℝ) lon lat).2.2 - (d0hLhInD0c (α := ℝ) lon lat).2.1))
        (X + 8 * (m : ℝ)) Y := by
  have hb := lon_bound lon hlon
  obtain ⟨_, _, _, X, m0, hproj, hX⟩ := proj_plane lon lat hb hl1 hl2
  exact ⟨X, planeY lat, hproj, contains_of_plane d hd lon lat hb hl1 hl2 (X, planeY lat) rfl ⟨m0, hX⟩⟩

/-- the clamp: `v = 2` (north-east border of a base cell, e.g. the pole) gives `nside − 1` -/
theorem gridCoord_two (d : ℕ) (hd : d ≤ 32) : gridCoord d 2 = 2 ^ d - 1 := by
  rw [gridCoord_eq_min d hd 2 (by norm_num) le_rfl, show (2 : ℝ) ^ d / 2 * 2 = ((2 ^ d : ℕ) : ℝ) by push_cast; ring,
    Nat.floor_natCast]
  exact min_eq_right (Nat.sub_le _ _)

theorem gridCoord_depth0 (v : ℝ) (h0 : 0 ≤ v) (h2 : v ≤ 2) : gridCoord 0 v = 0 := by
  have := (gridCoord_spec 0 (by norm_num) v h0 h2).1
  omega

/-- the hypotheses are satisfiable (negative longitude, north cap, deepest depth of the crate) -/
example : (29 : ℕ) ≤ 32 ∧ |(-1 : ℝ)| < 64 * π ∧ -(π / 2) ≤ (1 : ℝ) ∧ (1 : ℝ) ≤ π / 2 := by
  have := Real.two_le_pi
  refine ⟨by norm_num, ?_, by linarith, by linarith⟩
  rw [abs_neg, abs_one]; linarith

end Hpx.HashReal
