import HpxVerif.Model.Hash
import HpxVerif.Lemmas.F64Lemmas
import HpxVerif.Lemmas.BitsLemmas
import HpxVerif.Lemmas.UniqLemmas
import HpxVerif.Lemmas.LayerBmi
import HpxVerif.Lemmas.SizeGen
import HpxVerif.Lemmas.CenterXY

set_option autoImplicit false   -- an unknown identifier in a statement is an error, never a new variable

/-!
# C02 — NESTED cell numbers are hierarchical across depths (exact prefix property)

`hash_v2` is `back end ∘ front end`: the front end `d0h_lh_in_d0c(lon, lat)` takes no depth (in the model by
construction; in the code it is an associated function without `self`), and the back end scales the two sums
`h + l`, `h − l` by `nside/2` through the exponent bits, truncates, clamps `nside` to `nside − 1` and interleaves.

Proved for **every pair of 64-bit patterns** `u, v` standing for the two sums (negative, NaN, zero, subnormal or a
positive number below 8 — `F64.Small`), every base cell and every `1 ≤ d ≤ d' ≤ 29`:
the depth-`d` cell number is the depth-`d'` cell number shifted right by `2(d' − d)` bits (`backend_prefix`), and the
same statement for the `Float` instance of `hash_v2` itself (`hash_prefix`), border points included — no hypothesis
on libm.  The hypothesis that both coordinates are at most `nside` after scaling is exactly the code's own
`debug_assert!(i < self.nside && j < self.nside)` (after the clamp).
Depth 0 is stated separately (`backend_depth0`, `backend_top_bits`): the depth-0 cell is the base cell, which is the top four bits of
every deeper cell number.
Both are read off the closed form of the back end at a depth `1 ≤ d ≤ 29` (`backend_eq`: the base cell in front of the
interleaved clamped truncations, whichever z-order build), so they hold for every `cfg`; the statements that carry
`cfg.bmi = false` are their instances.
-/

namespace Hpx.C02
open Hpx Hpx.F64 Hpx.Layer

def clamp (n x : Nat) : Nat := if x == n then n - 1 else x

/-- the back end of `hash_v2` on the bit patterns of `h + l` and `h − l` -/
def backend (cfg : Cfg) (d d0h u v : Nat) : Option Nat :=
  let ns := nside d
  let i := clamp ns (truncU 32 (expAdd u (Hash.timeHalfNside d)))
  let j := clamp ns (truncU 32 (expAdd v (Hash.timeHalfNside d)))
  buildHashFromParts cfg d d0h i j

/-- `hash_v2` at `Float` is the back end applied to the bits produced by the (depth-free) front end -/
theorem hashV2_float (cfg : Cfg) (d : Nat) (lon lat : Float) :
    Hash.hashV2 cfg d lon lat =
      if !Proj.checkLat lat then none
      else backend cfg d (Hash.d0hLhInD0c lon lat).1
        (F.bits ((Hash.d0hLhInD0c lon lat).2.2 + (Hash.d0hLhInD0c lon lat).2.1))
        (F.bits ((Hash.d0hLhInD0c lon lat).2.2 - (Hash.d0hLhInD0c lon lat).2.1)) := by
  unfold Hash.hashV2 backend clamp
  rfl

theorem nside_eq (d : Nat) : nside d = 2 ^ d := Layer.nside_eq d

theorem clamp_shift {d d' x : Nat} (hd : d ≤ d') (hx : x ≤ 2 ^ d') :
    clamp (2 ^ d) (x >>> (d' - d)) = clamp (2 ^ d') x >>> (d' - d) := by
  have hpow : 2 ^ d' = 2 ^ d * 2 ^ (d' - d) := by rw [← Nat.pow_add]; congr 1; omega
  have hpos : 0 < 2 ^ (d' - d) := Nat.two_pow_pos _
  have hposd : 0 < 2 ^ d := Nat.two_pow_pos _
  unfold clamp
  simp only [Nat.shiftRight_eq_div_pow, beq_iff_eq]
  by_cases h : x = 2 ^ d'
  · subst h
    have h1 : 2 ^ d' / 2 ^ (d' - d) = 2 ^ d := by rw [hpow]; exact Nat.mul_div_cancel _ hpos
    have h2 : (2 ^ d' - 1) / 2 ^ (d' - d) = 2 ^ d - 1 := by
      rw [hpow, Nat.mul_comm]
      simpa using Nat.mul_sub_div 0 _ _ (Nat.mul_pos hpos hposd)
    simp [h1, h2]
  · have hlt : x < 2 ^ d' := by omega
    have h3 : x / 2 ^ (d' - d) < 2 ^ d := by
      rw [Nat.div_lt_iff_lt_mul hpos, ← hpow]; exact hlt
    have h4 : ¬ (x / 2 ^ (d' - d) = 2 ^ d) := by omega
    simp [h, h4]

theorem clamp_lt {d x : Nat} (hx : x ≤ 2 ^ d) : clamp (2 ^ d) x < 2 ^ d := by
  have := Nat.two_pow_pos d
  unfold clamp; split
  · omega
  · rename_i h; simp only [beq_iff_eq] at h; omega

theorem shr_le_pow {d d' x : Nat} (hd : d ≤ d') (hx : x ≤ 2 ^ d') : x >>> (d' - d) ≤ 2 ^ d := by
  rw [Nat.shiftRight_eq_div_pow]
  exact Nat.div_le_of_le_mul (by rw [← Nat.pow_add, Nat.sub_add_cancel hd]; exact hx)

theorem shl_or_shr (a z : Nat) {d d' : Nat} (hd : d ≤ d') :
    (a <<< (2 * d') ||| z) >>> (2 * (d' - d)) = a <<< (2 * d) ||| z >>> (2 * (d' - d)) := by
  rw [Nat.shiftRight_or_distrib, show 2 * d' = 2 * d + 2 * (d' - d) by omega, Nat.shiftLeft_add,
    Nat.shiftLeft_shiftRight]

theorem timeHalfNside_pos {d : Nat} (hd : 1 ≤ d) : Hash.timeHalfNside d = ((d - 1 : Nat) : Int) := by
  unfold Hash.timeHalfNside
  rw [if_pos (by omega)]
  omega

theorem backend_eq (cfg : Cfg) {d : Nat} (d0h u v : Nat) (hd1 : 1 ≤ d) (hd : d ≤ 29)
    (hi : truncU 32 (expAdd u ((d - 1 : Nat) : Int)) ≤ 2 ^ d) (hj : truncU 32 (expAdd v ((d - 1 : Nat) : Int)) ≤ 2 ^ d) :
    backend cfg d d0h u v = some (d0h <<< (2 * d) |||
      interleave (clamp (2 ^ d) (truncU 32 (expAdd u ((d - 1 : Nat) : Int))))
        (clamp (2 ^ d) (truncU 32 (expAdd v ((d - 1 : Nat) : Int))))) := by
  unfold backend
  simp only [timeHalfNside_pos hd1, nside_eq]
  exact LayerBmi.build_of_lt cfg hd d0h (clamp_lt hi) (clamp_lt hj)

/-! ## every build (LUT tables or BMI2) -/

section AnyBuild
open Hpx Hpx.F64 Hpx.Layer Hpx.LayerBmi

theorem hashV2_noBmi {α : Type} [Num α] (cfg : Cfg) (d : Nat) (lon lat : α) : Hash.hashV2 cfg d lon lat = Hash.hashV2 (noBmi cfg) d lon lat :=
  BmiTransfer.hashV2_noBmi cfg d lon lat

theorem backend_noBmi (cfg : Cfg) (d d0h u v : Nat) : backend cfg d d0h u v = backend (noBmi cfg) d d0h u v := by
  unfold backend
  simp only [buildHashFromParts_eq cfg]

/-- **hierarchy of the back end**: truncation commutes with the change of scale (`truncU_expAdd_prefix`), so does the
    clamp (`clamp_shift`), and interleaving turns the shift of both coordinates by `d' − d` into a shift of the cell
    number by `2(d' − d)` -/
theorem backend_prefix_any_build (cfg : Cfg) (d d' d0h u v : Nat) (hd1 : 1 ≤ d) (hdd : d ≤ d')
    (hd' : d' ≤ 29) (hu : Small u) (hv : Small v)
    (hi : truncU 32 (expAdd u ((d' - 1 : Nat) : Int)) ≤ 2 ^ d') (hj : truncU 32 (expAdd v ((d' - 1 : Nat) : Int)) ≤ 2 ^ d') :
    ∃ c', backend cfg d' d0h u v = some c' ∧ backend cfg d d0h u v = some (c' >>> (2 * (d' - d))) := by
  have pi := truncU_expAdd_prefix hu (d - 1) (d' - 1) (by omega) (by omega)
  have pj := truncU_expAdd_prefix hv (d - 1) (d' - 1) (by omega) (by omega)
  rw [show d' - 1 - (d - 1) = d' - d by omega] at pi pj
  have l32 : ∀ {x : Nat}, x ≤ 2 ^ d' → clamp (2 ^ d') x < 2 ^ 32 := fun h =>
    Nat.lt_of_lt_of_le (clamp_lt h) (Nat.pow_le_pow_right (by decide) (by omega))
  refine ⟨_, backend_eq cfg d0h u v (by omega) hd' hi hj, ?_⟩
  rw [backend_eq cfg d0h u v hd1 (by omega) (pi ▸ shr_le_pow hdd hi) (pj ▸ shr_le_pow hdd hj), ← pi, ← pj,
    clamp_shift hdd hi, clamp_shift hdd hj, ← interleave_shiftRight (l32 hi) (l32 hj), shl_or_shr _ _ hdd]

theorem hash_prefix_any_build (cfg : Cfg) (lon lat : Float) (d d' : Nat) (hd1 : 1 ≤ d) (hdd : d ≤ d')
    (hd' : d' ≤ 29) (hlat : Proj.checkLat lat = true)
    (hu : Small (F.bits ((Hash.d0hLhInD0c lon lat).2.2 + (Hash.d0hLhInD0c lon lat).2.1)))
    (hv : Small (F.bits ((Hash.d0hLhInD0c lon lat).2.2 - (Hash.d0hLhInD0c lon lat).2.1)))
    (hi : truncU 32 (expAdd (F.bits ((Hash.d0hLhInD0c lon lat).2.2 + (Hash.d0hLhInD0c lon lat).2.1)) ((d' - 1 : Nat) : Int)) ≤ 2 ^ d')
    (hj : truncU 32 (expAdd (F.bits ((Hash.d0hLhInD0c lon lat).2.2 - (Hash.d0hLhInD0c lon lat).2.1)) ((d' - 1 : Nat) : Int)) ≤ 2 ^ d') :
    ∃ c', Hash.hashV2 cfg d' lon lat = some c' ∧ Hash.hashV2 cfg d lon lat = some (c' >>> (2 * (d' - d))) := by
  rw [hashV2_float, hashV2_float]
  simp only [hlat, Bool.not_true, Bool.false_eq_true, if_false]
  exact backend_prefix_any_build cfg d d' _ _ _ hd1 hdd hd' hu hv hi hj

theorem backend_depth0_any_build (cfg : Cfg) (hdbg : cfg.debug = false) (d0h u v : Nat) :
    backend cfg 0 d0h u v = some d0h := by
  -- either build selects the empty curve at depth 0, which interleaves nothing
  have hz : zoc cfg 0 = some ZocClass.empty := by unfold zoc; split <;> decide
  unfold backend buildHashFromParts
  simp [hz, hdbg, LayerBmi.layer_ij2h_eq, ZocClass.bits, spreadN]

theorem backend_top_bits_any_build (cfg : Cfg) (d' d0h u v c' : Nat) (hd1 : 1 ≤ d') (hd' : d' ≤ 29)
    (hi : truncU 32 (expAdd u ((d' - 1 : Nat) : Int)) ≤ 2 ^ d') (hj : truncU 32 (expAdd v ((d' - 1 : Nat) : Int)) ≤ 2 ^ d')
    (h : backend cfg d' d0h u v = some c') : c' >>> (2 * d') = d0h := by
  have hlt := interleave_lt (d := d') (clamp_lt hi) (clamp_lt hj)
  rw [backend_eq cfg d0h u v hd1 hd' hi hj] at h
  rw [← Option.some.inj h, Nat.shiftRight_or_distrib, Nat.shiftLeft_shiftRight,
    Nat.shiftRight_eq_zero _ _ (by rw [← four_pow]; exact hlt), Nat.or_zero]

end AnyBuild

/-- **hierarchy of the back end** (LUT build) -/
theorem backend_prefix (cfg : Cfg) (hbmi : cfg.bmi = false) (d d' d0h u v : Nat) (hd1 : 1 ≤ d) (hdd : d ≤ d')
    (hd' : d' ≤ 29) (hu : Small u) (hv : Small v)
    (hi : truncU 32 (expAdd u ((d' - 1 : Nat) : Int)) ≤ 2 ^ d') (hj : truncU 32 (expAdd v ((d' - 1 : Nat) : Int)) ≤ 2 ^ d') :
    ∃ c', backend cfg d' d0h u v = some c' ∧ backend cfg d d0h u v = some (c' >>> (2 * (d' - d))) :=
  backend_prefix_any_build cfg d d' d0h u v hd1 hdd hd' hu hv hi hj

/-- the same statement for `hash_v2` itself at `Float`: for any position, the cell number at depth `d` is the prefix
    of the cell number at depth `d'`, bit for bit -/
theorem hash_prefix (cfg : Cfg) (hbmi : cfg.bmi = false) (lon lat : Float) (d d' : Nat) (hd1 : 1 ≤ d) (hdd : d ≤ d')
    (hd' : d' ≤ 29) (hlat : Proj.checkLat lat = true)
    (hu : Small (F.bits ((Hash.d0hLhInD0c lon lat).2.2 + (Hash.d0hLhInD0c lon lat).2.1)))
    (hv : Small (F.bits ((Hash.d0hLhInD0c lon lat).2.2 - (Hash.d0hLhInD0c lon lat).2.1)))
    (hi : truncU 32 (expAdd (F.bits ((Hash.d0hLhInD0c lon lat).2.2 + (Hash.d0hLhInD0c lon lat).2.1)) ((d' - 1 : Nat) : Int)) ≤ 2 ^ d')
    (hj : truncU 32 (expAdd (F.bits ((Hash.d0hLhInD0c lon lat).2.2 - (Hash.d0hLhInD0c lon lat).2.1)) ((d' - 1 : Nat) : Int)) ≤ 2 ^ d') :
    ∃ c', Hash.hashV2 cfg d' lon lat = some c' ∧ Hash.hashV2 cfg d lon lat = some (c' >>> (2 * (d' - d))) :=
  hash_prefix_any_build cfg lon lat d d' hd1 hdd hd' hlat hu hv hi hj

/-- depth 0: without debug assertions the depth-0 cell is the base cell delivered by the front end, whatever the
    two bit patterns are -/
theorem backend_depth0 (cfg : Cfg) (hbmi : cfg.bmi = false) (hdbg : cfg.debug = false) (d0h u v : Nat) :
    backend cfg 0 d0h u v = some d0h := backend_depth0_any_build cfg hdbg d0h u v

/-- … and the base cell is the top of every deeper cell number -/
theorem backend_top_bits (cfg : Cfg) (hbmi : cfg.bmi = false) (d' d0h u v c' : Nat) (hd1 : 1 ≤ d') (hd' : d' ≤ 29)
    (hi : truncU 32 (expAdd u ((d' - 1 : Nat) : Int)) ≤ 2 ^ d') (hj : truncU 32 (expAdd v ((d' - 1 : Nat) : Int)) ≤ 2 ^ d')
    (h : backend cfg d' d0h u v = some c') : c' >>> (2 * d') = d0h :=
  backend_top_bits_any_build cfg d' d0h u v c' hd1 hd' hi hj h

/-- non-vacuity: the bit patterns of 1.25 and 0.5 are small, and the hypothesis on the scaled indices holds at
    depth 29 -/
example : Small 0x3FF4000000000000 ∧ Small 0x3FE0000000000000 ∧
    truncU 32 (expAdd 0x3FF4000000000000 28) ≤ 2 ^ 29 ∧ truncU 32 (expAdd 0x3FF4000000000000 28) >>> 26 = truncU 32 (expAdd 0x3FF4000000000000 2) := by
  refine ⟨?_, ?_, ?_, ?_⟩
  · unfold Small sgnF expF manF; decide
  · unfold Small sgnF expF manF; decide
  · decide +kernel
  · decide +kernel


/-! ## constants from the source (`Gen/SizeTables.lean`, regenerated on every run from `Layer::new`) -/

/-- every integer field of `Layer::new(depth)` (depth, nside, nside_minus_1, n_hash, twice_depth, d0h_mask, x_mask, y_mask,
    xy_mask, nside_remainder_mask), depth 0..29: the model's values are the ones the source computes -/
theorem layer_fields_from_source :
    (List.range 30).map Hpx.SizeGen.modelLayerFields = Gen.Size.layerFields := Hpx.SizeGen.layer_fields_from_source

/-- `time_half_nside` (the exponent increment of the scaling by `nside / 2`): `(depth − 1) << 52`, `−1 << 52` at depth 0 -/
theorem time_half_nside_from_source :
    (List.range 30).map (fun d => Hash.timeHalfNside d * 2 ^ 52) = Gen.Size.layerTimeHalfNside :=
  Hpx.SizeGen.time_half_nside_from_source

end Hpx.C02
