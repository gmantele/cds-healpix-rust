import HpxVerif.Lemmas.BmocAnd
import HpxVerif.Lemmas.BmocNot
import HpxVerif.Lemmas.BmocOrXor
import HpxVerif.Lemmas.BmocCanon
import HpxVerif.Lemmas.BmocLaws

set_option autoImplicit false   -- an unknown identifier in a statement is an error, never a new variable

/-!
# C07 — BMOC logical operators implement set algebra on plain MOCs

On plain MOCs (every flag full) the three-valued state is two-valued (`abs`/`full`) and the operators must be
complement / intersection / union / symmetric difference.  Proved here: `and` is the intersection for all pairs of
well-formed MOCs and its result is again a MOC (all flags full); **`not` is the complement for every well-formed
in-range MOC of depth ≤ 29** (`not_sem`), its result is a well-formed in-range MOC (`not_is_moc`, `not_wf`), `not ∘ not = id` and
`A ∩ Aᶜ = ∅` as corollaries.  **`xor` is the symmetric difference** (`xor_sem`, public operator with `pack`; `xor_self_empty`).
**`or` is the union** (`or_sem`, public operator with `pack`; `or_not_allsky`).
**Canonical form** (`moc_canonical`, `bmoc_canonical`): well-formed, in-range, all-full lists without four full siblings
are determined by the set they denote; `pack` outputs are canonical (`pack_canonical`), and so are the results of `and`
and `not`, which do not call `pack` (`and_canonical`, `not_canonical`); hence `not (not a) = a`, commutativity,
idempotence, associativity of `and` and `a ∩ aᶜ = ∅` hold as structural equalities (`not_not`, `and_laws`).
-/

namespace Hpx.C07
open Hpx.Bmoc

def IsMoc (l : List Cell) : Prop := ∀ c ∈ l, c.full = true

theorem stOf_moc {D : Nat} {l : List Cell} (h : IsMoc l) (x : Nat) : stOf D l x = .abs ∨ stOf D l x = .full :=
  stOf_of_all_flag h x

/-- membership of the depth-`D` cell `x` in the set denoted by a MOC -/
def mem (D : Nat) (l : List Cell) (x : Nat) : Prop := stOf D l x = .full

/-- `and` is set intersection on plain MOCs -/
theorem and_sem (D : Nat) (a b : List Cell) (ha : WF D a) (hb : WF D b) (ma : IsMoc a) (mb : IsMoc b) (x : Nat) :
    mem D (andCells a b) x ↔ mem D a x ∧ mem D b x := by
  unfold mem
  rw [Hpx.Bmoc.and_sem D a b ha hb x]
  rcases stOf_moc ma (D := D) x with h1 | h1 <;> rcases stOf_moc mb (D := D) x with h2 | h2 <;> simp [h1, h2, Tri.min]

/-- the result of `and` on two MOCs is a MOC (every cell is full) -/
theorem and_is_moc (a b : List Cell) (ma : IsMoc a) (mb : IsMoc b) : IsMoc (andCells a b) := by
  intro c hc
  obtain ⟨l, hl, r, hr, hf, _⟩ := andCells_src a b c hc
  rw [hf, ma l hl, mb r hr]
  rfl

theorem and_wf (D : Nat) (a b : List Cell) (ha : WF D a) (hb : WF D b) : WF D (andCells a b) :=
  (and_wf_inside D a b ha hb).1

/-- `not` is the complement on plain MOCs, on the cells `x` of the sphere at the reference depth -/
theorem not_sem (D : Nat) (hD : D ≤ 29) (a : List Cell) (ha : WF D a) (hr : ∀ c ∈ a, InR c) (ma : IsMoc a)
    (x : Nat) (hx : x < 12 * 4 ^ D) : mem D (notCells a) x ↔ ¬ mem D a x := by
  unfold mem
  rw [(notCells_spec D hD a ha hr).1 x hx]
  rcases stOf_moc ma (D := D) x with h1 | h1 <;> simp [h1, Tri.not]

/-- the complement of a MOC is a MOC (every produced cell is full) -/
theorem not_is_moc (a : List Cell) (ma : IsMoc a) : IsMoc (notCells a) :=
  notCells_full ma

theorem not_wf (D : Nat) (hD : D ≤ 29) (a : List Cell) (ha : WF D a) (hr : ∀ c ∈ a, InR c) :
    WF D (notCells a) ∧ ∀ c ∈ notCells a, InR c :=
  ⟨(notCells_spec D hD a ha hr).2.1, (notCells_spec D hD a ha hr).2.2⟩

/-- double complement -/
theorem not_not_sem (D : Nat) (hD : D ≤ 29) (a : List Cell) (ha : WF D a) (hr : ∀ c ∈ a, InR c)
    (x : Nat) (hx : x < 12 * 4 ^ D) : stOf D (notCells (notCells a)) x = stOf D a x := by
  obtain ⟨s1, w1, r1⟩ := notCells_spec D hD a ha hr
  rw [(notCells_spec D hD _ w1 r1).1 x hx, s1 x hx]
  cases stOf D a x <;> rfl

theorem and_not_empty (D : Nat) (hD : D ≤ 29) (a : List Cell) (ha : WF D a) (hr : ∀ c ∈ a, InR c) (ma : IsMoc a)
    (x : Nat) (hx : x < 12 * 4 ^ D) : ¬ mem D (andCells a (notCells a)) x := by
  obtain ⟨s1, w1, _⟩ := notCells_spec D hD a ha hr
  unfold mem
  rw [Hpx.Bmoc.and_sem D a (notCells a) ha w1 x, s1 x hx]
  rcases stOf_moc ma (D := D) x with h1 | h1 <;> simp [h1, Tri.not, Tri.min]

/-- the hypotheses are satisfiable by a non-trivial MOC: `{1/5, 2/40}` at reference depth 2 -/
example : WF 2 [⟨1, 5, true⟩, ⟨2, 40, true⟩] ∧ (∀ c ∈ [(⟨1, 5, true⟩ : Cell), ⟨2, 40, true⟩], InR c) ∧
    IsMoc [⟨1, 5, true⟩, ⟨2, 40, true⟩] := by
  refine ⟨?_, ?_, ?_⟩
  · simp [WF, lo, hi]
  · intro c hc; simp only [List.mem_cons, List.not_mem_nil, or_false] at hc
    rcases hc with rfl | rfl <;> simp [InR]
  · intro c hc; simp only [List.mem_cons, List.not_mem_nil, or_false] at hc
    rcases hc with rfl | rfl <;> rfl

/-- **`xor` is the symmetric difference on plain MOCs** (public operator, `pack` included): the result has no partial
    cell and contains exactly the deepest-level cells that belong to one operand and not to the other -/
theorem xor_sem (A B : BMOC) (hdm : max A.dmax B.dmax ≤ 29)
    (hwA : WF (max A.dmax B.dmax) A.cells) (hwB : WF (max A.dmax B.dmax) B.cells)
    (hrA : ∀ c ∈ A.cells, InR c) (hrB : ∀ c ∈ B.cells, InR c) (mA : IsMoc A.cells) (mB : IsMoc B.cells) :
    ∃ R, BMOC.xor A B = some R ∧ ∀ x, stOf (max A.dmax B.dmax) R.cells x ≠ .part ∧
      (mem (max A.dmax B.dmax) R.cells x ↔ ¬ (mem (max A.dmax B.dmax) A.cells x ↔ mem (max A.dmax B.dmax) B.cells x)) := by
  rw [xor_eq_packedOp]
  obtain ⟨R, hR, _, _, _, _, hs⟩ := packedOp_spec computes_xor A B hdm ⟨hwA, hrA⟩ ⟨hwB, hrB⟩
  refine ⟨R, hR, fun x => ?_⟩
  unfold mem
  rw [hs x]
  rcases stOf_moc mA (D := max A.dmax B.dmax) x with h1 | h1 <;>
    rcases stOf_moc mB (D := max A.dmax B.dmax) x with h2 | h2 <;> rw [h1, h2] <;> decide

/-- `a xor a = ∅` -/
theorem xor_self_empty (A : BMOC) (hdm : A.dmax ≤ 29) (hwA : WF A.dmax A.cells) (hrA : ∀ c ∈ A.cells, InR c)
    (mA : IsMoc A.cells) : ∃ R, BMOC.xor A A = some R ∧ ∀ x, stOf A.dmax R.cells x = .abs := by
  rw [xor_eq_packedOp]
  obtain ⟨R, hR, _, _, _, _, hs⟩ := packedOp_spec computes_xor A A (by simpa using hdm) ⟨by simpa using hwA, hrA⟩
    ⟨by simpa using hwA, hrA⟩
  refine ⟨R, hR, fun x => ?_⟩
  have hx := hs x
  simp only [Nat.max_self] at hx
  rw [hx]
  rcases stOf_moc mA (D := A.dmax) x with h1 | h1 <;> simp [h1, Tri.xor]

/-- **a packed plain MOC is canonical**: two well-formed in-range all-full cell lists without four full siblings that
    contain the same deepest-level cells are the same list -/
theorem moc_canonical (D : Nat) (a b : List Cell) (ha : Canonical D a) (hb : Canonical D b)
    (h : ∀ x, x < 12 * 4 ^ D → (mem D a x ↔ mem D b x)) : a = b := by
  apply Hpx.Bmoc.moc_canonical ha hb
  intro x hx
  have := h x hx
  unfold mem at this
  rcases stOf_of_all_flag (D := D) ha.2.2.1 x with h1 | h1 <;>
    rcases stOf_of_all_flag (D := D) hb.2.2.1 x with h2 | h2 <;> simp_all [Tri.ofFlag]

/-- the same for raw BMOCs (what `BMOC::equals` / `==` on the entries compares) -/
theorem bmoc_canonical (A B : BMOC) (hdm : A.dmax = B.dmax) (h29 : A.dmax ≤ 29)
    (vA : ∀ r ∈ A.entries, ValidRaw A.dmax r) (vB : ∀ r ∈ B.entries, ValidRaw B.dmax r)
    (cA : Canonical A.dmax A.cells) (cB : Canonical B.dmax B.cells)
    (h : ∀ x, x < 12 * 4 ^ A.dmax → stOf A.dmax A.cells x = stOf B.dmax B.cells x) : A = B :=
  Hpx.Bmoc.bmoc_canonical A B hdm (map_encode_cellsOf A.dmax h29 A.entries vA).symm
    (map_encode_cellsOf B.dmax (hdm ▸ h29) B.entries vB).symm cA cB h

/-- the output of `pack` on a plain MOC is canonical (this is what `or` and `xor` return) and denotes the same set -/
theorem pack_canonical (dm : Nat) (hdm : dm ≤ 29) (cs : List Cell) (hw : WF dm cs) (hr : ∀ c ∈ cs, InR c)
    (hf : IsMoc cs) :
    Canonical dm (cellsOf dm (pack dm (cs.map (encode dm)))) ∧
    ∀ x, stOf dm (cellsOf dm (pack dm (cs.map (encode dm)))) x = stOf dm cs x :=
  pack_cells_canonical dm hdm cs hw hr hf

/-- `and` does not call `pack`, and does not need to: the intersection of canonical MOCs is canonical -/
theorem and_canonical (D : Nat) (a b : List Cell) (ha : Canonical D a) (hb : Canonical D b) :
    Canonical D (andCells a b) := Hpx.Bmoc.and_canonical ha hb

/-- `not` does not call `pack` either: the complement of a canonical MOC is canonical -/
theorem not_canonical (D : Nat) (hD : D ≤ 29) (a : List Cell) (ha : Canonical D a) : Canonical D (notCells a) :=
  Hpx.Bmoc.not_canonical hD ha

/-- `not (not a) = a` as a STRUCTURAL equality of raw BMOCs -/
theorem not_not (A : BMOC) (h29 : A.dmax ≤ 29) (vA : ∀ r ∈ A.entries, ValidRaw A.dmax r)
    (cA : Canonical A.dmax A.cells) : A.not.not = A := by
  have cN := Hpx.Bmoc.not_canonical h29 cA
  have e1 : A.not.cells = notCells A.cells := by
    show cellsOf A.dmax ((notCells A.cells).map (encode A.dmax)) = _
    exact cellsOf_map_encode A.dmax h29 _ cN.1.depth_le cN.2.1
  obtain ⟨da, ea⟩ := A
  show (⟨da, (notCells (BMOC.not ⟨da, ea⟩).cells).map (encode da)⟩ : BMOC) = ⟨da, ea⟩
  rw [e1, not_not_canonical h29 cA]
  congr 1
  exact map_encode_cellsOf da h29 ea vA

/-- `a and b = b and a`, `a and a = a`, `a and not a = ∅`, associativity, as STRUCTURAL equalities of cell lists -/
theorem and_laws (D : Nat) (hD : D ≤ 29) (a b c : List Cell) (ha : Canonical D a) (hb : Canonical D b)
    (hc : Canonical D c) :
    andCells a b = andCells b a ∧ andCells a a = a ∧ andCells a (notCells a) = [] ∧
    andCells (andCells a b) c = andCells a (andCells b c) := by
  have hn := Hpx.Bmoc.not_canonical hD ha
  have hab := Hpx.Bmoc.and_canonical ha hb
  have hbc := Hpx.Bmoc.and_canonical hb hc
  -- each law is an identity of `Tri.min`/`Tri.not` between two canonical lists
  refine ⟨and_comm_canonical ha hb,
    Hpx.Bmoc.moc_canonical (Hpx.Bmoc.and_canonical ha ha) ha (fun x _ => ?_),
    Hpx.Bmoc.moc_canonical (Hpx.Bmoc.and_canonical ha hn) (canonical_nil D) (fun x hx => ?_),
    Hpx.Bmoc.moc_canonical (Hpx.Bmoc.and_canonical hab hc) (Hpx.Bmoc.and_canonical ha hbc) (fun x _ => ?_)⟩
  · rw [Hpx.Bmoc.and_sem D a a ha.1 ha.1]
    cases stOf D a x <;> rfl
  · rw [Hpx.Bmoc.and_sem D a _ ha.1 hn.1, (notCells_spec D hD a ha.1 ha.2.1).1 x hx]
    rcases stOf_of_all_flag (D := D) ha.2.2.1 x with h1 | h1 <;> rw [h1] <;> rfl
  · rw [Hpx.Bmoc.and_sem D _ c hab.1 hc.1, Hpx.Bmoc.and_sem D a b ha.1 hb.1, Hpx.Bmoc.and_sem D a _ ha.1 hbc.1,
      Hpx.Bmoc.and_sem D b c hb.1 hc.1]
    cases stOf D a x <;> cases stOf D b x <;> cases stOf D c x <;> rfl

/-- two unions / symmetric differences of the same set are the same entries: `pack` of any two MOC cell lists with
    the same content is the same raw list (so `or`/`xor` results compare equal iff they denote the same set) -/
theorem pack_eq_of_same_set (dm : Nat) (hdm : dm ≤ 29) (a b : List Cell) (wa : WF dm a) (wb : WF dm b)
    (ra : ∀ c ∈ a, InR c) (rb : ∀ c ∈ b, InR c) (fa : IsMoc a) (fb : IsMoc b)
    (h : ∀ x, x < 12 * 4 ^ dm → stOf dm a x = stOf dm b x) :
    pack dm (a.map (encode dm)) = pack dm (b.map (encode dm)) :=
  Hpx.Bmoc.pack_eq_of_same_set dm hdm a b wa wb ra rb fa fb h

/-- the hypotheses are satisfiable: a three-level canonical MOC -/
example : Canonical 2 exCanonMoc := exCanonMoc_canonical

/-- **`or` is the union on plain MOCs** (public operator, `pack` included): the result is a plain MOC containing exactly
    the deepest-level cells that belong to one of the operands -/
theorem or_sem (A B : BMOC) (D : Nat) (hmax : max A.dmax B.dmax = D) (hD : D ≤ 29)
    (hwA : WF D A.cells) (hwB : WF D B.cells) (hrA : ∀ c ∈ A.cells, InR c) (hrB : ∀ c ∈ B.cells, InR c)
    (mA : IsMoc A.cells) (mB : IsMoc B.cells) :
    ∃ R, BMOC.or A B = some R ∧ IsMoc R.cells ∧ ∀ x, mem D R.cells x ↔ (mem D A.cells x ∨ mem D B.cells x) := by
  subst hmax
  rw [or_eq_packedOp]
  obtain ⟨R, hR, _, _, _, v, hs⟩ := packedOp_spec computes_or A B hD ⟨hwA, hrA⟩ ⟨hwB, hrB⟩
  refine ⟨R, hR, flags_of_sem v.1 (fun x => ?_), fun x => by unfold mem; rw [hs x, tri_max_eq_full]⟩
  rw [hs x]
  exact tri_max_of_flag (stOf_of_all_flag mA x) (stOf_of_all_flag mB x)

/-- on the sphere, the maximum of the states of a cell in a plain MOC and in its complement is `full` (what `a or not a`
    denotes, by `or_sem`) -/
theorem or_not_allsky (A : BMOC) (hD : A.dmax ≤ 29) (hv : ∀ r ∈ A.entries, ValidRaw A.dmax r) (hw : WF A.dmax A.cells)
    (hr : ∀ c ∈ A.cells, InR c) (mA : IsMoc A.cells) (x : Nat) (hx : x < 12 * 4 ^ A.dmax) :
    Tri.max (stOf A.dmax A.cells x) (stOf A.dmax (notCells A.cells) x) = .full := by
  rw [(notCells_spec A.dmax hD A.cells hw hr).1 x hx]
  rcases stOf_moc mA (D := A.dmax) x with h1 | h1 <;> simp [h1, Tri.not, Tri.max]

/-- **`or` is commutative on plain MOCs as a STRUCTURAL equality** (`a | b` and `b | a` are the same entries, and both
    are computed): the final `pack` makes the union canonical -/
theorem or_comm (A B : BMOC) (D : Nat) (hmax : max A.dmax B.dmax = D) (hD : D ≤ 29)
    (hwA : WF D A.cells) (hwB : WF D B.cells) (hrA : ∀ c ∈ A.cells, InR c) (hrB : ∀ c ∈ B.cells, InR c)
    (mA : IsMoc A.cells) (mB : IsMoc B.cells) : BMOC.or A B = BMOC.or B A ∧ (BMOC.or A B).isSome := by
  subst hmax
  rw [or_eq_packedOp]
  exact packedOp_comm_moc computes_or tri_max_comm (fun s t hs ht => by
    cases s <;> cases t <;> first | exact absurd rfl hs | exact absurd rfl ht | (intro h; cases h))
    A B hD ⟨hwA, hrA⟩ ⟨hwB, hrB⟩ mA mB

/-- **de Morgan on plain MOCs**: `(not a) or (not b)` is computed and contains exactly the cells of `not (a and b)` -/
theorem de_morgan (D : Nat) (hD : D ≤ 29) (a b : List Cell) (ha : WF D a) (hb : WF D b)
    (hra : ∀ c ∈ a, InR c) (hrb : ∀ c ∈ b, InR c) :
    ∃ l, orCellsUnpacked (notCells a) (notCells b) = some l ∧
      ∀ x, x < 12 * 4 ^ D → (mem D l x ↔ mem D (notCells (andCells a b)) x) := by
  obtain ⟨l, hl, h⟩ := de_morgan_or_not D hD a b ha hb hra hrb
  exact ⟨l, hl, fun x hx => by unfold mem; rw [h x hx]⟩

/-- **`xor` is commutative on plain MOCs as a STRUCTURAL equality** (same entries, both computed) -/
theorem xor_comm (A B : BMOC) (D : Nat) (hmax : max A.dmax B.dmax = D) (hD : D ≤ 29)
    (hwA : WF D A.cells) (hwB : WF D B.cells) (hrA : ∀ c ∈ A.cells, InR c) (hrB : ∀ c ∈ B.cells, InR c)
    (mA : IsMoc A.cells) (mB : IsMoc B.cells) : BMOC.xor A B = BMOC.xor B A ∧ (BMOC.xor A B).isSome := by
  subst hmax
  rw [xor_eq_packedOp]
  exact packedOp_comm_moc computes_xor Tri.xor_comm (fun s t hs ht => by
    cases s <;> cases t <;> first | exact absurd rfl hs | exact absurd rfl ht | (intro h; cases h))
    A B hD ⟨hwA, hrA⟩ ⟨hwB, hrB⟩ mA mB

end Hpx.C07
