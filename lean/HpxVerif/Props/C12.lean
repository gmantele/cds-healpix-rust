import HpxVerif.Props.C16
import HpxVerif.Lemmas.TightnessEllipse
import HpxVerif.Lemmas.CoverAllWF
import HpxVerif.Lemmas.PolyComposeKept
import HpxVerif.Lemmas.PolyComposeBulge

set_option autoImplicit false   -- an unknown identifier in a statement is an error, never a new variable

/-!
# C12 — polygon coverage keeps the vertex cells, is tight, and flags honestly

Model: `Sph.polygonCoverage` (`polygon_coverage(vertices, exact_solution)`, both modes: `Polygon::new`,
`Cone::bounding_cone`, start cells, sorted list of the vertex cells and, in the exact mode, of the cells of the special points
of the edges (`Model/SpecialPoints.lean`, `Model/PolyExact.lean`), descent with `is_in_list` / `n_vertices_in_poly` /
`has_intersection`), `Sph.polygonCoverageApprox` (the mode `exact = false` written out), and `Polygon.contains` — tied bit for
bit to the crate on every run (BMOC entry by entry; `contains` answer by answer).

In this file and in `Lemmas/PolyCompose*.lean`, T1 is the meaning of the "fully covered" flag (the four vertices of the cell
are inside the polygon), T2 what follows for the rest of the cell (the centre: yes; every point: no), T3 that the cells of the
polygon vertices are kept.

Proved, for **every polygon, every numeric instance, every answer of the floating-point tests**:
* `is_in_list_complete`: on the sorted, deduplicated vertex-hash list `is_in_list` answers true for every ancestor
  (or the cell itself) of every listed hash — the binary search never loses a vertex;
* `vertex_cell_kept`: in the descent below a start cell, every vertex hash lying under that start cell ends up under a
  cell of the output (the cell of a vertex is never skipped and never cut off), and `vertex_cell_kept_allsky`: when the
  bounding cone is too large for a starting depth (start cells = the 12 base cells) this holds for every vertex hash
  `< 12·4^depth`, with no hypothesis left;
* `full_flag_rule`: a cell of the output flagged full is not an ancestor of a vertex cell and its four vertices, as
  computed by `vertices`, all satisfy `Polygon.contains` (4 of 4); `descend` never carries a full flag;
* `structure_below`: the cell list of every start cell is well formed, inside the start cell, depths between start and target
  depth; `structure_roots`: with strictly increasing start cells the whole output is well formed and is exactly the
  concatenation of the per-root outputs (no cell invented).
* `coverage_spec`, `coverage_vertex_kept_allsky`, and for both modes `coverage_spec_modes`, `coverage_kept_allsky_modes`,
  `vertex_cells_kept_modes`: the value returned by `polygon_coverage` *is* the encoded concatenation of those descents
  (start depth `≤ depth`; base cells when no starting depth exists), so the theorems above speak about the returned BMOC.
**Over the reals**: `is_in_lon_range_spec` (no hypothesis), `crossing_test_geometric`, `contains_parity`
(every polygon: parity of the edges crossed going south, XOR the south-pole flag), and **`contains_convex`: for every
convex polygon of either winding, inside a hemisphere and containing no pole, and every point of the sphere not on its
boundary, `Polygon::contains` answers exactly "inside all the edge half-spaces"** (vertex meridians and poles included).
Left to the oracle (searched on every run; see DESIGN.md): that the start cells (neighbourhood of the bounding-cone centre
cell) cover every vertex cell; tightness w.r.t. the bounding cone; that the special points computed in the `exact` mode are
the geometric ones (the root finder `arc_special_points` is modelled bit for bit, its output is not characterised).
-/

namespace Hpx.C12
open Hpx Hpx.Cover Hpx.Bmoc Hpx.Sph

variable {α : Type} [Num α]

theorem is_in_list_complete (depth hash depthHashs : Nat) (hs : List Nat) (v : Nat) (hv : v ∈ hs)
    (hanc : v >>> ((depthHashs - depth) <<< 1) = hash) :
    isInList depth hash depthHashs (dedupAdj (sortNat hs)) = true :=
  isInList_complete depth hash depthHashs _ (pairwise_dedup_sort hs) v ((mem_dedup_sort v hs).mpr hv) hanc

theorem classifier_skip (cfg : Cfg) (target : Nat) (poly : Polygon α) (s : List Nat) (d h l : Nat)
    (hk : polyClassifier cfg target poly s d h l = some .skip) : isInList d h target s = false :=
  PolyCompose.classifier_skip cfg target poly s d h l hk

theorem classifier_descend (cfg : Cfg) (target : Nat) (poly : Polygon α) (s : List Nat) (d h l : Nat) (fl : Bool)
    (hk : polyClassifier cfg target poly s d h l = some (.descend fl)) : fl = false :=
  PolyCompose.classifier_descend cfg target poly s d h l fl hk

theorem classifier_full (cfg : Cfg) (target : Nat) (poly : Polygon α) (s : List Nat) (d h l : Nat)
    (hk : polyClassifier cfg target poly s d h l = some .full) :
    isInList d h target s = false ∧ ∃ vs cs, Hash.vertices (α := α) cfg d h = some vs ∧
      vs.mapM (fun v => fromSphCoo cfg.debug v.1 v.2) = some cs ∧ (cs.filter fun c => poly.contains c).length = 4 :=
  PolyCompose.classifier_full cfg target poly s d h l hk

/-- **vertex cells are kept**: below a start cell `(ds, root)`, every vertex hash under that start cell lies under a
    cell of the output. -/
theorem vertex_cell_kept (cfg : Cfg) (target : Nat) (poly : Polygon α) (hs : List Nat)
    (fuel ds root level : Nat) (out : List Cell) (hds : ds ≤ target)
    (h : coverRec target (polyClassifier cfg target poly (dedupAdj (sortNat hs))) fuel ds root level = some out)
    (v : Nat) (hv : v ∈ hs) (hroot : v >>> ((target - ds) <<< 1) = root) :
    ∃ c ∈ out, c.depth ≤ target ∧ v >>> ((target - c.depth) <<< 1) = c.hash :=
  PolyCompose.vertex_cell_kept cfg target poly hs fuel ds root level out hds h v hv hroot

/-- **flags**: a full cell is no ancestor of a vertex cell and has 4 of its 4 vertices inside (`Polygon.contains`) -/
theorem full_flag_rule (cfg : Cfg) (target : Nat) (poly : Polygon α) (s : List Nat)
    (fuel ds root level : Nat) (out : List Cell)
    (h : coverRec target (polyClassifier cfg target poly s) fuel ds root level = some out)
    (c : Cell) (hc : c ∈ out) (hf : c.full = true) :
    isInList c.depth c.hash target s = false ∧ ∃ vs cs, Hash.vertices (α := α) cfg c.depth c.hash = some vs ∧
      vs.mapM (fun v => fromSphCoo cfg.debug v.1 v.2) = some cs ∧ (cs.filter fun x => poly.contains x).length = 4 := by
  obtain ⟨l, hl | ⟨_, hl⟩⟩ := coverRec_full_rule target _ fuel ds root level out h c hc hf
  · exact classifier_full cfg target poly s _ _ l hl
  · exact absurd (classifier_descend cfg target poly s _ _ l true hl) (by simp)

theorem structure_below (cfg : Cfg) (target : Nat) (poly : Polygon α) (s : List Nat) (D : Nat) (hD : target ≤ D)
    (fuel ds root level : Nat) (out : List Cell) (hds : ds ≤ target)
    (h : coverRec target (polyClassifier cfg target poly s) fuel ds root level = some out) :
    WF D out ∧ ∀ c ∈ out, lo D ⟨ds, root, true⟩ ≤ lo D c ∧ hi D c ≤ hi D ⟨ds, root, true⟩ ∧
      ds ≤ c.depth ∧ c.depth ≤ target :=
  coverRec_below target _ D hD fuel ds root level out hds h

theorem structure_roots (cfg : Cfg) (target : Nat) (poly : Polygon α) (s : List Nat) (D : Nat) (hD : target ≤ D)
    (fuel ds : Nat) (hds : ds ≤ target) (roots : List Nat) (hp : roots.Pairwise (· < ·)) (out : List Cell)
    (h : roots.foldlM (fun acc r => (coverRec target (polyClassifier cfg target poly s) fuel ds r 0).map (acc ++ ·)) [] = some out) :
    WF D out ∧
    (∀ c ∈ out, ∃ r ∈ roots, ∃ o, coverRec target (polyClassifier cfg target poly s) fuel ds r 0 = some o ∧ c ∈ o) ∧
    (∀ r ∈ roots, ∃ o, coverRec target (polyClassifier cfg target poly s) fuel ds r 0 = some o ∧ ∀ c ∈ o, c ∈ out) := by
  obtain ⟨g1, g2, g3, _⟩ := rootsFold target _ D hD fuel ds hds roots [] out hp trivial (by simp) h
  refine ⟨g1, ?_, g3⟩
  intro c hc
  rcases g2 c hc with h0 | h0
  · simp at h0
  · exact h0

/-- start cells = the 12 base cells: every vertex hash `< 12·4^target` is kept, no hypothesis on the geometry -/
theorem vertex_cell_kept_allsky (cfg : Cfg) (target : Nat) (poly : Polygon α) (hs : List Nat) (fuel : Nat) (out : List Cell)
    (h : (List.range 12).foldlM (fun acc r =>
      (coverRec target (polyClassifier cfg target poly (dedupAdj (sortNat hs))) fuel 0 r 0).map (acc ++ ·)) [] = some out)
    (v : Nat) (hv : v ∈ hs) (hlt : v < 12 * 4 ^ target) :
    ∃ c ∈ out, c.depth ≤ target ∧ v >>> ((target - c.depth) <<< 1) = c.hash := by
  obtain ⟨_, g3, _⟩ := Cover.foldlM_append_spec _ (List.range 12) [] out h
  obtain ⟨o, ho, hsub⟩ := g3 _ (PolyCompose.shr_lt_12 v target hlt)
  obtain ⟨c, hc, hcd⟩ := vertex_cell_kept cfg target poly hs fuel 0 _ 0 o (Nat.zero_le _) ho v hv rfl
  exact ⟨c, hsub c hc, hcd⟩

/-! ## the value returned by `polygon_coverage(vertices, exact_solution)`, both modes -/

/-- the approximate mode is the two-mode function with no extra cell -/
theorem coverage_approx_is_mode_false (cfg : Cfg) (depth : Nat) (vertices : List (α × α)) :
    polygonCoverage cfg depth vertices false = polygonCoverageApprox cfg depth vertices :=
  CoverAll.polygonCoverage_false cfg depth vertices

/-- what `polygon_coverage` returns in either mode, when it returns: the encoded concatenation of the descents below its
    start cells, with the classifier built from the polygon and the sorted list of the vertex cells **plus, in the exact
    mode, the cells of the special points of every edge** (`special_points_finder::arc_special_points`, modelled bit for
    bit in `Model/SpecialPoints.lean`) -/
theorem coverage_spec_modes (cfg : Cfg) (depth : Nat) (vertices : List (α × α)) (exact : Bool) (b : BMOC)
    (h : polygonCoverage cfg depth vertices exact = some b) :
    depth ≤ 29 ∧ ∃ (poly : Polygon α) (hs ex : List Nat) (ds : Nat) (roots : List Nat) (cells : List Cell),
      Polygon.new cfg.debug vertices = some poly ∧
      poly.vertices.mapM (fun c => Hash.hashV2 cfg depth c.lon c.lat) = some hs ∧
      (if exact then specialHashes cfg depth poly else some []) = some ex ∧
      ds ≤ depth ∧ (C2V.hasBestStartingDepth (α := α) (match boundingCone poly.vertices with | some x => x.2 | none => Num.zero) = false →
        ds = 0 ∧ roots = List.range 12) ∧
      roots.foldlM (fun acc r =>
        (coverRec depth (polyClassifier cfg depth poly (dedupAdj (sortNat (hs ++ ex)))) (depth + 2) ds r 0).map (acc ++ ·)) [] = some cells ∧
      b = { dmax := depth, entries := cells.map (encode depth) } := by
  obtain ⟨hd, poly, hs, ex, ds, roots, cells, h1, h2, h3, h4, hds, h5, h6⟩ :=
    PolyCompose.coverage_spec_start cfg depth vertices exact b h
  exact ⟨hd, poly, hs, ex, ds, roots, cells, h1, h2, h3, hds, PolyCompose.startCells_allsky cfg depth poly ds roots h4, h5, h6⟩

/-- what `polygon_coverage(.., exact = false)` returns, when it returns: the encoded concatenation of the descents below
    its start cells, with the classifier built from `Polygon::new` and the sorted vertex-hash list -/
theorem coverage_spec (cfg : Cfg) (depth : Nat) (vertices : List (α × α)) (b : BMOC)
    (h : polygonCoverageApprox cfg depth vertices = some b) :
    depth ≤ 29 ∧ ∃ (poly : Polygon α) (hs : List Nat) (ds : Nat) (roots : List Nat) (cells : List Cell),
      Polygon.new cfg.debug vertices = some poly ∧
      poly.vertices.mapM (fun c => Hash.hashV2 cfg depth c.lon c.lat) = some hs ∧
      ds ≤ depth ∧ (C2V.hasBestStartingDepth (α := α) (match boundingCone poly.vertices with | some x => x.2 | none => Num.zero) = false →
        ds = 0 ∧ roots = List.range 12) ∧
      roots.foldlM (fun acc r =>
        (coverRec depth (polyClassifier cfg depth poly (dedupAdj (sortNat hs))) (depth + 2) ds r 0).map (acc ++ ·)) [] = some cells ∧
      b = { dmax := depth, entries := cells.map (encode depth) } := by
  rw [← coverage_approx_is_mode_false] at h
  obtain ⟨hd, poly, hs, ex, ds, roots, cells, h1, h2, h3, hds, h4, h5, h6⟩ := coverage_spec_modes cfg depth vertices false b h
  cases Option.some.inj h3
  rw [List.append_nil] at h5
  exact ⟨hd, poly, hs, ds, roots, cells, h1, h2, hds, h4, h5, h6⟩

/-- end to end, large bounding cone (no starting depth): the returned BMOC's cell list keeps every vertex hash -/
theorem coverage_vertex_kept_allsky (cfg : Cfg) (depth : Nat) (vertices : List (α × α)) (b : BMOC)
    (h : polygonCoverageApprox cfg depth vertices = some b) :
    ∃ (poly : Polygon α) (hs : List Nat) (cells : List Cell), Polygon.new cfg.debug vertices = some poly ∧
      poly.vertices.mapM (fun c => Hash.hashV2 cfg depth c.lon c.lat) = some hs ∧
      b.entries = cells.map (encode depth) ∧
      (C2V.hasBestStartingDepth (α := α) (match boundingCone poly.vertices with | some x => x.2 | none => Num.zero) = false →
        ∀ v ∈ hs, v < 12 * 4 ^ depth → ∃ c ∈ cells, c.depth ≤ depth ∧ v >>> ((depth - c.depth) <<< 1) = c.hash) := by
  obtain ⟨_, poly, hs, ds, roots, cells, h1, h2, _, h4, h5, h6⟩ := coverage_spec cfg depth vertices b h
  refine ⟨poly, hs, cells, h1, h2, by rw [h6], ?_⟩
  intro hno v hv hlt
  obtain ⟨rfl, rfl⟩ := h4 hno
  exact vertex_cell_kept_allsky cfg depth poly hs (depth + 2) cells h5 v hv hlt

/-- **in both modes the cell of every vertex — and, in the exact mode, of every special point — is kept**, whatever the
    floating-point tests answer, when the start cells are the 12 base cells -/
theorem coverage_kept_allsky_modes (cfg : Cfg) (depth : Nat) (vertices : List (α × α)) (exact : Bool) (b : BMOC)
    (h : polygonCoverage cfg depth vertices exact = some b) :
    ∃ (poly : Polygon α) (hs ex : List Nat) (cells : List Cell), Polygon.new cfg.debug vertices = some poly ∧
      poly.vertices.mapM (fun c => Hash.hashV2 cfg depth c.lon c.lat) = some hs ∧
      (if exact then specialHashes cfg depth poly else some []) = some ex ∧
      b.entries = cells.map (encode depth) ∧
      (C2V.hasBestStartingDepth (α := α) (match boundingCone poly.vertices with | some x => x.2 | none => Num.zero) = false →
        ∀ v ∈ hs ++ ex, v < 12 * 4 ^ depth → ∃ c ∈ cells, c.depth ≤ depth ∧ v >>> ((depth - c.depth) <<< 1) = c.hash) := by
  obtain ⟨_, poly, hs, ex, ds, roots, cells, h1, h2, h3, _, h4, h5, h6⟩ := coverage_spec_modes cfg depth vertices exact b h
  refine ⟨poly, hs, ex, cells, h1, h2, h3, by rw [h6], ?_⟩
  intro hno v hv hlt
  obtain ⟨rfl, rfl⟩ := h4 hno
  exact vertex_cell_kept_allsky cfg depth poly (hs ++ ex) (depth + 2) cells h5 v hv hlt

/-- the table of limits that selects the starting depth is regular (each depth halves the limit, relative excess
    `≈ 0.05·2^-k`): the obligation of C16 about the constants of the source, required here because the start cells of this
    coverage are chosen with that table -/
theorem start_depth_table_regular :
    (∀ j, j < 24 →
      C16.dyHalvingLo (j + 2) 1 25 (Gen.smallerEdge2OpEdgeDistDyadic.getD (j + 2) (0, 0)) (Gen.smallerEdge2OpEdgeDistDyadic.getD (j + 3) (0, 0)) = true ∧
      C16.dyHalvingHi (j + 2) 1 10 (Gen.smallerEdge2OpEdgeDistDyadic.getD (j + 2) (0, 0)) (Gen.smallerEdge2OpEdgeDistDyadic.getD (j + 3) (0, 0)) = true) :=
  C16.table_halving.1

/-! ## `Polygon::contains` over the reals: what the predicate computes

Vocabulary of `Lemmas/PolyReal*.lean`: `Coo.Valid` (the stored unit vector is that of `(lon, lat)`, `lon ∈ [0, 2π)`,
`lat ∈ [−π/2, π/2]`), `Coo.NonPole`, `LonRange a b l` (the shorter way round from the smaller to the larger longitude,
closed at its western end, open at its eastern end), `CrossesSouth u w p` (the great-circle arc `u w` meets the meridian of
`p` strictly south of `p`), `edges vs` (the closed list of edges), `Polygon.Built` (cross products and south-pole flag
as `Polygon::new` stores them), `ConvexNoPole o vs` (orientation `o = ±1`, `≥ 3` valid non-pole vertices, strictly convex,
inside an open hemisphere, both poles strictly outside). -/

section PolygonContains
open Hpx Hpx.Sph Real Hpx.Proj Classical

/-- **`is_in_lon_range`, exactly** (every triple of reals, no hypothesis): symmetric in the two vertices. -/
theorem is_in_lon_range_spec (coo v1 v2 : Coo ℝ) :
    isInLonRange coo v1 v2 = true ↔ LonRange v1.lon v2.lon coo.lon :=
  Hpx.Sph.is_in_lon_range_spec coo v1 v2

/-- **the test made on one edge by `odd_num_intersect_going_south`, geometrically.**  For an edge `u → w` between two
    points that are not poles, and a point `p` whose meridian passes through neither end point: the longitude-range test
    and the sign test `p · N > 0` on the north-pointing normal `N = ±(u × w)` are both true iff the great-circle arc `u w`
    (the shorter one) crosses the meridian of `p` at a point strictly SOUTH of `p`.  The only edges excluded are those
    whose end points are on opposite meridians (`|Δlon| = π`: the arc passes over a pole); an edge along a meridian is
    included (both sides false).  The orientation rule: the sign of `p · (u × w)` is flipped exactly when the edge goes
    westwards (`(u × w).z < 0`, i.e. `sin Δlon < 0`). -/
theorem crossing_test_geometric {u w p : Coo ℝ} (hu : u.Valid) (hw : w.Valid) (hp : p.Valid) (hun : u.NonPole)
    (hwn : w.NonPole) (hopp : |w.lon - u.lon| ≠ π) (hlu : p.lon ≠ u.lon) (hlw : p.lon ≠ w.lon) :
    (isInLonRange p u w && Num.gt (dot p (npCross u w)) (Num.zero : ℝ)) = true ↔ CrossesSouth u w p :=
  Hpx.Sph.crossing_test_geometric hu hw hp hun hwn hopp hlu hlw

/-- **`Polygon::new` over the reals**: for positions in the canonical ranges (`Coo3D::from_sph_coo` does not renormalise)
    the vertices are the unit vectors of the positions, the normals are the north-pointing `±(v_{i-1} × v_i)`. -/
theorem polygon_new_real (dbg : Bool) (lls : List (ℝ × ℝ)) (hne : lls ≠ [])
    (h : ∀ ll ∈ lls, 0 ≤ ll.1 ∧ ll.1 < 2 * π ∧ -(π / 2) ≤ ll.2 ∧ ll.2 ≤ π / 2) :
    ∃ poly, Polygon.new dbg lls = some poly ∧ poly.vertices = lls.map cooOf ∧ poly.Built :=
  Hpx.Sph.polygon_new_real dbg lls hne h

/-- **`contains` is the crossing parity.**  For a polygon as built by `Polygon::new` whose vertices are not poles and
    none of whose edges joins two opposite meridians, and a point whose meridian passes through no vertex:
    `contains` is the `xor` of the stored south-pole flag with "the number of edges whose great-circle arc crosses the
    meridian of `p` strictly south of `p` is odd".  Every number of vertices (0 included: no edge). -/
theorem contains_parity (poly : Polygon ℝ) (hb : poly.Built) (hv : ∀ v ∈ poly.vertices, v.Valid ∧ v.NonPole)
    (hopp : ∀ e ∈ edges poly.vertices, |e.2.lon - e.1.lon| ≠ π) (p : Coo ℝ) (hp : p.Valid)
    (hgen : ∀ v ∈ poly.vertices, p.lon ≠ v.lon) :
    poly.contains p = xor poly.containsSouthPole
      (oddB ((edges poly.vertices).countP (fun e => decide (CrossesSouth e.1 e.2 p)))) :=
  Hpx.Sph.contains_parity poly hb hv hopp p hp hgen

/-- **`Polygon::contains` on convex polygons, final form** (this is `Sph.contains_convex_final`, every point off the
    boundary; `Sph.contains_convex`, for generic points only, is the lemma it is built on).  For a polygon as built by
    `Polygon::new` from a strictly convex list of at least 3 vertices (either winding), contained in an open hemisphere,
    with neither pole in the closed polygon, and EVERY point `p` of the sphere (poles, vertex meridians, great circles of
    the edges included) that is not on the boundary of the polygon (`hnb`: if `p` is in all the closed half-spaces then it
    is in all the open ones): `contains p = true` iff `p` is strictly inside all the half-spaces of the edges. -/
theorem contains_convex (poly : Polygon ℝ) (hb : poly.Built) (o : ℝ) (h : ConvexNoPole o poly.vertices)
    (p : Coo ℝ) (hp : p.Valid)
    (hnb : (∀ e ∈ edges poly.vertices, 0 ≤ o * dot p (cross e.1 e.2)) →
      ∀ e ∈ edges poly.vertices, 0 < o * dot p (cross e.1 e.2)) :
    poly.contains p = true ↔ ∀ e ∈ edges poly.vertices, 0 < o * dot p (cross e.1 e.2) :=
  Hpx.Sph.contains_convex_final poly hb o h p hp hnb

/-- the final form on the value returned by `Polygon::new` for positions in the canonical ranges
    (`Sph.contains_convex_final_new`; `Sph.contains_convex_new` has two more hypotheses) -/
theorem contains_convex_new (dbg : Bool) (lls : List (ℝ × ℝ))
    (hr : ∀ ll ∈ lls, 0 ≤ ll.1 ∧ ll.1 < 2 * π ∧ -(π / 2) ≤ ll.2 ∧ ll.2 ≤ π / 2)
    (o : ℝ) (h : ConvexNoPole o (lls.map cooOf)) (p : Coo ℝ) (hp : p.Valid)
    (hnb : (∀ e ∈ edges (lls.map cooOf), 0 ≤ o * dot p (cross e.1 e.2)) →
      ∀ e ∈ edges (lls.map cooOf), 0 < o * dot p (cross e.1 e.2)) :
    ∃ poly, Polygon.new dbg lls = some poly ∧
      (poly.contains p = true ↔ ∀ e ∈ edges (lls.map cooOf), 0 < o * dot p (cross e.1 e.2)) :=
  Hpx.Sph.contains_convex_final_new dbg lls hr o h p hp hnb


/-- the hypotheses of `contains_convex` are satisfiable: a concrete triangle -/
example : ConvexNoPole 1 [triA, triB, triC] := tri_convex

end PolygonContains


/-! ## what is known of every reported cell (structural half of the tightness clause, every numeric instance) -/

section EmitRule
open Hpx Hpx.Hash Hpx.Proj Hpx.Cover Hpx.C2V Hpx.C2VReal Hpx.EnvelopeReal Hpx.EnvelopePolar Hpx.CellReal Hpx.TopoLift Hpx.CellExtent Hpx.Bmoc Hpx.Sph Hpx.EConeEq Hpx.Tightness Real

/-- **polygon descent, emit rule** (every numeric instance, every build): every cell of the output of the descent was
    kept for one of the three reasons of `PolyKept` -/
theorem poly_emit_rule (cfg : Cfg) (target : Nat) (poly : Polygon α) (sortedHashs : List Nat)
    (fuel depth hash level : Nat) (out : List Cell)
    (h : coverRec target (polyClassifier cfg target poly sortedHashs) fuel depth hash level = some out)
    (c : Cell) (hc : c ∈ out) : PolyKept cfg target poly sortedHashs c.depth c.hash :=
  Hpx.Tightness.poly_emit_rule cfg target poly sortedHashs fuel depth hash level out h c hc


end EmitRule


/-! ## the statement of C12 composed over ℝ, on the output of `polygon_coverage` itself (both modes) -/

section Composed
open Hpx Hpx.Cover Hpx.Bmoc Hpx.Sph Real Hpx.Proj Hpx.CellReal Hpx.EnvelopeReal Hpx.TopoLift Hpx.EnvelopePolar Hpx.PolyCompose

/-- **T1 + T2: the property as stated, for convex polygons** (ℝ, both modes, every depth `≤ 29`).  Every cell of the BMOC
    returned by `polygon_coverage` that carries the full flag — wherever it is on the sphere — has `vertices` and `center`
    succeed, and if its four vertices are not on the boundary of the polygon then **its four vertices AND ITS CENTRE are
    strictly inside all the edge half-spaces**.  (The code tests the four vertices only; the centre follows.) -/
theorem full_cells_vertices_and_centre_inside_convex (cfg : Cfg) (depth : Nat) (lls : List (ℝ × ℝ)) (exact : Bool) (b : Bmoc.BMOC)
    (hr : ∀ ll ∈ lls, 0 ≤ ll.1 ∧ ll.1 < 2 * π ∧ -(π / 2) ≤ ll.2 ∧ ll.2 ≤ π / 2)
    (o : ℝ) (hcv : ConvexNoPole o (lls.map cooOf))
    (h : Sph.polygonCoverage cfg depth lls exact = some b) :
    ∃ cells : List Bmoc.Cell, b = { dmax := depth, entries := cells.map (Bmoc.encode depth) } ∧
      ∀ c ∈ cells, c.full = true →
        ∃ s e n w ctr : ℝ × ℝ, Hash.vertices (α := ℝ) cfg c.depth c.hash = some [s, e, n, w] ∧
          Hash.center (α := ℝ) cfg c.depth c.hash = some ctr ∧
          ((∀ v ∈ [s, e, n, w], OffBoundary o (lls.map cooOf) (cooOf v)) →
            (∀ v ∈ [s, e, n, w], InsideAll o (lls.map cooOf) (cooOf v)) ∧ InsideAll o (lls.map cooOf) (cooOf ctr)) :=
  Hpx.PolyCompose.full_cells_vertices_and_centre_inside_convex cfg depth lls exact b hr o hcv h

/-- **T2, the centre, EVERY cell** (every depth `≤ 29`, every cell number; equatorial band, both polar caps, both transition
    rings).  `vertices` and `center` succeed and, whatever the polygon (any vertex list `vs`, any winding `o` — no convexity
    is needed beyond the fact that a polygon "inside all the edge half-spaces" is an intersection of half-spaces): if the
    four vertices are strictly inside all the edge half-spaces, so is the centre.  The centre is always in the open cone
    spanned by three of the four vertices: S–N (one meridian) in the band, S–E–W in the north, N–E–W in the south. -/
theorem centre_inside_of_vertices_inside (cfg : Cfg) (d h : ℕ) (hd : d ≤ 29) (hh : h < 12 * 4 ^ d) :
    ∃ (s e n w c : ℝ × ℝ), Hash.vertices (α := ℝ) cfg d h = some [s, e, n, w] ∧ Hash.center (α := ℝ) cfg d h = some c ∧
      ∀ (o : ℝ) (vs : List (Coo ℝ)), (∀ v ∈ [s, e, n, w], InsideAll o vs (cooOf v)) → InsideAll o vs (cooOf c) :=
  Hpx.PolyCompose.centre_inside_of_vertices_inside cfg d h hd hh

/-- **T3 over the reals** (`vertex_cells_kept_real`), positions in the canonical ranges, both modes, every depth `≤ 29`: what
    `vertex_cells_kept_modes` says, plus: the vertex cells `hs` are cell numbers of the depth, and when the bounding cone is
    too large for a starting depth (start cells = the 12 base cells) **every vertex cell is kept, no hypothesis left**.
    In the other case the hypothesis that remains, per vertex cell `v`, is exactly `v >>> 2(depth − ds) ∈ roots`. -/
theorem vertex_cells_kept_real (cfg : Cfg) (depth : Nat) (lls : List (ℝ × ℝ)) (exact : Bool) (b : BMOC)
    (hne : lls ≠ []) (hr : ∀ ll ∈ lls, 0 ≤ ll.1 ∧ ll.1 < 2 * π ∧ -(π / 2) ≤ ll.2 ∧ ll.2 ≤ π / 2)
    (h : polygonCoverage cfg depth lls exact = some b) :
    ∃ (poly : Polygon ℝ) (hs ex : List Nat) (ds : Nat) (roots : List Nat) (cells : List Cell),
      Polygon.new cfg.debug lls = some poly ∧ poly.vertices = lls.map cooOf ∧
      (lls.map cooOf).mapM (fun c => Hash.hashV2 cfg depth c.lon c.lat) = some hs ∧ hs.length = lls.length ∧
      (∀ v ∈ hs, v < 12 * 4 ^ depth) ∧
      (if exact then specialHashes cfg depth poly else some []) = some ex ∧
      startCells cfg depth poly = some (ds, roots) ∧ ds ≤ depth ∧
      b = { dmax := depth, entries := cells.map (encode depth) } ∧
      (∀ v ∈ hs ++ ex, v >>> ((depth - ds) <<< 1) ∈ roots →
        ∃ c ∈ cells, c.depth ≤ depth ∧ v >>> ((depth - c.depth) <<< 1) = c.hash) ∧
      (C2V.hasBestStartingDepth (boundingRadius poly) = false →
        ∀ v ∈ hs, ∃ c ∈ cells, c.depth ≤ depth ∧ v >>> ((depth - c.depth) <<< 1) = c.hash) :=
  Hpx.PolyCompose.vertex_cells_kept_real cfg depth lls exact b hne hr h

/-- **T3, every numeric instance, both modes**: the cell of a polygon vertex (`hs`) — and in the exact mode the cell of a
    special point (`ex`) — lies under a cell of the returned BMOC **as soon as its ancestor at the starting depth is one of
    the start cells**.  That hypothesis (`v >>> 2(depth − ds) ∈ roots`: the neighbourhood of the bounding-cone centre cell
    at `best_starting_depth(radius)` contains the vertex) is the geometric fact this development does not prove; it is about
    `Cone::bounding_cone`, `best_starting_depth` and the size of the cells, not about the descent. -/
theorem vertex_cells_kept_modes (cfg : Cfg) (depth : Nat) (vertices : List (α × α)) (exact : Bool) (b : BMOC)
    (h : polygonCoverage cfg depth vertices exact = some b) :
    ∃ (poly : Polygon α) (hs ex : List Nat) (ds : Nat) (roots : List Nat) (cells : List Cell),
      Polygon.new cfg.debug vertices = some poly ∧
      poly.vertices.mapM (fun c => Hash.hashV2 cfg depth c.lon c.lat) = some hs ∧
      (if exact then specialHashes cfg depth poly else some []) = some ex ∧
      startCells cfg depth poly = some (ds, roots) ∧ ds ≤ depth ∧
      b = { dmax := depth, entries := cells.map (encode depth) } ∧
      ∀ v ∈ hs ++ ex, v >>> ((depth - ds) <<< 1) ∈ roots →
        ∃ c ∈ cells, c.depth ≤ depth ∧ v >>> ((depth - c.depth) <<< 1) = c.hash :=
  Hpx.PolyCompose.vertex_cells_kept_modes cfg depth vertices exact b h

/-- **T2, counter-example (ℝ, both profiles, every build).**  The triangle `bulgeLL` (counter-clockwise, strictly convex,
    inside an open hemisphere, no pole inside; unit vectors rational) and the cell 23 of depth 1 (south vertex on the equator
    at longitude `π/2`):
    * `Polygon::new` succeeds; the four vertices returned by `vertices(1, 23)` are strictly inside the three edge
      half-spaces, `Polygon::contains` answers `true` for the four of them, and **the classifier of `polygon_coverage`
      answers `full`** for the cell in every descent in which `is_in_list` is false for it (every target depth, every list);
    * the centre of the cell is strictly inside as well;
    * yet the position `sph_coo(1, 23, 2/3, 0)` — a point of the cell, on its south-east side — is strictly OUTSIDE the
      half-space of the edge `A → B`, and `Polygon::contains` answers `false` for it.
    So even for convex polygons the flag "fully covered" does not mean that the cell is inside the polygon: the sides of a
    cell are not great-circle arcs and bulge out of the geodesic quadrilateral of its vertices (here by 0.47°; the effect
    is of second order in the cell size).  On the `Float` instance (the model run that is compared with the crate)
    `polygon_coverage(depth 1, 2 or 3, this triangle, either mode)` returns the cell `1/23` with the full flag. -/
theorem full_flag_not_whole_cell (cfg : Cfg) :
    (∀ ll ∈ bulgeLL, 0 ≤ ll.1 ∧ ll.1 < 2 * π ∧ -(π / 2) ≤ ll.2 ∧ ll.2 ≤ π / 2) ∧ ConvexNoPole 1 (bulgeLL.map cooOf) ∧
    ∃ poly : Polygon ℝ, Polygon.new cfg.debug bulgeLL = some poly ∧
      (∀ (target : Nat) (srt : List Nat) (l : Nat), isInList 1 23 target srt = false →
        polyClassifier cfg target poly srt 1 23 l = some .full) ∧
      (∃ s e n w : ℝ × ℝ, Hash.vertices (α := ℝ) cfg 1 23 = some [s, e, n, w] ∧
        ∀ v ∈ [s, e, n, w], InsideAll 1 (bulgeLL.map cooOf) (cooOf v) ∧
          ∃ c, fromSphCoo cfg.debug v.1 v.2 = some c ∧ poly.contains c = true) ∧
      (∃ ctr : ℝ × ℝ, Hash.center (α := ℝ) cfg 1 23 = some ctr ∧ InsideAll 1 (bulgeLL.map cooOf) (cooOf ctr)) ∧
      ∃ (m : ℝ × ℝ) (c : Coo ℝ), Hash.sphCoo (α := ℝ) cfg 1 23 (2 / 3) 0 = some m ∧
        fromSphCoo cfg.debug m.1 m.2 = some c ∧ poly.contains c = false ∧ ¬ InsideAll 1 (bulgeLL.map cooOf) (cooOf m) :=
  Hpx.PolyCompose.full_flag_not_whole_cell cfg


end Composed

end Hpx.C12
