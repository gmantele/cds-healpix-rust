import HpxVerif.Props.C02
import HpxVerif.Lemmas.HashSpecReal
import HpxVerif.Lemmas.CellNumber
import HpxVerif.Lemmas.LayerBmi

set_option autoImplicit false   -- an unknown identifier in a statement is an error, never a new variable

/-!
# C01 — NESTED hash is total, in range, and returns a cell that contains the point

For every input of every numeric instance (in particular every `f64` bit pattern, NaN and infinities included): the front
end yields a base cell `< 12`, a latitude that fails `-π/2 ≤ lat ≤ π/2` (NaN included) is rejected, and for every pair of small
bit patterns whose scaled truncations do not exceed `nside` (the code's own debug assertion) the cell number is `< 12·4^depth`,
for every depth `1..29`.  Over the reals, for every depth, latitude and `|lon| < 64π`, the returned cell's closed diamond
contains the projected point, with respect to the crate's own `proj` and, outside negative-longitude cap seams, with respect to
an independent statement of the Calabretta & Roukema projection (`seam_convention` says what happens there).
Not carried by proof: the rounding of libm and of the four products/sums of the front end.
-/

namespace Hpx.C01
open Hpx Hpx.F64 Hpx.Layer Hpx.C02

theorem eqD0h_lt (q q01 q12 : Nat) (h1 : q01 ≤ 1) (h2 : q12 ≤ 1) : Hash.eqD0h q q01 q12 < 12 := by
  unfold Hash.eqD0h
  have : (q + (q01 &&& q12)) &&& 3 ≤ 3 := Nat.and_le_right
  rw [Nat.shiftLeft_eq]
  omega

/-- the base cell computed by the front end is `< 12`, for every numeric instance and every input -/
theorem frontend_base_cell_lt_12 {α : Type} [Num α] (lon lat : α) : (Hash.d0hLhInD0c lon lat).1 < 12 := by
  have hq : (Hash.xpm1AndQ lon).2 ≤ 3 := by
    unfold Hash.xpm1AndQ
    simp only []
    have h7 : ∀ n : Nat, (n &&& 7) >>> 1 ≤ 3 := by
      intro n
      have : n &&& 7 ≤ 7 := Nat.and_le_right
      rw [Nat.shiftRight_eq_div_pow]; omega
    split
    · exact h7 _
    · simp only []; omega
  unfold Hash.d0hLhInD0c
  simp only []
  generalize (Hash.xpm1AndQ lon).2 = q at hq
  split
  · simp only []; omega
  · split
    · simp only []; omega
    · simp only []
      apply eqD0h_lt
      · split <;> omega
      · split <;> omega

/-- a latitude outside `[-π/2, π/2]` (or NaN) is rejected -/
theorem hash_rejects_bad_lat {α : Type} [Num α] (cfg : Cfg) (d : Nat) (lon lat : α)
    (h : Proj.checkLat lat = false) : Hash.hashV2 cfg d lon lat = none := by
  unfold Hash.hashV2; simp [h]

/-- at `Float`, NaN fails the latitude check (comparisons with NaN are false) -/
example : Proj.checkLat (F.ofBitsNat 0x7FF8000000000000 : Float) = false := by decide +kernel

/-! ## the range of the cell number, every build (LUT tables or BMI2): the base cell is what stands above bit `2·depth` -/

section AnyBuild
open Hpx Hpx.F64 Hpx.Layer Hpx.LayerBmi Hpx.C02

theorem backend_range_any_build (cfg : Cfg) (d d0h u v c : Nat) (hd1 : 1 ≤ d) (hd : d ≤ 29) (hb : d0h < 12)
    (hi : truncU 32 (expAdd u ((d - 1 : Nat) : Int)) ≤ 2 ^ d) (hj : truncU 32 (expAdd v ((d - 1 : Nat) : Int)) ≤ 2 ^ d)
    (h : backend cfg d d0h u v = some c) : c < 12 * 4 ^ d := by
  have htop := backend_top_bits_any_build cfg d d0h u v c hd1 hd hi hj h
  -- c >>> 2d = d0h < 12
  rw [Nat.shiftRight_eq_div_pow] at htop
  rw [four_pow]
  have hp : 0 < 2 ^ (2 * d) := Nat.two_pow_pos _
  have : c / 2 ^ (2 * d) < 12 := by omega
  rw [Nat.div_lt_iff_lt_mul hp] at this
  exact this

/-- `hash_v2` at `Float`: whenever it returns, the cell number is in range -/
theorem hash_range_any_build (cfg : Cfg) (lon lat : Float) (d c : Nat) (hd1 : 1 ≤ d) (hd : d ≤ 29)
    (hi : truncU 32 (expAdd (F.bits ((Hash.d0hLhInD0c lon lat).2.2 + (Hash.d0hLhInD0c lon lat).2.1)) ((d - 1 : Nat) : Int)) ≤ 2 ^ d)
    (hj : truncU 32 (expAdd (F.bits ((Hash.d0hLhInD0c lon lat).2.2 - (Hash.d0hLhInD0c lon lat).2.1)) ((d - 1 : Nat) : Int)) ≤ 2 ^ d)
    (h : Hash.hashV2 cfg d lon lat = some c) : c < 12 * 4 ^ d := by
  rw [hashV2_float] at h
  split at h
  · cases h
  · exact backend_range_any_build cfg d _ _ _ c hd1 hd (frontend_base_cell_lt_12 lon lat) hi hj h

end AnyBuild

theorem backend_range (cfg : Cfg) (hbmi : cfg.bmi = false) (d d0h u v c : Nat) (hd1 : 1 ≤ d) (hd : d ≤ 29) (hb : d0h < 12)
    (hi : truncU 32 (expAdd u ((d - 1 : Nat) : Int)) ≤ 2 ^ d) (hj : truncU 32 (expAdd v ((d - 1 : Nat) : Int)) ≤ 2 ^ d)
    (h : backend cfg d d0h u v = some c) : c < 12 * 4 ^ d :=
  backend_range_any_build cfg d d0h u v c hd1 hd hb hi hj h

theorem hash_range (cfg : Cfg) (hbmi : cfg.bmi = false) (lon lat : Float) (d c : Nat) (hd1 : 1 ≤ d) (hd : d ≤ 29)
    (hi : truncU 32 (expAdd (F.bits ((Hash.d0hLhInD0c lon lat).2.2 + (Hash.d0hLhInD0c lon lat).2.1)) ((d - 1 : Nat) : Int)) ≤ 2 ^ d)
    (hj : truncU 32 (expAdd (F.bits ((Hash.d0hLhInD0c lon lat).2.2 - (Hash.d0hLhInD0c lon lat).2.1)) ((d - 1 : Nat) : Int)) ≤ 2 ^ d)
    (h : Hash.hashV2 cfg d lon lat = some c) : c < 12 * 4 ^ d :=
  hash_range_any_build cfg lon lat d c hd1 hd hi hj h

/-! ## containment over the reals: every seam and branch decision -/

open Hpx.HashReal in
/-- the model of `hash_v2` instantiated at ℝ (exact arithmetic, `sin`/`cos` the real functions): the point projected by the
    crate's own `proj` (abscissa modulo 8) lies in the closed diamond of the cell `(d0h, i, j)`.  Every seam is decided here:
    `>` against `≥` in the `q01`/`q12` selection, the strict `lat > TRANSITION_LATITUDE`, the negative-longitude quarter
    `3 − (q >> 1)`, the clamp at `i = nside` (reached exactly when `h + l = 2`), depth 0. -/
theorem hash_real_contains (d : ℕ) (hd : d ≤ 32) (lon lat : ℝ) (hlon : |lon| < 64 * Real.pi)
    (hl1 : -(Real.pi / 2) ≤ lat) (hl2 : lat ≤ Real.pi / 2) :
    ∃ X Y : ℝ, Proj.proj (α := ℝ) lon lat = some (X, Y) ∧
      (Hash.d0hLhInD0c (α := ℝ) lon lat).1 < 12 ∧
      gridCoord d ((Hash.d0hLhInD0c (α := ℝ) lon lat).2.2 + (Hash.d0hLhInD0c (α := ℝ) lon lat).2.1) < 2 ^ d ∧
      gridCoord d ((Hash.d0hLhInD0c (α := ℝ) lon lat).2.2 - (Hash.d0hLhInD0c (α := ℝ) lon lat).2.1) < 2 ^ d ∧
      ∃ m : ℤ, InDiamond d (Hash.d0hLhInD0c (α := ℝ) lon lat).1
        (gridCoord d ((Hash.d0hLhInD0c (α := ℝ) lon lat).2.2 + (Hash.d0hLhInD0c (α := ℝ) lon lat).2.1))
        (gridCoord d ((Hash.d0hLhInD0c (α := ℝ) lon lat).2.2 - (Hash.d0hLhInD0c (α := ℝ) lon lat).2.1))
        (X + 8 * (m : ℝ)) Y :=
  Hpx.HashReal.hash_real_contains d hd lon lat hlon hl1 hl2

open Hpx.HashReal in
/-- `hash_v2` at ℝ is `build_hash_from_parts` of exactly those parts (so the theorem above is about the cell number
    returned; `zoc_lut_correct`, C18, turns the parts into `d0h·4^d + interleave i j`) -/
theorem hash_real_parts (cfg : Cfg) (d : ℕ) (lon lat : ℝ) (hchk : Proj.checkLat (α := ℝ) lat = true) :
    Hash.hashV2 (α := ℝ) cfg d lon lat =
      Layer.buildHashFromParts cfg d (Hash.d0hLhInD0c (α := ℝ) lon lat).1
        (gridCoord d ((Hash.d0hLhInD0c (α := ℝ) lon lat).2.2 + (Hash.d0hLhInD0c (α := ℝ) lon lat).2.1))
        (gridCoord d ((Hash.d0hLhInD0c (α := ℝ) lon lat).2.2 - (Hash.d0hLhInD0c (α := ℝ) lon lat).2.1)) :=
  hashV2_real_eq cfg d lon lat hchk

open Hpx.HashReal in
/-- the same against an **independent statement of the Calabretta & Roukema projection** (`projSpecXY`), for every
    position except negative longitudes lying exactly on a polar-cap seam (`lon = −kπ/2`, `|sin lat| > 2/3`), where the
    plane image of the point is on the other side of the gap of the interrupted projection (see `seam_convention`) -/
theorem hash_real_contains_spec_partial (d : ℕ) (hd : d ≤ 32) (lon lat : ℝ) (hlon : |lon| < 64 * Real.pi)
    (hl1 : -(Real.pi / 2) ≤ lat) (hl2 : lat ≤ Real.pi / 2)
    (hseam : 0 ≤ lon ∨ |Real.sin lat| ≤ 2 / 3 ∨ ∀ z : ℤ, lon ≠ (z : ℝ) * (Real.pi / 2)) :
    (Hash.d0hLhInD0c (α := ℝ) lon lat).1 < 12 ∧
      gridCoord d ((Hash.d0hLhInD0c (α := ℝ) lon lat).2.2 + (Hash.d0hLhInD0c (α := ℝ) lon lat).2.1) < 2 ^ d ∧
      gridCoord d ((Hash.d0hLhInD0c (α := ℝ) lon lat).2.2 - (Hash.d0hLhInD0c (α := ℝ) lon lat).2.1) < 2 ^ d ∧
      ∃ m : ℤ, InDiamond d (Hash.d0hLhInD0c (α := ℝ) lon lat).1
        (gridCoord d ((Hash.d0hLhInD0c (α := ℝ) lon lat).2.2 + (Hash.d0hLhInD0c (α := ℝ) lon lat).2.1))
        (gridCoord d ((Hash.d0hLhInD0c (α := ℝ) lon lat).2.2 - (Hash.d0hLhInD0c (α := ℝ) lon lat).2.1))
        ((projSpecXY lon lat).1 + 8 * (m : ℝ)) (projSpecXY lon lat).2 :=
  Hpx.HashReal.hash_real_contains_spec_partial d hd lon lat hlon hl1 hl2 hseam

open Hpx.HashReal in
/-- what happens on the excluded set: on a north-cap seam `hash` is not 2π-periodic (`lon = −π/2` goes to base cell 2,
    `lon = 3π/2` to base cell 3).  Both closed cells contain the point on the sphere — the seam is their common border —
    so this is a border convention, not a violation of the property (containment w.r.t. the crate's own projection is
    `hash_real_contains`, with no exclusion). -/
theorem seam_convention (lat : ℝ) (hN : Real.arcsin (2 / 3) < lat) :
    (Hash.d0hLhInD0c (α := ℝ) (-(Real.pi / 2)) lat).1 = 2 ∧ (Hash.d0hLhInD0c (α := ℝ) (3 * Real.pi / 2) lat).1 = 3 :=
  seam_not_periodic lat hN

open Hpx.HashReal in
/-- the longitude bound is sharp: at `|lon|·4/π ≥ 256` the `as u8` cast saturates and the grid coordinate leaves the
    base cell (outside the property's quantifier "within a few turns", recorded for completeness) -/
theorem lon_bound_is_sharp (d : ℕ) (hd1 : 1 ≤ d) (hd : d ≤ 31) :
    ¬ gridCoord d ((Hash.d0hLhInD0c (α := ℝ) (129 * Real.pi / 2) 0).2.2 +
        (Hash.d0hLhInD0c (α := ℝ) (129 * Real.pi / 2) 0).2.1) < 2 ^ d :=
  lon_saturation_counterexample d hd1 hd

/-- over the reals the front end stays inside the back end's domain: `h + l` and `h − l` lie in `[0, 2]` for every
    latitude in `[−π/2, π/2]` and every `|lon| < 64π` — the hypothesis "patterns small, not negative" of C02's
    `hash_prefix` holds for the exact values (for doubles it is evaluated on every generated position) -/
theorem frontend_small_real (lon lat : ℝ) (hlon : |lon| < 64 * Real.pi) (hl1 : -(Real.pi / 2) ≤ lat)
    (hl2 : lat ≤ Real.pi / 2) :
    0 ≤ (Hash.d0hLhInD0c (α := ℝ) lon lat).2.2 + (Hash.d0hLhInD0c (α := ℝ) lon lat).2.1 ∧
    (Hash.d0hLhInD0c (α := ℝ) lon lat).2.2 + (Hash.d0hLhInD0c (α := ℝ) lon lat).2.1 ≤ 2 ∧
    0 ≤ (Hash.d0hLhInD0c (α := ℝ) lon lat).2.2 - (Hash.d0hLhInD0c (α := ℝ) lon lat).2.1 ∧
    (Hash.d0hLhInD0c (α := ℝ) lon lat).2.2 - (Hash.d0hLhInD0c (α := ℝ) lon lat).2.1 ≤ 2 :=
  Hpx.HashReal.frontend_small_real lon lat hlon hl1 hl2

open Hpx.HashReal in
/-- end to end over the reals, on cell numbers (depth `≤ 29`, LUT and BMI2 builds): `hash` returns a number `c < 12·4^depth`,
    `c = d0h·4^depth + interleave i j`, `decode_hash c = (d0h, i, j)`, and the closed diamond of that cell contains the
    projected position -/
theorem hash_real_cell (cfg : Cfg) (d : ℕ) (hd : d ≤ 29) (lon lat : ℝ) (hlon : |lon| < 64 * Real.pi)
    (hl1 : -(Real.pi / 2) ≤ lat) (hl2 : lat ≤ Real.pi / 2) :
    ∃ (c b i j : ℕ) (X Y : ℝ), Hash.hashV2 (α := ℝ) cfg d lon lat = some c ∧ c < 12 * 4 ^ d ∧
      c = b * 4 ^ d + interleave i j ∧ Layer.decodeHash cfg d c = some ⟨b, i, j⟩ ∧ b < 12 ∧ i < 2 ^ d ∧ j < 2 ^ d ∧
      Proj.proj (α := ℝ) lon lat = some (X, Y) ∧ ∃ m : ℤ, InDiamond d b i j (X + 8 * (m : ℝ)) Y := by
  obtain ⟨X, Y, hp, hb, hi, hj, m, hm⟩ := Hpx.HashReal.hash_real_contains d (by omega) lon lat hlon hl1 hl2
  have hchk : Proj.checkLat (α := ℝ) lat = true := by
    cases h : Proj.checkLat (α := ℝ) lat with
    | true => rfl
    | false => simp [Proj.proj, h] at hp
  have hv : Hpx.RingBij.Valid d ⟨_, _, _⟩ := ⟨hb, hi, hj⟩
  have hbs := Hpx.RingBij.build_spec cfg d hd _ hv
  exact ⟨_, _, _, _, X, Y, (hashV2_real_eq cfg d lon lat hchk).trans hbs.1, hbs.2, rfl,
    Hpx.RingBij.decode_build cfg d hd _ hv, hb, hi, hj, hp, m, hm⟩

end Hpx.C01
