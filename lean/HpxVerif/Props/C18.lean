import HpxVerif.Lemmas.BitsLemmas
import HpxVerif.Lemmas.UniqLemmas
import HpxVerif.Lemmas.BmiLemmas
import HpxVerif.Lemmas.SizeGen

set_option autoImplicit false   -- an unknown identifier in a statement is an error, never a new variable

/-!
# C18 — bit-level encodings are exact: z-order interleaving and uniq numbers

The z-order statements rest on `Lemmas/BitsLemmas.lean` and `Lemmas/BmiLemmas.lean`; the two uniq round trips
(`from_uniq_to_uniq`, `from_uniq_ivoa_to_uniq_ivoa`) on `Lemmas/UniqLemmas.lean`.  The tables, the BMI2 masks and the depth ranges of
`get_zoc` are regenerated from `src/nested/zordercurve.rs` on every run (`Gen/ZocTables.lean`), so these theorems
are re-checked against what the source says now.

Specification: `interleave i j` is *defined* bit by bit — bit `2q` is bit `q` of `i`, bit `2q+1` is bit `q` of `j`
(`interleave_spec_even/odd`).
-/

namespace Hpx.C18

open Hpx

/-- the specification of interleaving, bit by bit -/
theorem interleave_spec_even (i j q : Nat) : (interleave i j).testBit (2 * q) = (decide (q < 32) && i.testBit q) :=
  testBit_interleave_even i j q
theorem interleave_spec_odd (i j q : Nat) : (interleave i j).testBit (2 * q + 1) = (decide (q < 32) && j.testBit q) :=
  testBit_interleave_odd i j q

/-- the four generated tables have 256 entries (every byte index is in range) -/
theorem tables_len : lutHash.size = 256 ∧ lutIjByte.size = 256 ∧ lutIjShort.size = 256 ∧ lutIjInt.size = 256 := by
  decide +kernel

/-- `LUPT_TO_HASH[b] = spread b` for every byte, and the three inverse tables compress even / odd bits -/
theorem lut_tables_spec :
    (∀ b, b < 256 → lk lutHash b = spreadN 8 b) ∧
    (∀ b, b < 256 → lk lutIjByte b = squeezeN 4 b ||| (squeezeN 4 (b / 2) <<< 8)) ∧
    (∀ b, b < 256 → lk lutIjShort b = squeezeN 4 b ||| (squeezeN 4 (b / 2) <<< 16)) ∧
    (∀ b, b < 256 → lk lutIjInt b = squeezeN 4 b ||| (squeezeN 4 (b / 2) <<< 32)) :=
  ⟨fun b _ => lk_lutHash b, fun b _ => lk_lutIjByte b, fun b _ => lk_lutIjShort b, fun b _ => lk_lutIjInt b⟩

/-- `get_zoc` rejects `depth > 29` (panic) -/
theorem get_zoc_guard (d : Nat) (h : d > 29) : getZoc d = none ∧ getZocBmi d = none :=
  ⟨getZocFrom_guard _ h, getZocFrom_guard _ h⟩

/-- for every depth `≤ 29`, `get_zoc` selects an implementation with enough bits for `2^depth` coordinates
    (LUT build and BMI2 build) -/
theorem get_zoc_sufficient : ∀ d, d ≤ 29 →
    (∃ c, getZoc d = some c ∧ d ≤ c.bits) ∧ (∃ c, getZocBmi d = some c ∧ d ≤ c.bits) := fun d hd =>
  have ⟨c, h1, h2, hb⟩ := getZoc_spec d hd
  ⟨⟨c, h1, hb⟩, ⟨c, h2, hb⟩⟩

/-- LUT classes: `ij2h` is the interleaving, for every `i, j` below `2^bits` of the class -/
theorem lut_ij2h_spec (c : ZocClass) (i j : Nat) (hi : i < 2 ^ c.bits) (hj : j < 2 ^ c.bits) :
    Lut.ij2h c i j = interleave i j := lut_ij2h_interleave c i j hi hj

/-- the one-coordinate restrictions -/
theorem lut_i02h_restrict (c : ZocClass) (i : Nat) : Lut.i02h c i = Lut.ij2h c i 0 := by
  rw [lut_i02h_spec, lut_ij2h_eq]; simp

theorem lut_oj2h_restrict (c : ZocClass) (j : Nat) : Lut.oj2h c j = Lut.ij2h c 0 j := by
  rw [lut_oj2h_eq, lut_ij2h_eq]; simp

/-- `h2ij` with `ij2i`/`ij2j` inverts `ij2h` -/
theorem lut_h2ij_inverts (c : ZocClass) (i j : Nat) (hi : i < 2 ^ c.bits) (hj : j < 2 ^ c.bits) :
    Lut.ij2i c (Lut.h2ij c (Lut.ij2h c i j)) = i ∧ Lut.ij2j c (Lut.h2ij c (Lut.ij2h c i j)) = j := by
  rw [lut_ij2h_spec c i j hi hj, lut_h2ij_eq]
  exact ij_squeezePair_interleave c i j hi hj

/-- **main statement (LUT build)**: for every depth `d ≤ 29` and all `i, j < 2^d`, the implementation selected by
    `get_zoc d` computes the interleaving, which is below `4^d`, and `h2ij`/`ij2i`/`ij2j` recover `(i, j)` -/
theorem zoc_lut_correct (d i j : Nat) (hd : d ≤ 29) (hi : i < 2 ^ d) (hj : j < 2 ^ d) :
    ∃ c, getZoc d = some c ∧ Lut.ij2h c i j = interleave i j ∧ interleave i j < 4 ^ d ∧
      Lut.ij2i c (Lut.h2ij c (Lut.ij2h c i j)) = i ∧ Lut.ij2j c (Lut.h2ij c (Lut.ij2h c i j)) = j ∧
      Lut.i02h c i = Lut.ij2h c i 0 ∧ Lut.oj2h c j = Lut.ij2h c 0 j := by
  obtain ⟨⟨c, hc, hdc⟩, _⟩ := get_zoc_sufficient d hd
  have hi' : i < 2 ^ c.bits := Nat.lt_of_lt_of_le hi (Nat.pow_le_pow_right (by decide) hdc)
  have hj' : j < 2 ^ c.bits := Nat.lt_of_lt_of_le hj (Nat.pow_le_pow_right (by decide) hdc)
  refine ⟨c, hc, lut_ij2h_spec c i j hi' hj', interleave_lt hi hj, ?_, ?_, lut_i02h_restrict c i,
    lut_oj2h_restrict c j⟩
  · exact (lut_h2ij_inverts c i j hi' hj').1
  · exact (lut_h2ij_inverts c i j hi' hj').2

/-- non-vacuity: a concrete depth-29 instance -/
example : getZoc 29 = some .large ∧ Lut.ij2h .large 0x1FFFFFFF 0x10000001 = interleave 0x1FFFFFFF 0x10000001 := by
  decide +kernel

theorem to_uniq_guard (d h : Nat) (hd : d > 29) : toUniq d h = none ∧ toUniqIvoa d h = none := by
  simp [toUniq, toUniqIvoa, hd]

/-- `from_uniq ∘ to_uniq = id` on every valid `(depth, hash)`; the uniq number fits in 63 bits -/
theorem from_uniq_to_uniq (d h : Nat) (hd : d ≤ 29) (hh : h < 12 * 4 ^ d) :
    ∃ u, toUniq d h = some u ∧ u < 2 ^ 63 ∧ fromUniq u = some (d, h) := by
  have e : 2 ^ (2 * d + 4) = 16 * 4 ^ d := by rw [Nat.pow_add, four_pow]; omega
  have : 2 ^ (2 * d + 4) * 2 ≤ 2 ^ 63 := by
    rw [← Nat.pow_succ]; exact Nat.pow_le_pow_right (by decide) (by omega)
  exact ⟨_, toUniq_eq hd (by omega), by omega, fromUniq_add hd (by omega)⟩

/-- same for the IVOA variant `4·4^depth + hash` -/
theorem from_uniq_ivoa_to_uniq_ivoa (d h : Nat) (hd : d ≤ 29) (hh : h < 12 * 4 ^ d) :
    ∃ u, toUniqIvoa d h = some u ∧ u = 4 * 4 ^ d + h ∧ u < 2 ^ 62 ∧ fromUniqIvoa u = some (d, h) := by
  have e : 2 ^ (2 * d + 2) = 4 * 4 ^ d := by rw [Nat.pow_add, four_pow]; omega
  have : 2 ^ (2 * d + 2) * 2 ^ 2 ≤ 2 ^ 62 := by
    rw [← Nat.pow_add]; exact Nat.pow_le_pow_right (by decide) (by omega)
  exact ⟨_, toUniqIvoa_eq hd h, by omega, by omega, fromUniqIvoa_add hd (by omega)⟩

/-- distinct valid `(depth, hash)` pairs never collide -/
theorem to_uniq_injective (d h d' h' : Nat) (hd : d ≤ 29) (hh : h < 12 * 4 ^ d) (hd' : d' ≤ 29) (hh' : h' < 12 * 4 ^ d')
    (e : toUniq d h = toUniq d' h') : d = d' ∧ h = h' := by
  obtain ⟨u, hu, _, hf⟩ := from_uniq_to_uniq d h hd hh
  obtain ⟨u', hu', _, hf'⟩ := from_uniq_to_uniq d' h' hd' hh'
  rw [hu, hu'] at e
  cases e
  rw [hf] at hf'
  cases hf'
  exact ⟨rfl, rfl⟩

theorem to_uniq_ivoa_injective (d h d' h' : Nat) (hd : d ≤ 29) (hh : h < 12 * 4 ^ d) (hd' : d' ≤ 29)
    (hh' : h' < 12 * 4 ^ d') (e : toUniqIvoa d h = toUniqIvoa d' h') : d = d' ∧ h = h' := by
  obtain ⟨u, hu, _, _, hf⟩ := from_uniq_ivoa_to_uniq_ivoa d h hd hh
  obtain ⟨u', hu', _, _, hf'⟩ := from_uniq_ivoa_to_uniq_ivoa d' h' hd' hh'
  rw [hu, hu'] at e
  cases e
  rw [hf] at hf'
  cases hf'
  exact ⟨rfl, rfl⟩

/-- non-vacuity -/
example : toUniq 29 (12 * 4 ^ 29 - 1) = some 0x6FFFFFFFFFFFFFFF ∧ fromUniq 0x6FFFFFFFFFFFFFFF = some (29, 12 * 4 ^ 29 - 1) := by
  decide +kernel

/-- the BMI2 masks regenerated from the source are the even / odd bit masks of 8, 16, 32 pairs -/
theorem bmi_masks_spec :
    IsEvenMask 8 0x5555 ∧ IsOddMask 8 0xAAAA ∧ IsEvenMask 16 0x55555555 ∧ IsOddMask 16 0xAAAAAAAA ∧
    IsEvenMask 32 0x5555555555555555 ∧ IsOddMask 32 0xAAAAAAAAAAAAAAAA :=
  ⟨mask_small_even, mask_small_odd, mask_mediu_even, mask_mediu_odd, mask_large_even, mask_large_odd⟩

/-- `pdep`/`pext` (Intel SDM pseudo-code) with an even / odd mask are bit spreading / squeezing, for every operand -/
theorem pdep_pext_spec {k w m : Nat} :
    (IsEvenMask k m → 2 * k ≤ w + 1 → ∀ src, pdep w src m = spreadN k src ∧ pext w src m = squeezeN k src) ∧
    (IsOddMask k m → 2 * k ≤ w → ∀ src, pdep w src m = spreadN k src <<< 1 ∧ pext w src m = squeezeN k (src / 2)) :=
  ⟨fun hm hw src => ⟨pdep_even hm hw src, pext_even hm hw src⟩, fun hm hw src => ⟨pdep_odd hm hw src, pext_odd hm hw src⟩⟩

theorem bmi_ij2h_spec (c : ZocClass) (i j : Nat) (hi : i < 2 ^ c.bits) (hj : j < 2 ^ c.bits) :
    Bmi.ij2h c i j = interleave i j := Hpx.bmi_ij2h_spec c i j hi hj

theorem bmi_h2ij_inverts (c : ZocClass) (i j : Nat) (hi : i < 2 ^ c.bits) (hj : j < 2 ^ c.bits) :
    Lut.ij2i c (Bmi.h2ij c (Bmi.ij2h c i j)) = i ∧ Lut.ij2j c (Bmi.h2ij c (Bmi.ij2h c i j)) = j :=
  Hpx.bmi_h2ij_inverts c i j hi hj

/-- the BMI2 and LUT implementations are the same functions, on every argument (in range or not) -/
theorem bmi_eq_lut (c : ZocClass) :
    (∀ i j, Bmi.ij2h c i j = Lut.ij2h c i j) ∧ (∀ h, Bmi.h2ij c h = Lut.h2ij c h) ∧
    (∀ i, Bmi.i02h c i = Lut.i02h c i) ∧ (∀ j, Bmi.oj2h c j = Lut.oj2h c j) :=
  ⟨bmi_eq_lut_ij2h c, bmi_eq_lut_h2ij c, bmi_eq_lut_i02h c, bmi_eq_lut_oj2h c⟩

/-- **the curve selected on a BMI2 build**: for every depth `≤ 29` and `i, j < 2^depth` it computes
    `interleave i j < 4^depth`, is inverted by `h2ij`/`ij2i`/`ij2j`, `i02h`/`oj2h` are its restrictions, and it is the
    same class and the same value as on a LUT build -/
theorem zoc_bmi_correct (d i j : Nat) (hd : d ≤ 29) (hi : i < 2 ^ d) (hj : j < 2 ^ d) :
    ∃ c, getZocBmi d = some c ∧ Bmi.ij2h c i j = interleave i j ∧ interleave i j < 4 ^ d ∧
      Lut.ij2i c (Bmi.h2ij c (Bmi.ij2h c i j)) = i ∧ Lut.ij2j c (Bmi.h2ij c (Bmi.ij2h c i j)) = j ∧
      Bmi.i02h c i = Bmi.ij2h c i 0 ∧ Bmi.oj2h c j = Bmi.ij2h c 0 j ∧
      getZoc d = some c ∧ Bmi.ij2h c i j = Lut.ij2h c i j ∧
      Bmi.h2ij c (Bmi.ij2h c i j) = Lut.h2ij c (Lut.ij2h c i j) ∧
      Bmi.i02h c i = Lut.i02h c i ∧ Bmi.oj2h c j = Lut.oj2h c j := Hpx.zoc_bmi_correct d i j hd hi hj

/-! ## constants from the source

`Gen/SizeTables.lean` is produced on every run by interpreting the source text of `x_mask`, `y_mask`, `xy_mask`,
`nside_unsafe`, `nside_square_unsafe`, `n_hash_unsafe` and of `Layer::new` (overflowing shifts / subtractions = panic). -/

/-- the model's `x_mask`, `y_mask`, `xy_mask` are the source's, for every `delta_depth` 0..32 and any configuration
    (`delta_depth = 0`: the empty mask, finding F25) -/
theorem masks_from_source (cfg : Cfg) :
    (List.range 33).map (Topo.xMaskFn cfg) = Gen.Size.xMask ∧
    (List.range 33).map (Topo.yMaskFn cfg) = Gen.Size.yMask ∧
    (List.range 33).map (Topo.xyMaskFn cfg) = Gen.Size.xyMask := Hpx.SizeGen.masks_from_source cfg

/-- every integer field of `Layer::new(depth)` (depth, nside, nside_minus_1, n_hash, twice_depth, d0h_mask, x_mask, y_mask,
    xy_mask, nside_remainder_mask), depth 0..29: the model's values are the ones the source computes -/
theorem layer_fields_from_source :
    (List.range 30).map Hpx.SizeGen.modelLayerFields = Gen.Size.layerFields := Hpx.SizeGen.layer_fields_from_source

/-- `time_half_nside` (the exponent increment of the scaling by `nside / 2`): `(depth − 1) << 52`, `−1 << 52` at depth 0 -/
theorem time_half_nside_from_source :
    (List.range 30).map (fun d => Hash.timeHalfNside d * 2 ^ 52) = Gen.Size.layerTimeHalfNside :=
  Hpx.SizeGen.time_half_nside_from_source

/-- `nside_unsafe`, `nside_square_unsafe`, `n_hash_unsafe`, depth 0..29 -/
theorem sizes_from_source :
    (List.range 30).map (fun d => some (Layer.nside d)) = Gen.Size.nside ∧
    (List.range 30).map (fun d => some (4 ^ d)) = Gen.Size.nsideSquare ∧
    (List.range 30).map (fun d => some (Layer.nHash d)) = Gen.Size.nHash := Hpx.SizeGen.sizes_from_source

end Hpx.C18
