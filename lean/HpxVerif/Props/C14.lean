import HpxVerif.Model.Topo
import HpxVerif.Lemmas.TopoGen
import HpxVerif.Lemmas.EdgeInternalSorted
import HpxVerif.Lemmas.ExternalEdgeSet
import HpxVerif.Gen.Consts
import HpxVerif.Lemmas.LayerBmi
import HpxVerif.Lemmas.SizeGen

set_option autoImplicit false   -- an unknown identifier in a statement is an error, never a new variable

/-!
# C14 — internal / external edges of a cell are exactly its deeper-depth border rings

Proved for every input:
* `edge_guards`: the convenience functions accept exactly `depth + delta_depth ≤ 29` (the repaired behaviour of finding
  F6; `DEPTH_MAX` is regenerated from the source); the direction and seam tables and the masks are the source's.
* Internal edges, every `δ ≥ 1`, every valid cell with `depth + δ ≤ 29` (LUT build; every build in the `_any_build` forms):
  `internal_edge` returns the explicit ring of the border descendants (`4·2^δ − 4` cells, no duplicates, south corner first,
  east corner after `2^δ − 1` steps, cyclically consecutive cells adjacent); the `k0..k3`/`lim` loop of `internal_edge_sorted`
  never writes out of range and returns a strictly increasing permutation of it.
* External edges, every depth, every `delta_depth` (0 included) with `depth + delta_depth ≤ 29`, any build: the pieces and
  the direction `from_`, the results as explicit lists; the members are exactly the outside cells touching a descendant, no
  duplicates, the sorted form a strictly increasing permutation, the length; at `delta_depth = 0` the list of the neighbours.
  Each also with the hypothesis `1 ≤ delta_depth`.
Test by kernel evaluation on the model (`internal_edge_small_delta_test`, `δ = 1..5`): the internal edge against the
independent specification `borderSpec` / `sortNat` (the repaired behaviour of finding F9).
-/

namespace Hpx.C14
open Hpx Hpx.Topo

def lut : Cfg := { debug := true, bmi := false }

/-- the convenience functions accept `depth + delta_depth ≤ DEPTH_MAX = 29` and nothing beyond -/
theorem edge_guards (cfg : Cfg) (d h dd : Nat) (hd : d ≤ 29) (hdd : dd ≤ 29) :
    (d + dd ≤ 29 → internalEdgeTop cfg Gen.cDepthMax d h dd = internalEdge cfg h dd ∧
                    internalEdgeSortedTop cfg Gen.cDepthMax d h dd = internalEdgeSorted cfg h dd) ∧
    (d + dd > 29 → internalEdgeTop cfg Gen.cDepthMax d h dd = none ∧
                    internalEdgeSortedTop cfg Gen.cDepthMax d h dd = none) := by
  have hm : (d + dd) % 256 = d + dd := Nat.mod_eq_of_lt (by omega)
  have hc : Gen.cDepthMax = 29 := by decide
  constructor
  · intro h1
    simp [internalEdgeTop, internalEdgeSortedTop, hm, hc, h1]
  · intro h1
    have : ¬ (d + dd ≤ 29) := by omega
    simp [internalEdgeTop, internalEdgeSortedTop, hm, hc, this]

/-- spec of the border set of the `2^δ` grid inside cell `h`, in increasing order of cell number -/
def borderSpec (h dd : Nat) : List Nat :=
  let n := 2 ^ dd
  ((List.range (n * n)).filter fun z =>
    let i := squeezeN 32 z; let j := squeezeN 32 (z / 2)
    i == 0 || j == 0 || i == n - 1 || j == n - 1).map (h * 4 ^ dd + ·)

/-- the specification's own insertion sort, independent of the model's (`Model/Bmoc`) -/
def insertSorted (x : Nat) : List Nat → List Nat
  | [] => [x]
  | y :: ys => if x ≤ y then x :: y :: ys else y :: insertSorted x ys

def sortNat (l : List Nat) : List Nat := l.foldr insertSorted []

/-- what the property demands of `internal_edge` and `internal_edge_sorted`, as a decidable check -/
def edgeOk (h dd : Nat) : Bool :=
  match internalEdge lut h dd, internalEdgeSorted lut h dd with
  | some e, some s =>
    sortNat e == borderSpec h dd && e.length == 4 * 2 ^ dd - 4 && s == borderSpec h dd
      && e.head? == some (h * 4 ^ dd)
      && e[2 ^ dd - 1]? == some (h * 4 ^ dd + (spreadN 32 (2 ^ dd - 1)))
  | _, _ => false

/-- **test** (kernel evaluation, `δ = 1..5`, three cells) -/
theorem internal_edge_small_delta_test :
    ∀ dd, dd < 6 → dd = 0 ∨ (edgeOk 0 dd && edgeOk 7 dd && edgeOk 191 dd) = true := by
  decide +kernel

/-! ## the direction tables of the model are the tables of the source (regenerated on every run) -/

/-- `lib::direction_from_neighbour` and `lib::edge_cell_direction_from_neighbour` (the rotated frames of the polar-cap
    seams, panicking entries included) equal, entry by entry, what the translator tabulates from `src/lib.rs` -/
theorem direction_tables_from_source :
    (∀ b, b < 12 → ∀ w : MW,
      directionFromNeighbour b w = ((TopoGen.lk2 Gen.directionFromNeighbour b w.index).bind id).bind MW.ofIndex) ∧
    (∀ b, b < 12 → ∀ inner nd : MW,
      edgeCellDirectionFromNeighbour b inner nd =
        ((TopoGen.lk3 Gen.edgeCellDirectionFromNeighbour b inner.index nd.index).bind id).bind MW.ofIndex) :=
  ⟨TopoGen.direction_from_neighbour, TopoGen.edge_cell_direction_from_neighbour⟩

theorem seam_rules_from_source : ∀ b, b < 12 → ∀ w : MW, w ≠ .C →
    seamRule b w = TopoGen.decodeSeam ((TopoGen.lk2 Gen.seamRules b w.index).bind id) := TopoGen.seam_rules

/-! ## internal edges, for EVERY delta_depth

Vocabulary of `Lemmas/EdgeInternal*.lean`: `N = 2^dd`; the descendant of `hash` with in-cell coordinates `(x, y)` is
`cellVal hash dd (x, y) = hash·4^dd + interleave x y`; `edgeCoords dd` is the ring of border coordinates in walk order
(south corner, SE side, east corner, NE side, north corner, NW side backwards, west corner, SW side backwards),
`edgeList` its image; `sortCoord`/`sortedList` the same ring in increasing z-order. -/

section InternalEdges
open Hpx Hpx.Topo Hpx.EdgeInternal

theorem masks_spec_x (cfg : Cfg) (dd : Nat) (h1 : 1 ≤ dd) (h2 : dd ≤ 32) :
    xMaskFn cfg dd = some (interleave (2 ^ dd - 1) 0) :=
  Hpx.EdgeInternal.xMask_spec0 cfg dd h2

/-- **`internal_edge`, every `delta_depth`** (LUT build, `1 ≤ dd ≤ 29`, `hash·4^dd` fits in 64 bits): the result is the
    explicit ring `edgeList`; it has `4N − 4` elements, no duplicates, and its members are exactly the border descendants -/
theorem internal_edge_set (cfg : Cfg) (hb : cfg.bmi = false) (hash dd : Nat) (h1 : 1 ≤ dd) (hd : dd ≤ 29)
    (hh : hash < 2 ^ (64 - 2 * dd)) :
    ∃ l, internalEdge cfg hash dd = some l ∧ l = edgeList hash dd ∧ l.length = 4 * 2 ^ dd - 4 ∧ l.Nodup ∧
      (∀ h', h' ∈ l ↔ ∃ x y, x < 2 ^ dd ∧ y < 2 ^ dd ∧ (x = 0 ∨ x = 2 ^ dd - 1 ∨ y = 0 ∨ y = 2 ^ dd - 1) ∧
        h' = hash * 4 ^ dd + interleave x y) :=
  Hpx.EdgeInternal.internalEdge_main cfg hash dd h1 hd hh

/-- the walk: starts at the south corner, element `N−1` is the east corner, element `2(N−1)` the north corner, element
    `3(N−1)` the west corner, and cyclically consecutive elements are adjacent cells (one step in `x` or in `y`) -/
theorem internal_edge_walk (hash dd : Nat) (h1 : 1 ≤ dd) :
    (edgeList hash dd)[0]? = some (hash * 4 ^ dd) ∧
    (edgeList hash dd)[2 ^ dd - 1]? = some (hash * 4 ^ dd + interleave (2 ^ dd - 1) 0) ∧
    (edgeList hash dd)[2 * (2 ^ dd - 1)]? = some (hash * 4 ^ dd + interleave (2 ^ dd - 1) (2 ^ dd - 1)) ∧
    (edgeList hash dd)[3 * (2 ^ dd - 1)]? = some (hash * 4 ^ dd + interleave 0 (2 ^ dd - 1)) ∧
    ∀ t, t < (edgeList hash dd).length → ∃ x y x' y',
      (edgeList hash dd)[t]? = some (hash * 4 ^ dd + interleave x y) ∧
      (edgeList hash dd)[(t + 1) % (edgeList hash dd).length]? = some (hash * 4 ^ dd + interleave x' y') ∧
      onBorder dd x y ∧ onBorder dd x' y' ∧
      ((x' = x ∧ (y' = y + 1 ∨ y' + 1 = y)) ∨ (y' = y ∧ (x' = x + 1 ∨ x' + 1 = x))) :=
  Hpx.EdgeInternal.internalEdge_walk hash dd h1

/-- the four corners: south `(0,0)`, east `(N−1,0)`, west `(0,N−1)`, north `(N−1,N−1)`; no other direction is accepted.
    Needs `1 ≤ dd ≤ 32` only (no curve is consulted). -/
theorem internal_corners (cfg : Cfg) (hash dd : Nat) (h1 : 1 ≤ dd) (hd : dd ≤ 32) (hh : hash < 2 ^ (64 - 2 * dd)) :
    internalCorner cfg hash dd MW.S = some (hash * 4 ^ dd + interleave 0 0) ∧
    internalCorner cfg hash dd MW.E = some (hash * 4 ^ dd + interleave (2 ^ dd - 1) 0) ∧
    internalCorner cfg hash dd MW.W = some (hash * 4 ^ dd + interleave 0 (2 ^ dd - 1)) ∧
    internalCorner cfg hash dd MW.N = some (hash * 4 ^ dd + interleave (2 ^ dd - 1) (2 ^ dd - 1)) ∧
    (∀ dir, dir ≠ MW.S → dir ≠ MW.E → dir ≠ MW.W → dir ≠ MW.N → internalCorner cfg hash dd dir = none) :=
  Hpx.EdgeInternal.internalCorner_spec cfg hash dd hd hh

/-- the four sides, each with its `N` cells including both corners: SE `(x,0)`, SW `(0,y)`, NE `(N−1,y)`, NW `(x,N−1)`,
    each in increasing order of the running coordinate; no other direction is accepted -/
theorem internal_parts (cfg : Cfg) (hb : cfg.bmi = false) (hash dd : Nat) (h1 : 1 ≤ dd) (hd : dd ≤ 29)
    (hh : hash < 2 ^ (64 - 2 * dd)) :
    internalEdgePart cfg hash dd MW.SE = some ((List.range (2 ^ dd)).map fun x => hash * 4 ^ dd + interleave x 0) ∧
    internalEdgePart cfg hash dd MW.SW = some ((List.range (2 ^ dd)).map fun y => hash * 4 ^ dd + interleave 0 y) ∧
    internalEdgePart cfg hash dd MW.NE =
      some ((List.range (2 ^ dd)).map fun y => hash * 4 ^ dd + interleave (2 ^ dd - 1) y) ∧
    internalEdgePart cfg hash dd MW.NW =
      some ((List.range (2 ^ dd)).map fun x => hash * 4 ^ dd + interleave x (2 ^ dd - 1)) ∧
    (∀ dir, dir ≠ MW.SE → dir ≠ MW.SW → dir ≠ MW.NE → dir ≠ MW.NW → internalEdgePart cfg hash dd dir = none) :=
  Hpx.EdgeInternal.internalEdgePart_any cfg hash dd hd hh

/-- a valid cell of depth `d` refined by `dd` levels with `d + dd ≤ 29` never overflows the 64-bit shift -/
theorem valid_cell_fits (d dd hash : Nat) (hsum : d + dd ≤ 29) (hh : hash < 12 * 4 ^ d) : hash < 2 ^ (64 - 2 * dd) :=
  Hpx.EdgeInternal.valid_cell_fits d dd hash hsum hh

/-- **`internal_edge_sorted`, every `delta_depth`** (LUT build, `1 ≤ dd ≤ 29`, `hash·4^dd` fits in 64 bits): the function
    returns (no out-of-range write) the explicit list `sortedList`, which has `4N − 4` elements, is strictly increasing,
    is a permutation of the result `edgeList` of `internal_edge`, and hence consists exactly of the border descendants -/
theorem internal_edge_sorted_perm (cfg : Cfg) (hbmi : cfg.bmi = false) (hash dd : Nat) (h1 : 1 ≤ dd) (hd : dd ≤ 29)
    (hh : hash < 2 ^ (64 - 2 * dd)) :
    ∃ s l, internalEdgeSorted cfg hash dd = some s ∧ internalEdge cfg hash dd = some l ∧
      s = sortedList hash dd ∧ l = edgeList hash dd ∧
      s.length = 4 * 2 ^ dd - 4 ∧ s.Pairwise (· < ·) ∧ s.Perm l ∧
      (∀ h', h' ∈ s ↔ ∃ x y, x < 2 ^ dd ∧ y < 2 ^ dd ∧ (x = 0 ∨ x = 2 ^ dd - 1 ∨ y = 0 ∨ y = 2 ^ dd - 1) ∧
        h' = hash * 4 ^ dd + interleave x y) :=
  Hpx.EdgeInternal.internalEdgeSorted_perm cfg hash dd h1 hd hh

/-- the public entry points on a valid cell: `depth + delta_depth ≤ 29`, `hash < 12·4^depth`, `delta_depth ≥ 1` -/
theorem internal_edge_top_spec (cfg : Cfg) (hbmi : cfg.bmi = false) (d hash dd : Nat) (h1 : 1 ≤ dd) (hsum : d + dd ≤ 29)
    (hh : hash < 12 * 4 ^ d) :
    internalEdgeTop cfg 29 d hash dd = some (edgeList hash dd) ∧
    internalEdgeSortedTop cfg 29 d hash dd = some (sortedList hash dd) :=
  Hpx.EdgeInternal.internalEdgeTop_spec cfg d hash dd h1 hsum hh


end InternalEdges

section ExternalEdges
open Hpx Hpx.Topo Hpx.TopoSpec Hpx.TopoNeigh Hpx.TopoLift Hpx.EdgeInternal Hpx.EdgeExternal MW

/-! ## external edges: every depth, every `delta_depth ≥ 1` with `depth + delta_depth ≤ 29`, every cell, any build

(the same statements without `1 ≤ delta_depth` are in the section `ExternalEdgesAllDelta`) -/

/-- **C14, `external_from_direction`**: on a cell number of the depth the computation of the pieces never
    panics (every table lookup succeeds), for both orders; the `(dir, hv)` components are the entries of
    `neighbours(hash)` (in `MainWind` index order, or sorted by number); and for every piece `(dir, from_, hv)`: `hv` is
    the neighbour of `hash` in direction `dir`, `hash` is the neighbour of `hv` in direction `from_` (`Layer::neighbour`),
    the vertices of `hv` shared with `hash` are those of its side / corner `from_`, and `from_` is cardinal (ordinal)
    iff `dir` is.  Every depth `≤ 29`, any build. -/
theorem external_from_direction (cfg : Cfg) (d : Nat) (hd : d ≤ 29) (hash : Nat) (hh : hash < 12 * 4 ^ d) (s : Bool) :
    ∃ l, externalPieces cfg d hash s = some l ∧
      l.map (fun t => (t.1, t.2.2)) = orderOf s (nbList d hash false) ∧
      Topo.neighbours cfg d hash false = some (nbList d hash false) ∧
      ∀ dir f hv, (dir, f, hv) ∈ l →
        hv < 12 * 4 ^ d ∧ hv ≠ hash ∧ dir ≠ C ∧ f ≠ C ∧
        Topo.neighbour cfg d hash dir = some (some hv) ∧ Topo.neighbour cfg d hv f = some (some hash) ∧
        shared (2 ^ d) (partsOf d hv) (partsOf d hash) = edgeOf f ∧
        f.isCardinal = dir.isCardinal ∧ f.isOrdinal = dir.isOrdinal :=
  Hpx.EdgeExternal.external_from_direction cfg d hd hash hh s

/-- **C14, `external_edge_spec`**: on a cell number of the depth, `1 ≤ dd`, `d + dd ≤ 29`:
    `external_edge` (`sorted = false`) and `external_edge_sorted` (`sorted = true`) do not panic and return the
    concatenation, over the neighbours `(dir, hv)` of `hash` (entries of `neighbours(hash)` in `MainWind` index order
    / by increasing number), of the sub-cells of `hv` on its side (ordinal `dir`) / corner (cardinal `dir`) facing
    `hash` (`sideList hv dd (fromD d hash dir)`).  Any build. -/
theorem external_edge_spec (cfg : Cfg) (d dd : Nat) (h1 : 1 ≤ dd) (hsum : d + dd ≤ 29) (hash : Nat)
    (hh : hash < 12 * 4 ^ d) (s : Bool) :
    externalEdge cfg d hash dd s = some (externalList d hash dd s) :=
  Hpx.EdgeExternal.external_edge_spec cfg d dd h1 hsum hash hh s

/-- **C14, `external_edge_struct_spec`**: `external_edge_struct` does not panic (the consistency checks
    between the kind of `from_` and the kind of `dir` always pass) and files, for each entry `(dir, hv)` of
    `neighbours(hash)` in `MainWind` index order, under `dir` the sub-cells of `hv` on its side / corner facing `hash`:
    one corner sub-cell for a cardinal `dir`, the `2^dd` sub-cells of the facing side for an ordinal `dir` -/
theorem external_edge_struct_spec (cfg : Cfg) (d dd : Nat) (h1 : 1 ≤ dd) (hsum : d + dd ≤ 29) (hash : Nat)
    (hh : hash < 12 * 4 ^ d) :
    externalEdgeStruct cfg d hash dd =
      some ((nbList d hash false).map fun e => (e.1, sideList e.2 dd (fromD d hash e.1))) ∧
    ∀ dir hv, (dir, hv) ∈ nbList d hash false →
      (sideList hv dd (fromD d hash dir)).length = (if dir.isCardinal then 1 else 2 ^ dd) ∧
      (fromD d hash dir).isCardinal = dir.isCardinal :=
  Hpx.EdgeExternal.external_edge_struct_spec cfg d dd h1 hsum hash hh

/-- **C14, `external_edge_set`** (soundness and completeness): the members of the external edge are exactly
    the cell numbers `h'` of depth `d + dd` that lie outside `hash` (their ancestor at depth `d` is not `hash`) and share
    a vertex, as points of the sphere, with some descendant `h''` of `hash` at depth `d + dd`.  Both orders, any build,
    every `d`, `dd ≥ 1`, `d + dd ≤ 29`. -/
theorem external_edge_set (cfg : Cfg) (d dd : Nat) (h1 : 1 ≤ dd) (hsum : d + dd ≤ 29) (hash : Nat)
    (hh : hash < 12 * 4 ^ d) (s : Bool) :
    ∃ l, externalEdge cfg d hash dd s = some l ∧ ∀ h', h' ∈ l ↔
      (h' < 12 * 4 ^ (d + dd) ∧ h' / 4 ^ dd ≠ hash ∧
        ∃ h'', h'' / 4 ^ dd = hash ∧ Touch (2 ^ (d + dd)) (partsOf (d + dd) h') (partsOf (d + dd) h'')) :=
  Hpx.EdgeExternal.external_edge_set cfg d dd h1 hsum hash hh s

/-- **C14, `external_edge_nodup`**: no duplicates, both orders -/
theorem external_edge_nodup (cfg : Cfg) (d dd : Nat) (h1 : 1 ≤ dd) (hsum : d + dd ≤ 29) (hash : Nat)
    (hh : hash < 12 * 4 ^ d) (s : Bool) :
    ∃ l, externalEdge cfg d hash dd s = some l ∧ l.Nodup :=
  Hpx.EdgeExternal.external_edge_nodup cfg d dd h1 hsum hash hh s

/-- **C14, `external_edge_sorted_spec`**: `external_edge_sorted` returns a strictly increasing list, which
    is a permutation of the result of `external_edge` (same members, same length): the neighbours are visited by
    increasing number `hv`, the pieces of different neighbours lie in the disjoint increasing ranges
    `[hv·4^dd, (hv+1)·4^dd)`, and each piece is increasing -/
theorem external_edge_sorted_spec (cfg : Cfg) (d dd : Nat) (h1 : 1 ≤ dd) (hsum : d + dd ≤ 29) (hash : Nat)
    (hh : hash < 12 * 4 ^ d) :
    ∃ ls lu, externalEdge cfg d hash dd true = some ls ∧ externalEdge cfg d hash dd false = some lu ∧
      ls.Pairwise (· < ·) ∧ ls.Perm lu ∧ (∀ h', h' ∈ ls ↔ h' ∈ lu) ∧ ls.length = lu.length :=
  Hpx.EdgeExternal.external_edge_sorted_spec cfg d dd h1 hsum hash hh

/-- **C14, `external_edge_length`**: the external edge has `4·2^dd` cells along the four sides plus one corner cell per
    cardinal neighbour: `4·2^dd + 4` in general, `4·2^dd + 3` for the 24 cells with 7 neighbours (`Special`),
    `4·2^dd + 2` at depth 0 (both orders) -/
theorem external_edge_length (cfg : Cfg) (d dd : Nat) (h1 : 1 ≤ dd) (hsum : d + dd ≤ 29) (hash : Nat)
    (hh : hash < 12 * 4 ^ d) (s : Bool) :
    ∃ l, externalEdge cfg d hash dd s = some l ∧
      l.length = 4 * 2 ^ dd + ((nbList d hash false).filter fun e => e.1.isCardinal).length ∧
      l.length = 4 * 2 ^ dd + (if d = 0 then 2 else if Special (2 ^ d) (partsOf d hash) then 3 else 4) :=
  Hpx.EdgeExternal.external_edge_length cfg d dd h1 hsum hash hh s

/-- **C14, `from_dir_spec`** (the heart of the external edge): if `q` is the neighbour of the cell `p` in direction
    `dir`, the direction computed by the code (`fromDir`: `dir.opposite` inside a base cell, the table
    `direction_from_neighbour` at `n = 1`, the table `edge_cell_direction_from_neighbour` applied to the position of
    `p` on the border of its base cell otherwise) exists (no table lookup fails), leads back from `q` to `p`, and is
    cardinal iff `dir` is.  Every `1 ≤ n ≤ 2^32`. -/
theorem from_dir_spec (n : Nat) (p q : HashParts) (dir : MW) (hn : 1 ≤ n) (hn2 : n ≤ 4294967296) (hp : Valid n p)
    (hdir : dir ≠ C) (h : neighbourParts n p dir = some q) :
    ∃ f, fromDir n p dir q = some f ∧ neighbourParts n q f = some p ∧ f.isCardinal = dir.isCardinal ∧ f ≠ C :=
  Hpx.EdgeExternal.from_dir_spec n p q dir hn hn2 hp hdir h


end ExternalEdges


/-! ## every build: the statements above that carry `cfg.bmi = false`, for every `cfg` (LUT tables or BMI2) -/

section AnyBuild
open Hpx Hpx.Topo Hpx.LayerBmi Hpx.EdgeInternal Hpx.BmiTransfer

theorem internal_edge_set_any_build (cfg : Cfg) (hash dd : Nat) (h1 : 1 ≤ dd) (hd : dd ≤ 29)
    (hh : hash < 2 ^ (64 - 2 * dd)) :
    ∃ l, internalEdge cfg hash dd = some l ∧ l = edgeList hash dd ∧ l.length = 4 * 2 ^ dd - 4 ∧ l.Nodup ∧
      (∀ h', h' ∈ l ↔ ∃ x y, x < 2 ^ dd ∧ y < 2 ^ dd ∧ (x = 0 ∨ x = 2 ^ dd - 1 ∨ y = 0 ∨ y = 2 ^ dd - 1) ∧
        h' = hash * 4 ^ dd + interleave x y) :=
  Hpx.EdgeInternal.internalEdge_main cfg hash dd h1 hd hh

theorem internal_parts_any_build (cfg : Cfg) (hash dd : Nat) (h1 : 1 ≤ dd) (hd : dd ≤ 29)
    (hh : hash < 2 ^ (64 - 2 * dd)) :
    internalEdgePart cfg hash dd MW.SE = some ((List.range (2 ^ dd)).map fun x => hash * 4 ^ dd + interleave x 0) ∧
    internalEdgePart cfg hash dd MW.SW = some ((List.range (2 ^ dd)).map fun y => hash * 4 ^ dd + interleave 0 y) ∧
    internalEdgePart cfg hash dd MW.NE =
      some ((List.range (2 ^ dd)).map fun y => hash * 4 ^ dd + interleave (2 ^ dd - 1) y) ∧
    internalEdgePart cfg hash dd MW.NW =
      some ((List.range (2 ^ dd)).map fun x => hash * 4 ^ dd + interleave x (2 ^ dd - 1)) ∧
    (∀ dir, dir ≠ MW.SE → dir ≠ MW.SW → dir ≠ MW.NE → dir ≠ MW.NW → internalEdgePart cfg hash dd dir = none) :=
  Hpx.EdgeInternal.internalEdgePart_any cfg hash dd hd hh

theorem internal_edge_sorted_perm_any_build (cfg : Cfg) (hash dd : Nat) (h1 : 1 ≤ dd) (hd : dd ≤ 29)
    (hh : hash < 2 ^ (64 - 2 * dd)) :
    ∃ s l, internalEdgeSorted cfg hash dd = some s ∧ internalEdge cfg hash dd = some l ∧
      s = sortedList hash dd ∧ l = edgeList hash dd ∧
      s.length = 4 * 2 ^ dd - 4 ∧ s.Pairwise (· < ·) ∧ s.Perm l ∧
      (∀ h', h' ∈ s ↔ ∃ x y, x < 2 ^ dd ∧ y < 2 ^ dd ∧ (x = 0 ∨ x = 2 ^ dd - 1 ∨ y = 0 ∨ y = 2 ^ dd - 1) ∧
        h' = hash * 4 ^ dd + interleave x y) :=
  Hpx.EdgeInternal.internalEdgeSorted_perm cfg hash dd h1 hd hh

theorem internal_edge_top_spec_any_build (cfg : Cfg) (d hash dd : Nat) (h1 : 1 ≤ dd) (hsum : d + dd ≤ 29)
    (hh : hash < 12 * 4 ^ d) :
    internalEdgeTop cfg 29 d hash dd = some (edgeList hash dd) ∧
    internalEdgeSortedTop cfg 29 d hash dd = some (sortedList hash dd) :=
  Hpx.EdgeInternal.internalEdgeTop_spec cfg d hash dd h1 hsum hh

/-- non-vacuity: a BMI2 configuration, cell 7 refined by two levels -/
example := internal_edge_set_any_build { debug := true, bmi := true } 7 2 (by omega) (by omega) (by norm_num)
example := internal_edge_top_spec_any_build { debug := true, bmi := true } 1 7 2 (by omega) (by omega) (by norm_num)
end AnyBuild


/-! ## constants from the source

`Gen/SizeTables.lean` is produced on every run by interpreting the source text of `x_mask`, `y_mask`, `xy_mask`,
`nside_unsafe`, `nside_square_unsafe`, `n_hash_unsafe` and of `Layer::new` (overflowing shifts / subtractions = panic). -/

/-- the model's `x_mask`, `y_mask`, `xy_mask` are the source's, for every `delta_depth` 0..32 and any configuration
    (`delta_depth = 0`: the empty mask, since the repair of finding F25) -/
theorem masks_from_source (cfg : Cfg) :
    (List.range 33).map (Topo.xMaskFn cfg) = Gen.Size.xMask ∧
    (List.range 33).map (Topo.yMaskFn cfg) = Gen.Size.yMask ∧
    (List.range 33).map (Topo.xyMaskFn cfg) = Gen.Size.xyMask := Hpx.SizeGen.masks_from_source cfg


/-! ## external edges for EVERY `delta_depth`: `x_mask(0)`, `y_mask(0)`, `xy_mask(0)` are empty (the crate after
`fix: x_mask, y_mask and xy_mask at depth 0`, finding F25), and at `delta_depth = 0` the external edge is the list of the
neighbours -/

section ExternalEdgesAllDelta
open Hpx Hpx.Topo Hpx.TopoSpec Hpx.TopoNeigh Hpx.TopoLift Hpx.EdgeInternal Hpx.EdgeExternal MW

/-- **C14, `external_edge_delta0`**: with `delta_depth = 0`, `external_edge` (`s = false`) and `external_edge_sorted`
    (`s = true`) do not panic and return the neighbours of `hash` (the values of `neighbours(hash)`: in `MainWind` index
    order for `s = false`, by increasing cell number for `s = true`).  Every depth `d ≤ 29`, every cell number of the
    depth, any build (debug or release, LUT or BMI). -/
theorem external_edge_delta0 (cfg : Cfg) (d : Nat) (hd : d ≤ 29) (hash : Nat) (hh : hash < 12 * 4 ^ d) (s : Bool) :
    externalEdge cfg d hash 0 s = some ((orderOf s (nbList d hash false)).map (·.2)) :=
  Hpx.EdgeExternal.external_edge_delta0 cfg d hd hash hh s

/-- **C14, `external_edge_struct_delta0`**: with `delta_depth = 0`, `external_edge_struct` does not panic and files each
    neighbour `(dir, hv)` of `hash` under `dir`, as the one-element list `[hv]` (corner for a cardinal `dir`, edge for an
    ordinal `dir`) -/
theorem external_edge_struct_delta0 (cfg : Cfg) (d : Nat) (hd : d ≤ 29) (hash : Nat) (hh : hash < 12 * 4 ^ d) :
    externalEdgeStruct cfg d hash 0 = some ((nbList d hash false).map fun e => (e.1, [e.2])) :=
  Hpx.EdgeExternal.external_edge_struct_delta0 cfg d hd hash hh

/-- membership: `h'` is in `external_edge*(hash, 0)` iff it is a cell number of the depth, different from `hash`, whose
    cell shares a vertex with the cell `hash` as points of the sphere (`TopoSpec.Touch`), i.e. iff it is a neighbour -/
theorem external_edge_delta0_mem (cfg : Cfg) (d : Nat) (hd : d ≤ 29) (hash : Nat) (hh : hash < 12 * 4 ^ d) (s : Bool) :
    ∃ l, externalEdge cfg d hash 0 s = some l ∧ ∀ h', h' ∈ l ↔
      (h' < 12 * 4 ^ d ∧ h' ≠ hash ∧ Touch (2 ^ d) (partsOf d hash) (partsOf d h')) :=
  Hpx.EdgeExternal.external_edge_delta0_mem cfg d hd hash hh s

/-- length = number of neighbours: 8, 7 for the 24 cells with 7 neighbours (`Special`, i.e. `hash ∈ specialHashes d`),
    6 at depth 0 (both orders) -/
theorem external_edge_delta0_length (cfg : Cfg) (d : Nat) (hd : d ≤ 29) (hash : Nat) (hh : hash < 12 * 4 ^ d) (s : Bool) :
    ∃ l, externalEdge cfg d hash 0 s = some l ∧
      l.length = (nbList d hash false).length ∧
      l.length = (if d = 0 then 6 else if Special (2 ^ d) (partsOf d hash) then 7 else 8) ∧
      (Special (2 ^ d) (partsOf d hash) ↔ hash ∈ specialHashes d) :=
  Hpx.EdgeExternal.external_edge_delta0_length cfg d hd hash hh s

/-- **C14, `external_edge_spec` for every `delta_depth`** (`0` included): on a cell number of the depth, `d + dd ≤ 29`,
    `external_edge` (`s = false`) and `external_edge_sorted` (`s = true`) do not panic and return the concatenation, over
    the neighbours `(dir, hv)` of `hash` (in `MainWind` index order / by increasing number), of the sub-cells of `hv` on its
    side / corner facing `hash`.  Any build. -/
theorem external_edge_spec_all_delta (cfg : Cfg) (d dd : Nat) (hsum : d + dd ≤ 29) (hash : Nat)
    (hh : hash < 12 * 4 ^ d) (s : Bool) :
    externalEdge cfg d hash dd s = some (externalList d hash dd s) :=
  Hpx.EdgeExternal.external_edge_spec_all_delta cfg d dd hsum hash hh s

/-- **C14, `external_edge_struct_spec` for every `delta_depth`** (`0` included) -/
theorem external_edge_struct_spec_all_delta (cfg : Cfg) (d dd : Nat) (hsum : d + dd ≤ 29) (hash : Nat)
    (hh : hash < 12 * 4 ^ d) :
    externalEdgeStruct cfg d hash dd =
      some ((nbList d hash false).map fun e => (e.1, sideList e.2 dd (fromD d hash e.1))) ∧
    ∀ dir hv, (dir, hv) ∈ nbList d hash false →
      (sideList hv dd (fromD d hash dir)).length = (if dir.isCardinal then 1 else 2 ^ dd) ∧
      (fromD d hash dir).isCardinal = dir.isCardinal :=
  Hpx.EdgeExternal.external_edge_struct_spec_all_delta cfg d dd hsum hash hh

/-- **C14, `external_edge_set` for every `delta_depth`** (`0` included; soundness and completeness): the members of the
    external edge are exactly the cell numbers `h'` of depth `d + dd` that lie outside `hash` and share a vertex, as points
    of the sphere, with some descendant `h''` of `hash` at depth `d + dd`.  Both orders, any build. -/
theorem external_edge_set_all_delta (cfg : Cfg) (d dd : Nat) (hsum : d + dd ≤ 29) (hash : Nat)
    (hh : hash < 12 * 4 ^ d) (s : Bool) :
    ∃ l, externalEdge cfg d hash dd s = some l ∧ ∀ h', h' ∈ l ↔
      (h' < 12 * 4 ^ (d + dd) ∧ h' / 4 ^ dd ≠ hash ∧
        ∃ h'', h'' / 4 ^ dd = hash ∧ Touch (2 ^ (d + dd)) (partsOf (d + dd) h') (partsOf (d + dd) h'')) :=
  Hpx.EdgeExternal.external_edge_set_all_delta cfg d dd hsum hash hh s

/-- **C14, `external_edge_nodup` for every `delta_depth`** (`0` included): no duplicates, both orders -/
theorem external_edge_nodup_all_delta (cfg : Cfg) (d dd : Nat) (hsum : d + dd ≤ 29) (hash : Nat)
    (hh : hash < 12 * 4 ^ d) (s : Bool) :
    ∃ l, externalEdge cfg d hash dd s = some l ∧ l.Nodup :=
  Hpx.EdgeExternal.external_edge_nodup_all_delta cfg d dd hsum hash hh s

/-- **C14, `external_edge_sorted_spec` for every `delta_depth`** (`0` included): `external_edge_sorted` returns a strictly
    increasing list, which is a permutation of the result of `external_edge` -/
theorem external_edge_sorted_spec_all_delta (cfg : Cfg) (d dd : Nat) (hsum : d + dd ≤ 29) (hash : Nat)
    (hh : hash < 12 * 4 ^ d) :
    ∃ ls lu, externalEdge cfg d hash dd true = some ls ∧ externalEdge cfg d hash dd false = some lu ∧
      ls.Pairwise (· < ·) ∧ ls.Perm lu ∧ (∀ h', h' ∈ ls ↔ h' ∈ lu) ∧ ls.length = lu.length :=
  Hpx.EdgeExternal.external_edge_sorted_spec_all_delta cfg d dd hsum hash hh

/-- **C14, `external_edge_length` for every `delta_depth`** (`0` included): `4·2^dd` cells along the four sides plus one
    corner cell per cardinal neighbour: `4·2^dd + 4` in general, `+ 3` for the 24 cells with 7 neighbours, `+ 2` at depth 0
    (both orders); at `dd = 0` this is the number of neighbours `8`, `7`, `6` -/
theorem external_edge_length_all_delta (cfg : Cfg) (d dd : Nat) (hsum : d + dd ≤ 29) (hash : Nat)
    (hh : hash < 12 * 4 ^ d) (s : Bool) :
    ∃ l, externalEdge cfg d hash dd s = some l ∧
      l.length = 4 * 2 ^ dd + ((nbList d hash false).filter fun e => e.1.isCardinal).length ∧
      l.length = 4 * 2 ^ dd + (if d = 0 then 2 else if Special (2 ^ d) (partsOf d hash) then 3 else 4) :=
  Hpx.EdgeExternal.external_edge_length_all_delta cfg d dd hsum hash hh s


end ExternalEdgesAllDelta

end Hpx.C14
