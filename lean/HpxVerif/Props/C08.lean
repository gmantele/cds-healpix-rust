import HpxVerif.Lemmas.BmocAnd
import HpxVerif.Lemmas.BmocEnc
import HpxVerif.Lemmas.BmocNot
import HpxVerif.Lemmas.BmocOrXor
import HpxVerif.Lemmas.BmocLaws

set_option autoImplicit false   -- an unknown identifier in a statement is an error, never a new variable

/-!
# C08 — BMOC operators follow the documented three-valued semantics with partial flags

A cell list denotes the map `stOf D l : Nat → {abs, part, full}` on the cells of any reference depth `D` at least as
deep as every cell (`WF D l`: depths `≤ D`, intervals increasing and pairwise disjoint).  Operands may have
arbitrary flags, be packed or not, and have different `depth_max` (the operator model decodes each operand with its
own `depth_max` and encodes the result with the larger one, as the code does).

Proved here for all (pairs of) well-formed operands: `and` (pointwise minimum, result well formed) and **`not`
(`not3_sem`: absent ↔ full, partial kept; result well formed and in range; every produced cell is full or an unchanged
partial cell of the operand)**.  **`xor` (`xor3_sem` on cell lists, `xor_bmoc` for the public operator including re-encoding and `pack`: never panics
on valid operands, result valid, well formed, pointwise the documented table).**
**`or` (`or3_sem`, `or_bmoc`: never panics on valid operands — in particular the `unwrap` in `not_in_cell_4_or` never
fails — result valid, well formed, pointwise maximum).**
-/

namespace Hpx.C08
open Hpx.Bmoc

/-- `and` is the pointwise minimum -/
theorem and3_sem (D : Nat) (a b : List Cell) (ha : WF D a) (hb : WF D b) (x : Nat) :
    stOf D (andCells a b) x = Tri.min (stOf D a x) (stOf D b x) := and_sem D a b ha hb x

/-- the result of `and` is well formed -/
theorem and_wf (D : Nat) (a b : List Cell) (ha : WF D a) (hb : WF D b) : WF D (andCells a b) :=
  (and_wf_inside D a b ha hb).1

/-- the documented table of `and` -/
theorem and_table : Tri.min .abs .full = .abs ∧ Tri.min .part .full = .part ∧ Tri.min .full .full = .full ∧
    Tri.min .part .part = .part ∧ Tri.min .full .part = .part ∧ Tri.min .part .abs = .abs := by decide

/-- non-vacuity: a concrete pair with mixed depths and flags satisfies the hypotheses, and the model computes the
    expected cells -/
example : WF 2 [⟨0, 0, false⟩, ⟨1, 4, true⟩] ∧ WF 2 [⟨1, 1, true⟩, ⟨2, 16, false⟩, ⟨2, 17, true⟩] ∧
    andCells [⟨0, 0, false⟩, ⟨1, 4, true⟩] [⟨1, 1, true⟩, ⟨2, 16, false⟩, ⟨2, 17, true⟩]
      = [⟨1, 1, false⟩, ⟨2, 16, false⟩, ⟨2, 17, true⟩] := by
  refine ⟨?_, ?_, by simp [andCells]⟩ <;> simp [WF, hi, lo]

/-- **`not`, three-valued**: absent ↔ full, partial stays partial, on the cells `x` of the sphere -/
theorem not3_sem (D : Nat) (hD : D ≤ 29) (a : List Cell) (ha : WF D a) (hr : ∀ c ∈ a, InR c) (x : Nat)
    (hx : x < 12 * 4 ^ D) : stOf D (notCells a) x = Tri.not (stOf D a x) :=
  (notCells_spec D hD a ha hr).1 x hx

theorem not3_wf (D : Nat) (hD : D ≤ 29) (a : List Cell) (ha : WF D a) (hr : ∀ c ∈ a, InR c) :
    WF D (notCells a) ∧ ∀ c ∈ notCells a, InR c :=
  ⟨(notCells_spec D hD a ha hr).2.1, (notCells_spec D hD a ha hr).2.2⟩

/-- every cell produced by `not` is full, or is a partial cell of the operand kept unchanged -/
theorem not3_flags (a : List Cell) (c : Cell) (hc : c ∈ notCells a) : c.full = true ∨ (c ∈ a ∧ c.full = false) :=
  mem_notCells_flag a c hc

theorem not_table : Tri.not .abs = .full ∧ Tri.not .part = .part ∧ Tri.not .full = .abs := ⟨rfl, rfl, rfl⟩

/-- **`xor`, three-valued, on cell lists** (before `pack`): for every pair of well-formed in-range operands of depth
    `≤ 29` the merge loop never panics, and the result denotes the documented table pointwise -/
theorem xor3_sem (D : Nat) (hD : D ≤ 29) (a b : List Cell) (ha : WF D a) (hb : WF D b)
    (hra : ∀ c ∈ a, InR c) (hrb : ∀ c ∈ b, InR c) :
    ∃ l, xorCellsUnpacked a b = some l ∧ (WF D l ∧ ∀ c ∈ l, InR c) ∧
      ∀ x, stOf D l x = Tri.xor (stOf D a x) (stOf D b x) :=
  computes_xor D hD a b ⟨ha, hra⟩ ⟨hb, hrb⟩

/-- **the public operator `BMOC::xor`** (merge loop, re-encoding with the larger `depth_max`, `pack`): for every pair of
    valid BMOCs (each well formed w.r.t. its own `depth_max ≤ 29`) it returns a BMOC with `depth_max = max`, valid
    strictly increasing entries, well formed, denoting the documented table pointwise -/
theorem xor_bmoc (A B : BMOC) (hA : A.dmax ≤ 29) (hB : B.dmax ≤ 29)
    (hvA : ∀ e ∈ A.entries, ValidRaw A.dmax e) (hvB : ∀ e ∈ B.entries, ValidRaw B.dmax e)
    (hwA : WF A.dmax A.cells) (hwB : WF B.dmax B.cells) :
    ∃ R, BMOC.xor A B = some R ∧ R.dmax = max A.dmax B.dmax ∧
      (∀ e ∈ R.entries, ValidRaw R.dmax e) ∧ R.entries.Pairwise (· < ·) ∧
      WF (max A.dmax B.dmax) R.cells ∧ (∀ c ∈ R.cells, InR c) ∧
      ∀ x, stOf (max A.dmax B.dmax) R.cells x =
        Tri.xor (stOf (max A.dmax B.dmax) A.cells x) (stOf (max A.dmax B.dmax) B.cells x) := by
  rw [xor_eq_packedOp]
  obtain ⟨R, e, h1, h2, h3, h4, h5, _⟩ := packedOp_general computes_xor A B hA hB hvA hvB hwA hwB
  exact ⟨R, e, h1, h1 ▸ h2, h3, h4.1, h4.2, h5⟩

/-- the documented table of `xor` -/
theorem xor_table : Tri.xor .abs .full = .full ∧ Tri.xor .part .abs = .part ∧ Tri.xor .full .full = .abs ∧
    Tri.xor .abs .abs = .abs ∧ Tri.xor .part .full = .part ∧ Tri.xor .full .part = .part ∧ Tri.xor .part .part = .part := by
  decide

/-- **`or`, three-valued, on cell lists** (before `pack`): for every pair of well-formed in-range operands of depth
    `≤ 29` the merge loop never panics (the `unwrap` of `not_in_cell_4_or` never fails, the fuel suffices), the result is
    well formed and in range, and denotes the pointwise maximum -/
theorem or3_sem (D : Nat) (hD : D ≤ 29) (a b : List Cell) (ha : WF D a) (hb : WF D b)
    (hra : ∀ c ∈ a, InR c) (hrb : ∀ c ∈ b, InR c) :
    ∃ l, orCellsUnpacked a b = some l ∧ (WF D l ∧ ∀ c ∈ l, InR c) ∧
      ∀ x, stOf D l x = Tri.max (stOf D a x) (stOf D b x) :=
  computes_or D hD a b ⟨ha, hra⟩ ⟨hb, hrb⟩

/-- **the public operator `BMOC::or`** for operands of possibly different `depth_max` (each valid and well formed w.r.t.
    its own `depth_max ≤ 29`): never panics, `depth_max = max`, valid strictly increasing entries, well formed, and the
    state of every cell of the deeper depth is the maximum of the states of its ancestors-or-self in the two operands -/
theorem or_bmoc (A B : BMOC) (hA : A.dmax ≤ 29) (hB : B.dmax ≤ 29)
    (gA : (∀ r ∈ A.entries, ValidRaw A.dmax r) ∧ WF A.dmax A.cells)
    (gB : (∀ r ∈ B.entries, ValidRaw B.dmax r) ∧ WF B.dmax B.cells) :
    ∃ R, BMOC.or A B = some R ∧ R.dmax = max A.dmax B.dmax ∧ (∀ r ∈ R.entries, ValidRaw (max A.dmax B.dmax) r) ∧
      WF (max A.dmax B.dmax) R.cells ∧ R.entries.Pairwise (· < ·) ∧
      ∀ x, stOf (max A.dmax B.dmax) R.cells x =
        Tri.max (stOf A.dmax A.cells (x / 4 ^ (max A.dmax B.dmax - A.dmax)))
          (stOf B.dmax B.cells (x / 4 ^ (max A.dmax B.dmax - B.dmax))) := by
  rw [or_eq_packedOp]
  obtain ⟨R, e, h1, h2, h3, h4, _, h6⟩ := packedOp_general computes_or A B hA hB gA.1 gB.1 gA.2 gB.2
  exact ⟨R, e, h1, h2, h4.1, h3, h6⟩

/-- the documented table of `or` -/
theorem or_table : Tri.max .abs .full = .full ∧ Tri.max .part .abs = .part ∧ Tri.max .full .part = .full ∧
    Tri.max .abs .abs = .abs ∧ Tri.max .part .part = .part ∧ Tri.max .part .full = .full := by decide

/-! ## cross-operator laws (Kleene's de Morgan laws hold with partial flags) -/

/-- **de Morgan 1**: `(not a) or (not b)` never panics and denotes the same three-valued set as `not (a and b)` -/
theorem de_morgan_or_not (D : Nat) (hD : D ≤ 29) (a b : List Cell) (ha : WF D a) (hb : WF D b)
    (hra : ∀ c ∈ a, InR c) (hrb : ∀ c ∈ b, InR c) :
    ∃ l, orCellsUnpacked (notCells a) (notCells b) = some l ∧
      ∀ x, x < 12 * 4 ^ D → stOf D l x = stOf D (notCells (andCells a b)) x :=
  Hpx.Bmoc.de_morgan_or_not D hD a b ha hb hra hrb

/-- **de Morgan 2**: `(not a) and (not b)` denotes the same three-valued set as the complement of `a or b` -/
theorem de_morgan_and_not (D : Nat) (hD : D ≤ 29) (a b : List Cell) (ha : WF D a) (hb : WF D b)
    (hra : ∀ c ∈ a, InR c) (hrb : ∀ c ∈ b, InR c) (l : List Cell) (hl : orCellsUnpacked a b = some l)
    (x : Nat) (hx : x < 12 * 4 ^ D) :
    stOf D (andCells (notCells a) (notCells b)) x = stOf D (notCells l) x :=
  Hpx.Bmoc.de_morgan_and_not D hD a b ha hb hra hrb l hl x hx

/-- the hypotheses are met by two BMOCs with partial flags: `{0/0 p, 1/5 F}` and `{1/0 F, 1/4 p}` at depth 1 -/
example : WF 1 [⟨0, 0, false⟩, ⟨1, 5, true⟩] ∧ WF 1 [⟨1, 0, true⟩, ⟨1, 4, false⟩] ∧
    (∀ c ∈ [(⟨0, 0, false⟩ : Cell), ⟨1, 5, true⟩], InR c) ∧ (∀ c ∈ [(⟨1, 0, true⟩ : Cell), ⟨1, 4, false⟩], InR c) := by
  refine ⟨by simp [WF, lo, hi], by simp [WF, lo, hi], ?_, ?_⟩ <;>
  · intro c hc; simp only [List.mem_cons, List.not_mem_nil, or_false] at hc
    rcases hc with rfl | rfl <;> simp [InR]

/-- **`xor` through the other operators**: `a xor b` denotes the same three-valued set as `(a or b) and not (a and b)` -/
theorem xor_eq_or_and_not (D : Nat) (hD : D ≤ 29) (a b : List Cell) (ha : WF D a) (hb : WF D b)
    (hra : ∀ c ∈ a, InR c) (hrb : ∀ c ∈ b, InR c) (lo : List Cell) (hlo : orCellsUnpacked a b = some lo)
    (lx : List Cell) (hlx : xorCellsUnpacked a b = some lx) (x : Nat) (hx : x < 12 * 4 ^ D) :
    stOf D lx x = stOf D (andCells lo (notCells (andCells a b))) x :=
  Hpx.Bmoc.xor_eq_or_and_not D hD a b ha hb hra hrb lo hlo lx hlx x hx

end Hpx.C08
