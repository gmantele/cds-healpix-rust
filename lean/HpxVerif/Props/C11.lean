import HpxVerif.Model.Ring
import HpxVerif.Lemmas.NumReal
import HpxVerif.Lemmas.RingRealHash
import HpxVerif.Lemmas.RingSeams

set_option autoImplicit false   -- an unknown identifier in a statement is an error, never a new variable

/-!
# C11 — RING scheme works for any NSIDE, not only powers of two

For every `nside ≥ 1`: the cell counts ring by ring add up to `12·nside²`, no index overflows for `nside ≤ 2^29`, a cell
number `≥ 12·nside²` and a latitude outside `[−π/2, π/2]` (NaN included) are rejected in every numeric instance.
Over the reals, for every `1 ≤ nside < 2^30`, the five items of the property (closed form of the centres, their order,
the hash of a centre, containment, `sph_coo` inverts `hash_with_dxdy`), under the hypothesis `RingIndexExact` (the polar
ring index is exact); `ring_index_exact_holds` proves it, and the `…_uncond` theorems are the same statements without it.
Containment fails on the north-cap seams `lon = k·π/2` (finding F3, recorded in `known_findings.json` with its input
classifier: a phantom cell in the gap between two Collignon triangles, subtraction underflow): `ring_hash_correct_iff`
says exactly where, and `ring_hash_seam_north_spec` what is returned there.
-/

namespace Hpx.C11
open Hpx Hpx.Ring

theorem tri4_eq (n : Nat) : tri4 n = 2 * (n * (n + 1)) := Hpx.RingReal.tri4_eq n

/-- polar ring `i + 1` has `4 (i + 1)` cells, and the rings add up to `12·nside²` -/
theorem ring_counts (n : Nat) (hn : 1 ≤ n) :
    (∀ i, tri4 (i + 1) - tri4 i = 4 * (i + 1)) ∧ 2 * tri4 (n - 1) + (2 * n + 1) * (4 * n) = nHash n := by
  constructor
  · intro i; rw [Hpx.RingReal.tri4_succ, Nat.add_sub_cancel_left]
  · obtain ⟨m, rfl⟩ : ∃ m, n = m + 1 := ⟨n - 1, by omega⟩
    simp only [Nat.add_sub_cancel, tri4_eq, nHash]
    ring

theorem ring_no_overflow (n : Nat) (hn : n ≤ 2 ^ 29) : nHash n < 2 ^ 63 ∧ tri4 n < 2 ^ 63 := by
  have h1 : n * n ≤ 2 ^ 29 * 2 ^ 29 := Nat.mul_le_mul hn hn
  constructor
  · unfold nHash; rw [Nat.mul_assoc]; omega
  · have := Hpx.RingReal.tri4_lt_u64 (n := n) (t := n) (by omega) le_rfl
    omega

theorem ring_rejects {α : Type} [Num α] (dbg : Bool) (n h : Nat) (hh : h ≥ nHash n) :
    centerOfProjectedCell (α := α) dbg n h = none ∧ center (α := α) dbg n h = none ∧
    vertices (α := α) dbg n h = none ∧ ∀ dx dy, sphCoo (α := α) dbg n h dx dy = none := by
  have h0 : centerOfProjectedCell (α := α) dbg n h = none := by unfold centerOfProjectedCell; simp [hh]
  refine ⟨h0, ?_, ?_, ?_⟩
  · unfold center; simp [h0]
  · unfold vertices; simp [h0]
  · intro dx dy; unfold sphCoo; split
    · rfl
    · split
      · rfl
      · simp [h0]

theorem ring_hash_rejects_bad_lat {α : Type} [Num α] (dbg : Bool) (n : Nat) (lon lat : α)
    (h : Proj.checkLat lat = false) : Ring.hash dbg n lon lat = none := by
  unfold Ring.hash hashWithDlDh Proj.proj; simp [h]

theorem dldh_to_dxdy_range (dl dh : ℝ) (h1 : 0 ≤ dl) (h2 : dl < 1) (h3 : 0 ≤ dh) (h4 : dh < 1) :
    0 ≤ (dldhToDxDy dl dh).1 ∧ (dldhToDxDy dl dh).1 < 1 ∧ 0 ≤ (dldhToDxDy dl dh).2 ∧ (dldhToDxDy dl dh).2 < 1 := by
  have h := Hpx.RingReal.box_exact 0 0 dl dh h1 h2 h3 h4
  exact ⟨h.x0, h.x1, h.y0, h.y1⟩

/-! ## index arithmetic and containment over the reals, for EVERY nside

Vocabulary of `Lemmas/RingReal*.lean`: rings are numbered `r = 0 .. 4n−2` from the north; ring `r` holds
`4·perFacet n r` cells starting at `ringStart n r`; cell `i` of it has its centre at `(cxI n r i / n, cyI n r / n)`;
`hashPlane` is the body of `hash_with_dldh` after `proj`; `GoodPoint X Y` = the projected domain minus the two slanted
edges of the north Collignon triangles and the north pole (finding F3, characterised exactly in the last section);
`RingIndexExact n` = the polar ring index is exact below `tri4 n`, which
`ringIndexExact_of_approx` derives from "the float square-root estimate is within 4 of the truth". -/

section RingPlane
open Hpx Hpx.Ring Hpx.Proj Hpx.RingReal Real

theorem ringIndexExact_of_approx (n : Nat)
    (happ : ∀ x t, x < tri4 n → tri4 t ≤ x → x < tri4 (t + 1) →
      Layer.polarRingApprox x ≤ t + 4 ∧ t ≤ Layer.polarRingApprox x + 4) : RingIndexExact n :=
  Hpx.RingReal.ringIndexExact_of_approx n happ

theorem ring_cell_count {n r : Nat} (hn : 1 ≤ n) (hr : r < 4 * n - 1) :
    ringStart n (r + 1) - ringStart n r = 4 * perFacet n r ∧
    (r + 1 < n → perFacet n r = r + 1) ∧ (n ≤ r + 1 → r < 3 * n → perFacet n r = n) ∧
    (3 * n ≤ r → perFacet n r = 4 * n - 1 - r) :=
  Hpx.RingReal.ring_cell_count hn hr

/-- `ring_center_plane` (C11, item 1): `center_of_projected_cell` is defined on every cell `h < 12 n²` (no panic, in both
    profiles) and has the closed form of the ring decomposition `h = ringStart n r + i`; the last conjunct says `y·n ∈ ℤ`. -/
theorem ring_center_plane (debug : Bool) {n : Nat} (hn : 1 ≤ n) (hn30 : n < 2 ^ 30) (hRI : RingIndexExact n)
    (h : Nat) (hh : h < 12 * n * n) :
    ∃ r i, r < 4 * n - 1 ∧ i < 4 * perFacet n r ∧ h = ringStart n r + i ∧
      centerOfProjectedCell (α := ℝ) debug n h = some ((cxI n r i : ℝ) / n, (cyI n r : ℝ) / n) ∧
      0 ≤ (cxI n r i : ℝ) / n ∧ (cxI n r i : ℝ) / n < 8 ∧ -2 < (cyI n r : ℝ) / n ∧ (cyI n r : ℝ) / n < 2 ∧
      (cyI n r : ℝ) / n * n = ((2 * (n : ℤ) - 1 - r : ℤ) : ℝ) :=
  Hpx.RingReal.ring_center_plane debug hn hn30 hRI h hh

/-- `ring_order` (C11, item 2), in the plane: cell numbers follow decreasing `y`, then increasing `x` of the centres
    (`y ↦ lat` and, at fixed `y`, `x ↦ lon` are monotone). -/
theorem ring_order (debug : Bool) {n : Nat} (hn : 1 ≤ n) (hn30 : n < 2 ^ 30) (hRI : RingIndexExact n)
    (h h' : Nat) (hlt : h < h') (hh' : h' < 12 * n * n) :
    ∃ cx cy cx' cy' : ℝ, centerOfProjectedCell (α := ℝ) debug n h = some (cx, cy) ∧
      centerOfProjectedCell (α := ℝ) debug n h' = some (cx', cy') ∧ (cy' < cy ∨ (cy' = cy ∧ cx < cx')) :=
  Hpx.RingReal.ring_order debug hn hn30 hRI h h' hlt hh'

theorem hash_is_proj_then_plane {α : Type} [Num α] (debug : Bool) (nside : Nat) (lon lat : α) :
    hashWithDlDh debug nside lon lat = (proj lon lat).bind (fun xy => hashPlane debug nside xy.1 xy.2) :=
  Hpx.RingReal.hashWithDlDh_eq debug nside lon lat

/-- `ring_hash_center` (C11, item 3): hashing the centre of a cell `h` (in the plane) returns `h` in both profiles, at
    the offsets `(dx, dy) = (1/2, 1/2)` -/
theorem ring_hash_center (debug : Bool) {n : Nat} (hn : 1 ≤ n) (hn30 : n < 2 ^ 30) (hRI : RingIndexExact n)
    (h : Nat) (hh : h < 12 * n * n) :
    ∃ cx cy dl dh : ℝ, centerOfProjectedCell (α := ℝ) debug n h = some (cx, cy) ∧
      hashPlane debug n cx cy = some (h, dl, dh) ∧ ((dl, dh) = (1 / 2, 0) ∨ (dl, dh) = (0, 1 / 2)) ∧
      dldhToDxDy dl dh = (1 / 2, 1 / 2) :=
  Hpx.RingReal.ring_hash_center debug hn hn30 hRI h hh

/-- `ring_hash_plane_range` + `ring_hash_contains`, **partial** (C11, item 4): on every `GoodPoint` of the projection
    plane `hashPlane` returns, in both profiles, a cell whose closed diamond (half-diagonal `1/n` around its centre)
    contains the point, modulo 8 in `x`: the cells centred on `x = 0` straddle the cut `x = 0 ≡ 8`.
    Missing: the points of the projected domain that are not `GoodPoint`s, i.e. the north-cap seams and the north pole.
    On the seams below the last ring the statement is FALSE (finding F3, `ring_hash_seam_north_spec`). -/
theorem ring_hash_contains_partial (debug : Bool) {n : Nat} (hn : 1 ≤ n) (hn30 : n < 2 ^ 30) (hRI : RingIndexExact n)
    {X Y : ℝ} (hg : GoodPoint X Y) :
    ∃ (h : ℕ) (dl dh cx cy : ℝ), hashPlane debug n X Y = some (h, dl, dh) ∧ h < 12 * n * n ∧
      0 ≤ dl ∧ dl < 1 ∧ 0 ≤ dh ∧ dh < 1 ∧ centerOfProjectedCell (α := ℝ) debug n h = some (cx, cy) ∧
      (|X - cx| + |Y - cy| ≤ 1 / n ∨ |X - 8 - cx| + |Y - cy| ≤ 1 / n) :=
  Hpx.RingReal.ring_hash_contains_partial debug hn hn30 hRI hg

/-- `ring_sph_coo_inverts` (C11, item 5), in the plane: on a `GoodPoint`, `sph_coo` applied to the result of
    `hash_with_dxdy` is `unproj` of the plane point.  (At the north pole `hash_with_dldh` returns `(dl, dh) = (1, 1)`,
    i.e. `dx = 1`, which `sph_coo` rejects.) -/
theorem ring_sph_coo_inverts (debug : Bool) {n : Nat} (hn : 1 ≤ n) (hn30 : n < 2 ^ 30) (hRI : RingIndexExact n)
    {X Y : ℝ} (hg : GoodPoint X Y) (h : ℕ) (dx dy : ℝ) (hh : hashPlaneDxDy debug n X Y = some (h, dx, dy)) :
    sphCoo debug n h dx dy = unproj X Y ∧ 0 ≤ dx ∧ dx < 1 ∧ 0 ≤ dy ∧ dy < 1 :=
  Hpx.RingReal.ring_sph_coo_inverts debug hn hn30 hRI hg h dx dy hh

/-- **F3, exact failure set on the west seam of facet 0**: for every `n ≥ 2`, every point of the edge `x = y − 1` of the
    first north triangle below the last ring (`1 ≤ y < 2 − 1/n`; on the sphere: `lon = 0`, `asin(2/3) ≤ lat`) makes the
    dev profile panic -/
theorem f3_seam_north_west_panics {n : Nat} (hn2 : 2 ≤ n) (hn30 : n < 2 ^ 30) {Y : ℝ} (h1 : 1 ≤ Y)
    (h2 : (n : ℝ) * Y < 2 * n - 1) : hashPlane true n (Y - 1) Y = none :=
  Hpx.RingReal.hashPlane_seam_north_west hn30 h1 h2

/-- **F3 on the sphere, exact witness for every `n ≥ 2`**: `ring::hash(nside, 0, asin(2/3))` panics in the dev profile
    (the point is the corner shared by base cells 0, 3, 4: it is in the *equatorial* region for the code's test
    `|lat| ≤ TRANSITION_LATITUDE`, and on the west seam of facet 0) -/
theorem f3_transition_corner_panics {n : Nat} (hn2 : 2 ≤ n) (hn30 : n < 2 ^ 30) :
    Ring.hash true n (0 : ℝ) (Real.arcsin (2 / 3)) = none :=
  Hpx.RingSeams.ring_hash_corner_panics hn2 hn30

/-- **`ring_hash_contains` on the sphere, partial** (C11 item 4 composed with `proj`): for every `0 ≤ lon < 2π` and every
    latitude, EXCEPT on the north-cap seams (`lat ≥ asin(2/3)` and `lon ∈ {0, π/2, π, 3π/2}`) and at the north pole,
    `ring::hash(n, lon, lat)` returns — in both profiles — a cell `h < 12 n²` whose closed diamond (half-diagonal `1/n`
    around `center_of_projected_cell(n, h)`, modulo 8 in `x`) contains `proj(lon, lat)`.  The excepted set is settled by
    `ring_hash_sphere_total`. -/
theorem ring_hash_sphere_partial (debug : Bool) {n : Nat} (hn : 1 ≤ n) (hn30 : n < 2 ^ 30) (hRI : RingIndexExact n)
    (lon lat : ℝ) (hlon0 : 0 ≤ lon) (hlon1 : lon < 2 * π) (hlat0 : -(π / 2) ≤ lat) (hlat1 : lat ≤ π / 2)
    (hseam : lat < Real.arcsin (2 / 3) ∨ (lat < π / 2 ∧ ∀ k : ℕ, lon ≠ k * (π / 2))) :
    ∃ (X Y : ℝ) (h : ℕ) (cx cy : ℝ), proj (α := ℝ) lon lat = some (X, Y) ∧ Ring.hash debug n lon lat = some h ∧
      h < 12 * n * n ∧ centerOfProjectedCell (α := ℝ) debug n h = some (cx, cy) ∧
      (|X - cx| + |Y - cy| ≤ 1 / n ∨ |X - 8 - cx| + |Y - cy| ≤ 1 / n) :=
  Hpx.RingReal.ring_hash_sphere_partial debug hn hn30 hRI lon lat hlon0 hlon1 hlat0 hlat1 hseam

/-- **round trip on the northern hemisphere**: `sph_coo ∘ hash_with_dxdy = id` for `0 ≤ lon < 2π`, `0 ≤ lat` on the near
    side of the pole threshold of `unproj` (`√6·cos(lat/2 + π/4) > EPS_POLE`), off the north-cap seams -/
theorem ring_sph_coo_roundtrip_north (debug : Bool) {n : Nat} (hn : 1 ≤ n) (hn30 : n < 2 ^ 30) (hRI : RingIndexExact n)
    (lon lat : ℝ) (hlon0 : 0 ≤ lon) (hlon1 : lon < 2 * π) (hlat0 : 0 ≤ lat) (hlat1 : lat ≤ π / 2)
    (hpole : (Num.epsPole : ℝ) < Real.sqrt 6 * Real.cos (1 / 2 * lat + π / 4))
    (hseam : lat < Real.arcsin (2 / 3) ∨ (lat < π / 2 ∧ ∀ k : ℕ, lon ≠ k * (π / 2))) :
    ∃ (h : ℕ) (dx dy : ℝ), hashWithDxDy debug n lon lat = some (h, dx, dy) ∧ sphCoo debug n h dx dy = some (lon, lat) :=
  Hpx.RingReal.ring_sph_coo_roundtrip_north debug hn hn30 hRI lon lat hlon0 hlon1 hlat0 hlat1 hpole hseam

/-- at the north pole of facet `q` (plane point `(2q+1, 2)`) the code takes its "north pole" exit: cell `q` (the first
    ring), with the conventional offsets `(dl, dh) = (1, 1)`, i.e. `(dx, dy) = (1, 0)` — which `sph_coo` rejects.  The
    cell is the right one (the pole is the north vertex of the four cells of the first ring). -/
theorem ring_hash_pole (debug : Bool) {n q : Nat} (hn : 1 ≤ n) (hn30 : n < 2 ^ 30) (hq : q < 4) :
    hashPlane debug n ((2 * q + 1 : ℕ) : ℝ) 2 = some (q, 1, 1) :=
  Hpx.RingReal.ring_hash_pole debug hn hn30 hq


end RingPlane

/-- the hypothesis `hRI` of the theorems above holds for every `nside ≤ 2^29` (power of two or not): the `f64` estimate
    followed by the integer correction loops is the exact polar ring index -/
theorem ring_index_exact (n : Nat) (hn : n ≤ 2 ^ 29) : Hpx.RingReal.RingIndexExact n := Hpx.SqrtApprox.ringIndexExact n hn


/-! ## without `RingIndexExact` (the accuracy of the `f64` square root is proved on the whole `u64` range), and the exact
failure set on the sphere (finding F3)

`F3Set n lon lat`: the four meridians `lon = k·π/2` of the north cap, from the transition latitude (inclusive) up to, but
excluding, the last ring; empty for `nside = 1`.  On `lon = 0` the dev profile panics, on the three other meridians both
profiles silently return a cell of the neighbouring base cell that misses the point; the south cap, both poles and the
last ring are correct.  The east edges of the north triangles in the plane (`ring_hash_seam_north_spec`) are reached
from negative longitudes only. -/

section Unconditional
open Hpx Hpx.Ring Hpx.Proj Hpx.RingReal Hpx.RingSeams Hpx.Layer Hpx.SqrtApprox Real

/-- the hypothesis `hRI` of the theorems above, on their whole range `n < 2^30` -/
theorem ring_index_exact_holds (n : Nat) (_hn : 1 ≤ n) (hn' : n < 2 ^ 30) : RingIndexExact n :=
  Hpx.RingSeams.ringIndexExact_holds n hn'

/-- on the whole `u64` range; `SqrtApprox.isqrtF64_sharp` has the sharp bound `⌊√y⌋ ≤ isqrtF64 y ≤ ⌊√y⌋ + 1` -/
theorem isqrtF64_bounds64 (y : Nat) (h0 : 0 < y) (hy : y < 2 ^ 64) :
    y.sqrt ≤ isqrtF64 y + 1 ∧ isqrtF64 y ≤ y.sqrt + 2 :=
  Hpx.RingSeams.isqrtF64_bounds64 y h0 hy

theorem ring_hash_center_uncond (debug : Bool) {n : Nat} (hn : 1 ≤ n) (hN : n < 2 ^ 30)
    (h : Nat) (hh : h < 12 * n * n) :
    ∃ cx cy dl dh : ℝ, centerOfProjectedCell (α := ℝ) debug n h = some (cx, cy) ∧
      hashPlane debug n cx cy = some (h, dl, dh) ∧ ((dl, dh) = (1 / 2, 0) ∨ (dl, dh) = (0, 1 / 2)) ∧
      dldhToDxDy dl dh = (1 / 2, 1 / 2) :=
  Hpx.RingSeams.ring_hash_center_uncond debug hn hN h hh

theorem ring_hash_contains_partial_uncond (debug : Bool) {n : Nat} (hn : 1 ≤ n) (hN : n < 2 ^ 30)
    {X Y : ℝ} (hg : GoodPoint X Y) :
    ∃ (h : ℕ) (dl dh cx cy : ℝ), hashPlane debug n X Y = some (h, dl, dh) ∧ h < 12 * n * n ∧
      0 ≤ dl ∧ dl < 1 ∧ 0 ≤ dh ∧ dh < 1 ∧ centerOfProjectedCell (α := ℝ) debug n h = some (cx, cy) ∧
      (|X - cx| + |Y - cy| ≤ 1 / n ∨ |X - 8 - cx| + |Y - cy| ≤ 1 / n) :=
  Hpx.RingSeams.ring_hash_contains_partial_uncond debug hn hN hg

theorem ring_sph_coo_inverts_uncond (debug : Bool) {n : Nat} (hn : 1 ≤ n) (hN : n < 2 ^ 30)
    {X Y : ℝ} (hg : GoodPoint X Y) (h : ℕ) (dx dy : ℝ) (hh : hashPlaneDxDy debug n X Y = some (h, dx, dy)) :
    sphCoo debug n h dx dy = unproj X Y ∧ 0 ≤ dx ∧ dx < 1 ∧ 0 ≤ dy ∧ dy < 1 :=
  Hpx.RingSeams.ring_sph_coo_inverts_uncond debug hn hN hg h dx dy hh

theorem ring_hash_sphere_partial_uncond (debug : Bool) {n : Nat} (hn : 1 ≤ n) (hN : n < 2 ^ 30)
    (lon lat : ℝ) (hlon0 : 0 ≤ lon) (hlon1 : lon < 2 * π) (hlat0 : -(π / 2) ≤ lat) (hlat1 : lat ≤ π / 2)
    (hseam : lat < Real.arcsin (2 / 3) ∨ (lat < π / 2 ∧ ∀ k : ℕ, lon ≠ k * (π / 2))) :
    ∃ (X Y : ℝ) (h : ℕ) (cx cy : ℝ), proj (α := ℝ) lon lat = some (X, Y) ∧ Ring.hash debug n lon lat = some h ∧
      h < 12 * n * n ∧ centerOfProjectedCell (α := ℝ) debug n h = some (cx, cy) ∧
      (|X - cx| + |Y - cy| ≤ 1 / n ∨ |X - 8 - cx| + |Y - cy| ≤ 1 / n) :=
  Hpx.RingSeams.ring_hash_sphere_partial_uncond debug hn hN lon lat hlon0 hlon1 hlat0 hlat1 hseam

theorem ring_sph_coo_roundtrip_north_uncond (debug : Bool) {n : Nat} (hn : 1 ≤ n) (hN : n < 2 ^ 30)
    (lon lat : ℝ) (hlon0 : 0 ≤ lon) (hlon1 : lon < 2 * π) (hlat0 : 0 ≤ lat) (hlat1 : lat ≤ π / 2)
    (hpole : (Num.epsPole : ℝ) < Real.sqrt 6 * Real.cos (1 / 2 * lat + π / 4))
    (hseam : lat < Real.arcsin (2 / 3) ∨ (lat < π / 2 ∧ ∀ k : ℕ, lon ≠ k * (π / 2))) :
    ∃ (h : ℕ) (dx dy : ℝ), hashWithDxDy debug n lon lat = some (h, dx, dy) ∧ sphCoo debug n h dx dy = some (lon, lat) :=
  Hpx.RingSeams.ring_sph_coo_roundtrip_north_uncond debug hn hN lon lat hlon0 hlon1 hlat0 hlat1 hpole hseam

theorem ring_order_uncond (debug : Bool) {n : Nat} (hn : 1 ≤ n) (hN : n < 2 ^ 30)
    (h h' : Nat) (hlt : h < h') (hh' : h' < 12 * n * n) :
    ∃ cx cy cx' cy' : ℝ, centerOfProjectedCell (α := ℝ) debug n h = some (cx, cy) ∧
      centerOfProjectedCell (α := ℝ) debug n h' = some (cx', cy') ∧ (cy' < cy ∨ (cy' = cy ∧ cx < cx')) :=
  Hpx.RingSeams.ring_order_uncond debug hn hN h h' hlt hh'

theorem ring_center_plane_uncond (debug : Bool) {n : Nat} (hn : 1 ≤ n) (hN : n < 2 ^ 30)
    (h : Nat) (hh : h < 12 * n * n) :
    ∃ r i, r < 4 * n - 1 ∧ i < 4 * perFacet n r ∧ h = ringStart n r + i ∧
      centerOfProjectedCell (α := ℝ) debug n h = some ((cxI n r i : ℝ) / n, (cyI n r : ℝ) / n) ∧
      0 ≤ (cxI n r i : ℝ) / n ∧ (cxI n r i : ℝ) / n < 8 ∧ -2 < (cyI n r : ℝ) / n ∧ (cyI n r : ℝ) / n < 2 ∧
      (cyI n r : ℝ) / n * n = ((2 * (n : ℤ) - 1 - r : ℤ) : ℝ) :=
  Hpx.RingSeams.ring_center_plane_uncond debug hn hN h hh

/-- **`ring_hash_seam_north_spec`** — the exact behaviour of the plane part of `ring::hash` on the two slanted edges of
    the north Collignon triangle `q` (`q = 0..3`, `1 ≤ y < 2`), for every `1 ≤ nside = n < 2^30`, in the dev profile
    (`debug = true`, `none` = panic) and in the release profile:

    WEST edge `x = 2q + (y − 1)` (on the sphere: `lon = q·π/2`):
    * last ring, `2 − 1/n ≤ y` (the whole edge when `n = 1`): cell `q`, offsets `(1,1)`, both profiles — CORRECT;
    * below, `q = 0`: dev profile PANICS; release returns a WRONG answer (`2^64 − 1` or a cell that misses the point);
    * below, `q ≥ 1`: both profiles return, silently, a WRONG cell (the last cell of facet `q − 1` of the ring).
    EAST edge `x = 2q + 2 − (y − 1)`, `1 < y` (on the sphere: `lon = −(3−q)·π/2`, not reached from `lon ∈ [0, 2π)`; at
    `y = 1` the point is the west-edge point of facet `q + 1`):
    * last ring, `n ≥ 2`: cell `q`, offsets `(1,1)`, both profiles — CORRECT;
    * `n = 1`: cell `q + 1` (4 for `q = 3`), both profiles — WRONG;
    * below the last ring: both profiles return, silently, a WRONG cell. -/
theorem ring_hash_seam_north_spec {n q : ℕ} (hn : 1 ≤ n) (hN : n < 2 ^ 30) (hq : q < 4) {Y : ℝ} (h1 : 1 ≤ Y) (h2 : Y < 2) :
    ((2 * (n : ℝ) - 1 ≤ n * Y → ∀ debug, hashPlane debug n (2 * q + (Y - 1)) Y = some (q, 1, 1) ∧
        Contains debug n q (2 * q + (Y - 1)) Y) ∧
     ((n : ℝ) * Y < 2 * n - 1 → q = 0 → hashPlane true n (2 * q + (Y - 1)) Y = none ∧
        ∃ (h : ℕ) (dl dh : ℝ), hashPlane false n (2 * q + (Y - 1)) Y = some (h, dl, dh) ∧
          Misses false n h (2 * q + (Y - 1)) Y) ∧
     ((n : ℝ) * Y < 2 * n - 1 → 1 ≤ q → ∀ debug, ∃ (h : ℕ) (dl dh : ℝ),
        hashPlane debug n (2 * q + (Y - 1)) Y = some (h, dl, dh) ∧ h < 12 * n * n ∧
          Misses debug n h (2 * q + (Y - 1)) Y)) ∧
    (1 < Y →
     (2 * (n : ℝ) - 1 ≤ n * Y → 2 ≤ n → ∀ debug, hashPlane debug n (2 * q + 2 - (Y - 1)) Y = some (q, 1, 1) ∧
        Contains debug n q (2 * q + 2 - (Y - 1)) Y) ∧
     (n = 1 → ∀ debug, hashPlane debug n (2 * q + 2 - (Y - 1)) Y = some (q + 1, 1, 1) ∧
        Misses debug n (q + 1) (2 * q + 2 - (Y - 1)) Y) ∧
     ((n : ℝ) * Y < 2 * n - 1 → ∀ debug, ∃ (h : ℕ) (dl dh : ℝ),
        hashPlane debug n (2 * q + 2 - (Y - 1)) Y = some (h, dl, dh) ∧ h < 12 * n * n ∧
          Misses debug n h (2 * q + 2 - (Y - 1)) Y)) :=
  Hpx.RingSeams.ring_hash_seam_north_spec hn hN hq h1 h2

/-- **south-cap seams**: on the two slanted edges of the south triangle `q` (`|x − (2q+1)| = 2 + y`, `−2 ≤ y < −1`, the
    south pole included) `hash_with_dldh` returns, in both profiles, a cell whose closed diamond contains the point
    (a diamond owns its two southern edges, and the seams are southern edges of cells of the triangle) -/
theorem ring_hash_seam_south (debug : Bool) {n q : ℕ} (hn : 1 ≤ n) (hN : n < 2 ^ 30) (hq : q < 4) {X Y : ℝ}
    (h1 : -2 ≤ Y) (h2 : Y < -1) (hX : X = 2 * q + 1 - (2 + Y) ∨ X = 2 * q + 1 + (2 + Y)) :
    ∃ (h : ℕ) (dl dh : ℝ), hashPlane debug n X Y = some (h, dl, dh) ∧ 0 ≤ dl ∧ dl < 1 ∧ 0 ≤ dh ∧ dh < 1 ∧
      Contains debug n h X Y :=
  Hpx.RingSeams.ring_hash_seam_south debug hn hN hq h1 h2 hX

/-- **the south pole** of facet `q` (plane point `(2q+1, −2)`): `hash_with_dldh` returns, in both profiles, cell
    `12n² − 4 + q` of the last ring — the right one (the pole is its south vertex), with regular offsets in `[0,1)²`
    (unlike the north pole, `ring_hash_pole`, which takes a special exit with offsets `(1,1)`) -/
theorem ring_hash_south_pole (debug : Bool) {n q : ℕ} (hn : 1 ≤ n) (hN : n < 2 ^ 30) (hq : q < 4) :
    ∃ dl dh : ℝ, hashPlane debug n ((2 * q + 1 : ℕ) : ℝ) (-2) = some (12 * n * n - 4 + q, dl, dh) ∧
      0 ≤ dl ∧ dl < 1 ∧ 0 ≤ dh ∧ dh < 1 ∧ dldhToDxDy dl dh = (0, 0) ∧
      Contains debug n (12 * n * n - 4 + q) ((2 * q + 1 : ℕ) : ℝ) (-2) :=
  Hpx.RingSeams.ring_hash_south_pole debug hn hN hq

/-- **`ring_hash_sphere_total`** — `ring::hash` on the WHOLE sphere, for every `1 ≤ nside = n < 2^30` (power of two or
    not), every `0 ≤ lon < 2π`, every latitude, in both profiles: EITHER the point is in the explicit failure set
    `F3Set n lon lat` (where the answer is wrong, `ring_hash_f3_wrong`), OR `ring::hash` returns a cell `h < 12 n²` whose
    closed diamond contains the projected point.  With respect to `ring_hash_sphere_partial` this adds: the north pole,
    and the part of the four seams that lies in the last ring. -/
theorem ring_hash_sphere_total (debug : Bool) {n : ℕ} (hn : 1 ≤ n) (hN : n < 2 ^ 30)
    (lon lat : ℝ) (hlon0 : 0 ≤ lon) (hlon1 : lon < 2 * π) (hlat0 : -(π / 2) ≤ lat) (hlat1 : lat ≤ π / 2) :
    F3Set n lon lat ∨ HashCorrect debug n lon lat :=
  Hpx.RingSeams.ring_hash_sphere_total debug hn hN lon lat hlon0 hlon1 hlat0 hlat1

/-- **the failure set is exact** (not an over-approximation): on every point of `F3Set`, for every `1 ≤ n < 2^30`,
    `ring::hash` gives a wrong answer in BOTH profiles; on the meridian `lon = 0` the dev profile panics (and the release
    profile returns `2^64 − 1` or a far cell), on the three others both profiles silently return a cell of the
    neighbouring base cell that does not contain the point -/
theorem ring_hash_f3_wrong {n : ℕ} (hn : 1 ≤ n) (hN : n < 2 ^ 30) {lon lat : ℝ} (hf : F3Set n lon lat) :
    (lon = 0 → Ring.hash true n lon lat = none) ∧ (lon ≠ 0 → ∃ h, Ring.hash true n lon lat = some h ∧ h < 12 * n * n) ∧
    ∀ debug, HashWrong debug n lon lat :=
  Hpx.RingSeams.ring_hash_f3_wrong hn hN hf

/-- the dichotomy is exclusive: **`ring::hash` is correct at `(lon, lat)` if and only if the point is not in `F3Set`** -/
theorem ring_hash_correct_iff (debug : Bool) {n : ℕ} (hn : 1 ≤ n) (hN : n < 2 ^ 30)
    (lon lat : ℝ) (hlon0 : 0 ≤ lon) (hlon1 : lon < 2 * π) (hlat0 : -(π / 2) ≤ lat) (hlat1 : lat ≤ π / 2) :
    HashCorrect debug n lon lat ↔ ¬ F3Set n lon lat :=
  Hpx.RingSeams.ring_hash_correct_iff debug hn hN lon lat hlon0 hlon1 hlat0 hlat1

/-- for `nside = 1` `ring::hash` is correct on the whole sphere (`0 ≤ lon < 2π`) -/
theorem ring_hash_sphere_nside_one (debug : Bool) (lon lat : ℝ) (hlon0 : 0 ≤ lon) (hlon1 : lon < 2 * π)
    (hlat0 : -(π / 2) ≤ lat) (hlat1 : lat ≤ π / 2) : HashCorrect debug 1 lon lat :=
  Hpx.RingSeams.ring_hash_sphere_nside_one debug lon lat hlon0 hlon1 hlat0 hlat1


end Unconditional

end Hpx.C11
