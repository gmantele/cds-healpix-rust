import HpxVerif.Model.Bilinear
import HpxVerif.Lemmas.NumReal
import HpxVerif.Lemmas.BilinearReal
import HpxVerif.Lemmas.TopoLiftClauses

set_option autoImplicit false   -- an unknown identifier in a statement is an error, never a new variable

/-!
# C19 — bilinear interpolation returns a partition of unity over the right cells

The weight formulas of `bilinear_interpolation` are one generic definition (`Bilinear.weights`); here it is
instantiated at `ℝ` (exact arithmetic, the literals 0.5, 0.75, 1.25, 1.5 being the exact values of the doubles in the
source).  For all offsets, in each of the 4 quadrants × {corner present, corner missing}: the four weights sum to 1 and
are non-negative on their quadrant; a missing corner carries weight 0 and its share goes to the two adjacent ordinal
neighbours; with the corner present the weighted mean of the four centres is the position.  For every numeric instance:
`bilinear` returns four pairs, the cell itself among them, the others being the entries of `neighbours h` in the slot
directions, and it panics only if `hash_with_dxdy` or `neighbours` does.
The float rounding of the weights is validated by the bit-exact correspondence and the oracle.
-/

namespace Hpx.C19
open Hpx Hpx.Bilinear

theorem c050_real : (c050 : ℝ) = 1 / 2 := lit_050
theorem c075_real : (c075 : ℝ) = 3 / 4 := lit_075
theorem c125_real : (c125 : ℝ) = 5 / 4 := lit_125
theorem c150_real : (c150 : ℝ) = 3 / 2 := lit_150
theorem zero_real : (Num.zero : ℝ) = 0 := Proj.r_zero

/-- the four weights sum to one, in every quadrant, corner present or missing, for all real offsets -/
theorem weights_sum_one (q : Nat) (hq : q < 4) (present : Bool) (dx dy : ℝ) :
    (weights q present dx dy).sum = 1 := by
  cases present
  · have h : q = 0 ∨ q = 1 ∨ q = 2 ∨ q = 3 := by omega
    rcases h with rfl | rfl | rfl | rfl <;>
      simp only [weights, List.sum_cons, List.sum_nil, c050_real, c075_real, c125_real, c150_real, zero_real] <;> ring
  · -- the tensor product of two partitions of unity `[1 − s, s]`, `[1 − t, t]`
    rw [BilinearReal.weights_true_eq q hq, List.sum_cons, List.sum_cons, List.sum_cons, List.sum_cons, List.sum_nil]
    ring

/-- offsets in the unit square belonging to quadrant `q` (`xcoo = dx > ½`, `ycoo = dy > ½`, `q = 2·ycoo + xcoo`) -/
def InQuadrant (q : Nat) (dx dy : ℝ) : Prop :=
  0 ≤ dx ∧ dx ≤ 1 ∧ 0 ≤ dy ∧ dy ≤ 1 ∧
  (if q % 2 = 1 then 1 / 2 < dx else dx ≤ 1 / 2) ∧ (if q / 2 = 1 then 1 / 2 < dy else dy ≤ 1 / 2)

/-- on quadrant `q` the position relative to the southernmost of its four cells is in the unit square -/
theorem quadrant_pos (q : Nat) (hq : q < 4) (dx dy : ℝ) (h : InQuadrant q dx dy) :
    (0 ≤ dx + 1 / 2 - (q % 2 : ℕ) ∧ dx + 1 / 2 - (q % 2 : ℕ) ≤ 1) ∧
    (0 ≤ dy + 1 / 2 - (q / 2 : ℕ) ∧ dy + 1 / 2 - (q / 2 : ℕ) ≤ 1) :=
  ⟨BilinearReal.axis_pos (q % 2) (by omega) dx h.1 h.2.1 h.2.2.2.2.1,
    BilinearReal.axis_pos (q / 2) (by omega) dy h.2.2.1 h.2.2.2.1 h.2.2.2.2.2⟩

/-- the weights are non-negative on their quadrant: with the corner present they are products of two factors of `[0, 1]`
    (`weights_true_eq`), with the corner missing sums of such (`weights_missing_eq`) -/
theorem weights_nonneg (q : Nat) (hq : q < 4) (present : Bool) (dx dy : ℝ) (h : InQuadrant q dx dy) :
    ∀ w ∈ weights q present dx dy, 0 ≤ w := by
  obtain ⟨hs, ht⟩ := quadrant_pos q hq dx dy h
  have h4 := BilinearReal.weights_true_nonneg q hq dx dy hs ht
  cases present
  · exact BilinearReal.weights_false_nonneg q hq dx dy h4
  · exact h4

/-- at the centre of the cell the whole weight is on the cell itself -/
theorem weights_center : weights 0 true (1 / 2 : ℝ) (1 / 2) = [0, 0, 0, 1] ∧ slots 0 = [MW.S, MW.SE, MW.SW, MW.C] := by
  constructor
  · simp only [weights, c050_real]; norm_num
  · rfl

/-- a missing corner contributes weight 0 and its slot is the corner slot -/
theorem weights_missing_zero (q : Nat) (hq : q < 4) (dx dy : ℝ) :
    ∃ k : Nat, (slots q)[k]? = some (corner q) ∧ (weights q false dx dy)[k]? = some 0 := by
  obtain ⟨k, hk⟩ := List.getElem?_of_mem (BilinearReal.corner_mem_slots q hq)
  exact ⟨k, hk, by rw [BilinearReal.weights_missing_eq q hq, List.getElem?_map, hk, Option.map_some, if_pos rfl]⟩

/-- the cell itself is always one of the four slots; the corner is cardinal, the two remaining slots ordinal -/
theorem slots_have_cell : ∀ q, q < 4 →
    MW.C ∈ slots q ∧ (corner q).isCardinal = true ∧
    ((slots q).filter fun w => w != MW.C && w != corner q).all MW.isOrdinal = true := by
  decide

open Hpx.BilinearReal in
/-- with the corner neighbour present, in every quadrant and for all real offsets, the weighted mean of the four cell
    centres in the cell grid is the position itself (`dx` runs along the `i` axis, `dy` along the `j` axis) -/
theorem bilinear_mean (q : Nat) (hq : q < 4) (i j dx dy : ℝ) :
    wsum (weights q true dx dy) (slots q) (cenI i) = i + dx ∧
    wsum (weights q true dx dy) (slots q) (cenJ j) = j + dy := Hpx.BilinearReal.bilinear_mean q hq i j dx dy

open Hpx.BilinearReal in
/-- with the corner missing (next to the 8 three-cell points) the corner's share is split half and half between the two
    adjacent ordinal neighbours and the corner slot carries 0 -/
theorem weights_missing_split (q : Nat) (hq : q < 4) (dx dy : ℝ) :
    weights q false dx dy = (slots q).map fun s =>
      if s = corner q then 0
      else if adjacent (corner q) s then wOf q dx dy s + wOf q dx dy (corner q) / 2
      else wOf q dx dy s := weights_missing_eq q hq dx dy

open Hpx.BilinearReal in
/-- for every numeric instance (every `f64` at `Float`): whenever `bilinear_interpolation` returns,
    it returns four `(cell, weight)` pairs; the weights are `weights q present dx dy` in slot order; the cell of the
    position (as returned by `hash_with_dxdy`) is always one of the four; every other cell is the entry of
    `neighbours(h)` in the direction its slot names, except the missing-corner slot, which carries the cell itself -/
theorem bilinear_cells {α : Type} [Num α] (cfg : Cfg) (d : Nat) (lon lat : α) (l : List (Nat × α))
    (hb : bilinear cfg d lon lat = some l) :
    ∃ h dx dy nm, Hash.hashWithDxDy cfg d lon lat = some (h, dx, dy) ∧ Topo.neighbours cfg d h true = some nm ∧
      ∃ cell : MW → Nat,
        l = List.zipWith (fun w wt => (cell w, wt)) (slots (quad dx dy))
              (weights (quad dx dy) (cornerPresent nm (quad dx dy)) dx dy) ∧
        l.length = 4 ∧
        l.map (·.2) = weights (quad dx dy) (cornerPresent nm (quad dx dy)) dx dy ∧
        l.map (·.1) = (slots (quad dx dy)).map cell ∧
        MW.C ∈ slots (quad dx dy) ∧ cell MW.C = h ∧ h ∈ l.map (·.1) ∧
        ∀ w ∈ slots (quad dx dy),
          (w = corner (quad dx dy) ∧ cornerPresent nm (quad dx dy) = false ∧ cell w = h) ∨
          (getN nm w = some (cell w) ∧ (w, cell w) ∈ nm) := bilinear_structure cfg d lon lat l hb

open Hpx.BilinearReal in
/-- it panics only if `hash_with_dxdy` or `neighbours` does, or an ORDINAL neighbour (SE/SW/NE/NW) is missing — which
    never happens (C04: only cardinal neighbours can be missing) -/
theorem bilinear_panics_iff {α : Type} [Num α] (cfg : Cfg) (d : Nat) (lon lat : α) :
    bilinear cfg d lon lat = none ↔
      Hash.hashWithDxDy cfg d lon lat = none ∨
      ∃ h dx dy, Hash.hashWithDxDy cfg d lon lat = some (h, dx, dy) ∧
        (Topo.neighbours cfg d h true = none ∨
         ∃ nm, Topo.neighbours cfg d h true = some nm ∧
           ∃ w ∈ slots (quad dx dy), w.isOrdinal = true ∧ getN nm w = none) := bilinear_none_iff cfg d lon lat

open Hpx.BilinearReal in
/-- the `unwrap`s of `bilinear_interpolation` never fail (every numeric instance, every depth `≤ 29`): if
    `hash_with_dxdy` returns a valid cell number, `bilinear_interpolation` returns its four pairs — `neighbours` does not
    panic on a valid cell and the ordinal neighbours SE, SW, NE, NW always exist (C04: only a cardinal neighbour can be
    missing) -/
theorem bilinear_total {α : Type} [Num α] (cfg : Cfg) (d : Nat) (hd : d ≤ 29) (lon lat : α) (h : Nat) (dx dy : α)
    (hH : Hash.hashWithDxDy cfg d lon lat = some (h, dx, dy)) (hh : h < 12 * 4 ^ d) :
    ∃ l, bilinear cfg d lon lat = some l := by
  cases hb : bilinear cfg d lon lat with
  | some l => exact ⟨l, rfl⟩
  | none =>
    exfalso
    rcases (bilinear_none_iff cfg d lon lat).1 hb with h0 | ⟨h', dx', dy', hH', hrest⟩
    · rw [hH] at h0; cases h0
    · rw [hH] at hH'; cases hH'
      rcases hrest with hn | ⟨nm, hnm, w, _, hw, hget⟩
      · rw [TopoLift.neighbours_spec cfg d hd h hh true] at hn; cases hn
      · obtain ⟨h2, _, _, _, hall⟩ := TopoLift.ordinal_neighbours_exist cfg d hd h hh w hw
        have hf := (hall true nm hnm).2
        unfold getN at hget
        rw [hf] at hget
        cases hget

end Hpx.C19
