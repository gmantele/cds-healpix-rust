import HpxVerif.Lemmas.BmocEnc
import HpxVerif.Lemmas.BmocPack
import HpxVerif.Lemmas.BmocLower
import HpxVerif.Lemmas.BmocBuilder
import HpxVerif.Lemmas.BmocOrXor

set_option autoImplicit false   -- an unknown identifier in a statement is an error, never a new variable

/-!
# C15 — BMOC builders preserve exactly what was pushed

Proved: `pack` terminates with a fixed point of the compaction pass (a further pass merges nothing), each pass never
lengthens the list; **`pack_sem`: for every list of valid raw entries (depth ≤ 29) the three-valued state of every cell is
unchanged by `pack`**; `pack_wf`: well-formedness is preserved; `pack_no_four_full`: nowhere in the output do four full
siblings remain; `to_lower_depth` rejects `new_depth ≥ depth_max`.
**`to_lower_depth_sem`** (kept iff it contained something; full iff inside one full cell of depth ≤ new depth; output
well formed); **`buff_to_bmoc_sem`** (the run-length grouping covers exactly the sorted buffer, both `next_power_of_two`
arms); **`fixed_builder_sem_of_or_spec`** (every push sequence, duplicates, order, drain schedule: exactly what was
pushed, `None` iff nothing) relative to the specification of `BMOC::or` on equal-depth operands, which holds
(`or_spec_holds`), hence **`fixed_builder_sem`** unconditionally.
-/

namespace Hpx.C15
open Hpx.Bmoc

theorem packPass_length_le (dm : Nat) (l : List Nat) : (packPass dm l).length ≤ l.length :=
  packPass_length dm l

theorem packPass_eq_of_length (dm : Nat) (l : List Nat) (h : (packPass dm l).length = l.length) : packPass dm l = l :=
  packPass_fix_of_length dm l h

/-- the loop of `pack` stops: with `fuel > length`, the result is a fixed point (in length) of the pass -/
theorem packFuel_fixpoint (dm : Nat) (fuel : Nat) (l : List Nat) (hf : l.length < fuel) :
    (packPass dm (packFuel dm fuel l)).length = (packFuel dm fuel l).length :=
  packFuel_stable dm fuel l hf

/-- `pack` (fuel = length + 1) returns a list on which a further pass merges nothing -/
theorem pack_fixpoint (dm : Nat) (l : List Nat) : packPass dm (pack dm l) = pack dm l :=
  pack_fixpoint_pass dm l

theorem pack_length_le (dm : Nat) (l : List Nat) : (pack dm l).length ≤ l.length := by
  unfold pack
  generalize l.length + 1 = f
  induction f generalizing l with
  | zero => simp [packFuel]
  | succ f ih =>
    simp only [packFuel]
    have := packPass_length_le dm l
    split
    · exact this
    · exact Nat.le_trans (ih _) this

theorem to_lower_depth_guard (dm nd : Nat) (l : List Nat) (h : nd ≥ dm) : toLowerDepth dm nd l = none :=
  (Lower.toLower_guard dm nd l).1 h

/-- **`pack` preserves exactly what was there**: the three-valued state of every depth-`dm` cell `x` -/
theorem pack_sem (dm : Nat) (hdm : dm ≤ 29) (l : List Nat) (hv : ∀ r ∈ l, ValidRaw dm r) (x : Nat) :
    stOf dm (cellsOf dm (pack dm l)) x = stOf dm (cellsOf dm l) x :=
  (Hpx.Bmoc.pack_sem dm hdm l hv).1 x

theorem pack_valid (dm : Nat) (hdm : dm ≤ 29) (l : List Nat) (hv : ∀ r ∈ l, ValidRaw dm r) :
    ∀ r ∈ pack dm l, ValidRaw dm r :=
  (Hpx.Bmoc.pack_sem dm hdm l hv).2.1

/-- **`pack` preserves well-formedness** (sorted, disjoint, depths `≤ dm`) -/
theorem pack_wf (dm : Nat) (hdm : dm ≤ 29) (l : List Nat) (hv : ∀ r ∈ l, ValidRaw dm r) (hw : WF dm (cellsOf dm l)) :
    WF dm (cellsOf dm (pack dm l)) :=
  (Hpx.Bmoc.pack_sem dm hdm l hv).2.2 hw

/-- **no four full siblings are left** anywhere in the output of `pack` -/
theorem pack_no_four_full (dm : Nat) (hdm : dm ≤ 29) (l : List Nat) (hv : ∀ r ∈ l, ValidRaw dm r)
    (pre rest : List Cell) (d h : Nat) (hd : 0 < d) (h4 : h % 4 = 0) :
    cellsOf dm (pack dm l) ≠ pre ++ ⟨d, h, true⟩ :: ⟨d, h + 1, true⟩ :: ⟨d, h + 2, true⟩ :: ⟨d, h + 3, true⟩ :: rest :=
  fix_no_four_full dm hdm _ (pack_valid dm hdm l hv) (pack_fixpoint dm l) pre rest d h hd h4

/-- the hypotheses are satisfiable by a non-trivial list (four full siblings at depth 1 of a depth-2 BMOC, then a cell) -/
example : ∀ r ∈ [buildRaw 1 4 true 2, buildRaw 1 5 true 2, buildRaw 1 6 true 2, buildRaw 1 7 true 2, buildRaw 2 40 false 2],
    ValidRaw 2 r := by
  intro r hr
  simp only [List.mem_cons, List.not_mem_nil, or_false] at hr
  rcases hr with rfl | rfl | rfl | rfl | rfl <;> exact validRaw_buildRaw _ (by decide) (by decide)

open Hpx.Bmoc.Lower in
/-- **lowering the depth**: for every well-formed BMOC with valid entries and `new_depth < depth_max ≤ 29` the result is
    well formed with valid entries at `new_depth`; a coarse cell is kept **iff it contained something**; it is full
    **iff** it lies inside one full input cell of depth `≤ new_depth`, hence **only if** every deepest cell under it was
    full -/
theorem to_lower_depth_sem (dm nd : Nat) (hdm : dm ≤ 29) (hnd : nd < dm) (l : List Nat) (hv : ∀ r ∈ l, ValidRaw dm r)
    (hw : WF dm (cellsOf dm l)) :
    toLowerDepth dm nd l = some (toLowerLoop dm nd l none) ∧
    (WF nd (cellsOf nd (toLowerLoop dm nd l none)) ∧ ∀ r ∈ toLowerLoop dm nd l none, ValidRaw nd r) ∧
    (∀ y, stOf nd (cellsOf nd (toLowerLoop dm nd l none)) y ≠ .abs ↔
      ∃ x, y * 4 ^ (dm - nd) ≤ x ∧ x < (y + 1) * 4 ^ (dm - nd) ∧ stOf dm (cellsOf dm l) x ≠ .abs) ∧
    (∀ y, stOf nd (cellsOf nd (toLowerLoop dm nd l none)) y = .full ↔
      ∃ c ∈ cellsOf dm l, c.depth ≤ nd ∧ c.full = true ∧
        lo dm c ≤ y * 4 ^ (dm - nd) ∧ (y + 1) * 4 ^ (dm - nd) ≤ hi dm c) ∧
    (∀ y, stOf nd (cellsOf nd (toLowerLoop dm nd l none)) y = .full →
      ∀ x, y * 4 ^ (dm - nd) ≤ x → x < (y + 1) * 4 ^ (dm - nd) → stOf dm (cellsOf dm l) x = .full) :=
  ⟨(toLower_guard dm nd l).2 hnd, toLower_wf dm nd hdm hnd l hv hw, toLower_sem dm nd hdm hnd l hv hw,
   toLower_full_iff dm nd hdm hnd l hv hw, fun y h => toLower_full_only_if dm nd hdm hnd l hv hw y h⟩

open Hpx.Bmoc.Builder in
/-- `sort_unstable(); dedup()` as modelled: strictly increasing, same members -/
theorem sort_dedup_spec (l : List Nat) :
    (dedupAdj (sortNat l)).Pairwise (· < ·) ∧ ∀ y, y ∈ dedupAdj (sortNat l) ↔ y ∈ l :=
  Hpx.Bmoc.Builder.sort_dedup_spec l

open Hpx.Bmoc.Builder in
/-- **`buff_to_bmoc`**: for every strictly increasing buffer of in-range hashes (depth ≤ 29) the run-length grouping
    (`largest_lower_cell_sequence_len`, `next_power_of_two`, both arms of the `trailing_zeros` trick) emits a
    well-formed BMOC with valid entries, every cell carrying the builder's flag, covering exactly the buffer -/
theorem buff_to_bmoc_sem (depth : Nat) (flag : Bool) (hd : depth ≤ 29) (buf : List Nat) (hpw : buf.Pairwise (· < ·))
    (hlt : ∀ x ∈ buf, x < 12 * 4 ^ depth) :
    (buffToBmoc depth flag buf).dmax = depth ∧ (∀ r ∈ (buffToBmoc depth flag buf).entries, ValidRaw depth r) ∧
    WF depth (buffToBmoc depth flag buf).cells ∧ (∀ c ∈ (buffToBmoc depth flag buf).cells, c.full = flag) ∧
    ∀ x, stOf depth (buffToBmoc depth flag buf).cells x = if x ∈ buf then Tri.ofFlag flag else .abs :=
  buffToBmoc_sem depth flag hd buf hpw hlt

open Hpx.Bmoc.Builder in
/-- **the builder preserves exactly what was pushed**, for every depth ≤ 29, flag, push sequence (any order, any
    duplicates) and drain schedule (`drainNow` after each push is arbitrary: every `Vec` capacity behaviour):
    no panic; `None` iff nothing was pushed; otherwise a well-formed BMOC with valid entries in which exactly the pushed
    cells carry the flag.  Relative to the specification `OrSpec` of `BMOC::or` on equal-depth operands (the builder
    merges its intermediate BMOCs with `or`). -/
theorem fixed_builder_sem_of_or_spec (hor : OrSpec) (depth : Nat) (flag : Bool) (hd : depth ≤ 29) (ps : List (Nat × Bool))
    (hlt : ∀ p ∈ ps, p.1 < 12 * 4 ^ depth) :
    ∃ r, runBuilder depth flag ps = some r ∧ (r = none ↔ ps = []) ∧
      ∀ m, r = some m → m.dmax = depth ∧ (∀ e ∈ m.entries, ValidRaw depth e) ∧ WF depth m.cells ∧
        ∀ x, stOf depth m.cells x = if x ∈ ps.map (·.1) then Tri.ofFlag flag else .abs :=
  fixed_builder_sem hor depth flag hd ps hlt

open Hpx.Bmoc.Builder in
/-- the specification of `or` that the builder relies on holds (by `packedOp_spec`, as C08 `or_bmoc`) -/
theorem or_spec_holds : OrSpec := fun A B D hD hA hB gA gB => by
  subst hA
  have hm : max A.dmax B.dmax = A.dmax := by rw [hB]; exact Nat.max_self _
  have vB : ∀ c ∈ B.cells, InR c := by
    show ∀ c ∈ cellsOf B.dmax B.entries, InR c
    rw [hB]; exact inR_of_validRaw hD gB.1
  have h := packedOp_spec computes_or A B (by rw [hm]; exact hD) (by rw [hm]; exact ⟨gA.2, inR_of_validRaw hD gA.1⟩)
    (by rw [hm]; exact ⟨gB.2, vB⟩)
  rw [hm] at h
  obtain ⟨R, e, h1, h2, _, h4, h5⟩ := h
  exact ⟨R, e, h1, ⟨h2, h4.1⟩, fun x _ => h5 x⟩

open Hpx.Bmoc.Builder in
/-- **`fixed_builder_sem`, unconditional**: for every depth `≤ 29`, flag, push sequence (any order, any duplicates) and
    drain schedule, `with_capacity; push*; to_bmoc` does not panic, returns `None` iff nothing was pushed, and otherwise a
    well-formed BMOC with valid entries in which exactly the pushed cells carry the flag -/
theorem fixed_builder_sem (depth : Nat) (flag : Bool) (hd : depth ≤ 29) (ps : List (Nat × Bool))
    (hlt : ∀ p ∈ ps, p.1 < 12 * 4 ^ depth) :
    ∃ r, runBuilder depth flag ps = some r ∧ (r = none ↔ ps = []) ∧
      ∀ m, r = some m → m.dmax = depth ∧ (∀ e ∈ m.entries, ValidRaw depth e) ∧ WF depth m.cells ∧
        ∀ x, stOf depth m.cells x = if x ∈ ps.map (·.1) then Tri.ofFlag flag else .abs :=
  Hpx.Bmoc.Builder.fixed_builder_sem or_spec_holds depth flag hd ps hlt

end Hpx.C15
