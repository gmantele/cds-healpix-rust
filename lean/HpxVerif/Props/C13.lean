import HpxVerif.Lemmas.PolyLemmas
import HpxVerif.Props.C15
import HpxVerif.Lemmas.EllipseReal
import HpxVerif.Props.C16
import HpxVerif.Lemmas.EConeRealUnsound
import HpxVerif.Lemmas.EConeEqInternal
import HpxVerif.Lemmas.TightnessEllipse
import HpxVerif.Lemmas.EConeBmocReturned

set_option autoImplicit false   -- an unknown identifier in a statement is an error, never a new variable

/-!
# C13 — elliptical-cone coverage: centre kept, circular case sound, tight, guarded

Model: `Sph.ellipticalConeCoverageCustom` (`elliptical_cone_coverage(_custom)`: guard, `EllipticalCone::new`, `ProjSIN`,
`Ellipse::from_oriented / contains / extended_geom`, `overlap_cone`, `contains_cone`, start cells, descent, packing,
`to_lower_depth`) — tied bit for bit, entry by entry, to the crate on every run, both build profiles.

Proved, for **every numeric instance and whatever the floating-point tests answer**:
* `guard`, `guard_custom`: a semi-major axis `≥ π/2` is rejected (`none` = panic) for every depth, `delta_depth`, centre,
  `b`, position angle; nothing is computed before the guard;
* `classifier_skip`: a cell is skipped only if its centre is *not* inside the ellipse **and** `overlap_cone` answered
  false — a cell whose centre lies in the ellipse is never dropped;
* `full_flag_rule`: a cell flagged full either passed `contains_cone` with the centre-to-vertex bound of its level, or is
  at the target depth with its four vertices inside the ellipse (`EllipticalCone.contains`);
* `structure_below`, `structure_roots`: per start cell the output is well formed, inside the start cell, depths between
  start and target; with strictly increasing start cells the whole list is well formed and is exactly the concatenation;
* `internal_allsky_start`: with no starting depth (large `a`) the internal list *is* the fold over the 12 base cells;
* `custom_pack_fixpoint`: the entries returned for `delta_depth = 0` are a fixed point of the compaction pass.
Over the reals (the same model functions at `α := ℝ`; `ellipse_test_is_ellipse`, `circular_is_cone`): the covariance-form
test *is* the canonical ellipse inequality with semi-axes `a, b` and major axis along the given unit vector, and for
`a = b` the membership test *is* the cone membership `cos a ≤ cos(angular distance)`, for every position angle.
Also over the reals: relative to the envelope hypothesis `H1`, the centre cell is kept (`0 < b ≤ a`), and for
`a = b` nothing is missed and full flags are truthful; `H1` is discharged for the ellipses of the equatorial band
(`|lat| + a < tl`), on the descent, on the list of `elliptical_cone_coverage_internal` and on the returned BMOC; every
reported cell is within `a + 2·Mtrue depth` of the centre; for `a ≠ b` the skip test is not sound
(`overlap_cone_noncircular_unsound`).
Left to the oracle: the cells that are not strictly equatorial, no-miss for `a ≠ b` (witness points), findings F7 (debug
assertions of the cell-size helper).
-/

namespace Hpx.C13
open Hpx Hpx.Cover Hpx.Bmoc Hpx.Sph

variable {α : Type} [Num α]

theorem guard (cfg : Cfg) (depth : Nat) (lon lat a b pa : α) (ha : Num.ge a (Num.halfPi : α) = true) :
    ellInternal cfg depth lon lat a b pa = none := by
  unfold ellInternal; simp [ha]

theorem guard_custom (cfg : Cfg) (depth deltaDepth : Nat) (lon lat a b pa : α) (ha : Num.ge a (Num.halfPi : α) = true) :
    ellipticalConeCoverageCustom cfg depth deltaDepth lon lat a b pa = none := by
  unfold ellipticalConeCoverageCustom
  simp only [guard cfg _ lon lat a b pa ha]
  split
  · rfl
  · split
    · rfl
    · split <;> rfl

theorem classifier_skip (cfg : Cfg) (target : Nat) (e : ECone α) (dists : List α) (d h l : Nat)
    (hk : ellClassifier cfg target e dists d h l = some .skip) :
    ∃ c dist, Hash.center (α := α) cfg d h = some c ∧ dists[l]? = some dist ∧
      e.contains c.1 c.2 = false ∧ e.overlapCone c.1 c.2 dist = some false :=
  ellClassifier_skip cfg target e dists d h l hk

theorem classifier_full (cfg : Cfg) (target : Nat) (e : ECone α) (dists : List α) (d h l : Nat)
    (hk : ellClassifier cfg target e dists d h l = some .full) :
    ∃ c dist, Hash.center (α := α) cfg d h = some c ∧ dists[l]? = some dist ∧ e.containsCone c.1 c.2 dist = true :=
  ellClassifier_full cfg target e dists d h l hk

theorem classifier_descend_full (cfg : Cfg) (target : Nat) (e : ECone α) (dists : List α) (d h l : Nat)
    (hk : ellClassifier cfg target e dists d h l = some (.descend true)) :
    d = target ∧ ∃ vs, Hash.vertices (α := α) cfg d h = some vs ∧ vs.all (fun v => e.contains v.1 v.2) = true :=
  ellClassifier_descend_full cfg target e dists d h l hk

theorem full_flag_rule (cfg : Cfg) (target : Nat) (e : ECone α) (dists : List α)
    (fuel ds root level : Nat) (out : List Cell)
    (h : coverRec target (ellClassifier cfg target e dists) fuel ds root level = some out)
    (c : Cell) (hc : c ∈ out) (hf : c.full = true) :
    (∃ (ctr : α × α) (dist : α) (l : Nat), Hash.center (α := α) cfg c.depth c.hash = some ctr ∧ dists[l]? = some dist ∧
        e.containsCone ctr.1 ctr.2 dist = true) ∨
    (c.depth = target ∧ ∃ vs, Hash.vertices (α := α) cfg c.depth c.hash = some vs ∧
        vs.all (fun v => e.contains v.1 v.2) = true) := by
  obtain ⟨l, hl | ⟨_, hl⟩⟩ := coverRec_full_rule target _ fuel ds root level out h c hc hf
  · obtain ⟨ctr, dist, h1, h2, h3⟩ := classifier_full cfg target e dists _ _ l hl
    exact Or.inl ⟨ctr, dist, l, h1, h2, h3⟩
  · exact Or.inr (classifier_descend_full cfg target e dists _ _ l hl)

theorem structure_below (cfg : Cfg) (target : Nat) (e : ECone α) (dists : List α) (D : Nat) (hD : target ≤ D)
    (fuel ds root level : Nat) (out : List Cell) (hds : ds ≤ target)
    (h : coverRec target (ellClassifier cfg target e dists) fuel ds root level = some out) :
    WF D out ∧ ∀ c ∈ out, lo D ⟨ds, root, true⟩ ≤ lo D c ∧ hi D c ≤ hi D ⟨ds, root, true⟩ ∧
      ds ≤ c.depth ∧ c.depth ≤ target :=
  coverRec_below target _ D hD fuel ds root level out hds h

theorem structure_roots (cfg : Cfg) (target : Nat) (e : ECone α) (dists : List α) (D : Nat) (hD : target ≤ D)
    (fuel ds : Nat) (hds : ds ≤ target) (roots : List Nat) (hp : roots.Pairwise (· < ·)) (out : List Cell)
    (h : roots.foldlM (fun acc r => (coverRec target (ellClassifier cfg target e dists) fuel ds r 0).map (acc ++ ·)) [] = some out) :
    WF D out ∧
    (∀ c ∈ out, ∃ r ∈ roots, ∃ o, coverRec target (ellClassifier cfg target e dists) fuel ds r 0 = some o ∧ c ∈ o) ∧
    (∀ r ∈ roots, ∃ o, coverRec target (ellClassifier cfg target e dists) fuel ds r 0 = some o ∧ ∀ c ∈ o, c ∈ out) := by
  obtain ⟨g1, g2, g3, _⟩ := rootsFold target _ D hD fuel ds hds roots [] out hp trivial (by simp) h
  refine ⟨g1, ?_, g3⟩
  intro c hc
  rcases g2 c hc with h0 | h0
  · simp at h0
  · exact h0

/-- large `a` (no starting depth): the internal list is the fold over the 12 base cells, hence well formed -/
theorem internal_allsky_start (cfg : Cfg) (depth : Nat) (lon lat a b pa : α) (cells : List Cell)
    (ha : Num.ge a (Num.halfPi : α) = false) (hb : Num.ge b (Num.pi : α) = false)
    (hno : C2V.hasBestStartingDepth a = false)
    (h : ellInternal cfg depth lon lat a b pa = some cells) :
    ∃ dists, C2V.largestC2VsWithRadius cfg.debug 0 (depth + 1) lon lat a = some dists ∧
      (List.range 12).foldlM (fun acc r =>
        (coverRec depth (ellClassifier cfg depth (ECone.new lon lat a b pa) dists) (depth + 2) 0 r 0).map (acc ++ ·)) [] = some cells ∧
      WF depth cells := by
  rcases (ellInternal_cases cfg depth lon lat a b pa cells h).2 with ⟨hge, _⟩ | hi
  · rw [hb] at hge; cases hge
  · cases hi with
    | base _ hd hfold =>
      exact ⟨_, hd, hfold,
        (structure_roots cfg depth _ _ depth (Nat.le_refl _) (depth + 2) 0 (Nat.zero_le _) _ (by decide) cells hfold).1⟩
    | deep hnb => rw [hno] at hnb; cases hnb
    | small hnb => rw [hno] at hnb; cases hnb

theorem custom_pack_fixpoint (cfg : Cfg) (depth : Nat) (lon lat a b pa : α) (m : BMOC)
    (h : ellipticalConeCoverageCustom cfg depth 0 lon lat a b pa = some m) :
    m.dmax = depth ∧ packPass depth m.entries = m.entries := by
  rw [ellipticalConeCoverageCustom_eq] at h
  obtain ⟨_, _, cells, _, rfl⟩ := (finishCoverage_cases _ depth 0 m h).resolve_right (fun h0 => h0.1 rfl)
  exact ⟨rfl, C15.pack_fixpoint depth _⟩

/-- over ℝ: `Ellipse.contains ∘ Ellipse.fromOriented` is the canonical ellipse inequality -/
theorem ellipse_test_is_ellipse (a b s c x y : ℝ) (ha : a ≠ 0) (hb : b ≠ 0) (hsc : s * s + c * c = 1) :
    (Ellipse.fromOriented (α := ℝ) a b s c).contains x y = true ↔
      ((x * c + y * s) / a) ^ 2 + ((x * s - y * c) / b) ^ 2 ≤ 1 :=
  ellipse_contains_real a b s c x y ha hb hsc

/-- over ℝ: for `a = b` the elliptical cone is the cone of radius `a`, whatever the position angle -/
theorem circular_is_cone (lon lat a pa l φ : ℝ) (hlon : 0 ≤ lon ∧ lon < 2 * Real.pi)
    (hlat : -(Real.pi / 2) ≤ lat ∧ lat ≤ Real.pi / 2) (ha : 0 < a ∧ a < Real.pi / 2) :
    (ECone.new (α := ℝ) lon lat a a pa).contains l φ = true ↔
      Real.cos a ≤ Real.sin lat * Real.sin φ + Real.cos lat * Real.cos φ * Real.cos (l - lon) := by
  rw [econe_contains_circular' lon lat a pa l φ ha, ProjSIN.new_c0 lon lat hlon hlat, ← cos_adist' (lon, lat) (l, φ)]
  exact (Real.strictAntiOn_cos.le_iff_ge ⟨ha.1.le, by linarith [Real.pi_pos]⟩ ⟨adist_nonneg _ _, adist_le_pi _ _⟩).symm

/-- the hypotheses are satisfiable -/
example : (0 : ℝ) ≤ 1 ∧ (1 : ℝ) < 2 * Real.pi ∧ -(Real.pi / 2) ≤ (0 : ℝ) ∧ (0 : ℝ) ≤ Real.pi / 2 ∧ (0 : ℝ) < 1 / 2 ∧ (1 / 2 : ℝ) < Real.pi / 2 := by
  have := Real.two_le_pi
  refine ⟨by norm_num, by linarith, by linarith, by linarith, by norm_num, by linarith⟩

/-- the table of limits that selects the starting depth is regular (each depth halves the limit, relative excess
    `≈ 0.05·2^-k`): the obligation of C16 about the constants of the source, required here because the start cells of this
    coverage are chosen with that table -/
theorem start_depth_table_regular :
    (∀ j, j < 24 →
      C16.dyHalvingLo (j + 2) 1 25 (Gen.smallerEdge2OpEdgeDistDyadic.getD (j + 2) (0, 0)) (Gen.smallerEdge2OpEdgeDistDyadic.getD (j + 3) (0, 0)) = true ∧
      C16.dyHalvingHi (j + 2) 1 10 (Gen.smallerEdge2OpEdgeDistDyadic.getD (j + 2) (0, 0)) (Gen.smallerEdge2OpEdgeDistDyadic.getD (j + 3) (0, 0)) = true) :=
  C16.table_halving.1

/-! ## the elliptical-cone tests over the reals: what they mean, where they are sound, where they are not

`adist` = angular distance, `vec` = unit vector (`Lemmas/ConeReal.lean`); `ProjSIN.c0 p` = the projection centre;
`sinX`, `sinY` = the orthographic coordinates; `inCell`, `hcover`, H1 as in the cone scheme of C05. -/

section EllipticalConeReal
open Hpx Hpx.Cover Hpx.Bmoc Hpx.Sph Real

/-- **`ProjSIN::proj` is the orthographic projection**, defined exactly on the open visible hemisphere
    (`cos(angular distance) > 0`, the great circle at `π/2` excluded) -/
theorem proj_sin_spec (p : ProjSIN ℝ) (hp : p.Coherent) (l φ : ℝ) :
    p.proj l φ = if 0 < cos (adist (l, φ) p.c0) then some (sinX p.c0 (l, φ), sinY p.c0 (l, φ)) else none :=
  Hpx.Sph.proj_sin_spec p hp l φ

/-- **`forced_proj_and_distance`** (as the crate computes it; finding F18): for *every* point of the sphere, the same
    `(x, y)` as the orthographic projection (mirror image for the points of the far hemisphere) together with the
    exact angular distance to the centre, in `[0, π]` -/
theorem forced_proj_and_distance_spec (p : ProjSIN ℝ) (hp : p.Coherent) (l φ : ℝ) :
    p.forcedProjAndDistance l φ = ((sinX p.c0 (l, φ), sinY p.c0 (l, φ)), adist (l, φ) p.c0) :=
  Hpx.Sph.forcedProjAndDistance_spec p hp l φ

/-- **circular case, `contains_cone`**: for `a = b < π/2` and a radius `r ≥ 0`, the test answers `true` exactly when
    the whole cone of radius `r` around `(l, φ)` lies at `≤ a` of the centre with `r < a`:
    `angular distance + r ≤ a`.  (Sound *and* complete in the circular case.) -/
theorem contains_cone_circular (lon lat a pa l φ r : ℝ) (ha : 0 < a ∧ a < π / 2) (hr : 0 ≤ r) :
    (ECone.new (α := ℝ) lon lat a a pa).containsCone l φ r = true ↔
      r < a ∧ adist (l, φ) (ProjSIN.new lon lat).c0 + r ≤ a :=
  Hpx.Sph.contains_cone_circular lon lat a pa l φ r ha hr

/-- **`contains_cone` is sound in the circular case**: if it answers `true`, every point within `r` of `(l, φ)` is within
    `a` of the centre (so belongs to the cone, `econe_contains_circular'`) -/
theorem contains_cone_circular_sound (lon lat a pa l φ r : ℝ) (ha : 0 < a ∧ a < π / 2) (hr : 0 ≤ r)
    (h : (ECone.new (α := ℝ) lon lat a a pa).containsCone l φ r = true) (q : ℝ × ℝ) (hq : adist (l, φ) q ≤ r) :
    adist q (ProjSIN.new lon lat).c0 ≤ a ∧ (ECone.new (α := ℝ) lon lat a a pa).contains q.1 q.2 = true :=
  Hpx.Sph.contains_cone_circular_sound lon lat a pa l φ r ha hr h q hq

/-- **`overlap_cone` is sound in the circular case** (`a = b < π/2`, `0 < r ≤ π/2`): if the cone of radius `r` around
    `(l, φ)` meets the cone of radius `a` around the centre (`angular distance ≤ a + r`) the test answers `true` — for
    every position of the cone centre, far hemisphere included — *outside the special case of the code*, i.e. when the
    norm `sin d` of the projected cone centre exceeds `2^-1024` (`1 / norm` finite in `f64`).  In the special case the
    code answers `r ≤ b`: see `overlap_cone_special_case`. -/
theorem overlap_cone_circular_sound (lon lat a pa l φ r : ℝ) (ha : 0 < a ∧ a < π / 2) (hr : 0 < r ∧ r ≤ π / 2)
    (hfin : 1 / 2 ^ 1024 < sin (adist (l, φ) (ProjSIN.new lon lat).c0))
    (hd : adist (l, φ) (ProjSIN.new lon lat).c0 ≤ a + r) :
    (ECone.new (α := ℝ) lon lat a a pa).overlapCone l φ r = some true :=
  Hpx.Sph.overlap_cone_circular_sound lon lat a pa l φ r ha hr hfin hd

/-- a concrete instance of the special case: ellipse centre `(0, 0)`, `a = b = 1/10`; the cone of radius `1/5` around
    `(0, 2^-1024)` contains the centre, yet `overlap_cone` answers `false`; the point is inside the ellipse, which is
    what keeps the cell in the coverage -/
theorem overlap_cone_special_case_counterexample :
    adist (0, 1 / 2 ^ 1024) (ProjSIN.new (α := ℝ) 0 0).c0 ≤ 1 / 5 ∧
    (ECone.new (α := ℝ) 0 0 (1 / 10) (1 / 10) 0).overlapCone 0 (1 / 2 ^ 1024) (1 / 5) = some false ∧
    (ECone.new (α := ℝ) 0 0 (1 / 10) (1 / 10) 0).contains 0 (1 / 2 ^ 1024) = true :=
  Hpx.Sph.overlap_cone_special_case_counterexample 

/-- **the test `contains ∨ overlap_cone` of the descent never rejects a cone that contains the centre of the ellipse**:
    general `0 < b ≤ a < π/2` with `2^-1024 < sin b`, `0 < r ≤ π/2` -/
theorem centre_cone_kept (lon lat a b pa l φ r : ℝ) (hb : 0 < b) (hba : b ≤ a) (ha : a < π / 2)
    (hmin : 1 / 2 ^ 1024 < sin b) (hr : 0 < r ∧ r ≤ π / 2)
    (hd : adist (l, φ) (ProjSIN.new lon lat).c0 ≤ r) :
    (ECone.new (α := ℝ) lon lat a b pa).contains l φ = true ∨
      (ECone.new (α := ℝ) lon lat a b pa).overlapCone l φ r = some true :=
  Hpx.Sph.centre_cone_kept lon lat a b pa l φ r hb hba ha hmin hr hd

/-- circular case: membership is `angular distance to (lon, lat) ≤ a`, for every real `lon`, `lat`, `pa` -/
theorem ellipse_circular_is_disc (lon lat a pa l φ : ℝ) (ha : 0 < a ∧ a < π / 2) :
    (ECone.new (α := ℝ) lon lat a a pa).contains l φ = true ↔ adist (l, φ) (lon, lat) ≤ a :=
  Hpx.Sph.econe_contains_circular_iff lon lat a pa l φ ha

/-- circular case: the skip test `¬contains ∧ overlap_cone = false` is sound -/
theorem circular_skip_sound (lon lat a pa l φ r : ℝ) (ha : 0 < a ∧ a < π / 2) (hmin : 1 / 2 ^ 1024 < sin a)
    (hr : r ≤ π / 2) (har : a + r ≤ 3)
    (hc : (ECone.new (α := ℝ) lon lat a a pa).contains l φ = false)
    (ho : (ECone.new (α := ℝ) lon lat a a pa).overlapCone l φ r = some false) :
    a + r < adist (l, φ) (lon, lat) :=
  Hpx.Sph.circular_skip_sound lon lat a pa l φ r ha hmin hr har hc ho

/-- **C13, the centre cell is kept** (relative to the envelope hypothesis `H1` at the centre): for every centre
    `(lon, lat)`, `0 < b ≤ a < π/2` (`sin b > 2^-1024`), position angle, target depth, start depth and start cell: if the
    descent returns `out` and `(lon, lat)` lies in the start cell, it lies in a cell of `out` -/
theorem centre_cell_kept (cfg : Cfg) (lon lat a b pa : ℝ) (hb : 0 < b) (hba : b ≤ a) (ha : a < π / 2)
    (hmin : 1 / 2 ^ 1024 < sin b) (dists : List ℝ) (hD : ∀ D ∈ dists, D ≤ π / 2)
    (inCell : Nat → Nat → ℝ × ℝ → Prop) (target ds : Nat)
    (hcover : ∀ d h q, d ≠ target → inCell d h q → inCell (d + 1) (h <<< 2) q ∨ inCell (d + 1) (h <<< 2 ||| 1) q ∨
      inCell (d + 1) (h <<< 2 ||| 2) q ∨ inCell (d + 1) (h <<< 2 ||| 3) q)
    (hext : ∀ d h q q', vec q.1 q.2 = vec q'.1 q'.2 → inCell d h q → inCell d h q')
    (H1 : ∀ d h c D, ds ≤ d → Hash.center (α := ℝ) cfg d h = some c → dists[d - ds]? = some D →
      inCell d h (lon, lat) → adist c (lon, lat) ≤ D)
    (fuel root : Nat) (out : List Cell)
    (h : coverRec target (ellClassifier (α := ℝ) cfg target (ECone.new lon lat a b pa) dists) fuel ds root 0 = some out)
    (hq : inCell ds root (lon, lat)) :
    ∃ c ∈ out, inCell c.depth c.hash (lon, lat) :=
  Hpx.Sph.centre_cell_kept cfg lon lat a b pa hb hba ha hmin dists hD inCell target ds hcover hext H1 fuel root out h hq

/-- **C13, circular case: nothing is missed** (relative to the envelope hypothesis `H1`): for `a = b`, every point within
    `a` of `(lon, lat)` lying in the start cell lies in a cell of the output -/
theorem circular_no_miss (cfg : Cfg) (lon lat a pa : ℝ) (ha : 0 < a ∧ a < π / 2)
    (hmin : 1 / 2 ^ 1024 < sin a) (dists : List ℝ) (hD : ∀ D ∈ dists, D ≤ π / 2 ∧ a + D ≤ 3)
    (inCell : Nat → Nat → ℝ × ℝ → Prop) (target ds : Nat)
    (hcover : ∀ d h q, d ≠ target → inCell d h q → inCell (d + 1) (h <<< 2) q ∨ inCell (d + 1) (h <<< 2 ||| 1) q ∨
      inCell (d + 1) (h <<< 2 ||| 2) q ∨ inCell (d + 1) (h <<< 2 ||| 3) q)
    (H1 : ∀ d h c D q, ds ≤ d → Hash.center (α := ℝ) cfg d h = some c → dists[d - ds]? = some D → inCell d h q →
      adist c q ≤ D)
    (fuel root : Nat) (out : List Cell)
    (h : coverRec target (ellClassifier (α := ℝ) cfg target (ECone.new lon lat a a pa) dists) fuel ds root 0 = some out)
    (q : ℝ × ℝ) (hq : inCell ds root q) (hin : adist q (lon, lat) ≤ a) :
    ∃ c ∈ out, inCell c.depth c.hash q :=
  Hpx.Sph.circular_no_miss cfg lon lat a pa ha hmin dists hD inCell target ds hcover H1 fuel root out h q hq hin

/-- **C13, circular case: `full` flags are truthful** (relative to `H1`) -/
theorem circular_full_inside (cfg : Cfg) (lon lat a pa : ℝ) (ha : 0 < a ∧ a < π / 2)
    (dists : List ℝ) (hD : ∀ D ∈ dists, 0 ≤ D)
    (inCell : Nat → Nat → ℝ × ℝ → Prop) (target ds : Nat)
    (H1 : ∀ d h c D q, ds ≤ d → Hash.center (α := ℝ) cfg d h = some c → dists[d - ds]? = some D → inCell d h q →
      adist c q ≤ D)
    (fuel root : Nat) (out : List Cell)
    (h : coverRec target (ellClassifier (α := ℝ) cfg target (ECone.new lon lat a a pa) dists) fuel ds root 0 = some out)
    (c : Cell) (hc : c ∈ out) (hf : c.full = true) :
    (∀ q, inCell c.depth c.hash q → adist q (lon, lat) ≤ a) ∨
    (c.depth = target ∧ ∃ vs, Hash.vertices (α := ℝ) cfg c.depth c.hash = some vs ∧
      ∀ v ∈ vs, adist v (lon, lat) ≤ a) :=
  Hpx.Sph.circular_full_inside cfg lon lat a pa ha dists hD inCell target ds H1 fuel root out h c hc hf

/-- **the skip test is unsound for `a ≠ b`, over the reals**: centre `(0, 0)`, `sin a = 19/20`, `sin b = 1/100`, major axis
    at `asin(24/25)` from the east; the cone of radius `r = asin(5/13)` around `p = (0, asin(84/85))` contains the point
    `q = (asin(3/5), asin(80/89))` of the elliptical cone, `p` is outside the ellipse and `overlap_cone(p, r) = false`:
    a cell of centre `p` whose bounding radius is `r` is skipped although it may contain `q`.
    (At `f64`: `a = 1.2532`, `b = 0.0100`, `pa = 0.2838`, `p = (0, 1.41725)`, `r = 0.39479`, `q = (0.6435, 1.1172)`: same
    answers, the test fails by 3.5 %.) -/
theorem overlap_cone_noncircular_unsound :
    ∃ (a b pa r : ℝ) (p q : ℝ × ℝ), 0 < b ∧ b ≤ a ∧ a < π / 2 ∧ 0 < r ∧ r ≤ π / 2 ∧ 1 / 2 ^ 1024 < sin b ∧
      (ECone.new (α := ℝ) 0 0 a b pa).contains q.1 q.2 = true ∧ adist p q ≤ r ∧
      (ECone.new (α := ℝ) 0 0 a b pa).contains p.1 p.2 = false ∧
      (ECone.new (α := ℝ) 0 0 a b pa).overlapCone p.1 p.2 r = some false :=
  Hpx.Sph.overlap_cone_noncircular_unsound 


end EllipticalConeReal


/-! ## H1 discharged in the equatorial region: the statements above with NO geometric hypothesis

For every elliptical cone with `|lat| + a` below the transition latitude (release profile), with the radii the model really
computes (`largest_center_to_vertex_distances_with_radius(ds, depth+1, lon, lat, a)`), for the strictly equatorial start
cells (`InCellEq`): circular case `a = b` - no position of the disc is missed and full cells lie inside the disc; general
`0 < b ≤ a` - the cell of the centre is kept.  `coverage_…`: the same on the output of `elliptical_cone_coverage_internal`
itself, in both branches (starting depth below / not below the requested depth). -/

section EquatorialUnconditional
open Hpx Hpx.Hash Hpx.C2V Hpx.C2VReal Hpx.Proj Hpx.Cover Hpx.CellReal Hpx.EnvelopeReal Hpx.TopoLift Hpx.CellExtent Hpx.EConeEq Hpx.Sph Hpx.Bmoc Real

/-- **`h1_equatorial_meet`**: the envelope inequality for EVERY position `q` of a strictly equatorial cell `(d, h)` as soon
    as the cell contains SOME position `q'` of the cone (`adist (lon, lat) q' ≤ r`), every `ds ≤ d ≤ target ≤ 29` (depths 0
    and 1 included), `|lat| + r < tl`.  (`CellExtent.H1_equatorial_cone` is the case `q' = q`; the case `q' =` centre of
    the cell is what the `full` verdicts need.) -/
theorem h1_equatorial_meet (cfg : Cfg) (lon lat r : ℝ) (hA : |lat| + r < tl) (ds target : ℕ) (hdt : ds ≤ target)
    (ht : target ≤ 29) (dists : List ℝ)
    (hdists : largestC2VsWithRadius false ds (target + 1) lon lat r = some dists) :
    ∀ d h c D q q', ds ≤ d → Hash.center (α := ℝ) cfg d h = some c → dists[d - ds]? = some D →
      InCellEq d h q → InCellEq d h q' → adist (lon, lat) q' ≤ r → adist c q ≤ D :=
  Hpx.CellExtent.H1_equatorial_meet cfg lon lat r hA ds target hdt ht dists hdists

/-- **`econe_circular_no_miss_equatorial`** (ℝ, release profile; C13 `circular_no_miss` with `H1`, `hcover` and the numeric
    side conditions discharged).  Circular elliptical cone `a = b`, centre `(lon, lat)` (any real longitude), `0 < a`,
    `|lat| + a < tl` (its latitude band stays below the transition latitude), `sin a > 2^-1024`, any position angle;
    EVERY starting depth `ds ≤ target ≤ 29`; `dists` the list `largest_center_to_vertex_distances_with_radius(ds,
    target + 1, lon, lat, a)` that `elliptical_cone_coverage_internal` computes (radius = semi-major axis).  If the descent
    of the model from a start cell `root` returns `out`, every position `q` of the disc that lies in `root`, a strictly
    equatorial cell, lies in a cell of `out`. -/
theorem econe_circular_no_miss_equatorial (cfg : Cfg) (lon lat a pa : ℝ) (ha : 0 < a) (hA : |lat| + a < tl)
    (hmin : 1 / 2 ^ 1024 < sin a) (ds target : ℕ) (hdt : ds ≤ target) (ht : target ≤ 29) (dists : List ℝ)
    (hdists : largestC2VsWithRadius false ds (target + 1) lon lat a = some dists) (fuel root : ℕ) (out : List Cell)
    (h : coverRec target (ellClassifier (α := ℝ) cfg target (ECone.new lon lat a a pa) dists) fuel ds root 0 = some out)
    (q : ℝ × ℝ) (hq : InCellEq ds root q) (hin : adist q (lon, lat) ≤ a) :
    ∃ c ∈ out, InCellEq c.depth c.hash q :=
  Hpx.EConeEq.econe_circular_no_miss_equatorial cfg lon lat a pa ha hA hmin ds target hdt ht dists hdists fuel root out h q hq hin

/-- **`econe_circular_full_inside_equatorial`** (ℝ, release profile; C13 `circular_full_inside` with `H1` discharged), EVERY
    starting depth `ds ≤ target ≤ 29` (no `2 ≤ ds`: a `full` verdict needs the centre of the cell inside the disc, so the cell
    meets the disc and `H1_equatorial_meet` applies at depths 0 and 1 too).  Under the assumptions of
    `econe_circular_no_miss_equatorial`, a cell of the output flagged FULL either has all its positions (as a strictly
    equatorial cell) within `a` of `(lon, lat)`, or is at the target depth with its four vertices within `a`. -/
theorem econe_circular_full_inside_equatorial (cfg : Cfg) (lon lat a pa : ℝ) (ha : 0 < a) (hA : |lat| + a < tl)
    (ds target : ℕ) (hdt : ds ≤ target) (ht : target ≤ 29) (dists : List ℝ)
    (hdists : largestC2VsWithRadius false ds (target + 1) lon lat a = some dists) (fuel root : ℕ) (out : List Cell)
    (h : coverRec target (ellClassifier (α := ℝ) cfg target (ECone.new lon lat a a pa) dists) fuel ds root 0 = some out)
    (c : Cell) (hc : c ∈ out) (hf : c.full = true) :
    (∀ q, InCellEq c.depth c.hash q → adist q (lon, lat) ≤ a) ∨
    (c.depth = target ∧ ∃ vs, Hash.vertices (α := ℝ) cfg c.depth c.hash = some vs ∧
      ∀ v ∈ vs, adist v (lon, lat) ≤ a) :=
  Hpx.EConeEq.econe_circular_full_inside_equatorial cfg lon lat a pa ha hA ds target hdt ht dists hdists fuel root out h c hc hf

/-- **`econe_centre_cell_kept_equatorial`** (ℝ, release profile; C13 `centre_cell_kept` with `H1`, `hcover`, `hext` and the
    numeric side condition discharged).  General ellipse `0 < b ≤ a`, any position angle, centre `(lon, lat)` (any real
    longitude) with `|lat| + a < tl`, `sin b > 2^-1024`; EVERY starting depth `ds ≤ target ≤ 29`; `dists` the list computed by
    the crate (radius `a`).  If the descent from a start cell `root` returns `out` and `(lon, lat)` is a position of `root`, a
    strictly equatorial cell, then `(lon, lat)` is a position of a cell of `out`. -/
theorem econe_centre_cell_kept_equatorial (cfg : Cfg) (lon lat a b pa : ℝ) (hb : 0 < b) (hba : b ≤ a)
    (hA : |lat| + a < tl) (hmin : 1 / 2 ^ 1024 < sin b) (ds target : ℕ) (hdt : ds ≤ target) (ht : target ≤ 29)
    (dists : List ℝ) (hdists : largestC2VsWithRadius false ds (target + 1) lon lat a = some dists) (fuel root : ℕ)
    (out : List Cell)
    (h : coverRec target (ellClassifier (α := ℝ) cfg target (ECone.new lon lat a b pa) dists) fuel ds root 0 = some out)
    (hq : InCellEq ds root (lon, lat)) :
    ∃ c ∈ out, InCellEq c.depth c.hash (lon, lat) :=
  Hpx.EConeEq.econe_centre_cell_kept_equatorial cfg lon lat a b pa hb hba hA hmin ds target hdt ht dists hdists fuel root out h hq

/-- **no miss, on the output of the model** (ℝ, release profile `cfg.debug = false`): circular ellipse `a = b`, `0 < a`,
    `|lat| + a < tl`, `sin a > 2^-1024`, `depth ≤ 29`, starting depth `ds = best_starting_depth(a) < depth`.  If
    `elliptical_cone_coverage_internal` returns `cells`, then the hash `h0` of the centre at depth `ds` and its neighbourhood
    `nm` are defined, and every position `q` of the disc that lies in a strictly equatorial cell of that neighbourhood lies in
    a cell of `cells`. -/
theorem coverage_circular_no_miss_equatorial (cfg : Cfg) (hcfg : cfg.debug = false) (depth : ℕ) (hd : depth ≤ 29)
    (lon lat a pa : ℝ) (ha : 0 < a) (hA : |lat| + a < tl) (hmin : 1 / 2 ^ 1024 < sin a) (ds : ℕ)
    (hds : bestStartingDepth a = some ds) (hlt : ds < depth) (cells : List Cell)
    (h : ellInternal cfg depth lon lat a a pa = some cells) :
    ∃ h0 nm, Hash.hashV2 cfg ds lon lat = some h0 ∧ Topo.neighbours cfg ds h0 true = some nm ∧
      ∀ root ∈ nm.map (·.2), ∀ q, InCellEq ds root q → adist q (lon, lat) ≤ a →
        ∃ c ∈ cells, InCellEq c.depth c.hash q := by
  obtain ⟨h0, nm, hh0, hnm, hst⟩ := Hpx.EConeBmoc.ellInternal_start_cells cfg depth lon lat a a pa hA
    (Hpx.EConeBmoc.b_lt_pi lat a a le_rfl hA) ds hds cells h
  exact ⟨h0, nm, hh0, hnm, fun root hroot q hq hin =>
    (Hpx.EConeBmoc.ellInternal_covered cfg depth hd lon lat a a pa ha le_rfl hA hmin cells h).deep ds root (hst root hroot) hlt.le
      q hq hin⟩

/-- **`full` flags are truthful, on the output of the model**: under the same assumptions every cell of `cells` flagged FULL
    either has all its positions (as a strictly equatorial cell) within `a` of `(lon, lat)`, or is at depth `depth` with its
    four vertices within `a` of `(lon, lat)` -/
theorem coverage_circular_full_inside_equatorial (cfg : Cfg) (hcfg : cfg.debug = false) (depth : ℕ) (hd : depth ≤ 29)
    (lon lat a pa : ℝ) (ha : 0 < a) (hA : |lat| + a < tl) (ds : ℕ)
    (hds : bestStartingDepth a = some ds) (hlt : ds < depth) (cells : List Cell)
    (h : ellInternal cfg depth lon lat a a pa = some cells) (c : Cell) (hc : c ∈ cells) (hf : c.full = true) :
    (∀ q, InCellEq c.depth c.hash q → adist q (lon, lat) ≤ a) ∨
    (c.depth = depth ∧ ∃ vs, Hash.vertices (α := ℝ) cfg c.depth c.hash = some vs ∧
      ∀ v ∈ vs, adist v (lon, lat) ≤ a) := by
  rcases Hpx.EConeBmoc.ellInternal_split cfg depth lon lat a a pa (Hpx.EConeBmoc.b_lt_pi lat a a le_rfl hA) cells h with
    ⟨ds', dists, hds', _, hdists, hmem, _⟩ | ⟨ds', _, hds', hge, _⟩
  · obtain ⟨root, o, ho, hco⟩ := hmem c hc
    exact econe_circular_full_inside_equatorial cfg lon lat a pa ha hA ds' depth hds' hd dists hdists _ root o ho c hco hf
  · obtain rfl : ds = ds' := Option.some.inj (hds.symm.trans hds')
    omega

/-- **the cell of the centre is kept, on the output of the model**: general ellipse `0 < b ≤ a`, any position angle,
    `|lat| + a < tl`, `sin b > 2^-1024`, `ds = best_starting_depth(a) < depth ≤ 29`.  If the centre `(lon, lat)` is a position
    of a strictly equatorial cell of the neighbourhood of its hash at depth `ds`, it is a position of a cell of `cells`. -/
theorem coverage_centre_cell_kept_equatorial (cfg : Cfg) (hcfg : cfg.debug = false) (depth : ℕ) (hd : depth ≤ 29)
    (lon lat a b pa : ℝ) (hb : 0 < b) (hba : b ≤ a) (hA : |lat| + a < tl) (hmin : 1 / 2 ^ 1024 < sin b) (ds : ℕ)
    (hds : bestStartingDepth a = some ds) (hlt : ds < depth) (cells : List Cell)
    (h : ellInternal cfg depth lon lat a b pa = some cells) :
    ∃ h0 nm, Hash.hashV2 cfg ds lon lat = some h0 ∧ Topo.neighbours cfg ds h0 true = some nm ∧
      ∀ root ∈ nm.map (·.2), InCellEq ds root (lon, lat) → ∃ c ∈ cells, InCellEq c.depth c.hash (lon, lat) := by
  obtain ⟨h0, nm, hh0, hnm, hst⟩ := Hpx.EConeBmoc.ellInternal_start_cells cfg depth lon lat a b pa hA
    (Hpx.EConeBmoc.b_lt_pi lat a b hba hA) ds hds cells h
  exact ⟨h0, nm, hh0, hnm, fun root hroot hq =>
    (Hpx.EConeBmoc.ellInternal_covered cfg depth hd lon lat a b pa hb hba hA hmin cells h).deep ds root (hst root hroot)
      hlt.le _ hq ((adist_self _).trans_le hb.le)⟩

/-- **no miss, branch `depth ≤ ds`** (ℝ, release profile): circular ellipse `a = b`, `0 < a`, `|lat| + a < tl`,
    `sin a > 2^-1024`.  If `elliptical_cone_coverage_internal` returns `cells`, every strictly equatorial cell `e` of the
    neighbourhood (depth `ds`) that contains a position `q` of the disc has its ancestor at `depth` in `cells`. -/
theorem coverage_shallow_circular_no_miss_equatorial (cfg : Cfg) (hcfg : cfg.debug = false) (depth : ℕ)
    (lon lat a pa : ℝ) (ha : 0 < a) (hA : |lat| + a < tl) (hmin : 1 / 2 ^ 1024 < sin a) (ds : ℕ)
    (hds : bestStartingDepth a = some ds) (hge : depth ≤ ds) (cells : List Cell)
    (h : ellInternal cfg depth lon lat a a pa = some cells) :
    ∃ h0 nm, Hash.hashV2 cfg ds lon lat = some h0 ∧ Topo.neighbours cfg ds h0 true = some nm ∧
      ∀ e ∈ nm.map (·.2), ∀ q, InCellEq ds e q → adist q (lon, lat) ≤ a →
        ({ depth := depth, hash := e >>> ((ds - depth) <<< 1), full := false } : Cell) ∈ cells := by
  obtain ⟨h0, nm, hh0, hnm, hst⟩ := Hpx.EConeBmoc.ellInternal_start_cells cfg depth lon lat a a pa hA
    (Hpx.EConeBmoc.b_lt_pi lat a a le_rfl hA) ds hds cells h
  refine ⟨h0, nm, hh0, hnm, fun e he q hq hin => ?_⟩
  have hd : depth ≤ 29 := hge.trans (CoverAll.bestDepth_le a ds hds)
  rw [Hpx.Bmoc.shr_eq_div]
  exact (Hpx.EConeBmoc.ellInternal_covered cfg depth hd lon lat a a pa ha le_rfl hA hmin cells h).small ds e (hst e he) hge q hq
    hin

/-- **the cell of the centre is kept, branch `depth ≤ ds`**: general ellipse `0 < b ≤ a`, `|lat| + a < tl`,
    `sin b > 2^-1024`: every strictly equatorial cell `e` of the neighbourhood that contains the centre `(lon, lat)` has its
    ancestor at `depth` in `cells`. -/
theorem coverage_shallow_centre_cell_kept_equatorial (cfg : Cfg) (hcfg : cfg.debug = false) (depth : ℕ)
    (lon lat a b pa : ℝ) (hb : 0 < b) (hba : b ≤ a) (hA : |lat| + a < tl) (hmin : 1 / 2 ^ 1024 < sin b) (ds : ℕ)
    (hds : bestStartingDepth a = some ds) (hge : depth ≤ ds) (cells : List Cell)
    (h : ellInternal cfg depth lon lat a b pa = some cells) :
    ∃ h0 nm, Hash.hashV2 cfg ds lon lat = some h0 ∧ Topo.neighbours cfg ds h0 true = some nm ∧
      ∀ e ∈ nm.map (·.2), InCellEq ds e (lon, lat) →
        ({ depth := depth, hash := e >>> ((ds - depth) <<< 1), full := false } : Cell) ∈ cells := by
  obtain ⟨h0, nm, hh0, hnm, hst⟩ := Hpx.EConeBmoc.ellInternal_start_cells cfg depth lon lat a b pa hA
    (Hpx.EConeBmoc.b_lt_pi lat a b hba hA) ds hds cells h
  refine ⟨h0, nm, hh0, hnm, fun e he hq => ?_⟩
  have hd : depth ≤ 29 := hge.trans (CoverAll.bestDepth_le a ds hds)
  rw [Hpx.Bmoc.shr_eq_div]
  exact (Hpx.EConeBmoc.ellInternal_covered cfg depth hd lon lat a b pa hb hba hA hmin cells h).small ds e (hst e he) hge _
    hq ((adist_self _).trans_le hb.le)

/-- in the branch `depth ≤ ds` no cell is flagged full: the `full`-flag statement is void there -/
theorem coverage_shallow_no_full (cfg : Cfg) (depth : ℕ) (lon lat a b pa : ℝ) (hb : b < π) (hA : |lat| + a < tl) (ds : ℕ)
    (hds : bestStartingDepth a = some ds) (hge : depth ≤ ds) (cells : List Cell)
    (h : ellInternal cfg depth lon lat a b pa = some cells) : ∀ c ∈ cells, c.full = false ∧ c.depth = depth := by
  rcases Hpx.EConeBmoc.ellInternal_split cfg depth lon lat a b pa hb cells h with
    ⟨ds', _, _, hbest, _⟩ | ⟨_, _, _, _, _, hall, _⟩
  · obtain ⟨hds', hlt⟩ := hbest (band_has_start_depth lat a hA).1
    obtain rfl : ds = ds' := Option.some.inj (hds.symm.trans hds')
    omega
  · exact fun c hc => ⟨(hall c hc).1, (hall c hc).2.1⟩


/-- **the three statements on the output of the model for the concrete ellipse** `lon = 1`, `lat = 0.2`, `a = b = 0.05`,
    depth 6, release profile: the starting depth is 3 (`best_starting_depth_ex`), and the centre is a position of the
    strictly equatorial cell `3/4` (`ex_centre_in_cell`) -/
example (cfg : Cfg) (hcfg : cfg.debug = false) (pa : ℝ) (cells : List Cell)
    (h : ellInternal cfg 6 (1 : ℝ) (1 / 5) (1 / 20) (1 / 20) pa = some cells) :
    (∃ h0 nm, Hash.hashV2 cfg 3 (1 : ℝ) (1 / 5) = some h0 ∧ Topo.neighbours cfg 3 h0 true = some nm ∧
      (∀ root ∈ nm.map (·.2), ∀ q, InCellEq 3 root q → adist q (1, 1 / 5) ≤ 1 / 20 →
        ∃ c ∈ cells, InCellEq c.depth c.hash q) ∧
      (∀ root ∈ nm.map (·.2), InCellEq 3 root (1, 1 / 5) → ∃ c ∈ cells, InCellEq c.depth c.hash ((1 : ℝ), (1 / 5 : ℝ)))) ∧
    (∀ c ∈ cells, c.full = true → (∀ q, InCellEq c.depth c.hash q → adist q (1, 1 / 5) ≤ 1 / 20) ∨
      (c.depth = 6 ∧ ∃ vs, Hash.vertices (α := ℝ) cfg c.depth c.hash = some vs ∧ ∀ v ∈ vs, adist v (1, 1 / 5) ≤ 1 / 20)) := by
  obtain ⟨h1, h2, h3⟩ := ex_hyps
  obtain ⟨h0, nm, e1, e2, g1⟩ := coverage_circular_no_miss_equatorial cfg hcfg 6 (by decide) 1 (1 / 5) (1 / 20) pa h1 h2 h3
    3 best_starting_depth_ex (by decide) cells h
  obtain ⟨h0', nm', e1', e2', g2⟩ := coverage_centre_cell_kept_equatorial cfg hcfg 6 (by decide) 1 (1 / 5) (1 / 20) (1 / 20)
    pa h1 le_rfl h2 h3 3 best_starting_depth_ex (by decide) cells h
  rw [e1] at e1'
  cases Option.some.inj e1'
  rw [e2] at e2'
  cases Option.some.inj e2'
  exact ⟨⟨h0, nm, e1, e2, g1, g2⟩, fun c hc hf => coverage_circular_full_inside_equatorial cfg hcfg 6 (by decide) 1
    (1 / 5) (1 / 20) pa h1 h2 3 best_starting_depth_ex (by decide) cells h c hc hf⟩

/-- the branch `depth ≤ ds` on the concrete ellipse `lon = 1`, `lat = 0.2`, `a = b = 0.05` (`ds = 3`), target depth 2 -/
example (cfg : Cfg) (hcfg : cfg.debug = false) (pa : ℝ) (cells : List Cell)
    (h : ellInternal cfg 2 (1 : ℝ) (1 / 5) (1 / 20) (1 / 20) pa = some cells) :
    ∃ h0 nm, Hash.hashV2 cfg 3 (1 : ℝ) (1 / 5) = some h0 ∧ Topo.neighbours cfg 3 h0 true = some nm ∧
      ∀ e ∈ nm.map (·.2), ∀ q, InCellEq 3 e q → adist q (1, 1 / 5) ≤ 1 / 20 →
        ({ depth := 2, hash := e >>> ((3 - 2) <<< 1), full := false } : Cell) ∈ cells := by
  obtain ⟨h1, h2, h3⟩ := ex_hyps
  exact coverage_shallow_circular_no_miss_equatorial cfg hcfg 2 1 (1 / 5) (1 / 20) pa h1 h2 h3 3 best_starting_depth_ex
    (by decide) cells h

end EquatorialUnconditional


/-! ## tightness of the elliptical-cone coverage: every reported cell has its centre within `a + 2·Mtrue(depth)` of the centre -/

section Tightness
open Hpx Hpx.Hash Hpx.Proj Hpx.Cover Hpx.C2V Hpx.C2VReal Hpx.EnvelopeReal Hpx.EnvelopePolar Hpx.CellReal Hpx.TopoLift Hpx.CellExtent Hpx.Bmoc Hpx.Sph Hpx.EConeEq Hpx.Tightness Real

/-- **`econe_tight_rec`** (ℝ, release profile).  Elliptical cone of centre `(lon, lat)`, semi-axes `0 < b ≤ a < π/2`, any
    position angle; `dists` the list `largest_center_to_vertex_distances_with_radius(ds, target + 1, lon, lat, a)`.
    Every cell of the output of the descent has a centre, which is within `a + 2·Mtrue depth` of the centre of the ellipse. -/
theorem econe_tight_rec (cfg : Cfg) (lon lat a b pa : ℝ) (hb : 0 < b) (hba : b ≤ a) (ha : a < π / 2)
    (ds target : ℕ) (hdt : ds ≤ target) (ht : target ≤ 29) (dists : List ℝ)
    (hdists : largestC2VsWithRadius false ds (target + 1) lon lat a = some dists) (fuel root : ℕ) (out : List Cell)
    (h : coverRec target (ellClassifier (α := ℝ) cfg target (ECone.new lon lat a b pa) dists) fuel ds root 0 = some out)
    (c : Cell) (hc : c ∈ out) :
    ∃ ctr, center (α := ℝ) cfg c.depth c.hash = some ctr ∧
      adist ctr (lon, lat) ≤ a + valR c.depth lon lat a ∧ adist ctr (lon, lat) ≤ a + 2 * Mtrue c.depth :=
  Hpx.Tightness.econe_tight_rec cfg lon lat a b pa hb hba ha ds target hdt ht dists hdists fuel root out h c hc

/-- **`ell_internal_tight`** (ℝ, both profiles): every cell `c` of the list that
    `elliptical_cone_coverage_internal(depth, lon, lat, a, b, pa)` hands to the builder (`0 < b ≤ a < π/2`) satisfies
    * (twelve base cells + recursion, start depth `ds < depth` + recursion, small ellipse with `ds = depth`) its centre is
      within `a + 2·Mtrue c.depth` of the centre of the ellipse; or
    * (small ellipse, `ds = best_starting_depth(a) > depth`) `c` is the (partial) ancestor at `depth` of a cell `e` of depth
      `ds` whose centre is within `a + 2·Mtrue ds` of the centre of the ellipse. -/
theorem ell_internal_tight (cfg : Cfg) (depth : ℕ) (hd : depth ≤ 29) (lon lat a b pa : ℝ) (hb : 0 < b) (hba : b ≤ a)
    (ha : a < π / 2) (cells : List Cell) (h : ellInternal (α := ℝ) cfg depth lon lat a b pa = some cells) (c : Cell)
    (hc : c ∈ cells) :
    (∃ ctr, center (α := ℝ) cfg c.depth c.hash = some ctr ∧ adist ctr (lon, lat) ≤ a + 2 * Mtrue c.depth) ∨
    (∃ ds e ctr, C2V.bestStartingDepth a = some ds ∧ depth < ds ∧ c.depth = depth ∧ c.full = false ∧
      c.hash = e >>> ((ds - depth) <<< 1) ∧ center (α := ℝ) cfg ds e = some ctr ∧
      adist ctr (lon, lat) ≤ a + 2 * Mtrue ds) := by
  have ha0 : 0 ≤ a := by linarith
  refine (Hpx.EConeBmoc.ellInternal_split cfg depth lon lat a b pa (by linarith [pi_pos]) cells h).tight
    (fun d ctr => adist ctr (lon, lat) ≤ a + 2 * Mtrue d) ?_ ?_ c hc
  · intro ds dists root o hds hdists ho c hco
    obtain ⟨ctr, hctr, _, hb'⟩ := econe_tight_rec cfg lon lat a b pa hb hba ha ds depth hds hd dists hdists _ root o ho c hco
    exact ⟨ctr, hctr, hb'⟩
  · intro ds e _ hk
    unfold ellSmallTest at hk
    split at hk
    · cases hk
    · rename_i ctr hctr
      have hv0 := valR_nonneg_of_radius ds lon lat a ha0
      have hv2 := valR_le_twice ds lon lat a ha0
      refine ⟨ctr, hctr, ?_⟩
      split at hk
      · have := (econe_contains_between lon lat a b pa ctr.1 ctr.2 hb hba ha).2 ‹_›
        rw [adist_new_c0] at this
        linarith
      · have := overlapCone_true_near lon lat a b pa ctr.1 ctr.2 _ hk
        rw [adist_new_c0] at this
        linarith

/-- **`elliptical_cone_coverage` (`delta_depth = 0`), on the returned BMOC** (ℝ, both profiles, `0 < b ≤ a < π/2`): every
    entry is either a FULL cell, or a cell of the internal list, for which `ell_internal_tight` holds -/
theorem elliptical_cone_coverage_tight (cfg : Cfg) (depth : ℕ) (lon lat a b pa : ℝ) (hb : 0 < b) (hba : b ≤ a)
    (ha : a < π / 2) (m : BMOC) (h : ellipticalConeCoverageCustom (α := ℝ) cfg depth 0 lon lat a b pa = some m) (e : ℕ)
    (he : e ∈ m.entries) :
    (decode e depth).full = true ∨
    (∃ ctr, center (α := ℝ) cfg (decode e depth).depth (decode e depth).hash = some ctr ∧
      adist ctr (lon, lat) ≤ a + 2 * Mtrue (decode e depth).depth) ∨
    (∃ ds e' ctr, C2V.bestStartingDepth a = some ds ∧ depth < ds ∧ (decode e depth).depth = depth ∧
      (decode e depth).hash = e' >>> ((ds - depth) <<< 1) ∧ center (α := ℝ) cfg ds e' = some ctr ∧
      adist ctr (lon, lat) ≤ a + 2 * Mtrue ds) := by
  obtain ⟨hd, cells, hcells, rfl⟩ := Hpx.EConeBmoc.ellipticalConeCoverage_unfold cfg depth lon lat a b pa m h
  obtain ⟨hw, hrange⟩ := CoverAll.ellInternal_wf cfg depth lon lat a b pa cells hcells
  rcases packed_entry_origin depth hd cells hw hrange e he with hf | hc
  · exact Or.inl hf
  · rcases ell_internal_tight cfg depth hd lon lat a b pa hb hba ha cells hcells _ hc with
      h2 | ⟨ds, e', ctr, a1, a2, a3, _, a5, a6, a7⟩
    · exact Or.inr (Or.inl h2)
    · exact Or.inr (Or.inr ⟨ds, e', ctr, a1, a2, a3, a5, a6, a7⟩)


end Tightness


/-! ## on the RETURNED BMOC of `elliptical_cone_coverage(_custom)` (equatorial ellipses, both profiles, pack and to_lower_depth included)

`ellipticalConeCoverage` is the `custom` function with `delta_depth = 0`.  Full-inside is a disjunction: a position of a
full entry is inside the disc, or it lies in a deepest-depth cell under the entry that was flagged full by the
four-vertices rule (for such a cell only its four vertices are shown inside). -/

section OnTheReturnedBmoc
open Hpx Hpx.Hash Hpx.C2V Hpx.C2VReal Hpx.Proj Hpx.Cover Hpx.CellReal Hpx.EnvelopeReal Hpx.TopoLift Hpx.CellExtent Hpx.Bmoc Hpx.Sph Hpx.Tightness Hpx.EConeEq Hpx.ConeBmoc Hpx.EConeBmoc Real

/-- **`elliptical_cone_coverage_circular_no_miss_equatorial`** (ℝ, both profiles, every `depth ≤ 29`).  Circular elliptical
    cone `a = b`, any position angle, `|lat| + a < tl`, `sin a > 2^-1024`; `m` the BMOC returned by
    `elliptical_cone_coverage(depth, lon, lat, a, a, pa)`.  Every position within `a` of `(lon, lat)` that lies in a strictly
    equatorial start cell of depth `ds = best_starting_depth(a) ≤ depth` lies in the cell of an ENTRY of `m` — a cell emitted
    by the descent or a parent created by the compaction. -/
theorem elliptical_cone_coverage_circular_no_miss_equatorial (cfg : Cfg) (depth : ℕ) (lon lat a pa : ℝ) (ha : 0 < a)
    (hA : |lat| + a < tl) (hmin : 1 / 2 ^ 1024 < sin a) (m : BMOC)
    (h : ellipticalConeCoverage (α := ℝ) cfg depth lon lat a a pa = some m)
    (ds root : ℕ) (hst : IsStartCell cfg lon lat a ds root) (hds : ds ≤ depth) (q : ℝ × ℝ)
    (hq : InCellEq ds root q) (hin : adist q (lon, lat) ≤ a) :
    ∃ e ∈ m.entries, InCellEq (decode e depth).depth (decode e depth).hash q :=
  Hpx.EConeBmoc.elliptical_cone_coverage_circular_no_miss_equatorial cfg depth lon lat a pa ha hA hmin m h ds root hst hds q hq hin

/-- **`elliptical_cone_coverage_circular_full_inside_equatorial`** (ℝ, both profiles, every `depth ≤ 29`, `a = b`,
    `|lat| + a < tl`).  Let `e` be an entry of the returned BMOC flagged FULL — a cell flagged by the descent or a parent
    created by the compaction of four full cells, at any number of levels — and `q` a position of its cell (`InCellEq`).
    Then EITHER `q` is within `a` of `(lon, lat)`, OR `q` is a position of a cell `x` of the deepest depth `depth` lying under
    the entry (`x / 4^(depth − d_e) = h_e`) whose four VERTICES are within `a` of `(lon, lat)` — the rule by which
    `elliptical_cone_coverage_internal` flags full the cells of the deepest depth (the whole of such a cell is not proved to
    be inside). -/
theorem elliptical_cone_coverage_circular_full_inside_equatorial (cfg : Cfg) (depth : ℕ) (lon lat a pa : ℝ) (ha : 0 < a)
    (hA : |lat| + a < tl) (m : BMOC) (h : ellipticalConeCoverage (α := ℝ) cfg depth lon lat a a pa = some m)
    (e : ℕ) (he : e ∈ m.entries) (hf : (decode e depth).full = true) (q : ℝ × ℝ)
    (hq : InCellEq (decode e depth).depth (decode e depth).hash q) :
    adist q (lon, lat) ≤ a ∨
    ∃ x, x / 4 ^ (depth - (decode e depth).depth) = (decode e depth).hash ∧ InCellEq depth x q ∧
      ∃ vs, Hash.vertices (α := ℝ) cfg depth x = some vs ∧ ∀ v ∈ vs, adist v (lon, lat) ≤ a :=
  Hpx.EConeBmoc.elliptical_cone_coverage_circular_full_inside_equatorial cfg depth lon lat a pa ha hA m h e he hf q hq

/-- **`elliptical_cone_coverage_centre_cell_kept_equatorial`** (ℝ, both profiles, every `depth ≤ 29`).  General ellipse
    `0 < b ≤ a`, any position angle, `|lat| + a < tl`, `sin b > 2^-1024`.  If the centre `(lon, lat)` is a position of a
    strictly equatorial start cell `root` of depth `ds = best_starting_depth(a) ≤ depth`, then `(lon, lat)` is a position of
    the cell of an ENTRY of the returned BMOC. -/
theorem elliptical_cone_coverage_centre_cell_kept_equatorial (cfg : Cfg) (depth : ℕ) (lon lat a b pa : ℝ) (hb : 0 < b)
    (hba : b ≤ a) (hA : |lat| + a < tl) (hmin : 1 / 2 ^ 1024 < sin b) (m : BMOC)
    (h : ellipticalConeCoverage (α := ℝ) cfg depth lon lat a b pa = some m)
    (ds root : ℕ) (hst : IsStartCell cfg lon lat a ds root) (hds : ds ≤ depth) (hq : InCellEq ds root (lon, lat)) :
    ∃ e ∈ m.entries, InCellEq (decode e depth).depth (decode e depth).hash (lon, lat) :=
  Hpx.EConeBmoc.elliptical_cone_coverage_centre_cell_kept_equatorial cfg depth lon lat a b pa hb hba hA hmin m h ds root hst hds hq

/-- **no-miss for `elliptical_cone_coverage_custom`, `delta_depth ≠ 0`, circular ellipse** (ℝ, both profiles).  The descent
    is run at `deep = depth + delta_depth ≤ 29`, compacted, then degraded to `depth`.  For every strictly equatorial start
    cell `root` (of the descent at `deep`; any start depth `ds`) and every position `q` of the disc in it, some ENTRY of the
    returned BMOC contains `q` in the plane sense — in the sense of `InCellEq` when the entry is strictly equatorial, or
    flagged full (`ds ≤ deep`) — and covers the cell number `x` of `q` at depth `deep`. -/
theorem elliptical_cone_coverage_custom_circular_no_miss_equatorial (cfg : Cfg) (depth deltaDepth : ℕ)
    (hdd : deltaDepth ≠ 0) (lon lat a pa : ℝ) (ha : 0 < a) (hA : |lat| + a < tl) (hmin : 1 / 2 ^ 1024 < sin a)
    (m : BMOC) (h : ellipticalConeCoverageCustom (α := ℝ) cfg depth deltaDepth lon lat a a pa = some m)
    (ds root : ℕ) (hst : IsStartCell cfg lon lat a ds root) (q : ℝ × ℝ)
    (hq : InCellEq ds root q) (hin : adist q (lon, lat) ≤ a) :
    ∃ e ∈ m.entries, InCellPlane (decode e depth).depth (decode e depth).hash q ∧
      (|pcy (decode e depth).depth (decode e depth).hash| < 1 →
        InCellEq (decode e depth).depth (decode e depth).hash q) ∧
      (ds ≤ depth + deltaDepth → (decode e depth).full = true →
        InCellEq (decode e depth).depth (decode e depth).hash q) ∧
      ∃ x, InCellPlane (depth + deltaDepth) x q ∧ (ds ≤ depth + deltaDepth → InCellEq (depth + deltaDepth) x q) ∧
        x / 4 ^ (depth + deltaDepth - (decode e depth).depth) = (decode e depth).hash :=
  Hpx.EConeBmoc.elliptical_cone_coverage_custom_circular_no_miss_equatorial cfg depth deltaDepth hdd lon lat a pa ha hA hmin m h ds root hst q hq hin

/-- **the cell of the centre is kept by `elliptical_cone_coverage_custom`, `delta_depth ≠ 0`** (general ellipse
    `0 < b ≤ a`, `|lat| + a < tl`, `sin b > 2^-1024`): if the centre `(lon, lat)` is a position of a strictly equatorial start
    cell `root` (any start depth), some ENTRY of the returned BMOC contains it in the plane sense — in the sense of
    `InCellEq` when the entry is strictly equatorial, or flagged full (`ds ≤ deep`) -/
theorem elliptical_cone_coverage_custom_centre_cell_kept_equatorial (cfg : Cfg) (depth deltaDepth : ℕ)
    (hdd : deltaDepth ≠ 0) (lon lat a b pa : ℝ) (hb : 0 < b) (hba : b ≤ a) (hA : |lat| + a < tl)
    (hmin : 1 / 2 ^ 1024 < sin b) (m : BMOC)
    (h : ellipticalConeCoverageCustom (α := ℝ) cfg depth deltaDepth lon lat a b pa = some m)
    (ds root : ℕ) (hst : IsStartCell cfg lon lat a ds root) (hq : InCellEq ds root (lon, lat)) :
    ∃ e ∈ m.entries, InCellPlane (decode e depth).depth (decode e depth).hash (lon, lat) ∧
      (|pcy (decode e depth).depth (decode e depth).hash| < 1 →
        InCellEq (decode e depth).depth (decode e depth).hash (lon, lat)) ∧
      (ds ≤ depth + deltaDepth → (decode e depth).full = true →
        InCellEq (decode e depth).depth (decode e depth).hash (lon, lat)) :=
  Hpx.EConeBmoc.elliptical_cone_coverage_custom_centre_cell_kept_equatorial cfg depth deltaDepth hdd lon lat a b pa hb hba hA hmin m h ds root hst hq


end OnTheReturnedBmoc

end Hpx.C13
