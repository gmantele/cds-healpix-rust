import HpxVerif.Model.Once
import HpxVerif.Lemmas.OnceProgLemmas

set_option autoImplicit false   -- an unknown identifier in a statement is an error, never a new variable

/-!
# C20 — lazy per-depth layers initialise once and safely under concurrent first use

The protocol of `get_or_create` (the slot is read only after `call_once` returned: finding F5) is the step relation
`Once.step`.  Proved by an inductive invariant (`Inv`), for **any number of threads and any interleaving**:
* `constructed_at_most_once`: the object is constructed at most once; `returns_initialised`: a thread that returns
  has seen `Some` — `unreachable!()` is unreachable — and at that moment exactly one construction has happened;
* `no_deadlock`: as long as some thread has not returned, some thread can move.
Assumptions (stated, not proved): `std::sync::Once` behaves as documented (mutual exclusion of the closure, blocking of
late callers, happens-before from the closure to every caller that returns); sequentially consistent steps;
the construction is a function of the depth only (the correspondence compares the constants of all 30 layers).
**Program level** (`Model/OnceProg.lean`): the factory bodies are *regenerated from the source* as instruction lists
(`factories_from_source`), interpreted with a two-step slot write; `safe_with_torn_writes` proves data-race freedom of
the slot accesses, single construction and initialised results for every schedule, and `prog_refines_once` ties that
machine to the four-step one below.
Tie to the code: translation of the factory bodies; yield-point hooks at the four points of both factories; schedules enumerated from this model are
replayed on the real code with real threads and the observations (construction counter, blocked or not, value seen)
compared with the model's; plus an unscheduled stress run; `cargo +nightly miri` in the thorough tier.
-/

namespace Hpx.C20
open Hpx.Once

def Inv (s : St) : Prop :=
  match s.once with
  | .incomplete => s.slot = false ∧ s.cons = 0 ∧ ∀ u, s.pc u = .start
  | .running t =>
    ((s.pc t = .entered ∧ s.slot = false ∧ s.cons = 0) ∨ (s.pc t = .written ∧ s.slot = true ∧ s.cons = 1)) ∧
    ∀ u, u ≠ t → s.pc u = .start
  | .complete => s.slot = true ∧ s.cons = 1 ∧ ∀ u, s.pc u = .start ∨ s.pc u = .after ∨ s.pc u = .done true

theorem inv_init : Inv init := by
  simp [Inv, init]

theorem Inv.cases {s : St} (hi : Inv s) :
    (s.once = .incomplete ∧ s.slot = false ∧ s.cons = 0 ∧ ∀ u, s.pc u = .start) ∨
    (∃ r, s.once = .running r ∧
      ((s.pc r = .entered ∧ s.slot = false ∧ s.cons = 0) ∨ (s.pc r = .written ∧ s.slot = true ∧ s.cons = 1)) ∧
      ∀ u, u ≠ r → s.pc u = .start) ∨
    (s.once = .complete ∧ s.slot = true ∧ s.cons = 1 ∧ ∀ u, s.pc u = .start ∨ s.pc u = .after ∨ s.pc u = .done true) := by
  unfold Inv at hi
  cases ho : s.once with
  | incomplete => rw [ho] at hi; exact .inl ⟨rfl, hi⟩
  | running r => rw [ho] at hi; exact .inr (.inl ⟨r, rfl, hi⟩)
  | complete => rw [ho] at hi; exact .inr (.inr ⟨rfl, hi⟩)

theorem upd_same (f : Nat → PC) (t : Nat) (v : PC) : upd f t v t = v := by simp [upd]
theorem upd_other (f : Nat → PC) (t u : Nat) (v : PC) (h : u ≠ t) : upd f t v u = f u := by simp [upd, h]

theorem inv_step (s s' : St) (t : Nat) (hi : Inv s) (hs : step s t = some s') : Inv s' := by
  have other : ∀ v, (v = .start ∨ v = .after ∨ v = .done true) →
      (∀ u, u ≠ t → (s.pc u = .start ∨ s.pc u = .after ∨ s.pc u = .done true)) →
      ∀ u, upd s.pc t v u = .start ∨ upd s.pc t v u = .after ∨ upd s.pc t v u = .done true := fun v hv h u => by
    by_cases hu : u = t
    · rw [hu, upd_same]; exact hv
    · rw [upd_other _ _ _ _ hu]; exact h u hu
  unfold step at hs
  rcases hi.cases with ⟨ho, sl, c, h⟩ | ⟨r, ho, h', h⟩ | ⟨ho, sl, c, h⟩
  · simp only [h t, ho] at hs; cases hs
    exact ⟨Or.inl ⟨upd_same _ _ _, sl, c⟩, fun u hu => (upd_other _ _ _ _ hu).trans (h u)⟩
  · by_cases htr : t = r
    · subst htr
      rcases h' with ⟨p, sl, c⟩ | ⟨p, sl, c⟩ <;> (simp only [p] at hs; cases hs) <;> simp only [Inv, ho]
      · exact ⟨Or.inr ⟨upd_same _ _ _, trivial, by omega⟩, fun u hu => (upd_other _ _ _ _ hu).trans (h u hu)⟩
      · exact ⟨sl, c, other _ (Or.inr (Or.inl rfl)) fun u hu => Or.inl (h u hu)⟩
    · simp only [h t htr, ho] at hs; cases hs
  · rcases h t with p | p | p <;> simp only [p, ho] at hs <;> cases hs <;> simp only [Inv, ho]
    · exact ⟨sl, c, other _ (Or.inr (Or.inl rfl)) fun u _ => h u⟩
    · exact ⟨sl, c, other _ (Or.inr (Or.inr (by rw [sl]))) fun u _ => h u⟩

theorem inv_run (sched : List Nat) (s : St) (hi : Inv s) : Inv (run s sched).1 := by
  induction sched generalizing s with
  | nil => exact hi
  | cons t ts ih =>
    simp only [run]
    cases hs : step s t with
    | none => simp only []; exact ih s hi
    | some s' => simp only []; exact ih s' (inv_step s s' t hi hs)

/-- the object is constructed at most once, in every reachable state -/
theorem constructed_at_most_once (sched : List Nat) : (run init sched).1.cons ≤ 1 := by
  rcases (inv_run sched init inv_init).cases with ⟨-, -, h, -⟩ | ⟨r, -, ⟨-, -, h⟩ | ⟨-, -, h⟩, -⟩ | ⟨-, -, h, -⟩ <;> omega

/-- a thread that has returned has seen the initialised object (the `unreachable!()` arm is unreachable), and at that
    point exactly one construction has taken place -/
theorem returns_initialised (sched : List Nat) (t : Nat) (b : Bool)
    (h : (run init sched).1.pc t = .done b) : b = true ∧ (run init sched).1.cons = 1 ∧ (run init sched).1.slot = true := by
  rcases (inv_run sched init inv_init).cases with ⟨-, -, -, h'⟩ | ⟨r, -, h'', h'⟩ | ⟨-, sl, c, h'⟩
  · have := h' t; rw [h] at this; cases this
  · by_cases hrt : t = r
    · subst hrt
      rcases h'' with ⟨h1, _, _⟩ | ⟨h1, _, _⟩ <;> rw [h] at h1 <;> cases h1
    · have := h' t hrt; rw [h] at this; cases this
  · rcases h' t with p | p | p <;> rw [h] at p <;> cases p
    exact ⟨rfl, c, sl⟩

/-- no deadlock: if some thread has not returned, some thread can move -/
theorem no_deadlock (s : St) (hi : Inv s) (t : Nat) (ht : ∀ b, s.pc t ≠ .done b) : ∃ u, (step s u).isSome = true := by
  rcases hi.cases with ⟨ho, -, -, h⟩ | ⟨r, -, h, -⟩ | ⟨ho, -, -, h⟩
  · exact ⟨t, by simp [step, h t, ho]⟩
  · rcases h with ⟨h1, -⟩ | ⟨h1, -⟩ <;> exact ⟨r, by simp [step, h1]⟩
  · rcases h t with h | h | h
    · exact ⟨t, by simp [step, h, ho]⟩
    · exact ⟨t, by simp [step, h]⟩
    · exact absurd h (ht true)

/-- non-vacuity: a three-thread schedule in which thread 1 is blocked while thread 0 initialises -/
example : (run init [0, 1, 0, 1, 0, 1, 1, 0, 2, 2]).2 = [true, false, true, false, true, true, true, true, true, true] ∧
    (run init [0, 1, 0, 1, 0, 1, 1, 0, 2, 2]).1.cons = 1 := by decide

/-- **tie to the source by translation**: the bodies of `nested::get_or_create` and `lib::get_or_create`, parsed from the
    working tree on this run (hook statements removed), are both the program `goodProg`
    = `call_once(|| slot = Some(new))` followed by the final read; both `Once` arrays are plain `static`s and both slot
    arrays `static mut`, 30 entries each.  An early unsynchronised read, a construction outside the closure, a second
    write, a `const` array of `Once` … change the generated program and break this theorem. -/
theorem factories_from_source :
    OnceProg.decodeProg Gen.layersProg = some OnceProg.goodProg ∧ OnceProg.decodeProg Gen.c2vProg = some OnceProg.goodProg ∧
    Gen.layersOnceIsStatic = true ∧ Gen.c2vOnceIsStatic = true ∧
    Gen.layersSlotIsStaticMut = true ∧ Gen.c2vSlotIsStaticMut = true ∧
    Gen.layersLens = (30, 30) ∧ Gen.c2vLens = (30, 30) := OnceProg.factories_are_goodProg

/-- **safety with non-atomic slot writes** (any number of threads, any interleaving; the store to the slot is two steps
    and a read scheduled between them is recorded): no read ever observes a store in progress — the slot accesses are
    data-race free — the object is constructed at most once, and every thread that returns got the initialised object -/
theorem safe_with_torn_writes (sched : List Nat) :
    (OnceProg.run true OnceProg.goodProg OnceProg.init sched).race = false ∧
    (OnceProg.run true OnceProg.goodProg OnceProg.init sched).cons ≤ 1 ∧
    ∀ t b, (OnceProg.run true OnceProg.goodProg OnceProg.init sched).pc t = .done b →
      b = true ∧ (OnceProg.run true OnceProg.goodProg OnceProg.init sched).cons = 1 ∧
      (OnceProg.run true OnceProg.goodProg OnceProg.init sched).slot = .some := OnceProg.safe_torn sched

theorem no_deadlock_prog (s : OnceProg.St) (hi : OnceProg.Inv s) (t : Nat) (ht : ∀ b, s.pc t ≠ .done b) :
    ∃ u, (OnceProg.step true OnceProg.goodProg s u).isSome = true := OnceProg.no_deadlock s hi t ht

/-- **refinement**: the program-level machine refines the four-step machine `Once.step` whose histories are replayed on
    the real code through the yield-point hooks (the first half of the write is a stutter step) -/
theorem prog_refines_once (s s' : OnceProg.St) (t : Nat) (hi : OnceProg.Inv s)
    (hs : OnceProg.step true OnceProg.goodProg s t = some s') :
    Once.step (OnceProg.abs s) t = some (OnceProg.abs s') ∨ OnceProg.abs s' = OnceProg.abs s :=
  OnceProg.refines s s' t hi hs

/-- the unsynchronised fast path (finding F5; seeded change C20_2) and a `const` array of `Once` (seeded change C20_1) are
    unsafe in the same model -/
theorem unsafe_shapes :
    (OnceProg.run true [.readRet, .enterOnce 5, .wbegin, .wend, .exitOnce, .readFinal] OnceProg.init [0, 0, 0, 1]).race = true ∧
    (OnceProg.run false OnceProg.goodProg OnceProg.init [0, 0, 0, 1, 1, 1]).cons = 2 :=
  ⟨OnceProg.fast_path_races, OnceProg.const_once_constructs_twice⟩

end Hpx.C20
