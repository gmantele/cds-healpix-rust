import HpxVerif.Model.Layer
import HpxVerif.Lemmas.RingBijHash
import HpxVerif.Lemmas.LayerBmi
import HpxVerif.Lemmas.RingCenter
import HpxVerif.Lemmas.SqrtApprox
import Mathlib.Tactic.Ring
import Mathlib.Tactic.Linarith

set_option autoImplicit false   -- an unknown identifier in a statement is an error, never a new variable

/-!
# C10 — NESTED <-> RING conversion is a bijection that realises the RING ordering

On parts and for every depth: `to_ring_bijective` (valid parts ↔ `[0, 12·4^d)`), `from_ring_inverse`, `ring_order` (RING
numbers follow decreasing latitude then increasing longitude of the centres).  On cell numbers, depths ≤ 29, LUT and
BMI2 builds: `ring_bijection`, under the hypothesis that the `f64` square-root estimate is within 4 of the exact ring
index; the integer correction loops of `polar_cap_ring_index` (the repair of finding F2) do the rest
(`polar_ring_index_correct`), so the conversion does not depend on the accuracy of `f64::sqrt` beyond that.
`ring_center_agrees`, `ring_scheme_same_cells`: over ℝ the RING-scheme centre, vertices and offset positions of cell `r`
are those of the NESTED cell `from_ring(r)`.  The square-root hypothesis is a theorem (`sqrt_estimate_accuracy`, from
Lean's logical binary64 model): the statements above hold unconditionally (`ring_bijection_unconditional`,
`ring_scheme_same_cells_unconditional`).  `roundtrip_small_depths_test` is a test by evaluation, not a proof.
-/

namespace Hpx.C10
open Hpx Hpx.Layer

theorem tri4_eq (n : Nat) : tri4 n = 2 * (n * (n + 1)) := Hpx.RingReal.tri4_eq n

theorem tri4_mono {a b : Nat} (h : a ≤ b) : tri4 a ≤ tri4 b := Hpx.RingBij.tri4_mono h

theorem tri4_lt_of_lt {a b : Nat} (h : tri4 a < tri4 b) : a < b := Hpx.RingBij.tri4_lt_of_lt h

/-- the correction loops reach the exact ring index from any estimate within `fuel` of it -/
theorem polar_ring_index_correct (fuel x n t : Nat) (ht1 : tri4 t ≤ x) (ht2 : x < tri4 (t + 1))
    (hd : n ≤ t + fuel ∧ t ≤ n + fuel) : polarRingIndexFrom fuel x n = t :=
  Hpx.RingBij.polar_ring_index_correct fuel x n t ht1 ht2 hd

/-- the ring index exists for every `x` (so `polar_ring_index_correct` is not vacuous) -/
theorem ring_index_exists (x : Nat) : ∃ t, tri4 t ≤ x ∧ x < tri4 (t + 1) := Hpx.RingBij.ring_index_exists x

/-- **test, not a proof of the unbounded claim**: exhaustive kernel evaluation of `to_ring ∘ from_ring` at depths 0..2
    on the model with the exact ring index -/
theorem roundtrip_small_depths_test :
    ∀ d, d ≤ 2 → ∀ r, r < 12 * 4 ^ d →
      (fromRingParts d (fun x => polarRingIndexFrom 64 x 0) r).bind (toRingParts d) = some r := by
  decide +kernel

/-- finding F2, kernel-checked on Lean's IEEE-754 model of `f64`: at depth 26 the float estimate of the ring index of
    RING cell `9007199120523263` (last cell of a north polar ring) is one too large, and the correction loops repair
    it.  (`from_ring` runs the correction loops after the estimate; finding F2 was the estimate used directly.) -/
theorem f64_estimate_off_by_one :
    polarRingApprox 9007199120523263 = 67108863 ∧ tri4 67108863 > 9007199120523263 ∧
    polarRingIndexFrom 4 9007199120523263 (polarRingApprox 9007199120523263) = 67108862 ∧
    tri4 67108862 ≤ 9007199120523263 := by decide +kernel

/-! ## the bijection and the RING order, for every depth -/

open Hpx.RingBij

/-- **at the level of parts `(d0h, i, j)`, for EVERY depth**: `to_ring` maps the valid parts bijectively onto
    `[0, 12·4^d)` — pure integer arithmetic in the three regions, the `d0h = 4 ∧ l < 0` wrap included -/
theorem to_ring_bijective (d : Nat) :
    (∀ p, Valid d p → ∃ r, toRingParts d p = some r ∧ r < 12 * 4 ^ d) ∧
    (∀ p q, Valid d p → Valid d q → toRingParts d p = toRingParts d q → p = q) ∧
    (∀ r, r < 12 * 4 ^ d → ∃ p, Valid d p ∧ toRingParts d p = some r) := toRingParts_bijective d

/-- **`from_ring` is its inverse** (`d ≤ 32`: beyond, the `u32` casts of `from_ring` truncate — see
    `from_ring_truncates_at_depth_33`), for any exact ring-index function -/
theorem from_ring_inverse (d : Nat) (RI : Nat → Nat) (hRI : ExactRI RI) (hd : d ≤ 32) :
    (∀ p, Valid d p → ∀ r, toRingParts d p = some r → fromRingParts d RI r = some p) ∧
    (∀ r, r < 12 * 4 ^ d → ∃ p, fromRingParts d RI r = some p ∧ Valid d p ∧ toRingParts d p = some r) :=
  ⟨fun p hv r hr => fromRing_toRing_parts d RI (hRI.below _) hd p hv r hr,
    fun r hr => toRing_fromRing_parts d RI (hRI.below _) hd r hr⟩

/-- every depth: RING numbers increase exactly along (ordinate decreasing, then abscissa increasing) of the cell centres
    `centerXY` — rings by non-increasing latitude, increasing longitude in `[0, 2π)` inside a ring -/
theorem ring_order (d : Nat) (p q : HashParts) (hp : Valid d p) (hq : Valid d q) (rp rq : Nat)
    (h1 : toRingParts d p = some rp) (h2 : toRingParts d q = some rq) :
    rp < rq ↔ ((centerXY d p).2 > (centerXY d q).2 ∨
      ((centerXY d p).2 = (centerXY d q).2 ∧ (centerXY d p).1 < (centerXY d q).1)) :=
  ring_order_parts d p q hp hq rp rq h1 h2

/-- **on cell numbers, every depth `≤ 29`, LUT and BMI2 builds**: `to_ring` and `from_ring` (with the ring index the code
    really uses: float estimate + the integer correction loops) are inverse bijections of `[0, 12·4^d)`.
    Hypothesis `ApproxOK (2^60)`: the `f64` square-root estimate is within 4 of the exact ring index for arguments below
    `2^60` — a fact about IEEE `sqrt`, discharged by `approx_ok` below (`ring_bijection_unconditional`); the estimate is
    also compared bit for bit with the hardware on ring-boundary classes of all depths on every run. -/
theorem ring_bijection (cfg : Cfg) (d : Nat) (hd : d ≤ 29) (hA : ApproxOK (2 ^ 60)) :
    (∀ h, h < 12 * 4 ^ d → ∃ r, toRing cfg d h = some r ∧ r < 12 * 4 ^ d ∧ fromRing cfg d r = some h) ∧
    (∀ r, r < 12 * 4 ^ d → ∃ h, fromRing cfg d r = some h ∧ h < 12 * 4 ^ d ∧ toRing cfg d h = some r) :=
  ⟨fromRing_toRing cfg d hd (approxOK_of_lt_2_60 hA d hd), toRing_fromRing cfg d hd (approxOK_of_lt_2_60 hA d hd)⟩

/-- cell numbers are exactly `d0h·4^d + interleave i j` of valid parts, both ways (`decode_hash`,
    `build_hash_from_parts`) -/
theorem decode_build_inverse (cfg : Cfg) (d : Nat) (hd : d ≤ 29) :
    (∀ p, Valid d p → buildHashFromParts cfg d p.d0h p.i p.j = some (p.d0h * 4 ^ d + interleave p.i p.j) ∧
      p.d0h * 4 ^ d + interleave p.i p.j < 12 * 4 ^ d ∧
      decodeHash cfg d (p.d0h * 4 ^ d + interleave p.i p.j) = some p) ∧
    (∀ h, h < 12 * 4 ^ d → ∃ p, decodeHash cfg d h = some p ∧ Valid d p ∧ h = p.d0h * 4 ^ d + interleave p.i p.j) :=
  ⟨fun p hv => ⟨(build_spec cfg d hd p hv).1, (build_spec cfg d hd p hv).2, decode_build cfg d hd p hv⟩,
    decode_spec cfg d hd⟩

/-- the depth bound of `from_ring_inverse` is sharp: at depth 33 the `u32` casts lose a bit (no such depth exists in the
    crate, `DEPTH_MAX = 29`) -/
theorem from_ring_truncates_at_depth_33 :
    Valid 33 ⟨0, 2 ^ 33 - 1, 2 ^ 33 - 1⟩ ∧ toRingParts 33 ⟨0, 2 ^ 33 - 1, 2 ^ 33 - 1⟩ = some 0 ∧
    fromRingParts 33 exactRI 0 = some ⟨0, 2 ^ 32 - 1, 2 ^ 32 - 1⟩ := fromRing_toRing_parts_fails_at_depth_33

/-- non-vacuity of the square-root hypothesis at small arguments -/
example : ApproxOK (firstHashInEqr 3) := approxOK_depth3

/-! ## both schemes describe the same cells (`nside = 2^depth`) -/

section SameCells
open Hpx Hpx.Layer Hpx.RingCenter

/-- C10, last clause: the RING-scheme centre of `r` at `nside = 2^d` is the NESTED centre of `from_ring(r)`: both schemes
    describe the same cells.  Hypothesis: the `f64` estimate of the polar ring index is within 4 of the truth below the
    first equatorial cell number (`RingBij.ApproxOK`, the hypothesis of the NESTED <-> RING bijection). -/
theorem ring_center_agrees (debug : Bool) (cfg : Cfg) (hb : cfg.bmi = false) (d : Nat) (hd : d ≤ 29)
    (hA : RingBij.ApproxOK (firstHashInEqr d)) (r : Nat) (hr : r < 12 * 4 ^ d) (h : Nat)
    (hf : fromRing cfg d r = some h) :
    Ring.centerOfProjectedCell (α := ℝ) debug (2 ^ d) r = Hash.centerOfProjectedCell (α := ℝ) cfg d h :=
  Hpx.RingCenter.ring_center_agrees debug cfg hb d hd hA r hr h hf

/-- the centres on the sphere agree as well: `Ring.center` and `Hash.center` apply the same `unproj` to the same
    plane point -/
theorem ring_center_sphere_agrees (debug : Bool) (cfg : Cfg) (hb : cfg.bmi = false) (d : Nat) (hd : d ≤ 29)
    (hA : RingBij.ApproxOK (firstHashInEqr d)) (r : Nat) (hr : r < 12 * 4 ^ d) (h : Nat)
    (hf : fromRing cfg d r = some h) :
    Ring.center (α := ℝ) debug (2 ^ d) r = Hash.center (α := ℝ) cfg d h :=
  Hpx.RingCenter.ring_center_sphere_agrees debug cfg hb d hd hA r hr h hf

/-- C10, last clause, all depths at once, under the single hypothesis "the `f64` estimate of the ring index is within 4
    of the truth below `2^60`": `from_ring(r)` is a NESTED cell whose centre (plane and sphere) is the RING-scheme centre
    of `r`, and `to_ring(h)` a RING cell with the centre of `h` -/
theorem ring_scheme_same_cells (debug : Bool) (cfg : Cfg) (hb : cfg.bmi = false) (hA : RingBij.ApproxOK (2 ^ 60))
    (d : Nat) (hd : d ≤ 29) :
    (∀ r, r < 12 * 4 ^ d → ∃ h, fromRing cfg d r = some h ∧ h < 12 * 4 ^ d ∧
      Ring.centerOfProjectedCell (α := ℝ) debug (2 ^ d) r = Hash.centerOfProjectedCell (α := ℝ) cfg d h ∧
      Ring.center (α := ℝ) debug (2 ^ d) r = Hash.center (α := ℝ) cfg d h) ∧
    (∀ h, h < 12 * 4 ^ d → ∃ r, toRing cfg d h = some r ∧ r < 12 * 4 ^ d ∧
      Ring.centerOfProjectedCell (α := ℝ) debug (2 ^ d) r = Hash.centerOfProjectedCell (α := ℝ) cfg d h ∧
      Ring.center (α := ℝ) debug (2 ^ d) r = Hash.center (α := ℝ) cfg d h) :=
  Hpx.RingCenter.ring_scheme_same_cells debug cfg hb hA d hd

/-- the four vertices agree too (same centre, same half-diagonal `1/nside`, same `unproj` calls): the RING cell `r` and
    the NESTED cell `from_ring(r)` are the same diamond of the projection plane -/
theorem ring_vertices_agree (debug : Bool) (cfg : Cfg) (hb : cfg.bmi = false) (d : Nat) (hd : d ≤ 29)
    (hA : RingBij.ApproxOK (firstHashInEqr d)) (r : Nat) (hr : r < 12 * 4 ^ d) (h : Nat)
    (hf : fromRing cfg d r = some h) :
    Ring.vertices (α := ℝ) debug (2 ^ d) r = Hash.vertices (α := ℝ) cfg d h :=
  Hpx.RingCenter.ring_vertices_agree debug cfg hb d hd hA r hr h hf

/-- … and so does every point `(dx, dy)` inside the cell (`sph_coo`) -/
theorem ring_sphCoo_agree (debug : Bool) (cfg : Cfg) (hb : cfg.bmi = false) (d : Nat) (hd : d ≤ 29)
    (hA : RingBij.ApproxOK (firstHashInEqr d)) (r : Nat) (hr : r < 12 * 4 ^ d) (h : Nat)
    (hf : fromRing cfg d r = some h) (dx dy : ℝ) :
    Ring.sphCoo (α := ℝ) debug (2 ^ d) r dx dy = Hash.sphCoo (α := ℝ) cfg d h dx dy :=
  Hpx.RingCenter.ring_sphCoo_agree debug cfg hb d hd hA r hr h hf dx dy


end SameCells

/-! ## the square-root estimate is accurate: the hypothesis `ApproxOK` is a theorem -/

/-- **the `f64` square-root estimate of the polar ring index is never too small and at most one too large**, for every
    argument below `2^60` — proved from Lean's logical model of binary64 (`Float.ofNat` correctly rounded, `sqrt`
    correctly rounded, `as u64` = floor), no sampling.  The "+1" case is finding F2 (it occurs: last cells of polar rings
    at depth ≥ 26); the integer correction loops added by the repair remove it. -/
theorem sqrt_estimate_accuracy (x t : Nat) (hx : x < 2 ^ 60) (h1 : tri4 t ≤ x) (h2 : x < tri4 (t + 1)) :
    t ≤ polarRingApprox x ∧ polarRingApprox x ≤ t + 1 := Hpx.SqrtApprox.polarRingApprox_sharp x t (by omega) h1 h2

theorem approx_ok : Hpx.RingBij.ApproxOK (2 ^ 60) := Hpx.SqrtApprox.approxOK_2_60

/-- C10, first clause, without hypothesis: on cell numbers, every depth `≤ 29`, LUT and BMI2 builds, `to_ring` and
    `from_ring` are inverse bijections of `[0, 12·4^d)` -/
theorem ring_bijection_unconditional (cfg : Cfg) (d : Nat) (hd : d ≤ 29) :
    (∀ h, h < 12 * 4 ^ d → ∃ r, toRing cfg d h = some r ∧ r < 12 * 4 ^ d ∧ fromRing cfg d r = some h) ∧
    (∀ r, r < 12 * 4 ^ d → ∃ h, fromRing cfg d r = some h ∧ h < 12 * 4 ^ d ∧ toRing cfg d h = some r) :=
  ring_bijection cfg d hd approx_ok

/-- **both schemes describe the same cells, unconditional** (LUT build; every depth `≤ 29`) -/
theorem ring_scheme_same_cells_unconditional (debug : Bool) (cfg : Cfg) (hb : cfg.bmi = false) (d : Nat) (hd : d ≤ 29) :
    (∀ r, r < 12 * 4 ^ d → ∃ h, fromRing cfg d r = some h ∧ h < 12 * 4 ^ d ∧
      Ring.centerOfProjectedCell (α := ℝ) debug (2 ^ d) r = Hash.centerOfProjectedCell (α := ℝ) cfg d h ∧
      Ring.center (α := ℝ) debug (2 ^ d) r = Hash.center (α := ℝ) cfg d h) ∧
    (∀ h, h < 12 * 4 ^ d → ∃ r, toRing cfg d h = some r ∧ r < 12 * 4 ^ d ∧
      Ring.centerOfProjectedCell (α := ℝ) debug (2 ^ d) r = Hash.centerOfProjectedCell (α := ℝ) cfg d h ∧
      Ring.center (α := ℝ) debug (2 ^ d) r = Hash.center (α := ℝ) cfg d h) :=
  Hpx.SqrtApprox.ring_scheme_same_cells debug cfg hb d hd


/-! ## every build: the statements above that carry `cfg.bmi = false`, for every `cfg` (LUT tables or BMI2) -/

section AnyBuild
open Hpx Hpx.Layer Hpx.LayerBmi Hpx.BmiTransfer

theorem ring_center_agrees_any_build (debug : Bool) (cfg : Cfg) (d : Nat) (hd : d ≤ 29)
    (hA : RingBij.ApproxOK (firstHashInEqr d)) (r : Nat) (hr : r < 12 * 4 ^ d) (h : Nat)
    (hf : fromRing cfg d r = some h) :
    Ring.centerOfProjectedCell (α := ℝ) debug (2 ^ d) r = Hash.centerOfProjectedCell (α := ℝ) cfg d h :=
  RingCenter.ring_center_agrees_fromRing debug cfg d hd hA r hr h hf

theorem ring_center_sphere_agrees_any_build (debug : Bool) (cfg : Cfg) (d : Nat) (hd : d ≤ 29)
    (hA : RingBij.ApproxOK (firstHashInEqr d)) (r : Nat) (hr : r < 12 * 4 ^ d) (h : Nat)
    (hf : fromRing cfg d r = some h) :
    Ring.center (α := ℝ) debug (2 ^ d) r = Hash.center (α := ℝ) cfg d h :=
  (RingCenter.agree_of_plane (RingCenter.ring_center_agrees_fromRing debug cfg d hd hA r hr h hf)).1

theorem ring_scheme_same_cells_any_build (debug : Bool) (cfg : Cfg) (hA : RingBij.ApproxOK (2 ^ 60))
    (d : Nat) (hd : d ≤ 29) :
    (∀ r, r < 12 * 4 ^ d → ∃ h, fromRing cfg d r = some h ∧ h < 12 * 4 ^ d ∧
      Ring.centerOfProjectedCell (α := ℝ) debug (2 ^ d) r = Hash.centerOfProjectedCell (α := ℝ) cfg d h ∧
      Ring.center (α := ℝ) debug (2 ^ d) r = Hash.center (α := ℝ) cfg d h) ∧
    (∀ h, h < 12 * 4 ^ d → ∃ r, toRing cfg d h = some r ∧ r < 12 * 4 ^ d ∧
      Ring.centerOfProjectedCell (α := ℝ) debug (2 ^ d) r = Hash.centerOfProjectedCell (α := ℝ) cfg d h ∧
      Ring.center (α := ℝ) debug (2 ^ d) r = Hash.center (α := ℝ) cfg d h) :=
  RingCenter.same_cells debug cfg hA d hd

theorem ring_vertices_agree_any_build (debug : Bool) (cfg : Cfg) (d : Nat) (hd : d ≤ 29)
    (hA : RingBij.ApproxOK (firstHashInEqr d)) (r : Nat) (hr : r < 12 * 4 ^ d) (h : Nat)
    (hf : fromRing cfg d r = some h) :
    Ring.vertices (α := ℝ) debug (2 ^ d) r = Hash.vertices (α := ℝ) cfg d h :=
  (RingCenter.agree_of_plane (RingCenter.ring_center_agrees_fromRing debug cfg d hd hA r hr h hf)).2.1

theorem ring_sphCoo_agree_any_build (debug : Bool) (cfg : Cfg) (d : Nat) (hd : d ≤ 29)
    (hA : RingBij.ApproxOK (firstHashInEqr d)) (r : Nat) (hr : r < 12 * 4 ^ d) (h : Nat)
    (hf : fromRing cfg d r = some h) (dx dy : ℝ) :
    Ring.sphCoo (α := ℝ) debug (2 ^ d) r dx dy = Hash.sphCoo (α := ℝ) cfg d h dx dy :=
  (RingCenter.agree_of_plane (RingCenter.ring_center_agrees_fromRing debug cfg d hd hA r hr h hf)).2.2 dx dy

theorem ring_scheme_same_cells_unconditional_any_build (debug : Bool) (cfg : Cfg) (d : Nat) (hd : d ≤ 29) :
    (∀ r, r < 12 * 4 ^ d → ∃ h, fromRing cfg d r = some h ∧ h < 12 * 4 ^ d ∧
      Ring.centerOfProjectedCell (α := ℝ) debug (2 ^ d) r = Hash.centerOfProjectedCell (α := ℝ) cfg d h ∧
      Ring.center (α := ℝ) debug (2 ^ d) r = Hash.center (α := ℝ) cfg d h) ∧
    (∀ h, h < 12 * 4 ^ d → ∃ r, toRing cfg d h = some r ∧ r < 12 * 4 ^ d ∧
      Ring.centerOfProjectedCell (α := ℝ) debug (2 ^ d) r = Hash.centerOfProjectedCell (α := ℝ) cfg d h ∧
      Ring.center (α := ℝ) debug (2 ^ d) r = Hash.center (α := ℝ) cfg d h) :=
  ring_scheme_same_cells_any_build debug cfg Hpx.C10.approx_ok d hd

/-- non-vacuity: a BMI2 configuration at depth 3 -/
example := ring_scheme_same_cells_unconditional_any_build true { debug := true, bmi := true } 3 (by omega)
end AnyBuild

end Hpx.C10
