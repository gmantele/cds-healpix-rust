import HpxVerif.Model.C2V
import HpxVerif.Lemmas.SearchTree

import HpxVerif.Lemmas.C2VReal
import HpxVerif.Lemmas.EnvelopeRealRing
import HpxVerif.Lemmas.CellExtentCone
import HpxVerif.Lemmas.EnvelopePolarPoles
import HpxVerif.Lemmas.EnvelopePolarInner
import HpxVerif.Lemmas.TightnessAllLon

set_option autoImplicit false   -- an unknown identifier in a statement is an error, never a new variable

/-!
# C16 — cell-size helper bounds really are bounds

The table `SMALLER_EDGE2OPEDGE_DIST` and the unrolled binary search of `best_starting_depth` are **regenerated from the source on
every run** (`Gen.*`); `best_starting_depth_spec` holds for every comparison function and table, so for `f64 <` on the real
table, NaN included.  Over ℝ (release profile) the second half of the file states, in the terms of the crate, which envelope each
`largest_center_to_vertex_distance*` function uses, what the `_with_radius` variants bound and what they do not (F12, F7), where
`largest_center_to_vertex_distance` dominates the true centre-to-vertex distances (every cell with its vertices in the
equatorial region; in the polar caps the E and W vertices, and the N and S vertices of the central and inner-half cells only)
and where it is below them (F23, F24), and that it never exceeds twice a true distance.  NOT proved: that a cone of radius
`< T[d]` meets at most the 9 cells; the polar caps in full.  Both are *measured* by the oracle (exhaustive cells to depth 5
quick / 8 thorough, border classes to depth 29, (position, radius) pairs, rim witnesses); findings F12, F13 (polar caps) and F7
(debug assertions) are recorded in `known_findings.json`.
-/

namespace Hpx.C16
open Hpx Hpx.C2V

/-- exact comparison of two dyadic rationals `a/2^ea < b/2^eb` -/
def dyLt (a b : Nat × Nat) : Bool := a.1 * 2 ^ b.2 < b.1 * 2 ^ a.2

theorem table_len : Gen.smallerEdge2OpEdgeDistBits.length = 30 ∧ Gen.smallerEdge2OpEdgeDistDyadic.length = 30 := by
  decide

/-- the tabulated limits are strictly decreasing with the depth -/
theorem table_decreasing : ∀ k, k < 29 →
    dyLt (Gen.smallerEdge2OpEdgeDistDyadic.getD (k + 1) (0, 0)) (Gen.smallerEdge2OpEdgeDistDyadic.getD k (0, 0)) = true := by
  decide +kernel

/-- `2·T[k+1]·(1 + a/(b·2^k)) < T[k]` on dyadic rationals -/
def dyHalvingLo (k a b : Nat) (t tn : Nat × Nat) : Bool :=
  2 * tn.1 * 2 ^ t.2 * (b * 2 ^ k + a) < t.1 * 2 ^ tn.2 * (b * 2 ^ k)
/-- `T[k] < 2·T[k+1]·(1 + a/(b·2^k))` on dyadic rationals -/
def dyHalvingHi (k a b : Nat) (t tn : Nat × Nat) : Bool :=
  t.1 * 2 ^ tn.2 * (b * 2 ^ k) < 2 * tn.1 * 2 ^ t.2 * (b * 2 ^ k + a)

/-- **regularity of the table** (a property of the constants in the source, consumed from the regenerated term): each
    depth halves the limit, with a relative excess `T[k] / (2·T[k+1]) − 1` between `0.04·2^-k` and `0.1·2^-k` for
    `k = j + 2`, `2 ≤ k ≤ 25` (it is `0.0499·2^-k` to three digits from `k = 5` on), and between `0` and `2^-25` for the last three
    depths.  A mistyped entry breaks this for any relative error above about `0.05·2^-k`. -/
theorem table_halving :
    (∀ j, j < 24 →
      dyHalvingLo (j + 2) 1 25 (Gen.smallerEdge2OpEdgeDistDyadic.getD (j + 2) (0, 0)) (Gen.smallerEdge2OpEdgeDistDyadic.getD (j + 3) (0, 0)) = true ∧
      dyHalvingHi (j + 2) 1 10 (Gen.smallerEdge2OpEdgeDistDyadic.getD (j + 2) (0, 0)) (Gen.smallerEdge2OpEdgeDistDyadic.getD (j + 3) (0, 0)) = true) ∧
    (∀ j, j < 3 →
      dyLt (2 * (Gen.smallerEdge2OpEdgeDistDyadic.getD (j + 27) (0, 0)).1, (Gen.smallerEdge2OpEdgeDistDyadic.getD (j + 27) (0, 0)).2)
        (Gen.smallerEdge2OpEdgeDistDyadic.getD (j + 26) (0, 0)) = true ∧
      dyHalvingHi 25 1 1 (Gen.smallerEdge2OpEdgeDistDyadic.getD (j + 26) (0, 0)) (Gen.smallerEdge2OpEdgeDistDyadic.getD (j + 27) (0, 0)) = true) := by
  decide +kernel

/-- the dyadic rationals are the values of the bit patterns: `(2^52 + mantissa)·2^(exponent − 1075) = num / 2^exp` -/
theorem table_dyadic_matches_bits : ∀ k, k < 30 →
    F64.sgnF (Gen.smallerEdge2OpEdgeDistBits.getD k 0) = 0 ∧ 1 ≤ F64.expF (Gen.smallerEdge2OpEdgeDistBits.getD k 0) ∧
    F64.expF (Gen.smallerEdge2OpEdgeDistBits.getD k 0) < 1075 ∧
    (2 ^ 52 + F64.manF (Gen.smallerEdge2OpEdgeDistBits.getD k 0)) * 2 ^ (Gen.smallerEdge2OpEdgeDistDyadic.getD k (0, 0)).2 =
      (Gen.smallerEdge2OpEdgeDistDyadic.getD k (0, 0)).1 * 2 ^ (1075 - F64.expF (Gen.smallerEdge2OpEdgeDistBits.getD k 0)) := by
  decide +kernel

/-- the unrolled binary search returns a depth whose limit exceeds `r` and whose successor's limit does not; with
    `table_decreasing`: the deepest depth whose limit still exceeds `r` -/
theorem best_starting_depth_spec {α : Type} (lt : α → α → Bool) (T : Nat → α) (r : α) :
    Gen.bestStartingDepthTree lt T r ≤ 29 ∧
    (lt r (T 0) = true → lt r (T (Gen.bestStartingDepthTree lt T r)) = true) ∧
    (Gen.bestStartingDepthTree lt T r = 29 ∨ lt r (T (Gen.bestStartingDepthTree lt T r + 1)) = false) :=
  SearchTree.bestStartingDepthTree_spec lt T r

/-- the guard: refused exactly when `has_best_starting_depth` is false (in particular for NaN) -/
theorem best_starting_depth_guard {α : Type} [Num α] (r : α) :
    (bestStartingDepth r = none ↔ hasBestStartingDepth r = false) := by
  have h0 : Gen.bestStartingDepthGuardIdx = Gen.hasBestStartingDepthIdx := by decide
  unfold bestStartingDepth hasBestStartingDepth
  rw [h0]
  cases Num.lt r (table (α := α) Gen.hasBestStartingDepthIdx) <;> simp

/-- NaN is refused at `Float` -/
example : bestStartingDepth (F.ofBitsNat 0x7FF8000000000000 : Float) = none := by decide +kernel

/-- depth 0: the constant `π/2 − transition latitude`, whatever the position and the radius -/
theorem c2v_depth0 {α : Type} [Num α] (dbg : Bool) (lon lat radius : α) :
    largestC2V dbg 0 lon lat = some ((Num.halfPi : α) - Num.transitionLat) ∧
    largestC2VWithRadius dbg 0 lon lat radius = some ((Num.halfPi : α) - Num.transitionLat) := by
  constructor <;> simp [largestC2V, largestC2VWithRadius]

/-! ## the envelopes over the reals: region choice, what the `_with_radius` variants bound, and what they do not -/

open Hpx.C2VReal in
/-- **`c2v_region_choice`** (ℝ, release profile): which envelope `largest_center_to_vertex_distance` uses: depth 0 gives
    `π/2 − TRANSITION_LATITUDE`; depth > 29 panics; polar caps: `slope_npc·|π/4 − lon % (π/2)| + intercept_npc`;
    `LAT_OF_SQUARE_CELL ≤ |lat| < TRANSITION_LATITUDE`: the line in `|lat|`; below: the parabola in `lat²` -/
theorem c2v_region_choice (depth : Nat) (lon lat : ℝ) :
    C2V.largestC2V false depth lon lat =
      if depth = 0 then some (Real.pi / 2 - tl) else if 29 < depth then none
      else some (c2v (C2V.Csts.new depth) lon lat) := Hpx.C2VReal.c2v_region_choice depth lon lat

open Hpx.C2VReal in
/-- the signs of the constants of every depth, over ℝ: the polar slope is `≥ 0`, the parabola opens downwards, the two
    equatorial envelopes agree at `LAT_OF_SQUARE_CELL`, and — contrary to what the code's comments assume — **the upper
    equatorial line DEcreases with latitude** (`slope_eqr < 0` at every depth) -/
theorem c2v_constant_signs (d : Nat) :
    0 ≤ (C2V.Csts.new d : C2V.Csts ℝ).slopeNpc ∧ (C2V.Csts.new d : C2V.Csts ℝ).coeffX2Eqr < 0 ∧
    (C2V.Csts.new d : C2V.Csts ℝ).slopeEqr < 0 ∧
    topEnv (C2V.Csts.new d) lsc = botEnv (C2V.Csts.new d) lsc :=
  ⟨new_slopeNpc_nonneg d, new_coeffX2Eqr_neg d, new_slopeEqr_neg d, new_continuous_at_lsc d⟩

open Hpx.C2VReal in
/-- **`c2v_with_radius_is_sup`**, as the code intends it: IF `slope_npc ≥ 0`, `slope_eqr ≥ 0`, `coeff_x2_eqr ≤ 0` then the
    value with radius dominates the pointwise envelope at every position of the latitude band (equatorial regions) / of
    the folded-longitude band (polar caps).  (The middle hypothesis is false for the actual constants: next theorems.) -/
theorem c2v_with_radius_is_sup (c : C2V.Csts ℝ) (h1 : 0 ≤ c.slopeNpc) (h2 : 0 ≤ c.slopeEqr) (h3 : c.coeffX2Eqr ≤ 0)
    (hcont : topEnv c lsc = botEnv c lsc) (lon lat r lon' lat' : ℝ) (hband : |(|lat'| - |lat|)| ≤ r) :
    (|lat| + r < tl → c2v c lon' lat' ≤ c2vR c lon lat r) ∧
    (tl ≤ |lat| + r → tl ≤ |lat'| → fold lon' ≤ fold lon + r → fold lon' ≤ Real.pi / 4 →
      c2v c lon' lat' ≤ c2vR c lon lat r) := Hpx.C2VReal.c2v_with_radius_is_sup c h1 h2 h3 hcont lon lat r lon' lat' hband

open Hpx.C2VReal in
/-- what holds **unconditionally for the actual constants** (every depth 1..29): the value with radius dominates the
    pointwise envelope over the whole latitude band when the band reaches below `LAT_OF_SQUARE_CELL` and stays below the
    transition latitude, and over the folded-longitude band for polar positions -/
theorem c2v_with_radius_bounds (depth : Nat) (hd1 : 1 ≤ depth) (hd2 : depth ≤ 29) (lon lat r lon' lat' : ℝ) :
    (|(|lat'| - |lat|)| ≤ r → |lat| + r < tl → |lat| - r < lsc →
      ∃ v w, C2V.largestC2VWithRadius false depth lon lat r = some v ∧ C2V.largestC2V false depth lon' lat' = some w ∧ w ≤ v) ∧
    (tl ≤ |lat| + r → tl ≤ |lat'| → fold lon' ≤ fold lon + r → fold lon' ≤ Real.pi / 4 →
      ∃ v w, C2V.largestC2VWithRadius false depth lon lat r = some v ∧ C2V.largestC2V false depth lon' lat' = some w ∧ w ≤ v) :=
  ⟨fun hb hA hB => largestC2VWithRadius_upper_bound_eqr depth hd1 hd2 lon lat r lon' lat' hb hA hB,
   fun hA hp h1 h2 => largestC2VWithRadius_upper_bound_npc depth hd1 hd2 lon lat r lon' lat' hA hp h1 h2⟩

open Hpx.C2VReal in
/-- **not a bound of the pointwise envelope in the upper equatorial band** (every depth 1..29, every band lying entirely
    between `LAT_OF_SQUARE_CELL` and the transition latitude): the value with radius is strictly BELOW the value without
    radius at the very same position, because the line is evaluated at the top of the band and its slope is negative.
    (Whether it still bounds the TRUE centre-to-vertex distance there is geometry: measured by the oracle, no violation
    observed.) -/
theorem c2v_with_radius_below_pointwise (depth : Nat) (hd1 : 1 ≤ depth) (hd2 : depth ≤ 29) (lon lat r : ℝ)
    (hr : 0 < r) (hlo : lsc ≤ |lat| - r) (hhi : |lat| + r < tl) :
    ∃ v w, C2V.largestC2VWithRadius false depth lon lat r = some v ∧ C2V.largestC2V false depth lon lat = some w ∧ v < w :=
  largestC2VWithRadius_lt_at_centre' depth hd1 hd2 lon lat r hr hlo hhi

open Hpx.C2VReal in
/-- **finding F12 as a theorem** (every depth 1..29): in a polar cap the value with radius bounds a LONGITUDE band of
    half-width `r`, not the cone of angular radius `r`: the point `(π/2, π/3)` is at angular distance exactly `cexR ≈ 0.385`
    from `(π/4, π/3)`, in the same cap, and its pointwise envelope exceeds the value with radius `cexR` at `(π/4, π/3)` -/
theorem c2v_with_radius_not_a_cone_bound (depth : Nat) (hd1 : 1 ≤ depth) (hd2 : depth ≤ 29) :
    ∃ v w, C2V.largestC2VWithRadius false depth (Real.pi / 4 : ℝ) (Real.pi / 3) cexR = some v ∧
      C2V.largestC2V false depth (Real.pi / 2 : ℝ) (Real.pi / 3) = some w ∧ v < w :=
  largestC2VWithRadius_not_cone_bound' depth hd1 hd2

open Hpx.C2VReal in
/-- the multi-depth variant agrees with the scalar one depth by depth (half-open range `[from, to)`, depth 0 first) -/
theorem c2vs_with_radius_agree (f t : Nat) (lon lat r : ℝ) :
    C2V.largestC2VsWithRadius false f t lon lat r =
      (depthsOf f t).mapM fun d => C2V.largestC2VWithRadius false d lon lat r :=
  Hpx.C2VReal.c2vs_with_radius_agree f t lon lat r

/-! ## the geometric claim in the equatorial region, over the reals

`latOf y = arcsin(2y/3)`; for a cell with plane centre `(x, y)` and `δ = 1/nside`: `dN δ y`, `dS δ y` (north / south
vertex, same meridian) and `dE δ y` (east and west vertices, same parallel) are its true centre-to-vertex distances
(`true_c2v_eqr`). -/

section EquatorialEnvelope
open Hpx Hpx.Hash Hpx.C2V Hpx.C2VReal Hpx.Proj Hpx.Cover Hpx.CellReal Hpx.EnvelopeReal Real

/-- **`true_c2v_eqr`**: for a plane centre `(x, y)` with `|y| + δ ≤ 1` (the cell and its four vertices are in the equatorial
    region), `unproj` succeeds on the centre and on the four vertices `(x, y ± δ)`, `(x + δ, y)`, `(westX x δ, y)`, and the
    angular distances from the centre to them are exactly `dN δ y`, `dS δ y`, `dE δ y`, `dE δ y`. -/
theorem true_c2v_eqr (x y δ : ℝ) (hδ0 : 0 < δ) (hδ1 : δ ≤ 1) (hx0 : 0 ≤ x) (hx8 : x + δ ≤ 8) (hy : |y| + δ ≤ 1) :
    ∃ c pN pS pE pW : ℝ × ℝ,
      unproj (α := ℝ) x y = some c ∧ unproj (α := ℝ) x (y + δ) = some pN ∧ unproj (α := ℝ) x (y - δ) = some pS ∧
      unproj (α := ℝ) (x + δ) y = some pE ∧ unproj (α := ℝ) (westX x δ) y = some pW ∧
      c.2 = latOf y ∧
      adist c pN = dN δ y ∧ adist c pS = dS δ y ∧ adist c pE = dE δ y ∧ adist c pW = dE δ y :=
  Hpx.EnvelopeReal.true_c2v_eqr x y δ hδ0 hδ1 hx0 hx8 hy

/-- **`envelope_dominates_eqr`** (release profile, `1 ≤ depth ≤ 29`): at the latitude of a cell centre of plane ordinate `y`
    (vertices in the equatorial region), any longitude, `largest_center_to_vertex_distance` is at least the three true
    centre-to-vertex distances -/
theorem envelope_dominates_eqr (d : Nat) (hd1 : 1 ≤ d) (hd2 : d ≤ 29) (lon y : ℝ) (hy : |y| + 1 / 2 ^ d ≤ 1) :
    ∃ v, largestC2V false d lon (latOf y) = some v ∧
      dN (1 / 2 ^ d) y ≤ v ∧ dS (1 / 2 ^ d) y ≤ v ∧ dE (1 / 2 ^ d) y ≤ v :=
  exists_of_max_le (largestC2V_eq d hd1 hd2 _ _) (Hpx.EnvelopeReal.envelope_dominates_eqr d hd1 lon y hy)

/-- on the equator the envelope is `4/π·δ` while the true largest distance is `dE = π/4·δ`
    (`dN = dS = arcsin(2δ/3) ≤ dE`): the ratio is `16/π² ≈ 1.62` at every depth.
    (The doc comment of `largest_c2v_dist_in_eqr_bottom` says `d_max = pi/4 * 1/nside`; `ConstantsC2V::new` uses
    `FOUR_OVER_PI`.) -/
theorem envelope_equator_ratio (d : Nat) (lon : ℝ) :
    c2v (Csts.new d) lon (latOf 0) = 16 / π ^ 2 * dE (1 / 2 ^ d) 0 :=
  Hpx.EnvelopeReal.envelope_equator_ratio d lon

/-- **`envelope_dominates_every_equatorial_cell`** (ℝ, release profile, every depth `1 … 29`, every cell whose centre is strictly inside
    the equatorial band): `largest_center_to_vertex_distance(d, lon, lat)` evaluated at `(lon, lat) = center(d, hash)` is
    at least the angular distance from `center(d, hash)` to each of the four `vertices(d, hash)`. -/
theorem envelope_dominates_every_equatorial_cell (cfg : Cfg) (d hash b i j : ℕ) (hd1 : 1 ≤ d) (hd2 : d ≤ 29) (hh : hash < Layer.nHash d)
    (hdec : Layer.decodeHash cfg d hash = some ⟨b, i, j⟩) (hb : b < 12) (hi : i < 2 ^ d) (hj : j < 2 ^ d)
    (hband : |cellCy d b i j| < 1) :
    ∃ (c s e n w : ℝ × ℝ) (v : ℝ), center (α := ℝ) cfg d hash = some c ∧
      vertices (α := ℝ) cfg d hash = some [s, e, n, w] ∧ largestC2V false d c.1 c.2 = some v ∧
      adist c s ≤ v ∧ adist c e ≤ v ∧ adist c n ≤ v ∧ adist c w ≤ v :=
  Hpx.EnvelopeReal.largestC2V_dominates_cell cfg d hash b i j hd1 hd2 hh hdec hb hi hj hband

/-- `largest_center_to_vertex_distance_with_radius` (release, depth `1 … 29`, latitude band of the cone below `tl`) is at least
    the three true distances of the cells whose centre is not below the band -/
theorem with_radius_dominates_equatorial_band (d : Nat) (hd1 : 1 ≤ d) (hd2 : d ≤ 29) (lon lat r : ℝ)
    (hA : |lat| + r < tl) (y : ℝ) (hy : |y| + 1 / 2 ^ d ≤ 1) (hband : |lat| - r ≤ |latOf y|) :
    ∃ v, largestC2VWithRadius false d lon lat r = some v ∧
      dN (1 / 2 ^ d) y ≤ v ∧ dS (1 / 2 ^ d) y ≤ v ∧ dE (1 / 2 ^ d) y ≤ v :=
  exists_of_max_le (largestC2VWithRadius_eq d hd1 hd2 _ _ _) (c2vR_dominates_band d hd1 lon lat r hA y hy hband)

/-- `largest_center_to_vertex_distance` (release, depth `1 … 29`) at ANY position of the cell (plane ordinate `yp`), not only
    at its centre, is at least the three true distances of the cell -/
theorem envelope_dominates_anywhere_in_equatorial_cell (d : Nat) (hd1 : 1 ≤ d) (hd2 : d ≤ 29) (lon yp y : ℝ) (hy : |y| + 1 / 2 ^ d ≤ 1)
    (hp : |yp - y| ≤ 1 / 2 ^ d) (hp1 : |yp| < 1) :
    ∃ v, largestC2V false d lon (latOf yp) = some v ∧
      dN (1 / 2 ^ d) y ≤ v ∧ dS (1 / 2 ^ d) y ≤ v ∧ dE (1 / 2 ^ d) y ≤ v :=
  exists_of_max_le (largestC2V_eq d hd1 hd2 _ _) (c2v_dominates_in_cell d hd1 lon yp y hy hp hp1)

/-- **`f23_below_true_on_transition_ring`** (ℝ, release profile, every depth `1 … 29`, every valid cell `(b, i, j)` whose
    centre ordinate is `1`, i.e. whose centre is on the north transition latitude).  `center` returns a position `c` of
    latitude `tl`, `vertex … 2` the north vertex `n`, and there is an ordinate `y0 < 1` such that for every `yp ∈ (y0, 1)`
    the plane point `(x_c, yp)` — which is inside the cell: same abscissa as the centre, `|yp − 1| < 1/n` — un-projects to a
    position `p` of latitude `< tl` where `largest_center_to_vertex_distance(d, p)` is strictly smaller than the angular
    distance from `c` to `n`. -/
theorem f23_below_true_on_transition_ring (cfg : Cfg) (d hash b i j : ℕ) (hd1 : 1 ≤ d) (hd2 : d ≤ 29)
    (hh : hash < Layer.nHash d) (hdec : Layer.decodeHash cfg d hash = some ⟨b, i, j⟩) (hb : b < 12) (hi : i < 2 ^ d)
    (hj : j < 2 ^ d) (hring : cellCy d b i j = 1) :
    ∃ (c n : ℝ × ℝ) (y0 : ℝ), center (α := ℝ) cfg d hash = some c ∧ vertex (α := ℝ) cfg d hash 2 = some n ∧
      c.2 = tl ∧ y0 < 1 ∧
      ∀ yp, y0 < yp → yp < 1 →
        |yp - cellCy d b i j| < 1 / 2 ^ d ∧
        ∃ (p : ℝ × ℝ) (v : ℝ), unproj (α := ℝ) (norm8 (cellCx d b i j)) yp = some p ∧ |p.2| < tl ∧
          largestC2V false d p.1 p.2 = some v ∧ v < adist c n :=
  Hpx.EnvelopeReal.c2v_below_true_on_transition_ring cfg d hash b i j hd1 hd2 hh hdec hb hi hj hring


end EquatorialEnvelope


/-! ## the farthest point of an equatorial cell from its centre is a vertex; the envelope bounds every point of the cell -/

section EquatorialGeometry
open Hpx Hpx.Hash Hpx.C2V Hpx.C2VReal Hpx.Proj Hpx.Cover Hpx.CellReal Hpx.EnvelopeReal Hpx.TopoLift Hpx.CellExtent Real

/-- **`eqr_cell_extent`**.  Plane centre `(x, y)` with `0 ≤ x`, `x + δ ≤ 8` (as in `true_c2v_eqr`), `0 < δ ≤ 1`,
    `|y| + δ ≤ 1` (the closed diamond of half-diagonal `δ` is in the equatorial region).  For EVERY plane point `(x', y')`
    of the closed diamond `|x' − x| + |y' − y| ≤ δ` (abscissa reduced to `[0, 8)` by `norm8`, as `ensures_x_is_positive`
    does): `unproj` succeeds on the centre and on the point, and the angular distance between the two positions is at most
    the largest of the three centre-to-vertex distances `dN δ y`, `dS δ y`, `dE δ y` of `true_c2v_eqr`:
    **the farthest point of the cell from its centre is a vertex.** -/
theorem eqr_cell_extent (x y δ x' y' : ℝ) (hδ0 : 0 < δ) (hδ1 : δ ≤ 1) (hx0 : 0 ≤ x) (hx8 : x + δ ≤ 8)
    (hy : |y| + δ ≤ 1) (hin : |x' - x| + |y' - y| ≤ δ) :
    ∃ c p : ℝ × ℝ, unproj (α := ℝ) x y = some c ∧ unproj (α := ℝ) (norm8 x') y' = some p ∧
      c.2 = latOf y ∧ p.2 = latOf y' ∧
      adist c p ≤ max (dN δ y) (max (dS δ y) (dE δ y)) :=
  Hpx.CellExtent.eqr_cell_extent x y δ x' y' hδ0 hδ1 hx0 hx8 hy hin

/-- **`cell_extent_envelope`** (ℝ, release profile, every depth `1 … 29`, every cell `(b, i, j)` of the NESTED scheme whose
    centre is strictly inside the equatorial band).  `center(d, hash)` succeeds, and for every position `(lon, latOf yp)`
    of the cell (`|yp − cellCy| ≤ 1/n`, `|yp| < 1`) `largest_center_to_vertex_distance(d, lon, latOf yp)` returns a value
    that bounds the angular distance from the centre to every position `(x'·π/4 + 2πm, latOf y')` of the closed diamond
    of the cell. -/
theorem cell_extent_envelope (cfg : Cfg) (d hash b i j : ℕ) (hd1 : 1 ≤ d) (hd2 : d ≤ 29) (hh : hash < Layer.nHash d)
    (hdec : Layer.decodeHash cfg d hash = some ⟨b, i, j⟩) (hb : b < 12) (hi : i < 2 ^ d) (hj : j < 2 ^ d)
    (hband : |cellCy d b i j| < 1) :
    ∃ c : ℝ × ℝ, center (α := ℝ) cfg d hash = some c ∧
      ∀ lon yp : ℝ, |yp - cellCy d b i j| ≤ 1 / 2 ^ d → |yp| < 1 →
        ∃ v, largestC2V false d lon (latOf yp) = some v ∧
          ∀ (x' y' : ℝ) (m : ℤ), InDiamond (cellCx d b i j) (cellCy d b i j) (1 / 2 ^ d) x' y' →
            adist c (x' * (π / 4) + 2 * π * m, latOf y') ≤ v :=
  Hpx.CellExtent.cell_extent_envelope cfg d hash b i j hd1 hd2 hh hdec hb hi hj hband

/-- **`cell_extent_envelope_radius`**: the same with `largest_center_to_vertex_distance_with_radius(d, lon, lat, r)`,
    depth `2 … 29`, any cone with `|lat| + r < tl` -/
theorem cell_extent_envelope_radius (cfg : Cfg) (d hash b i j : ℕ) (hd1 : 2 ≤ d) (hd2 : d ≤ 29)
    (hh : hash < Layer.nHash d) (hdec : Layer.decodeHash cfg d hash = some ⟨b, i, j⟩) (hb : b < 12) (hi : i < 2 ^ d)
    (hj : j < 2 ^ d) (hband : |cellCy d b i j| < 1) (lon lat r : ℝ) (hA : |lat| + r < tl) :
    ∃ (c : ℝ × ℝ) (v : ℝ), center (α := ℝ) cfg d hash = some c ∧ largestC2VWithRadius false d lon lat r = some v ∧
      ∀ (x' y' : ℝ) (m : ℤ), InDiamond (cellCx d b i j) (cellCy d b i j) (1 / 2 ^ d) x' y' →
        adist c (x' * (π / 4) + 2 * π * m, latOf y') ≤ v :=
  Hpx.CellExtent.cell_extent_envelope_radius cfg d hash b i j hd1 hd2 hh hdec hb hi hj hband lon lat r hA


end EquatorialGeometry


/-! ## the polar caps: closed forms of the true distances, what is proved at cell centres, and finding F24 as theorems

At cell centres the polar-cap envelope `slope_npc·|π/4 − lon mod π/2| + intercept_npc` is proved to dominate the distances to
the east and west vertices of EVERY polar-cap cell, to all four vertices on the central meridian of a base cell and in the
inner half of each base cell (depth ≥ 3); for the north/south vertices in the outer half (towards the seams) the bound is
tight to first order in 1/nside (exact at the transition corner: `c2v_exact_at_transition_corner`) and remains measured.
Off-centre the first claim of C16 is false (finding F24): theorems `f24_…`. -/

section PolarEnvelope
open Hpx Hpx.Hash Hpx.Proj Hpx.Cover Hpx.C2V Hpx.C2VReal Hpx.EnvelopeReal Hpx.CellReal Hpx.EnvelopePolar Real

/-- **`true_c2v_cap`**: facet `k < 4`, plane centre `(x, y)`, half-diagonal `δ > 0`, with `1 ≤ y − δ` (the centre is
    strictly inside the north cap; the south vertex may be on the transition latitude), `y + δ ≤ 2`,
    `|x − (2k+1)| + δ ≤ 2 − y` (the cell lies in the Collignon triangle of the facet), the centre on the near side of the
    pole threshold of the code and the north vertex either on the near side too or the pole itself (always true for
    cells: `2 − y` and `2 − y − δ` are multiples of `1/nside ≥ 2⁻²⁹ > EPS_POLE`).  With `t = x − (2k+1)`, `σ = 2 − y`: `unproj` succeeds on the centre and on the four
    vertices `(x, y ± δ)`, `(x ± δ, y)`; the centre is at longitude `capLon k t σ`, latitude `capLat y`; and the angular
    distances from the centre to the N, S, E, W vertices are `dNc δ t σ`, `dSc δ t σ`, `dEc δ σ`, `dEc δ σ`. -/
theorem true_c2v_cap (k : ℕ) (hk : k < 4) (x y δ : ℝ) (hδ0 : 0 < δ) (hS : 1 ≤ y - δ) (hN : y + δ ≤ 2)
    (ht : |x - (2 * k + 1)| + δ ≤ 2 - y) (hc : (Num.epsPole : ℝ) < 2 - y)
    (hp : (Num.epsPole : ℝ) < 2 - y - δ ∨ y + δ = 2) :
    ∃ c pN pS pE pW : ℝ × ℝ,
      unproj (α := ℝ) x y = some c ∧ unproj (α := ℝ) x (y + δ) = some pN ∧ unproj (α := ℝ) x (y - δ) = some pS ∧
      unproj (α := ℝ) (x + δ) y = some pE ∧ unproj (α := ℝ) (x - δ) y = some pW ∧
      c = (capLon k (x - (2 * k + 1)) (2 - y), capLat y) ∧
      adist c pN = dNc δ (x - (2 * k + 1)) (2 - y) ∧ adist c pS = dSc δ (x - (2 * k + 1)) (2 - y) ∧
      adist c pE = dEc δ (2 - y) ∧ adist c pW = dEc δ (2 - y) :=
  Hpx.EnvelopePolar.true_c2v_cap k hk x y δ hδ0 hS hN ht hc hp

/-- **`f24_below_true_next_to_north_pole`** (ℝ, release profile, every depth `2 … 29`, every north base cell `b < 4`, the
    two cells `{i, j} = {nside − 1, nside − 2}` next to the pole cell).  `center` returns `c`, `vertex … 2` the north vertex
    `n`; for `0 ≤ τ < r0` (`0 < r0 ≤ 1/nside`) the plane point `(2b + 1 + (i − j)·τ, y_c)` — on the segment from the vertex of
    the cell lying on the central meridian of the base cell (`τ = 0`: the E vertex if `i < j`, the W vertex if `i > j`)
    towards the centre (`τ = 1/nside`), hence in the closed diamond of the cell — un-projects to a position `p` of the north
    cap where `largest_center_to_vertex_distance(d, p)` is STRICTLY SMALLER than the angular distance from `c` to `n`. -/
theorem f24_below_true_next_to_north_pole (cfg : Cfg) (d hash b i j : ℕ) (hd1 : 2 ≤ d) (hd2 : d ≤ 29)
    (hh : hash < Layer.nHash d) (hdec : Layer.decodeHash cfg d hash = some ⟨b, i, j⟩) (hb : b < 4)
    (hi : i < 2 ^ d) (hj : j < 2 ^ d) (hsum : i + j + 3 = 2 * 2 ^ d) :
    ∃ (c n : ℝ × ℝ) (r0 : ℝ), center (α := ℝ) cfg d hash = some c ∧ vertex (α := ℝ) cfg d hash 2 = some n ∧
      0 < r0 ∧ r0 ≤ 1 / 2 ^ d ∧
      ∀ τ, 0 ≤ τ → τ < r0 →
        InDiamond (norm8 (cellCx d b i j)) (cellCy d b i j) (1 / 2 ^ d)
          (2 * (b : ℝ) + 1 + ((i : ℝ) - j) * τ) (cellCy d b i j) ∧
        ∃ (p : ℝ × ℝ) (v : ℝ), unproj (α := ℝ) (2 * (b : ℝ) + 1 + ((i : ℝ) - j) * τ) (cellCy d b i j) = some p ∧
          tl ≤ |p.2| ∧ largestC2V false d p.1 p.2 = some v ∧ v < adist c n :=
  Hpx.EnvelopePolar.c2v_below_true_next_to_north_pole cfg d hash b i j hd1 hd2 hh hdec hb hi hj hsum

/-- **`f24_below_true_next_to_south_pole`** (ℝ, release profile, every depth `2 … 29`, every south base cell `k + 8`, the two
    cells `{i, j} = {0, 1}` next to the south-pole cell `(0, 0)`).  `center` returns `c`, `vertex … 0` the south vertex `s`;
    for `0 ≤ τ < r0` the plane point `(2k + 1 + (i − j)·τ, y_c)` of the cell (`τ = 0`: its vertex on the central meridian of the
    base cell) un-projects to a position `p` of the south cap where `largest_center_to_vertex_distance(d, p)` is
    STRICTLY SMALLER than the angular distance from `c` to `s`. -/
theorem f24_below_true_next_to_south_pole (cfg : Cfg) (d hash k i j : ℕ) (hd1 : 2 ≤ d) (hd2 : d ≤ 29)
    (hh : hash < Layer.nHash d) (hdec : Layer.decodeHash cfg d hash = some ⟨k + 8, i, j⟩) (hk : k < 4)
    (hsum : i + j = 1) :
    ∃ (c s : ℝ × ℝ) (r0 : ℝ), center (α := ℝ) cfg d hash = some c ∧ vertex (α := ℝ) cfg d hash 0 = some s ∧
      0 < r0 ∧ r0 ≤ 1 / 2 ^ d ∧
      ∀ τ, 0 ≤ τ → τ < r0 →
        InDiamond (norm8 (cellCx d (k + 8) i j)) (cellCy d (k + 8) i j) (1 / 2 ^ d)
          (2 * (k : ℝ) + 1 + ((i : ℝ) - j) * τ) (cellCy d (k + 8) i j) ∧
        ∃ (p : ℝ × ℝ) (v : ℝ), unproj (α := ℝ) (2 * (k : ℝ) + 1 + ((i : ℝ) - j) * τ) (cellCy d (k + 8) i j) = some p ∧
          tl ≤ |p.2| ∧ largestC2V false d p.1 p.2 = some v ∧ v < adist c s :=
  Hpx.EnvelopePolar.c2v_below_true_next_to_south_pole cfg d hash k i j hd1 hd2 hh hdec hk hsum

/-- **`f24_below_true_at_east_vertex`**: for the cells `(i, j) = (nside − 2, nside − 1)` of the north base cells, the position returned by `vertex … 1` (east vertex, on the
    central meridian `lon = (2b+1)·π/4` of the base cell) gets the value `intercept_npc`, strictly smaller than the angular
    distance from `center` to `vertex … 2` -/
theorem f24_below_true_at_east_vertex (cfg : Cfg) (d hash b i j : ℕ) (hd1 : 2 ≤ d) (hd2 : d ≤ 29)
    (hh : hash < Layer.nHash d) (hdec : Layer.decodeHash cfg d hash = some ⟨b, i, j⟩) (hb : b < 4)
    (hi : i + 2 = 2 ^ d) (hj : j + 1 = 2 ^ d) :
    ∃ (c n e : ℝ × ℝ) (v : ℝ), center (α := ℝ) cfg d hash = some c ∧ vertex (α := ℝ) cfg d hash 2 = some n ∧
      vertex (α := ℝ) cfg d hash 1 = some e ∧ largestC2V false d e.1 e.2 = some v ∧ v < adist c n :=
  Hpx.EnvelopePolar.c2v_below_true_at_east_vertex cfg d hash b i j hd1 hd2 hh hdec hb hi hj

/-- **the envelope is exact at the transition-ring corner cell**: `largest_center_to_vertex_distance` at the centre of the
    cell `(nside − 1, 0)` of a north base cell equals the angular distance from that centre to the north vertex -/
theorem c2v_exact_at_transition_corner (cfg : Cfg) (d hash b i : ℕ) (hd1 : 1 ≤ d) (hd2 : d ≤ 29)
    (hh : hash < Layer.nHash d) (hdec : Layer.decodeHash cfg d hash = some ⟨b, i, 0⟩) (hb : b < 4)
    (hi : i + 1 = 2 ^ d) :
    ∃ c n : ℝ × ℝ, center (α := ℝ) cfg d hash = some c ∧ vertex (α := ℝ) cfg d hash 2 = some n ∧ c.2 = tl ∧
      largestC2V false d c.1 c.2 = some (adist c n) :=
  Hpx.EnvelopePolar.c2v_exact_at_transition_corner cfg d hash b i hd1 hd2 hh hdec hb hi

/-- **`f24_below_true_on_transition_corner_polar_side`** (ℝ, release profile, every depth `1 … 29`, north base cells, the
    cell `(i, j) = (nside − 1, 0)`).  For every plane point `(xp, yp)` of the closed diamond of the cell that lies in the
    polar cap (`1 < yp`), east of the central meridian of the base cell (`2b + 1 ≤ xp`) and whose ratio
    `(xp − (2b+1))/(2 − yp)` is smaller than the ratio `1 − 1/nside` of the centre, the position `p = unproj (xp, yp)` is in
    the polar cap and `largest_center_to_vertex_distance(d, p)` is STRICTLY SMALLER than the angular distance from
    `center` to the north vertex. -/
theorem f24_below_true_on_transition_corner_polar_side (cfg : Cfg) (d hash b i : ℕ) (hd1 : 1 ≤ d) (hd2 : d ≤ 29)
    (hh : hash < Layer.nHash d) (hdec : Layer.decodeHash cfg d hash = some ⟨b, i, 0⟩) (hb : b < 4)
    (hi : i + 1 = 2 ^ d) :
    ∃ c n : ℝ × ℝ, center (α := ℝ) cfg d hash = some c ∧ vertex (α := ℝ) cfg d hash 2 = some n ∧
      ∀ xp yp : ℝ, 1 < yp → InDiamond (norm8 (cellCx d b i 0)) (cellCy d b i 0) (1 / 2 ^ d) xp yp →
        2 * (b : ℝ) + 1 ≤ xp → xp - (2 * (b : ℝ) + 1) < (1 - 1 / 2 ^ d) * (2 - yp) →
        ∃ (p : ℝ × ℝ) (v : ℝ), unproj (α := ℝ) xp yp = some p ∧ tl ≤ |p.2| ∧
          largestC2V false d p.1 p.2 = some v ∧ v < adist c n :=
  Hpx.EnvelopePolar.c2v_below_true_on_transition_corner_polar_side cfg d hash b i hd1 hd2 hh hdec hb hi

/-- **`polar_envelope_dominates_at_centres_inner`** (ℝ, release profile, every depth `3 … 29`, north base cells `b < 4`, every
    cell whose centre is strictly inside the cap, `nside ≤ i + j`, and in the inner half of the base cell:
    `2·|i − j| ≤ 2·nside − 2 − i − j`, written `3i + 2 ≤ 2·nside + j` and `3j + 2 ≤ 2·nside + i`).
    `largest_center_to_vertex_distance` evaluated at `center(d, hash)` is at least the angular distance from the centre to
    each of the four `vertices(d, hash)`. -/
theorem polar_envelope_dominates_at_centres_inner (cfg : Cfg) (d hash b i j : ℕ) (hd1 : 3 ≤ d) (hd2 : d ≤ 29)
    (hh : hash < Layer.nHash d) (hdec : Layer.decodeHash cfg d hash = some ⟨b, i, j⟩) (hb : b < 4)
    (hi : i < 2 ^ d) (hj : j < 2 ^ d) (hcap : 2 ^ d ≤ i + j)
    (hin1 : 3 * i + 2 ≤ 2 * 2 ^ d + j) (hin2 : 3 * j + 2 ≤ 2 * 2 ^ d + i) :
    ∃ (c s e n w : ℝ × ℝ) (v : ℝ), center (α := ℝ) cfg d hash = some c ∧
      vertices (α := ℝ) cfg d hash = some [s, e, n, w] ∧ largestC2V false d c.1 c.2 = some v ∧
      adist c s ≤ v ∧ adist c e ≤ v ∧ adist c n ≤ v ∧ adist c w ≤ v :=
  Hpx.EnvelopePolar.polar_envelope_dominates_at_centres_inner cfg d hash b i j hd1 hd2 hh hdec hb hi hj hcap hin1 hin2

/-- **`polar_envelope_dominates_at_centres_inner_south`** (ℝ, release profile, every depth `3 … 29`, south base cells `k + 8`,
    every cell whose centre is strictly inside the south cap, `i + j + 2 ≤ nside`, and in the inner half of the base cell:
    `2·|i − j| ≤ i + j`, written `i ≤ 3j` and `j ≤ 3i`): the value at `center(d, hash)` is at least the angular distance
    from the centre to each of the four `vertices(d, hash)`. -/
theorem polar_envelope_dominates_at_centres_inner_south (cfg : Cfg) (d hash k i j : ℕ) (hd1 : 3 ≤ d) (hd2 : d ≤ 29)
    (hh : hash < Layer.nHash d) (hdec : Layer.decodeHash cfg d hash = some ⟨k + 8, i, j⟩) (hk : k < 4)
    (hi : i < 2 ^ d) (hj : j < 2 ^ d) (hcap : i + j + 2 ≤ 2 ^ d) (hin1 : i ≤ 3 * j) (hin2 : j ≤ 3 * i) :
    ∃ (c s e n w : ℝ × ℝ) (v : ℝ), center (α := ℝ) cfg d hash = some c ∧
      vertices (α := ℝ) cfg d hash = some [s, e, n, w] ∧ largestC2V false d c.1 c.2 = some v ∧
      adist c s ≤ v ∧ adist c e ≤ v ∧ adist c n ≤ v ∧ adist c w ≤ v :=
  Hpx.EnvelopePolar.polar_envelope_dominates_at_centres_inner_south cfg d hash k i j hd1 hd2 hh hdec hk hi hj hcap hin1 hin2


/-- **`polar_envelope_dominates_at_centres_partial`** (ℝ, release profile, every depth `1 … 29`, every valid cell of a
    north base cell `b < 4` whose centre is strictly inside the cap: `nside ≤ i + j`).  `center` and `vertices` succeed,
    `largest_center_to_vertex_distance(d, lon, lat)` evaluated at `(lon, lat) = center(d, hash)` returns a value `v` which
    is at least the angular distance from the centre to the E and W vertices and, for the cells of the central meridian
    of the base cell (`i = j`, the pole cell `i = j = nside − 1` included), also to the S and N vertices.
    NOT here: S and N vertices of the cells `i ≠ j` (inner half, depth `≥ 3`: `polar_envelope_dominates_at_centres_inner`;
    outer half: not proved); the south cap is `EnvelopePolar.polar_envelope_dominates_at_centres_partial_south`. -/
theorem polar_envelope_dominates_at_centres_partial (cfg : Cfg) (d hash b i j : ℕ) (hd1 : 1 ≤ d) (hd2 : d ≤ 29)
    (hh : hash < Layer.nHash d) (hdec : Layer.decodeHash cfg d hash = some ⟨b, i, j⟩) (hb : b < 4)
    (hi : i < 2 ^ d) (hj : j < 2 ^ d) (hcap : 2 ^ d ≤ i + j) :
    ∃ (c s e n w : ℝ × ℝ) (v : ℝ), center (α := ℝ) cfg d hash = some c ∧
      vertices (α := ℝ) cfg d hash = some [s, e, n, w] ∧ largestC2V false d c.1 c.2 = some v ∧
      adist c e ≤ v ∧ adist c w ≤ v ∧ (i = j → adist c s ≤ v ∧ adist c n ≤ v) :=
  Hpx.EnvelopePolar.polar_envelope_dominates_at_centres_partial cfg d hash b i j hd1 hd2 hh hdec hb hi hj hcap


end PolarEnvelope


/-! ## the helpers never exceed twice a true centre-to-vertex distance of the depth (`Mtrue d = π/4 · 2^-d`: the cell centred on the
equator of base cell 4) - every depth, every position, both profiles; a negative radius is outside this (counter-example) -/

section HelperIsTight
open Hpx Hpx.Hash Hpx.Proj Hpx.Cover Hpx.C2V Hpx.C2VReal Hpx.EnvelopeReal Hpx.EnvelopePolar Hpx.CellReal Hpx.TopoLift Hpx.CellExtent Hpx.Bmoc Hpx.Sph Hpx.EConeEq Hpx.Tightness Real

/-- **`envelope_le_twice_true_all`** (ℝ, both profiles, NO hypothesis on the position): whenever
    `largest_center_to_vertex_distance(d, lon, lat)` returns a value `v` (every depth `0 … 29`; every real `lon`, negative
    ones included, every real `lat`), `v ≤ 2·Mtrue d`: twice the true centre-to-vertex distance `π/4·2^-d` of the cells of
    depth `d` centred on the equator. -/
theorem envelope_le_twice_true_all (dbg : Bool) (d : ℕ) (lon lat v : ℝ)
    (h : largestC2V dbg d lon lat = some v) : v ≤ 2 * Mtrue d :=
  Hpx.Tightness.envelope_le_twice_true_all dbg d lon lat v h

/-- **`envelope_with_radius_le_twice_true_all`** (ℝ, both profiles): the same for
    `largest_center_to_vertex_distance_with_radius`, every position, every radius `r ≥ 0` -/
theorem envelope_with_radius_le_twice_true_all (dbg : Bool) (d : ℕ) (lon lat r v : ℝ) (hr : 0 ≤ r)
    (h : largestC2VWithRadius dbg d lon lat r = some v) : v ≤ 2 * Mtrue d :=
  Hpx.Tightness.envelope_with_radius_le_twice_true_all dbg d lon lat r v hr h

/-- **the hypothesis `0 ≤ r` is necessary**: at every depth `1 … 29` there is a NEGATIVE radius for which
    `largest_center_to_vertex_distance_with_radius(d, 0, 1/2, r)` exceeds `2·Mtrue d` (the decreasing line of the upper
    equatorial region is extrapolated below `lsc`) -/
theorem with_radius_negative_unbounded (d : ℕ) (hd1 : 1 ≤ d) (hd2 : d ≤ 29) :
    ∃ r v : ℝ, r < 0 ∧ largestC2VWithRadius false d 0 (1 / 2) r = some v ∧ 2 * Mtrue d < v :=
  Hpx.Tightness.with_radius_negative_unbounded d hd1 hd2

/-- **`mtrue_is_true_c2v`**: at every depth `0 … 29` the cell number `eqCell d` is a cell of the NESTED scheme whose centre is
    on the equator, and the angular distances from `center` to its four `vertices` (S, E, N, W) are at most `Mtrue d`, with
    equality for the east and west vertices: `Mtrue d` is the largest true centre-to-vertex distance of that cell. -/
theorem mtrue_is_true_c2v (cfg : Cfg) (d : ℕ) (hd : d ≤ 29) :
    eqCell d < Layer.nHash d ∧
    ∃ c s e n w : ℝ × ℝ, center (α := ℝ) cfg d (eqCell d) = some c ∧
      vertices (α := ℝ) cfg d (eqCell d) = some [s, e, n, w] ∧ c.2 = 0 ∧
      adist c e = Mtrue d ∧ adist c w = Mtrue d ∧ adist c s ≤ Mtrue d ∧ adist c n ≤ Mtrue d :=
  Hpx.Tightness.Mtrue_is_true_c2v cfg d hd


end HelperIsTight

end Hpx.C16
