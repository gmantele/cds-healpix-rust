import HpxVerif.Model.Topo
import HpxVerif.Lemmas.TopoGen
import HpxVerif.Lemmas.TopoComplete
import HpxVerif.Lemmas.TopoLiftClauses

set_option autoImplicit false   -- an unknown identifier in a statement is an error, never a new variable

/-!
# C04 — neighbours are exactly the geometrically adjacent cells, correctly labelled

Specification (independent of the code's tables): a cell `(d0h, i, j)` of a grid of side `n` has centre
`(X, Y) = centerXY` in units of `1/n` in the HEALPix plane, and four vertices `S E N W = (X, Y−1) (X+1, Y) (X, Y+1)
(X−1, Y)`.  Plane points are identified when they are the same point of the sphere (`vkey`): in the equatorial belt
`|Y| ≤ n` by `X mod 8n`; in a polar cap by facet and offset, the right edge of facet `q` being glued to the left edge
of facet `q+1`; `|Y| = 2n` is the pole.  Two cells *touch* iff they share a vertex key.

Proved for every input: the twelve base cells glue consistently (`base_neighbours_symmetric`: if the seam table sends
`(b, dir)` to `b'` then `direction_from_neighbour` names the way back and the rule stored for `(b', way back)` returns to
`b`, all 12 × 8 entries; `base_direction_tables_consistent`: the crate's two direction tables agree); a cell number
`≥ 12·4^d` is rejected by `neighbours` and by `neighbour` (`neighbour_rejects`: the repaired behaviour of finding F20).
Test (kernel evaluation, labelled as a test): for `n = 1, 2` the neighbour lists are *exactly* the touching cells, with the
labelling of the property (ordinal: the two vertices of that side; cardinal: that vertex only).
For every grid size `1 ≤ n ≤ 2^32` (section `EveryGridSize`, on parts `(d0h, i, j)`): `neighbour_from_parts` never leaves the
grid, a distinct valid cell is a neighbour iff it touches, with that labelling; 8 neighbours, or 7 exactly at the 24 special
cells, 6 at `n = 1`.  The same on cell numbers for `neighbour` and `neighbours`, every depth `≤ 29`, both z-order builds, the
border path and the bit-level fast path (section `OnCellNumbers`).
-/

namespace Hpx.C04
open Hpx Hpx.Topo MW

/-! ## specification vocabulary -/

/-- canonical key of the plane point `(x, y)` seen from a cell of base cell `d0h` -/
def vkey (n : Int) (d0h : Nat) (x y : Int) : Int × Int × Int × Int :=
  if y.natAbs ≤ n.toNat then (0, x % (8 * n), y, 0)
  else if y.natAbs = (2 * n).toNat then (2, (if y < 0 then -1 else 1), 0, 0)
  else
    let q : Int := (d0h % 4 : Nat)
    let u0 := (x - (2 * q + 1) * n) % (8 * n)
    let u := if u0 > 4 * n then u0 - 8 * n else u0
    let w := 2 * n - y.natAbs
    if u = w then (1, (q + 1) % 4, -w, y) else (1, q, u, y)

/-- vertex keys `[S, E, N, W]` -/
def vertexKeys (d : Nat) (p : HashParts) : List (Int × Int × Int × Int) :=
  let n : Int := Layer.nside d
  let (x, y) := Layer.centerXY d p
  [vkey n p.d0h x (y - 1), vkey n p.d0h (x + 1) y, vkey n p.d0h x (y + 1), vkey n p.d0h (x - 1) y]

/-- indices (S=0, E=1, N=2, W=3) of the vertices of `p` that are also vertices of `q` -/
def sharedVertices (d : Nat) (p q : HashParts) : List Nat :=
  let kp := vertexKeys d p
  let kq := vertexKeys d q
  (List.range 4).filter fun k => kq.contains (kp.getD k (9, 0, 0, 0))

def expectedShared : MW → List Nat
  | S => [0] | E => [1] | N => [2] | W => [3] | SE => [0, 1] | SW => [0, 3] | NE => [1, 2] | NW => [2, 3] | C => []

def allParts (d : Nat) : List HashParts :=
  (List.range 12).flatMap fun b => (List.range (Layer.nside d)).flatMap fun i =>
    (List.range (Layer.nside d)).map fun j => { d0h := b, i := i, j := j }

def dirs8 : List MW := [S, SE, E, SW, NE, W, NW, N]

/-- the neighbour relation of the model at depth `d` is exactly "touching", with the right labels -/
def exactAt (d : Nat) : Bool :=
  (allParts d).all fun p =>
    let nb := dirs8.filterMap fun w => (neighbourParts (Layer.nside d) p w).map fun q => (w, q)
    -- labelled
    nb.all (fun (w, q) => sharedVertices d p q == expectedShared w && q != p)
    -- complete: every other touching cell is listed
    && (allParts d).all (fun q => q == p || (sharedVertices d p q).isEmpty || nb.any (·.2 == q))

/-- "following the seam `(b, w)` and coming back with the direction named by `direction_from_neighbour` returns to
    `b`" (true when `b` has no neighbour in direction `w`) -/
def symAt (b : Nat) (w : MW) : Bool :=
  (seamRule b w).all fun r =>
    decide (r.1 < 12) &&
      ((directionFromNeighbour b w).bind fun w' => seamRule r.1 w').any fun r' => r'.1 == b

/-- base level: the twelve base cells glue consistently (all 12 × 8 entries of the seam tables) -/
theorem base_neighbours_symmetric : ∀ b, b < 12 → ∀ w ∈ dirs8, symAt b w = true := by decide

/-- every base cell has exactly 6 base-cell neighbours (the depth-0 count of the property) -/
theorem base_neighbour_count : ∀ b, b < 12 → (dirs8.filter fun w => (seamRule b w).isSome).length = 6 := by decide

/-- the two direction tables agree on the corner cells (ordinal directions) -/
def dirTablesOk : Bool :=
  (List.range 12).all fun b => dirs8.all fun w =>
    match directionFromNeighbour b w with
    | none => true
    | some w' => !w.isOrdinal || edgeCellDirectionFromNeighbour b w w == some w'

theorem base_direction_tables_consistent : dirTablesOk = true := by decide

theorem neighbours_rejects (cfg : Cfg) (d h : Nat) (inc : Bool) (hh : h ≥ Layer.nHash d) :
    neighbours cfg d h inc = none := by
  simp [neighbours, hh]

/-- `neighbour(h, dir)` rejects an out-of-range cell number too (repaired behaviour of finding F20) -/
theorem neighbour_rejects (cfg : Cfg) (d h : Nat) (dir : MW) (hh : h ≥ Layer.nHash d) :
    neighbour cfg d h dir = none := by
  simp [neighbour, hh]

/-- **test** (kernel evaluation on the model, depths 0 and 1): exact adjacency with labels -/
theorem exact_small_depths_test : exactAt 0 = true ∧ exactAt 1 = true := by
  decide +kernel

/-! ## the model's tables are the tables of the source (regenerated on every run) -/

/-- the seam rules of the model (`ncp_/eqr_/spc_neighbour` of `nested/mod.rs`, through `neighbour_from_shifted_coos`)
    are, entry by entry, what the translator tabulates from the source text on this run -/
theorem seam_rules_from_source : ∀ b, b < 12 → ∀ w : MW, w ≠ .C →
    seamRule b w = TopoGen.decodeSeam ((TopoGen.lk2 Gen.seamRules b w.index).bind id) := TopoGen.seam_rules

/-- ... and the base cell they reach is `lib::neighbour(base_cell, direction)` (the crate's two tables agree) -/
theorem seam_rules_agree_with_base_table : ∀ b, b < 12 → ∀ w : MW, w ≠ .C →
    (seamRule b w).map (·.1) = (TopoGen.lk2 Gen.baseNeighbour b w.index).bind id := TopoGen.seam_rules_base

/-- `MainWind`: index, `opposite`, `offset_se/sw`, `from_offsets`, `is_cardinal/ordinal` as in `compass_point.rs` -/
theorem compass_from_source :
    (∀ w : MW, (TopoGen.lk Gen.mwOpposite w.index).bind MW.ofIndex = some w.opposite) ∧
    (∀ w : MW, TopoGen.lk Gen.mwOffsetSe w.index = some w.offsetSe ∧ TopoGen.lk Gen.mwOffsetSw w.index = some w.offsetSw) ∧
    (∀ w : MW, TopoGen.lk Gen.mwIsCardinal w.index = some w.isCardinal ∧ TopoGen.lk Gen.mwIsOrdinal w.index = some w.isOrdinal) ∧
    (∀ se sw : Fin 3, MW.ofOffsets ((se.val : Int) - 1) ((sw.val : Int) - 1) =
      (TopoGen.lk Gen.mwFromOffsets (3 * sw.val + se.val)).bind MW.ofIndex) :=
  ⟨TopoGen.mw_opposite, TopoGen.mw_offsets, TopoGen.mw_kinds, TopoGen.mw_from_offsets⟩

/-! ## for EVERY grid size `1 ≤ n ≤ 2^32` (in particular every depth): neighbours = the touching cells, correctly labelled

Vocabulary of `Lemmas/TopoSpec.lean` (written from the geometry, independent of the code's seam tables, executable):
`Valid n p` (`d0h < 12`, `i, j < n`), `vertex n p v` (the four corners of the cell in the HEALPix plane scaled by `n`),
`key` (identification of plane points that are the same point of the sphere: `x mod 8n` in the belt, the right end of a
polar-cap segment glued to the left end of the next facet, `|y| = 2n` a single pole), `shared n p q` (the vertices of
`p`, in order S E N W, that are also vertices of `q`), `Touch n p q` (they share at least one), `edgeOf dir` (the two
vertices of a side / the one vertex of a corner / all four for `C`), `dirs8`; of `Lemmas/TopoCount.lean`: `count`, `Missing`,
`Special`, `specialCells` (the 24 cells at the 8 three-cell points). -/

section EveryGridSize
open Hpx Hpx.Topo Hpx.TopoSpec Hpx.TopoNeigh MW

/-- **C04, `neighbourParts_valid`**: a returned neighbour is a cell of the grid -/
theorem neighbourParts_valid (n : Nat) (p q : HashParts) (dir : MW) (hn : 1 ≤ n) (hn2 : n ≤ 4294967296)
    (hp : Valid n p) (h : neighbourParts n p dir = some q) : Valid n q :=
  Hpx.TopoNeigh.neighbourParts_valid n p q dir hn hn2 hp h

theorem neighbourParts_none_iff (n : Nat) (p : HashParts) (dir : MW) (hp : Valid n p) :
    neighbourParts n p dir = none ↔ Missing n p dir :=
  Hpx.TopoNeigh.neighbourParts_none_iff n p dir hp

theorem neighbours_count (n : Nat) (p : HashParts) (hn : 2 ≤ n) (hp : Valid n p) :
    count n p = if Special n p then 7 else 8 :=
  Hpx.TopoNeigh.neighbours_count n p hn hp

theorem neighbours_count_one (p : HashParts) (hp : Valid 1 p) : count 1 p = 6 :=
  Hpx.TopoNeigh.neighbours_count_one p hp

/-- the centre of the specification is `Layer.centerXY` (which reduces the abscissa to `[0, 8n)`) -/
theorem spec_center_is_centerXY (d : Nat) (p : HashParts) (hb : p.d0h < 12) :
    Layer.centerXY d p =
      ((if (center (Layer.nside d) p).1 < 0 then (center (Layer.nside d) p).1 + 8 * (Layer.nside d : Int)
        else (center (Layer.nside d) p).1), (center (Layer.nside d) p).2) :=
  Hpx.TopoNeigh.centerXY_eq d p hb

/-- the four vertices of a cell are four different points of the sphere (so "`p` and `q` share exactly the vertices
    `shared n p q`" counts points of the sphere).  Holds for every `n ≥ 1`. -/
theorem vertex_keys_distinct (n : Nat) (p : HashParts) (v w : MW) (hn : 1 ≤ n) (hp : Valid n p) (hv : v ∈ cardinals)
    (hw : w ∈ cardinals) (e : TopoSpec.vkey n p v = TopoSpec.vkey n p w) : v = w :=
  Hpx.TopoNeigh.vkey_injective n p v w hn hp hv hw e

/-- **C04, `neighbour_labelled`**: the cell returned for direction `dir` shares with `p` exactly the vertices of the
    side `dir` of `p` (two vertices, `dir` ordinal), exactly the corner `dir` of `p` (one vertex, `dir` cardinal); for
    `dir = C` it is `p` itself (four vertices).  Holds for every `n ≥ 1`, including `n = 1` (depth 0). -/
theorem neighbour_labelled (n : Nat) (p q : HashParts) (dir : MW) (hn : 1 ≤ n) (hn2 : n ≤ 4294967296)
    (hp : Valid n p) (h : neighbourParts n p dir = some q) : shared n p q = edgeOf dir :=
  Hpx.TopoNeigh.neighbour_labelled n p q dir hn hn2 hp h

/-- **C04, `neighbours_distinct`**: two different directions (the centre included) never give the same cell; in
    particular the (up to 8) neighbours are pairwise distinct.  Holds for every `n ≥ 1`. -/
theorem neighbours_distinct (n : Nat) (p q : HashParts) (d1 d2 : MW) (hn : 1 ≤ n) (hn2 : n ≤ 4294967296)
    (hp : Valid n p) (h1 : neighbourParts n p d1 = some q) (h2 : neighbourParts n p d2 = some q) : d1 = d2 :=
  Hpx.TopoNeigh.neighbours_distinct n p q d1 d2 hn hn2 hp h1 h2

/-- a neighbour (direction other than `C`) is never the cell itself.  Holds for every `n ≥ 1`. -/
theorem neighbour_ne_self (n : Nat) (p q : HashParts) (dir : MW) (hn : 1 ≤ n) (hn2 : n ≤ 4294967296)
    (hp : Valid n p) (hdir : dir ≠ C) (h : neighbourParts n p dir = some q) : q ≠ p :=
  Hpx.TopoNeigh.neighbour_ne_self n p q dir hn hn2 hp hdir h

/-- **C04, `neighbours_complete`**: every cell `q ≠ p` of the grid that has a vertex in common with `p` (as points of
    the sphere) is the neighbour of `p` in one of the eight directions.  Holds for every `n ≥ 1`. -/
theorem neighbours_complete (n : Nat) (p q : HashParts) (hn : 1 ≤ n) (hn2 : n ≤ 4294967296) (hp : Valid n p)
    (hq : Valid n q) (hne : q ≠ p) (ht : Touch n p q) : ∃ dir ∈ dirs8, neighbourParts n p dir = some q :=
  Hpx.TopoNeigh.neighbours_complete n p q hn hn2 hp hq hne ht

/-- **C04, exact adjacency**: for two distinct cells of the grid, "`q` is a neighbour of `p` in one of the eight
    directions" is exactly "`p` and `q` have a vertex in common on the sphere".  Holds for every `n ≥ 1`. -/
theorem neighbours_exact (n : Nat) (p q : HashParts) (hn : 1 ≤ n) (hn2 : n ≤ 4294967296) (hp : Valid n p)
    (hq : Valid n q) (hne : q ≠ p) : (∃ dir ∈ dirs8, neighbourParts n p dir = some q) ↔ Touch n p q :=
  Hpx.TopoNeigh.neighbours_exact n p q hn hn2 hp hq hne

/-- **C04, `neighbourParts_symmetric`**: if `q` is the neighbour of `p` in a direction other than `C`, then `p` is the
    neighbour of `q` in one of the eight directions.  Holds for every `n ≥ 1`. -/
theorem neighbours_symmetric (n : Nat) (p q : HashParts) (dir : MW) (hn : 1 ≤ n) (hn2 : n ≤ 4294967296)
    (hp : Valid n p) (hdir : dir ≠ C) (h : neighbourParts n p dir = some q) :
    ∃ dir' ∈ dirs8, neighbourParts n q dir' = some p :=
  Hpx.TopoNeigh.neighbourParts_symmetric n p q dir hn hn2 hp hdir h

theorem specialCells_length (n : Nat) : (specialCells n).length = 24 :=
  Hpx.TopoNeigh.specialCells_length n

theorem special_iff_mem (n : Nat) (p : HashParts) (hn : 1 ≤ n) (hp : Valid n p) :
    Special n p ↔ p ∈ specialCells n :=
  Hpx.TopoNeigh.special_iff_mem n p hn hp


end EveryGridSize

/-! ## on cell NUMBERS, every depth `≤ 29`, both z-order builds, debug assertions on or off: the public functions

`partsOf d h` / `numberOf d q` convert between a cell number and its parts (`decode_hash_spec`: that is what `decode_hash`
computes; `h = d0h·4^d + interleave i j`); `nbList d hash inc` is the list, in `MainWind` index order, of
`(dir, number of the parts-level neighbour)` for the directions that have one. -/

section OnCellNumbers
open Hpx Hpx.Topo Hpx.TopoSpec Hpx.TopoNeigh Hpx.TopoLift MW

/-- `decode_hash` on a cell number of the depth, any build -/
theorem decode_hash_spec (cfg : Cfg) (d : Nat) (hd : d ≤ 29) (h : Nat) (hh : h < 12 * 4 ^ d) :
    Layer.decodeHash cfg d h = some (partsOf d h) :=
  Hpx.TopoLift.decodeHash_spec cfg d hd h hh

/-- **C04 on cell numbers, `neighbour_spec`**: on a cell number of the depth `Layer::neighbour` does not panic (in
    particular the `debug_assert!(i < nside && j < nside)` of `build_hash` never fires) and returns the number of the
    parts-level neighbour.  Every depth `≤ 29`, both z-order builds, debug assertions on or off. -/
theorem neighbour_spec (cfg : Cfg) (d : Nat) (hd : d ≤ 29) (hash : Nat) (hh : hash < 12 * 4 ^ d) (dir : MW) :
    Topo.neighbour cfg d hash dir = some ((neighbourParts (2 ^ d) (partsOf d hash) dir).map (numberOf d)) :=
  Hpx.TopoLift.neighbour_spec cfg d hd hash hh dir

/-- **C04, `inner_bits_correct`**: for a cell that is not on the border of its base cell, the masked-OR bit trick of
    `inner_cell_neighbours` equals the coordinate arithmetic (u32 wrap included), entry by entry -/
theorem inner_bits_correct (cfg : Cfg) (d : Nat) (hd : d ≤ 29) (b i j : Nat) (hb : b < 12)
    (hi0 : 0 < i) (hi1 : i + 1 < 2 ^ d) (hj0 : 0 < j) (hj1 : j + 1 < 2 ^ d) :
    innerCellNeighbours cfg d (num d b i j) =
      some [(S, num d b (i - 1) (j - 1)), (SE, num d b i (j - 1)), (E, num d b (i + 1) (j - 1)),
            (SW, num d b (i - 1) j), (NE, num d b (i + 1) j), (W, num d b (i - 1) (j + 1)),
            (NW, num d b i (j + 1)), (N, num d b (i + 1) (j + 1))] :=
  Hpx.TopoLift.inner_bits_correct cfg d hd b i j hb hi0 hi1 hj0 hj1

/-- **C04 on cell numbers, `neighbours_spec`**: on a cell number of the depth `Layer::neighbours` does not panic and
    returns, in `MainWind` index order (`S SE E SW C NE W NW N`), the entries `(dir, number of the parts-level neighbour)`
    for the directions in which there is a neighbour (`C` iff `include_center`).  Both the border path
    (`edge_cell_neighbours`) and the bit-level fast path (`inner_cell_neighbours`) give this.  Every depth `≤ 29`, both
    z-order builds, debug assertions on or off. -/
theorem neighbours_spec (cfg : Cfg) (d : Nat) (hd : d ≤ 29) (hash : Nat) (hh : hash < 12 * 4 ^ d) (inc : Bool) :
    Topo.neighbours cfg d hash inc = some (nbList d hash inc) :=
  Hpx.TopoLift.neighbours_spec cfg d hd hash hh inc

/-- **C04 on cell numbers, `neighbours_labelled_hash`**: the entry `(dir, h')` of the map returned by `neighbours` is a
    cell number of the depth whose cell shares with the cell `hash` exactly the vertices of the side (ordinal `dir`) /
    the corner (cardinal `dir`) of `hash` in direction `dir` (all four for `C`) -/
theorem neighbours_labelled_hash (cfg : Cfg) (d : Nat) (hd : d ≤ 29) (hash : Nat) (hh : hash < 12 * 4 ^ d) (inc : Bool)
    (l : List (MW × Nat)) (h : Topo.neighbours cfg d hash inc = some l) (dir : MW) (h' : Nat) (hm : (dir, h') ∈ l) :
    h' < 12 * 4 ^ d ∧ shared (2 ^ d) (partsOf d hash) (partsOf d h') = edgeOf dir :=
  Hpx.TopoLift.neighbours_labelled_hash cfg d hd hash hh inc l h dir h' hm

/-- **C04 on cell numbers, `neighbours_distinct_hash`**: the values of the map returned by `neighbours(hash, false)`
    are pairwise distinct, differ from `hash`, and are cell numbers of the depth -/
theorem neighbours_distinct_hash (cfg : Cfg) (d : Nat) (hd : d ≤ 29) (hash : Nat) (hh : hash < 12 * 4 ^ d)
    (l : List (MW × Nat)) (h : Topo.neighbours cfg d hash false = some l) :
    (l.map (·.2)).Nodup ∧ hash ∉ l.map (·.2) ∧ ∀ v ∈ l.map (·.2), v < 12 * 4 ^ d :=
  Hpx.TopoLift.neighbours_distinct_hash cfg d hd hash hh l h

/-- **C04 on cell numbers, `neighbours_count_hash`**: at depth `d ≥ 1` the map returned by `neighbours(hash, false)` has
    8 entries, or 7 exactly for the 24 special cells (`Special`: the two cells of each base cell at a point where only
    three cells meet; listed by `specialCells`); one more with the centre -/
theorem neighbours_count_hash (cfg : Cfg) (d : Nat) (hd1 : 1 ≤ d) (hd : d ≤ 29) (hash : Nat) (hh : hash < 12 * 4 ^ d)
    (inc : Bool) (l : List (MW × Nat)) (h : Topo.neighbours cfg d hash inc = some l) :
    l.length = (if Special (2 ^ d) (partsOf d hash) then 7 else 8) + (if inc = true then 1 else 0) ∧
    (Special (2 ^ d) (partsOf d hash) ↔ partsOf d hash ∈ specialCells (2 ^ d)) :=
  Hpx.TopoLift.neighbours_count_hash cfg d hd1 hd hash hh inc l h

/-- at depth 0 every cell has 6 neighbours -/
theorem neighbours_count_hash_zero (cfg : Cfg) (hash : Nat) (hh : hash < 12) (inc : Bool) (l : List (MW × Nat))
    (h : Topo.neighbours cfg 0 hash inc = some l) : l.length = 6 + (if inc = true then 1 else 0) :=
  Hpx.TopoLift.neighbours_count_hash_zero cfg hash hh inc l h

theorem specialHashes_length (d : Nat) : (specialHashes d).length = 24 :=
  Hpx.TopoLift.specialHashes_length d

/-- a cell number of the depth is special iff it is one of the 24 numbers `specialHashes d` -/
theorem special_hash_iff (d : Nat) (hd : d ≤ 29) (hash : Nat) (hh : hash < 12 * 4 ^ d) :
    Special (2 ^ d) (partsOf d hash) ↔ hash ∈ specialHashes d :=
  Hpx.TopoLift.special_hash_iff d hd hash hh

/-- **C04 on cell numbers, `neighbours_complete_hash`**: a cell number `h'` of the depth is a value of the map returned
    by `neighbours(hash, false)` iff `h' ≠ hash` and the two cells have a vertex in common on the sphere -/
theorem neighbours_complete_hash (cfg : Cfg) (d : Nat) (hd : d ≤ 29) (hash : Nat) (hh : hash < 12 * 4 ^ d)
    (l : List (MW × Nat)) (h : Topo.neighbours cfg d hash false = some l) (h' : Nat) (hh' : h' < 12 * 4 ^ d) :
    h' ∈ l.map (·.2) ↔ (h' ≠ hash ∧ Touch (2 ^ d) (partsOf d hash) (partsOf d h')) :=
  Hpx.TopoLift.neighbours_complete_hash cfg d hd hash hh l h h' hh'

/-- **C04 on cell numbers, `neighbours_symmetric_hash`**: if `h'` is a neighbour of `hash` then `hash` is a neighbour of
    `h'` -/
theorem neighbours_symmetric_hash (cfg : Cfg) (d : Nat) (hd : d ≤ 29) (hash : Nat) (hh : hash < 12 * 4 ^ d)
    (l : List (MW × Nat)) (h : Topo.neighbours cfg d hash false = some l) (h' : Nat) (hm : h' ∈ l.map (·.2)) :
    h' < 12 * 4 ^ d ∧ ∃ l', Topo.neighbours cfg d h' false = some l' ∧ hash ∈ l'.map (·.2) :=
  Hpx.TopoLift.neighbours_symmetric_hash cfg d hd hash hh l h h' hm

/-- **C04 on cell numbers, `neighbour_agrees`**: `neighbour(hash, dir)` is the entry `dir` of the map returned by
    `neighbours(hash, include_center)` (`none` when there is no such entry), for every direction other than `C`, and for
    `C` too when the centre is included -/
theorem neighbour_agrees (cfg : Cfg) (d : Nat) (hd : d ≤ 29) (hash : Nat) (hh : hash < 12 * 4 ^ d) (inc : Bool)
    (l : List (MW × Nat)) (h : Topo.neighbours cfg d hash inc = some l) (dir : MW) (hdir : dir ≠ C ∨ inc = true) :
    Topo.neighbour cfg d hash dir = some (l.lookup dir) :=
  Hpx.TopoLift.neighbour_agrees cfg d hd hash hh inc l h dir hdir

/-- **C04 on cell numbers, `ordinal_neighbours_exist`**: in the four ordinal directions `SE SW NE NW` a cell always
    has a neighbour: `neighbour` returns it, it is a cell number of the depth, and it is an entry of the map returned by
    `neighbours` (needed by the bilinear interpolation, which `unwrap`s these entries) -/
theorem ordinal_neighbours_exist (cfg : Cfg) (d : Nat) (hd : d ≤ 29) (hash : Nat) (hh : hash < 12 * 4 ^ d) (dir : MW)
    (ho : dir.isOrdinal = true) :
    ∃ h', Topo.neighbour cfg d hash dir = some (some h') ∧ h' < 12 * 4 ^ d ∧ h' ≠ hash ∧
      ∀ inc l, Topo.neighbours cfg d hash inc = some l → (dir, h') ∈ l ∧ l.find? (·.1 == dir) = some (dir, h') :=
  Hpx.TopoLift.ordinal_neighbours_exist cfg d hd hash hh dir ho


end OnCellNumbers

end Hpx.C04
