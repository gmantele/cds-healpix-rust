import HpxVerif.Lemmas.CoverLemmas
import HpxVerif.Props.C15
import HpxVerif.Lemmas.ConeReal
import HpxVerif.Props.C16
import HpxVerif.Lemmas.CellExtentCone
import HpxVerif.Lemmas.EConeEqInternal
import HpxVerif.Lemmas.TightnessAllLon
import HpxVerif.Lemmas.ConeBmocReturned

set_option autoImplicit false   -- an unknown identifier in a statement is an error, never a new variable

/-!
# C06 — cone coverage flags are truthful and the coverage is tight

Proved:
* `cone_allsky`: `r ≥ π` ⇒ exactly the 12 base cells flagged full (every numeric instance);
* `cone_emit_rule`: **for every classifier**, a cell of the descent's output flagged full was classified `full`
  (`shs < shs(r − D_δ)` in the cone instantiation; the comparison is strict in the crate: finding F15), so a full
  flag never comes from the "descend" branch;
* `cone_output_pack_fixpoint`: the entries returned by `to_bmoc_packing` are a fixed point of the compaction pass
  (C15's `pack_fixpoint`): no four full siblings remain mergeable.
* over ℝ (`full_sound`, `cone_scheme_full_inside_real`): a cell flagged full by the descent has every point strictly inside
  the cone, **given the envelope hypothesis H1** (points of a visited cell within the level's `D` of its centre).
Further down: H1 is discharged for the cones of the equatorial band and the strictly equatorial cells, every starting
depth; every reported cell has its centre within `r + 2·Mtrue depth` of the cone centre (any cone, no hypothesis); and on
the BMOC that `cone_coverage_approx` / `cone_coverage_approx_custom` return (both profiles) every entry flagged full,
parents created by the compaction included, is strictly inside the cone.  Labels used below: T1 = no miss on the BMOC of `cone_coverage_approx`
(C05), T2 = full flags truthful on it, T3 = both for `cone_coverage_approx_custom`, `delta_depth ≠ 0`.
What is NOT proved is H1 for the cells on the transition ring and in the polar caps (the geometric facts of C16).  Searched
by the oracle:
vertices + 8 points per side + centre of every full cell within the radius; centre of every cell within
`r + 2·(largest centre-to-vertex distance of its depth)`; findings F14, F15 (fixed in the crate); consequences of F12 in
the polar caps are known findings.
-/

namespace Hpx.C06
open Hpx Hpx.Cover Hpx.Bmoc

theorem cone_allsky {α : Type} [Num α] (cfg : Cfg) (depth : Nat) (hd : depth ≤ 29) (lon lat r : α)
    (hr : Num.ge r (Num.pi : α) = true) :
    ∃ cells, coneInternal cfg depth lon lat r = some cells ∧ cells.length = 12 ∧
      ∀ c ∈ cells, c.depth = 0 ∧ c.full = true ∧ c.hash < 12 := by
  refine ⟨(List.range 12).map fun h => { depth := 0, hash := h, full := true }, ?_, by simp, ?_⟩
  · unfold coneInternal; simp [hr]
  · intro c hc
    simp only [List.mem_map, List.mem_range] at hc
    obtain ⟨h, hh, rfl⟩ := hc
    exact ⟨rfl, rfl, hh⟩

theorem cone_emit_rule (target : Nat) (κ : Nat → Nat → Nat → Option Verdict)
    (fuel depth hash level : Nat) (out : List Cell) (h : coverRec target κ fuel depth hash level = some out)
    (c : Cell) (hc : c ∈ out) (hf : c.full = true) :
    ∃ l, κ c.depth c.hash l = some .full ∨ (c.depth = target ∧ κ c.depth c.hash l = some (.descend true)) :=
  coverRec_full_rule target κ fuel depth hash level out h c hc hf

theorem cone_output_pack_fixpoint (dm : Nat) (l : List Nat) : packPass dm (pack dm l) = pack dm l :=
  C15.pack_fixpoint dm l

/-- **over ℝ, full is sound**: the lower test succeeds only if every point within `D` of the cell centre is strictly
    within `r` of the cone centre -/
theorem full_sound (coneLon coneLat r D : ℝ) (c : ℝ × ℝ) (hrpi : r ≤ Real.pi) (hD : 0 ≤ D)
    (hfull : Num.lt (shs (α := ℝ) coneLon coneLat (Num.cos coneLat) c) (toShsMinMax r D).min = true)
    (q : ℝ × ℝ) (hq : adist c q ≤ D) : adist (coneLon, coneLat) q < r :=
  cone_full_sound coneLon coneLat r D c hrpi hD hfull q hq

/-- **over ℝ, full flags are truthful given the envelope hypothesis `H1`**: every point of a cell flagged full by the
    model's descent is strictly inside the cone -/
theorem cone_scheme_full_inside_real (cfg : Cfg) (lon lat r : ℝ) (hrpi : r ≤ Real.pi) (dists : List ℝ)
    (hD : ∀ D ∈ dists, 0 ≤ D) (inCell : Nat → Nat → ℝ × ℝ → Prop) (target ds : Nat)
    (H1 : ∀ d h c D q, ds ≤ d → Hash.center (α := ℝ) cfg d h = some c → dists[d - ds]? = some D → inCell d h q →
      adist c q ≤ D)
    (fuel root : Nat) (out : List Cell)
    (h : coverRec target (coneClassifier (α := ℝ) cfg lon lat (Num.cos lat) (dists.map (toShsMinMax r))) fuel ds root 0 = some out)
    (c : Cell) (hc : c ∈ out) (hf : c.full = true) (q : ℝ × ℝ) (hq : inCell c.depth c.hash q) :
    adist (lon, lat) q < r :=
  cone_scheme_full_inside cfg lon lat r hrpi dists hD inCell target ds H1 fuel root out h c hc hf q hq

/-- the table of limits that selects the starting depth is regular (each depth halves the limit, relative excess
    `≈ 0.05·2^-k`): the obligation of C16 about the constants of the source, required here because the start cells of this
    coverage are chosen with that table -/
theorem start_depth_table_regular :
    (∀ j, j < 24 →
      C16.dyHalvingLo (j + 2) 1 25 (Gen.smallerEdge2OpEdgeDistDyadic.getD (j + 2) (0, 0)) (Gen.smallerEdge2OpEdgeDistDyadic.getD (j + 3) (0, 0)) = true ∧
      C16.dyHalvingHi (j + 2) 1 10 (Gen.smallerEdge2OpEdgeDistDyadic.getD (j + 2) (0, 0)) (Gen.smallerEdge2OpEdgeDistDyadic.getD (j + 3) (0, 0)) = true) :=
  C16.table_halving.1


/-! ## H1 discharged in the equatorial region: full flags are truthful, no geometric hypothesis left (`ds ≥ 2`) -/

section EquatorialGeometry
open Hpx Hpx.Hash Hpx.C2V Hpx.C2VReal Hpx.Proj Hpx.Cover Hpx.CellReal Hpx.EnvelopeReal Hpx.TopoLift Hpx.CellExtent Real

/-- **`cone_full_inside_equatorial`** (ℝ, release profile; cone with `|lat| + r < tl`, starting depth `ds ≥ 2`, `dists` the list
    of radii the crate computes): every position of a strictly equatorial cell that the
    descent flags FULL is strictly inside the cone. -/
theorem cone_full_inside_equatorial (cfg : Cfg) (lon lat r : ℝ) (hA : |lat| + r < tl) (ds target : ℕ)
    (hds : 2 ≤ ds) (ht : target ≤ 29) (dists : List ℝ)
    (hdists : largestC2VsWithRadius false ds (target + 1) lon lat r = some dists) (fuel root : ℕ)
    (out : List Bmoc.Cell)
    (h : coverRec target (coneClassifier (α := ℝ) cfg lon lat (Num.cos lat) (dists.map (toShsMinMax r))) fuel ds root 0
      = some out)
    (c : Bmoc.Cell) (hc : c ∈ out) (hf : c.full = true) (q : ℝ × ℝ) (hq : InCellEq c.depth c.hash q) :
    adist (lon, lat) q < r :=
  Hpx.CellExtent.cone_full_inside_equatorial cfg lon lat r hA ds target hds ht dists hdists fuel root out h c hc hf q hq

/-- **`H1_equatorial`**: the envelope hypothesis `H1` of `Cover.cone_scheme_no_miss` / `cone_scheme_full_inside`, with
    `inCell := InCellEq` and `dists` the list computed by `largest_center_to_vertex_distances_with_radius(ds, target + 1,
    lon, lat, r)` (release profile), holds for every cone whose latitude band stays below the transition latitude
    (`|lat| + r < tl`), every starting depth `ds ≥ 2` and every target depth `≤ 29`: every position of a strictly
    equatorial cell of depth `d ∈ [ds, target]` is within `dists[d − ds]` of the position returned by `center`. -/
theorem h1_equatorial (cfg : Cfg) (lon lat r : ℝ) (hA : |lat| + r < tl) (ds target : ℕ) (hds : 2 ≤ ds)
    (ht : target ≤ 29) (dists : List ℝ)
    (hdists : largestC2VsWithRadius false ds (target + 1) lon lat r = some dists) :
    ∀ d h c D q, ds ≤ d → Hash.center (α := ℝ) cfg d h = some c → dists[d - ds]? = some D → InCellEq d h q →
      adist c q ≤ D :=
  Hpx.CellExtent.H1_equatorial cfg lon lat r hA ds target hds ht dists hdists


end EquatorialGeometry


/-! ## full flags are truthful in the equatorial region for EVERY starting depth (0 and 1 included) -/

section EquatorialEveryStart
open Hpx Hpx.Hash Hpx.C2V Hpx.C2VReal Hpx.Proj Hpx.Cover Hpx.CellReal Hpx.EnvelopeReal Hpx.TopoLift Hpx.CellExtent Hpx.EConeEq Hpx.Sph Hpx.Bmoc Real

/-- **`cone_full_inside_equatorial_gen`** (ℝ, release profile): `CellExtent.cone_full_inside_equatorial` for EVERY starting
    depth `ds ≤ target ≤ 29` -/
theorem cone_full_inside_equatorial_gen (cfg : Cfg) (lon lat r : ℝ) (hA : |lat| + r < tl) (ds target : ℕ)
    (hdt : ds ≤ target) (ht : target ≤ 29) (dists : List ℝ)
    (hdists : largestC2VsWithRadius false ds (target + 1) lon lat r = some dists) (fuel root : ℕ)
    (out : List Cell)
    (h : coverRec target (coneClassifier (α := ℝ) cfg lon lat (Num.cos lat) (dists.map (toShsMinMax r))) fuel ds root 0
      = some out)
    (c : Cell) (hc : c ∈ out) (hf : c.full = true) (q : ℝ × ℝ) (hq : InCellEq c.depth c.hash q) :
    adist (lon, lat) q < r :=
  Hpx.EConeEq.cone_full_inside_equatorial_gen cfg lon lat r hA ds target hdt ht dists hdists fuel root out h c hc hf q hq


end EquatorialEveryStart


/-! ## tightness: every reported cell has its centre within `r + 2·Mtrue(depth)` of the cone centre - EVERY cone, no geometric
hypothesis (the skip rule bounds the distance by `r + D`, and `D ≤ 2·Mtrue`: C16 `envelope_with_radius_le_twice_true_all`).
Not covered: full parents created by packing (they need "full ⇒ inside"), `delta_depth > 0`, and in the small-cone branch
with starting depth above the requested depth the bound is on the tested descendant, not on the reported ancestor. -/

section Tightness
open Hpx Hpx.Hash Hpx.Proj Hpx.Cover Hpx.C2V Hpx.C2VReal Hpx.EnvelopeReal Hpx.EnvelopePolar Hpx.CellReal Hpx.TopoLift Hpx.CellExtent Hpx.Bmoc Hpx.Sph Hpx.EConeEq Hpx.Tightness Real

/-- **`cone_tight_rec`** (ℝ, release profile).  Any cone `(lon, lat, r)` with `0 ≤ r` (no restriction on its position);
    start depth `ds ≤ target ≤ 29`; `dists` the list `largest_center_to_vertex_distances_with_radius(ds, target + 1, lon,
    lat, r)` of the crate.  Every cell `c` of the output of the descent from any start cell has a centre, which is within
    `min (r + D) π` of the cone centre, `D` the crate's radius of its depth — hence within `r + 2·Mtrue c.depth`:
    radius + twice the TRUE centre-to-vertex distance `π/4·2^-depth` of the cells of its depth centred on the equator. -/
theorem cone_tight_rec (cfg : Cfg) (lon lat r : ℝ) (hr : 0 ≤ r) (ds target : ℕ) (hdt : ds ≤ target) (ht : target ≤ 29)
    (dists : List ℝ) (hdists : largestC2VsWithRadius false ds (target + 1) lon lat r = some dists)
    (fuel root : ℕ) (out : List Cell)
    (h : coverRec target (coneClassifier (α := ℝ) cfg lon lat (Num.cos lat) (dists.map (toShsMinMax r))) fuel ds root 0
      = some out)
    (c : Cell) (hc : c ∈ out) :
    ∃ ctr, center (α := ℝ) cfg c.depth c.hash = some ctr ∧
      adist (lon, lat) ctr ≤ min (r + valR c.depth lon lat r) π ∧
      adist (lon, lat) ctr ≤ r + 2 * Mtrue c.depth :=
  Hpx.Tightness.cone_tight_rec cfg lon lat r hr ds target hdt ht dists hdists fuel root out h c hc

/-- **`cone_internal_tight`** (ℝ, both profiles: in the dev profile the helpers return the release values or panic): every cell `c` of the list that
    `cone_coverage_approx_internal(depth, lon, lat, r)` hands to the builder (`0 ≤ r`, any cone) satisfies
    * (all-sky `r ≥ π`, twelve base cells + recursion, start depth `ds < depth` + recursion, and small cone with
      `ds = depth`) its centre is within `r + 2·Mtrue c.depth` of the cone centre; or
    * (small cone, `ds = best_starting_depth(r) > depth`) `c` is the (partial) ancestor at `depth` of a cell `e` of depth `ds`,
      a neighbour of the cell containing the cone centre, whose centre is within `r + 2·Mtrue ds` of the cone centre. -/
theorem cone_internal_tight (cfg : Cfg) (depth : ℕ) (hd : depth ≤ 29) (lon lat r : ℝ)
    (hr : 0 ≤ r) (cells : List Cell) (h : coneInternal (α := ℝ) cfg depth lon lat r = some cells) (c : Cell)
    (hc : c ∈ cells) :
    (∃ ctr, center (α := ℝ) cfg c.depth c.hash = some ctr ∧ adist (lon, lat) ctr ≤ r + 2 * Mtrue c.depth) ∨
    (∃ ds e ctr, C2V.bestStartingDepth r = some ds ∧ depth < ds ∧ c.depth = depth ∧ c.full = false ∧
      c.hash = e >>> ((ds - depth) <<< 1) ∧ center (α := ℝ) cfg ds e = some ctr ∧
      adist (lon, lat) ctr ≤ r + 2 * Mtrue ds) := by
  rcases coneInternal_cases cfg depth lon lat r cells h with ⟨hge, rfl⟩ | hi
  · obtain ⟨a, ha, rfl⟩ := List.mem_map.mp hc
    obtain ⟨ctr, hctr⟩ := center_exists cfg 0 a (by omega) (by simpa using ha)
    have hge : π ≤ r := of_decide_eq_true hge
    exact Or.inl ⟨ctr, hctr, by linarith [adist_le_pi (lon, lat) ctr, Mtrue_pos 0]⟩
  · refine hi.split.tight (fun d ctr => adist (lon, lat) ctr ≤ r + 2 * Mtrue d) ?_ ?_ c hc
    · intro ds dists root o hds hdists ho c hco
      obtain ⟨ctr, hctr, _, hb⟩ := cone_tight_rec cfg lon lat r hr ds depth hds hd dists hdists _ root o ho c hco
      exact ⟨ctr, hctr, hb⟩
    · intro ds e _ hk
      unfold coneSmallTest at hk
      obtain ⟨ctr, hctr, hle⟩ := Option.map_eq_some_iff.mp hk
      have hv0 := valR_nonneg_of_radius ds lon lat r hr
      have hv2 := valR_le_twice ds lon lat r hr
      have hnear := small_keep_near lon lat r _ ctr (by linarith) hle
      exact ⟨ctr, hctr, by linarith⟩

/-- **`cone_coverage_approx`, on the returned BMOC** (ℝ, both profiles, any cone with `0 ≤ r`): every entry of the BMOC is
    either a FULL cell (possibly created by the compaction from four full cells: covered by the "full ⇒ inside" clause of
    C06), or a cell of the internal list, for which `cone_internal_tight` holds: its centre is within `r + 2·Mtrue depth` of
    the cone centre (or it is the ancestor of such a cell in the small-cone branch `ds > depth`). -/
theorem cone_coverage_approx_tight (cfg : Cfg) (depth : ℕ) (lon lat r : ℝ) (hr : 0 ≤ r) (b : BMOC)
    (h : coneCoverageApprox (α := ℝ) cfg depth lon lat r = some b) (e : ℕ) (he : e ∈ b.entries) :
    (decode e depth).full = true ∨
    (∃ ctr, center (α := ℝ) cfg (decode e depth).depth (decode e depth).hash = some ctr ∧
      adist (lon, lat) ctr ≤ r + 2 * Mtrue (decode e depth).depth) ∨
    (∃ ds e' ctr, C2V.bestStartingDepth r = some ds ∧ depth < ds ∧ (decode e depth).depth = depth ∧
      (decode e depth).hash = e' >>> ((ds - depth) <<< 1) ∧ center (α := ℝ) cfg ds e' = some ctr ∧
      adist (lon, lat) ctr ≤ r + 2 * Mtrue ds) := by
  obtain ⟨hd, cells, hcells, rfl⟩ := Hpx.Cover.coneCoverageApprox_unfold cfg depth lon lat r b h
  obtain ⟨hw, hrange⟩ := CoverAll.coneInternal_wf cfg depth lon lat r cells hcells
  rcases packed_entry_origin depth hd cells hw hrange e he with hf | hc
  · exact Or.inl hf
  · rcases cone_internal_tight cfg depth hd lon lat r hr cells hcells _ hc with h2 | ⟨ds, e', ctr, a1, a2, a3, _, a5, a6, a7⟩
    · exact Or.inr (Or.inl h2)
    · exact Or.inr (Or.inr ⟨ds, e', ctr, a1, a2, a3, a5, a6, a7⟩)


end Tightness


/-! ## full flags on the RETURNED BMOC, parents created by packing included (equatorial cones, both profiles, and the `custom` variant) -/

section OnTheReturnedBmoc
open Hpx Hpx.Hash Hpx.C2V Hpx.C2VReal Hpx.Proj Hpx.Cover Hpx.CellReal Hpx.EnvelopeReal Hpx.TopoLift Hpx.CellExtent Hpx.Bmoc Hpx.Tightness Hpx.EConeEq Hpx.ConeBmoc Real

/-- **full flags are truthful (T2), `cone_coverage_approx_full_inside_equatorial`** (ℝ, both profiles, every `depth ≤ 29`, `|lat| + r < tl`): every
    entry of the returned BMOC that is flagged FULL — a cell flagged by the descent or a parent created by the compaction
    of four full cells, at any number of levels — has every position (`InCellEq`) STRICTLY within `r` of the cone centre.
    (`cone_coverage_approx_good`: moreover such an entry is never centred on the transition latitude.) -/
theorem cone_coverage_approx_full_inside_equatorial (cfg : Cfg) (depth : ℕ) (lon lat r : ℝ)
    (hA : |lat| + r < tl) (b : BMOC) (h : coneCoverageApprox (α := ℝ) cfg depth lon lat r = some b)
    (e : ℕ) (he : e ∈ b.entries) (hf : (decode e depth).full = true) (q : ℝ × ℝ)
    (hq : InCellEq (decode e depth).depth (decode e depth).hash q) : adist (lon, lat) q < r :=
  Hpx.ConeBmoc.cone_coverage_approx_full_inside_equatorial cfg depth lon lat r hA b h e he hf q hq

/-- **T3, full flags of `cone_coverage_approx_custom`, `delta_depth ≠ 0`**: every entry of the returned BMOC flagged FULL
    has every position (`InCellEq`) strictly within `r` of the cone centre -/
theorem cone_coverage_approx_custom_full_inside_equatorial (cfg : Cfg) (depth deltaDepth : ℕ) (hdd : deltaDepth ≠ 0)
    (lon lat r : ℝ) (hA : |lat| + r < tl) (b : BMOC)
    (h : coneCoverageApproxCustom (α := ℝ) cfg depth deltaDepth lon lat r = some b)
    (e : ℕ) (he : e ∈ b.entries) (hf : (decode e depth).full = true) (q : ℝ × ℝ)
    (hq : InCellEq (decode e depth).depth (decode e depth).hash q) : adist (lon, lat) q < r :=
  Hpx.ConeBmoc.cone_coverage_approx_custom_full_inside_equatorial cfg depth deltaDepth hdd lon lat r hA b h e he hf q hq

/-- **T3, "full only if all the deepest cells under it were full"**: a FULL entry of the BMOC returned by
    `cone_coverage_approx_custom` (`delta_depth ≠ 0`) covers only cells of depth `deep = depth + delta_depth` that are covered
    by a FULL cell of the list of the descent at `deep` -/
theorem cone_coverage_approx_custom_full_only_if (cfg : Cfg) (depth deltaDepth : ℕ) (hdd : deltaDepth ≠ 0)
    (lon lat r : ℝ) (b : BMOC)
    (h : coneCoverageApproxCustom (α := ℝ) cfg depth deltaDepth lon lat r = some b)
    (e : ℕ) (he : e ∈ b.entries) (hf : (decode e depth).full = true) (x : ℕ)
    (hx : x / 4 ^ (depth + deltaDepth - (decode e depth).depth) = (decode e depth).hash) :
    ∃ cells, coneInternal (α := ℝ) cfg (depth + deltaDepth) lon lat r = some cells ∧
      ∃ c ∈ cells, c.full = true ∧ x / 4 ^ (depth + deltaDepth - c.depth) = c.hash :=
  Hpx.ConeBmoc.cone_coverage_approx_custom_full_only_if cfg depth deltaDepth hdd lon lat r b h e he hf x hx


end OnTheReturnedBmoc

end Hpx.C06
