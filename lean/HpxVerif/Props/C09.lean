import HpxVerif.Lemmas.BmocAnd
import HpxVerif.Lemmas.BmocEnc
import HpxVerif.Lemmas.CoverWF
import HpxVerif.Lemmas.BmocNot
import HpxVerif.Lemmas.BmocViews
import HpxVerif.Lemmas.BmocOrXor
import HpxVerif.Lemmas.CoverAllWF

set_option autoImplicit false   -- an unknown identifier in a statement is an error, never a new variable

/-!
# C09 — every BMOC handed to the user is well formed and its views agree

Proved here: the raw encoding is injective and order preserving (`Cell::new ∘ build_raw_value = id` for every
`depth ≤ depth_max ≤ 29`, `hash < 12·4^depth`; a cell lying before another one in z-order has the smaller raw value;
raw values fit in 64 bits), `and` preserves well-formedness, **`pack` preserves well-formedness and content**,
`to_bmoc_packing` of a well-formed in-range cell list is a well-formed BMOC with strictly increasing entries
(`packed_bmoc_wf`), **every BMOC returned by the cone coverage is well formed whatever the floating-point tests
answer** (`cone_coverage_wf`; `cone_coverage_base_start_wf` is the same statement under a hypothesis it does not use), and
**`BMOC::not` of a well-formed BMOC is a well-formed BMOC** (`bmoc_not_wf`).  **The views of a well-formed BMOC agree**
(for every BMOC with valid entries, `depth_max ≤ 29`):
`flat_iter_spec` (strictly increasing, exactly the non-absent deepest-level cells), `flat_iter_cell_spec` (same cells,
each with the raw entry that covers it and that entry's flag), `deep_size_eq_length`, `to_ranges_spec` (non-empty
ranges, sorted, pairwise disjoint **and non-adjacent**, union = flat set), `into_iter_decodes`, `views_in_range`.
**`or` and `xor` return well-formed BMOCs with valid entries for every pair of such operands** (`or_good`, `xor_good`),
like `not` and `and`: every BMOC reachable from well-formed ones through any history of operators is well formed.
-/

namespace Hpx.C09
open Hpx.Bmoc

theorem decode_encode (dm : Nat) (c : Cell) (hd : c.depth ≤ dm) (hdm : dm ≤ 29) (hh : c.hash < 12 * 4 ^ c.depth) :
    decode (encode dm c) dm = c := Hpx.Bmoc.decode_encode hd hdm hh

theorem raw_fits_u64 (dm : Nat) (c : Cell) (hd : c.depth ≤ dm) (hdm : dm ≤ 29) (hh : c.hash < 12 * 4 ^ c.depth) :
    encode dm c < 2 ^ 64 := by
  unfold encode; rw [buildRaw_eq]
  have := raw_fits hd hdm hh
  have e : (2:Nat) ^ (1 + 2 * (dm - c.depth)) = 2 * 2 ^ (2 * (dm - c.depth)) := by rw [Nat.pow_add]
  have hf : (if c.full then 1 else 0) ≤ 1 := by split <;> omega
  rw [e] at this ⊢
  have : (2 * c.hash + 1) * (2 * 2 ^ (2 * (dm - c.depth))) = 2 * ((2 * c.hash + 1) * 2 ^ (2 * (dm - c.depth))) := by ring
  omega

/-- raw `u64` order = z-order of the intervals, on non-overlapping cells -/
theorem raw_lt_of_before (dm : Nat) (c1 c2 : Cell) (h1 : c1.depth ≤ dm) (h2 : c2.depth ≤ dm)
    (h : hi dm c1 ≤ lo dm c2) : encode dm c1 < encode dm c2 := encode_lt h

/-- the entries produced from a well-formed cell list are strictly increasing -/
theorem wf_entries_increasing (dm : Nat) (l : List Cell) (h : WF dm l) :
    List.Pairwise (· < ·) (l.map (encode dm)) :=
  wf_encode_increasing dm l h

/-- `and` preserves well-formedness (reference depth = the larger `depth_max`) -/
theorem and_wf (D : Nat) (a b : List Cell) (ha : WF D a) (hb : WF D b) : WF D (andCells a b) :=
  (and_wf_inside D a b ha hb).1

example : decode (encode 29 ⟨29, 12 * 4 ^ 29 - 1, true⟩) 29 = ⟨29, 12 * 4 ^ 29 - 1, true⟩ := by decide +kernel

/-- **`pack` preserves well-formedness and content** of every list of valid entries (depth ≤ 29) -/
theorem pack_wf (dm : Nat) (hdm : dm ≤ 29) (l : List Nat) (hv : ∀ r ∈ l, ValidRaw dm r) (hw : WF dm (cellsOf dm l)) :
    WF dm (cellsOf dm (pack dm l)) ∧ (∀ r ∈ pack dm l, ValidRaw dm r) ∧
    ∀ x, stOf dm (cellsOf dm (pack dm l)) x = stOf dm (cellsOf dm l) x :=
  ⟨(Hpx.Bmoc.pack_sem dm hdm l hv).2.2 hw, (Hpx.Bmoc.pack_sem dm hdm l hv).2.1, (Hpx.Bmoc.pack_sem dm hdm l hv).1⟩

/-- **`to_bmoc_packing`**: the BMOC built from a well-formed, in-range cell list (what every coverage descent hands to
    the builder) has valid entries, sorted disjoint cells, strictly increasing raw values and the same content -/
theorem packed_bmoc_wf (dm : Nat) (hdm : dm ≤ 29) (cells : List Cell) (hw : WF dm cells)
    (hr : ∀ c ∈ cells, Hpx.Cover.InRange c) :
    (∀ r ∈ pack dm (cells.map (encode dm)), ValidRaw dm r) ∧ WF dm (cellsOf dm (pack dm (cells.map (encode dm)))) ∧
    (pack dm (cells.map (encode dm))).Pairwise (· < ·) ∧
    (∀ x, stOf dm (cellsOf dm (pack dm (cells.map (encode dm)))) x = stOf dm cells x) :=
  Hpx.Cover.packed_bmoc_wf dm hdm cells hw hr

/-- a BMOC returned by `cone_coverage_approx` has valid entries, sorted disjoint cells and strictly increasing raw values,
    whatever the floating-point tests answer; the hypothesis `hno` (no starting depth, or `r ≥ π`) is not used -/
theorem cone_coverage_base_start_wf {α : Type} [Num α] (cfg : Cfg) (depth : Nat) (lon lat r : α) (b : BMOC)
    (hno : Num.ge r (Num.pi : α) = true ∨ C2V.hasBestStartingDepth r = false)
    (h : Hpx.Cover.coneCoverageApprox cfg depth lon lat r = some b) :
    b.dmax = depth ∧ (∀ e ∈ b.entries, ValidRaw depth e) ∧ WF depth (cellsOf depth b.entries) ∧
    b.entries.Pairwise (· < ·) :=
  Hpx.CoverAll.cone_coverage_wf cfg depth lon lat r b h

/-- **`BMOC::not` hands out a well-formed BMOC**: for a BMOC of depth `≤ 29` with valid entries and sorted disjoint cells,
    the entries of `not` are valid, its cells are the cell list computed by `not` (sorted, disjoint, in range), and the raw
    entries are strictly increasing -/
theorem bmoc_not_wf (b : BMOC) (hdm : b.dmax ≤ 29) (hv : ∀ r ∈ b.entries, ValidRaw b.dmax r)
    (hw : WF b.dmax (cellsOf b.dmax b.entries)) :
    (BMOC.not b).dmax = b.dmax ∧ (∀ r ∈ (BMOC.not b).entries, ValidRaw b.dmax r) ∧
    cellsOf b.dmax (BMOC.not b).entries = notCells (cellsOf b.dmax b.entries) ∧
    WF b.dmax (cellsOf b.dmax (BMOC.not b).entries) ∧ (BMOC.not b).entries.Pairwise (· < ·) := by
  have hr : ∀ c ∈ cellsOf b.dmax b.entries, InR c := fun c hc => (inRange_of_validRaw hdm hv c hc).2
  obtain ⟨_, w1, r1⟩ := notCells_spec b.dmax hdm _ hw hr
  have hcells : b.cells = cellsOf b.dmax b.entries := rfl
  have hent : (BMOC.not b).entries = (notCells (cellsOf b.dmax b.entries)).map (encode b.dmax) := by
    unfold BMOC.not; rw [hcells]
  have hco := cellsOf_map_encode b.dmax hdm _ w1.depth_le r1
  refine ⟨rfl, ?_, by rw [hent, hco], by rw [hent, hco]; exact w1, ?_⟩
  · rw [hent]
    exact validRaw_map_encode w1.depth_le r1
  · rw [hent]
    exact wf_entries_increasing b.dmax _ w1

/-- `flat_iter` / `to_flat_array`: strictly increasing, and exactly the deepest-level cells that are not absent -/
theorem flat_iter_spec (b : BMOC) (hD : b.dmax ≤ 29) (hv : ∀ r ∈ b.entries, ValidRaw b.dmax r) (hw : WF b.dmax b.cells) :
    (flatIter b).Pairwise (· < ·) ∧ ∀ x, x ∈ flatIter b ↔ stOf b.dmax b.cells x ≠ .abs :=
  flatIter_spec b hD hv hw

/-- `flat_iter_cell`: the same cells as `flat_iter`, each reported with the raw entry covering it and the flag of
    that entry, which is the state of the cell -/
theorem flat_iter_cell_spec (b : BMOC) (hD : b.dmax ≤ 29) (hv : ∀ r ∈ b.entries, ValidRaw b.dmax r)
    (hw : WF b.dmax b.cells) :
    (flatIterCell b).map (·.2.1) = flatIter b ∧
    ∀ raw x f, (raw, x, f) ∈ flatIterCell b →
      raw ∈ b.entries ∧ f = (decode raw b.dmax).full ∧
      lo b.dmax (decode raw b.dmax) ≤ x ∧ x < hi b.dmax (decode raw b.dmax) ∧
      stOf b.dmax b.cells x = Tri.ofFlag f :=
  flatIterCell_spec b hD hv hw

theorem deep_size_eq_length (b : BMOC) (hD : b.dmax ≤ 29) (hv : ∀ r ∈ b.entries, ValidRaw b.dmax r) :
    deepSize b = (flatIter b).length := deepSize_eq_length b hD hv

/-- `to_ranges`: non-empty ranges, sorted, pairwise disjoint and non-adjacent, whose union is the flat set -/
theorem to_ranges_spec (b : BMOC) (hD : b.dmax ≤ 29) (hv : ∀ r ∈ b.entries, ValidRaw b.dmax r) (hw : WF b.dmax b.cells) :
    (∀ p ∈ toRanges b, p.1 < p.2) ∧
    (toRanges b).Pairwise (fun p q => p.2 < q.1) ∧
    (∀ x, (∃ p ∈ toRanges b, p.1 ≤ x ∧ x < p.2) ↔ x ∈ flatIter b) ∧
    (∀ x, (∃ p ∈ toRanges b, p.1 ≤ x ∧ x < p.2) ↔ stOf b.dmax b.cells x ≠ .abs) :=
  toRanges_spec b hD hv hw

/-- `into_iter`: decoding the entries gives cells of depth `≤ depth_max` with in-range numbers, and re-encoding them
    gives the entries back -/
theorem into_iter_decodes (b : BMOC) (hD : b.dmax ≤ 29) (hv : ∀ r ∈ b.entries, ValidRaw b.dmax r) :
    (∀ c ∈ b.cells, c.depth ≤ b.dmax ∧ c.hash < 12 * 4 ^ c.depth) ∧ b.cells.map (encode b.dmax) = b.entries :=
  into_iter b hD hv

/-- every number the views produce is a cell number of depth `depth_max` (no `u64` overflow in the shifts) -/
theorem views_in_range (b : BMOC) (hD : b.dmax ≤ 29) (hv : ∀ r ∈ b.entries, ValidRaw b.dmax r) :
    (∀ x ∈ flatIter b, x < 12 * 4 ^ b.dmax) ∧ (∀ p ∈ toRanges b, p.2 ≤ 12 * 4 ^ b.dmax) :=
  views_bound b hD hv

/-- a BMOC as handed to the user: `depth_max ≤ 29`, valid raw entries, well-formed cell list -/
def Good (A : BMOC) : Prop := A.dmax ≤ 29 ∧ (∀ r ∈ A.entries, ValidRaw A.dmax r) ∧ WF A.dmax A.cells

theorem or_good (A B : BMOC) (gA : Good A) (gB : Good B) : ∃ R, BMOC.or A B = some R ∧ Good R :=
  Hpx.CoverAll.or_good A B gA gB

theorem xor_good (A B : BMOC) (gA : Good A) (gB : Good B) : ∃ R, BMOC.xor A B = some R ∧ Good R :=
  Hpx.CoverAll.xor_good A B gA gB

/-! ## every coverage query returns a well-formed BMOC, for every input and every answer of the floating-point tests;
    closure under any history of operators

`CoverAll.Reach α cfg m`: `m` is obtained from outputs of `cone_coverage_approx(_custom)`, `elliptical_cone_coverage(_custom)`,
`polygon_coverage` (either mode) by any sequence of `not`, `and`, `or`, `xor`; `CoverAll.Good m`: `depth_max ≤ 29`, valid
raw entries, well-formed cell list. -/

section AllCoverages
open Hpx Hpx.Bmoc Hpx.Cover Hpx.CoverAll

/-- **`cone_coverage_approx`**: every returned BMOC is well formed — all-sky, base-cell start, starting depth with
    recursion, small-cone branch; every input, every numeric instance, every build -/
theorem cone_coverage_wf {α : Type} [Num α] (cfg : Cfg) (depth : Nat) (lon lat r : α) (b : BMOC)
    (h : coneCoverageApprox cfg depth lon lat r = some b) :
    b.dmax = depth ∧ (∀ e ∈ b.entries, ValidRaw depth e) ∧ WF depth (cellsOf depth b.entries) ∧
    b.entries.Pairwise (· < ·) :=
  Hpx.CoverAll.cone_coverage_wf cfg depth lon lat r b h

/-- **`cone_coverage_approx_custom`**: descent at `depth + delta_depth`, then `to_lower_depth` and nothing else
    (`delta_depth = 0`: `cone_coverage_approx`) -/
theorem cone_coverage_custom_wf {α : Type} [Num α] (cfg : Cfg) (depth deltaDepth : Nat) (lon lat r : α) (b : BMOC)
    (h : coneCoverageApproxCustom cfg depth deltaDepth lon lat r = some b) :
    b.dmax = depth ∧ (∀ e ∈ b.entries, ValidRaw depth e) ∧ WF depth (cellsOf depth b.entries) ∧
    b.entries.Pairwise (· < ·) :=
  Hpx.CoverAll.cone_coverage_custom_wf cfg depth deltaDepth lon lat r b h

/-- **`elliptical_cone_coverage(_custom)`** (including `delta_depth = 0`): every returned BMOC is well formed -/
theorem elliptical_cone_coverage_wf {α : Type} [Num α] (cfg : Cfg) (depth deltaDepth : Nat) (lon lat a b pa : α)
    (m : BMOC) (h : Sph.ellipticalConeCoverageCustom cfg depth deltaDepth lon lat a b pa = some m) :
    m.dmax = depth ∧ (∀ e ∈ m.entries, ValidRaw depth e) ∧ WF depth (cellsOf depth m.entries) ∧
    m.entries.Pairwise (· < ·) :=
  Hpx.CoverAll.elliptical_cone_coverage_wf cfg depth deltaDepth lon lat a b pa m h

/-- **`polygon_coverage(vertices, exact_solution)`, both modes** -/
theorem polygon_coverage_wf {α : Type} [Num α] (cfg : Cfg) (depth : Nat) (vertices : List (α × α)) (exact : Bool)
    (m : BMOC) (h : Sph.polygonCoverage cfg depth vertices exact = some m) :
    m.dmax = depth ∧ (∀ e ∈ m.entries, ValidRaw depth e) ∧ WF depth (cellsOf depth m.entries) ∧
    m.entries.Pairwise (· < ·) :=
  Hpx.CoverAll.polygon_coverage_wf cfg depth vertices exact m h

/-- **every BMOC reachable from the coverage queries through any history of `not`/`and`/`or`/`xor` is well formed** -/
theorem reachable_bmoc_good {α : Type} [Num α] (cfg : Cfg) (m : BMOC) (h : Reach α cfg m) : Good m :=
  Hpx.CoverAll.reach_good cfg m h

theorem reachable_or_xor_defined {α : Type} [Num α] (cfg : Cfg) (a b : BMOC) (ha : Reach α cfg a) (hb : Reach α cfg b) :
    (∃ m, BMOC.or a b = some m) ∧ ∃ m, BMOC.xor a b = some m :=
  Hpx.CoverAll.reach_or_xor_defined cfg a b ha hb


end AllCoverages

end Hpx.C09
