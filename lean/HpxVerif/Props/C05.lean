import HpxVerif.Lemmas.CoverLemmas
import HpxVerif.Lemmas.ConeReal
import HpxVerif.Props.C16
import HpxVerif.Lemmas.CellExtentCone
import HpxVerif.Lemmas.ConeBmocReturned

set_option autoImplicit false   -- an unknown identifier in a statement is an error, never a new variable

/-!
# C05 — cone coverage never misses a cell that the cone touches

What a proof can carry, and does (for **every classifier**, i.e. whatever the floating-point tests answer):
* `cover_rec_structure`: the descent returns a well-formed cell list inside the root cell with depths between the
  root's and the target's (children visited in z-order);
* `cover_rec_no_miss`: if the classifier never skips a cell containing a point of the region, every point of the region
  lying in a root cell lies in a cell of the output — the no-miss property of the recursion, relative to the
  classifier's soundness;
* `allsky_exact`: a radius `≥ π` yields the 12 base cells, unconditionally, for every numeric instance.
* over ℝ (`shs_is_haversine`, `skip_sound`, `cone_scheme_no_miss_real`): the compared quantity is the haversine of the
  angular distance, a skipped cell has no point within `r` of the cone centre provided its points are within the level's
  `D` of its centre, hence **the scheme misses nothing under the envelope hypothesis H1** (Mathlib's triangle inequality
  for angles).
Further down, H1 is discharged for the cones of the equatorial band (`|lat| + r` below the transition latitude) and the
strictly equatorial cells, and the statement is carried to the BMOC that `cone_coverage_approx` and
`cone_coverage_approx_custom` return (both profiles, compaction and `to_lower_depth` included).  Labels used below: T1 = no miss on the BMOC of
`cone_coverage_approx`, T2 = full flags truthful on it (C06), T3 = both for `cone_coverage_approx_custom`, `delta_depth ≠ 0`.
What is NOT proved (see DESIGN.md, C16): H1 for the cells on the transition ring and in the polar caps, i.e. that the
empirical envelopes `D_δ` bound the true centre-to-point distance of those cells, and that the start cells cover the cone.
These are *searched* by the witness oracle on every run
(2 000 / 12 000 cones; radii log-uniform 1e-9..π, within ±5 % of every table entry, > π/2; centres on seams and poles;
`delta_depth` 0..4); findings F4, F14, F15 (fixed in the crate) and the consequences of F12/F13 (polar caps; known
findings) belong here.  The whole pipeline is tied bit-exactly: `cone_coverage_approx(_custom)` entry by entry.
-/

namespace Hpx.C05
open Hpx Hpx.Cover Hpx.Bmoc

theorem cover_rec_structure (target : Nat) (κ : Nat → Nat → Nat → Option Verdict) (D : Nat) (hD : target ≤ D)
    (fuel depth hash level : Nat) (out : List Cell) (hd : depth ≤ target)
    (h : coverRec target κ fuel depth hash level = some out) :
    WF D out ∧ ∀ c ∈ out, lo D ⟨depth, hash, true⟩ ≤ lo D c ∧ hi D c ≤ hi D ⟨depth, hash, true⟩ ∧
      depth ≤ c.depth ∧ c.depth ≤ target :=
  coverRec_below target κ D hD fuel depth hash level out hd h

theorem cover_rec_no_miss {P : Type} (inCell : Nat → Nat → P → Prop) (R : P → Prop)
    (target : Nat) (κ : Nat → Nat → Nat → Option Verdict)
    (hcover : ∀ d h q, inCell d h q → inCell (d + 1) (h <<< 2) q ∨ inCell (d + 1) (h <<< 2 ||| 1) q ∨
      inCell (d + 1) (h <<< 2 ||| 2) q ∨ inCell (d + 1) (h <<< 2 ||| 3) q)
    (hskip : ∀ d h l, κ d h l = some .skip → ∀ q, inCell d h q → ¬ R q)
    (fuel depth hash level : Nat) (out : List Cell) (h : coverRec target κ fuel depth hash level = some out)
    (q : P) (hq : inCell depth hash q) (hR : R q) : ∃ c ∈ out, inCell c.depth c.hash q :=
  coverRec_no_miss inCell R target κ (fun d h q _ => hcover d h q) hskip fuel depth hash level out h q hq hR

/-- `r ≥ π`: the whole sky, whatever the centre (NaN centres included) -/
theorem allsky_exact {α : Type} [Num α] (cfg : Cfg) (depth : Nat) (lon lat r : α) (hr : Num.ge r (Num.pi : α) = true) :
    coneInternal cfg depth lon lat r = some ((List.range 12).map fun h => { depth := 0, hash := h, full := true }) := by
  unfold coneInternal; simp [hr]

/-- **over ℝ, the haversine**: the quantity the classifier compares is `sin²(d/2)` of the angular distance `d` between the
    cone centre and the cell centre (Mathlib's `InnerProductGeometry.angle` of the two unit vectors) -/
theorem shs_is_haversine (coneLon coneLat : ℝ) (p : ℝ × ℝ) :
    shs (α := ℝ) coneLon coneLat (Num.cos coneLat) p = Real.sin (adist (coneLon, coneLat) p / 2) ^ 2 :=
  shs_real coneLon coneLat p

/-- **over ℝ, skip is sound**: a cell is skipped only if no point within `D` of its centre is within `r` of the cone
    centre (`sin²(x/2)` monotone on `[0, π]`, cap at `π`, triangle inequality on the sphere) -/
theorem skip_sound (coneLon coneLat r D : ℝ) (c : ℝ × ℝ) (hr : 0 ≤ r) (hD : 0 ≤ D)
    (hskip : Num.le (shs (α := ℝ) coneLon coneLat (Num.cos coneLat) c) (toShsMinMax r D).max = false)
    (q : ℝ × ℝ) (hq : adist c q ≤ D) : r < adist (coneLon, coneLat) q :=
  cone_skip_sound coneLon coneLat r D c hr hD hskip q hq

/-- **over ℝ, the cone scheme misses nothing, given the envelope hypothesis `H1`** (every point of a visited cell is within
    the `D` of its recursion level of the cell centre — the geometric fact that C16 searches): every point of the cone lying
    in the start cell lies in a cell of the output of the model's descent with the model's classifier. -/
theorem cone_scheme_no_miss_real (cfg : Cfg) (lon lat r : ℝ) (hr : 0 ≤ r) (dists : List ℝ) (hD : ∀ D ∈ dists, 0 ≤ D)
    (inCell : Nat → Nat → ℝ × ℝ → Prop) (target ds : Nat)
    (hcover : ∀ d h q, d ≠ target → inCell d h q → inCell (d + 1) (h <<< 2) q ∨ inCell (d + 1) (h <<< 2 ||| 1) q ∨
      inCell (d + 1) (h <<< 2 ||| 2) q ∨ inCell (d + 1) (h <<< 2 ||| 3) q)
    (H1 : ∀ d h c D q, ds ≤ d → Hash.center (α := ℝ) cfg d h = some c → dists[d - ds]? = some D → inCell d h q →
      adist c q ≤ D)
    (fuel root : Nat) (out : List Cell)
    (h : coverRec target (coneClassifier (α := ℝ) cfg lon lat (Num.cos lat) (dists.map (toShsMinMax r))) fuel ds root 0 = some out)
    (q : ℝ × ℝ) (hq : inCell ds root q) (hin : adist (lon, lat) q ≤ r) :
    ∃ c ∈ out, inCell c.depth c.hash q :=
  cone_scheme_no_miss cfg lon lat r hr dists hD inCell target ds hcover H1 fuel root out h q hq hin

/-- the table of limits that selects the starting depth is regular (each depth halves the limit, relative excess
    `≈ 0.05·2^-k`): the obligation of C16 about the constants of the source, required here because the start cells of this
    coverage are chosen with that table -/
theorem start_depth_table_regular :
    (∀ j, j < 24 →
      C16.dyHalvingLo (j + 2) 1 25 (Gen.smallerEdge2OpEdgeDistDyadic.getD (j + 2) (0, 0)) (Gen.smallerEdge2OpEdgeDistDyadic.getD (j + 3) (0, 0)) = true ∧
      C16.dyHalvingHi (j + 2) 1 10 (Gen.smallerEdge2OpEdgeDistDyadic.getD (j + 2) (0, 0)) (Gen.smallerEdge2OpEdgeDistDyadic.getD (j + 3) (0, 0)) = true) :=
  C16.table_halving.1


/-! ## the envelope hypothesis H1 discharged in the equatorial region: an unconditional no-miss theorem

`InCellEq d h q` (`Lemmas/CellExtentH1.lean`): `(d, h)` is a cell whose centre lies strictly inside the equatorial band and
`q` is a position of its closed diamond.  For every cone with `|lat| + r` below the transition latitude the list of radii
the crate computes (`largest_center_to_vertex_distances_with_radius`) satisfies H1 on the cells that matter, so the cone
scheme over ℝ misses nothing - no geometric hypothesis left (the farthest point of an equatorial cell from its centre is a
vertex: `eqr_cell_extent`, by concavity of the cosine of the distance along straight segments of the projection plane; the
envelope dominates the vertex distances: C16). -/

section EquatorialGeometry
open Hpx Hpx.Hash Hpx.C2V Hpx.C2VReal Hpx.Proj Hpx.Cover Hpx.CellReal Hpx.EnvelopeReal Hpx.TopoLift Hpx.CellExtent Real

/-- **`cone_no_miss_equatorial`** (ℝ, release profile), EVERY starting depth `ds ≤ target ≤ 29` (large cones:
    `ds = 0, 1`).  Cone `(lon, lat, r)` with `0 ≤ r`, `|lat| + r < tl`; `dists` the list of
    `largest_center_to_vertex_distances_with_radius(ds, target + 1, lon, lat, r)`.  If the descent of the model from a
    start cell `root` returns `out`, every position `q` of the cone that lies in `root`, a strictly equatorial cell, lies
    in a cell of `out`. -/
theorem cone_no_miss_equatorial (cfg : Cfg) (lon lat r : ℝ) (hr : 0 ≤ r) (hA : |lat| + r < tl) (ds target : ℕ)
    (hdt : ds ≤ target) (ht : target ≤ 29) (dists : List ℝ)
    (hdists : largestC2VsWithRadius false ds (target + 1) lon lat r = some dists) (fuel root : ℕ)
    (out : List Bmoc.Cell)
    (h : coverRec target (coneClassifier (α := ℝ) cfg lon lat (Num.cos lat) (dists.map (toShsMinMax r))) fuel ds root 0
      = some out)
    (q : ℝ × ℝ) (hq : InCellEq ds root q) (hin : adist (lon, lat) q ≤ r) :
    ∃ c ∈ out, InCellEq c.depth c.hash q :=
  Hpx.CellExtent.cone_no_miss_equatorial_gen cfg lon lat r hr hA ds target hdt ht dists hdists fuel root out h q hq hin

/-- **`H1_equatorial_cone`**: the envelope hypothesis `H1` of `Cover.cone_scheme_no_miss` with
    `inCell d h q := InCellEq d h q ∧ adist (lon, lat) q ≤ r` (positions of strictly equatorial cells that are in the cone)
    and `dists` the list computed by `largest_center_to_vertex_distances_with_radius(ds, target + 1, lon, lat, r)`
    (release profile), for every cone with `|lat| + r < tl` and every `ds ≤ target ≤ 29` (depths 0 and 1 included). -/
theorem h1_equatorial_cone (cfg : Cfg) (lon lat r : ℝ) (hA : |lat| + r < tl) (ds target : ℕ) (hdt : ds ≤ target)
    (ht : target ≤ 29) (dists : List ℝ)
    (hdists : largestC2VsWithRadius false ds (target + 1) lon lat r = some dists) :
    ∀ d h c D q, ds ≤ d → Hash.center (α := ℝ) cfg d h = some c → dists[d - ds]? = some D →
      (InCellEq d h q ∧ adist (lon, lat) q ≤ r) → adist c q ≤ D :=
  Hpx.CellExtent.H1_equatorial_cone cfg lon lat r hA ds target hdt ht dists hdists


end EquatorialGeometry


/-! ## no-miss on the RETURNED BMOC of `cone_coverage_approx` (and of the `custom` variant), equatorial cones, both profiles

`IsStartCell cfg lon lat r ds root` (`Lemmas/CoverContract.lean`) is the explicit start list of the code (12 base cells, or the
cell of the centre at the best starting depth and its neighbours); the only hypothesis left is that the position lies in
a strictly equatorial start cell (the "nine cells" claim of C16).  The effect of `pack` (parents replacing four full
children) and of `to_lower_depth` is included.  In the small-cone branch the reported cell is the ancestor at the requested
depth of the tested cell; it can be centred on the transition latitude, for which `InCellEq` is not defined: the statement
there is on cell numbers / the plane diamond (`InCellPlane`), upgraded to `InCellEq` when the ancestor is strictly equatorial. -/

section OnTheReturnedBmoc
open Hpx Hpx.Hash Hpx.C2V Hpx.C2VReal Hpx.Proj Hpx.Cover Hpx.CellReal Hpx.EnvelopeReal Hpx.TopoLift Hpx.CellExtent Hpx.Bmoc Hpx.Tightness Hpx.EConeEq Hpx.ConeBmoc Real

/-- **no miss (T1), `cone_coverage_approx_no_miss_equatorial`** (ℝ, both profiles, every `depth ≤ 29`): `b` the BMOC returned
    by `cone_coverage_approx(depth, lon, lat, r)`, cone of the equatorial band.  Every position of the cone that lies in a
    strictly equatorial start cell of depth `ds ≤ depth` lies in the cell of an ENTRY of `b` — whether that entry is a cell
    emitted by the descent or a parent created by the compaction. -/
theorem cone_coverage_approx_no_miss_equatorial (cfg : Cfg) (depth : ℕ) (lon lat r : ℝ) (hr : 0 ≤ r)
    (hA : |lat| + r < tl) (b : BMOC) (h : coneCoverageApprox (α := ℝ) cfg depth lon lat r = some b)
    (ds root : ℕ) (hst : IsStartCell cfg lon lat r ds root) (hds : ds ≤ depth) (q : ℝ × ℝ)
    (hq : InCellEq ds root q) (hin : adist (lon, lat) q ≤ r) :
    ∃ e ∈ b.entries, InCellEq (decode e depth).depth (decode e depth).hash q :=
  Hpx.ConeBmoc.cone_coverage_approx_no_miss_equatorial cfg depth lon lat r hr hA b h ds root hst hds q hq hin

/-- **T1, small-cone branch `depth < ds = best_starting_depth(r)`**: the reported cells are the ancestors at `depth` of the
    tested cells of depth `ds`.  For every start cell `root` (strictly equatorial) that contains a position `q` of the cone,
    the BMOC has the entry `(depth, root >> 2(ds − depth))`, flagged partial, and `q` is a position of that cell in the
    sense of `InCellPlane` — and of `InCellEq` as soon as that ancestor is strictly equatorial. -/
theorem cone_coverage_approx_no_miss_small (cfg : Cfg) (depth : ℕ) (lon lat r : ℝ) (hr : 0 ≤ r)
    (hA : |lat| + r < tl) (b : BMOC) (h : coneCoverageApprox (α := ℝ) cfg depth lon lat r = some b)
    (ds root : ℕ) (hst : IsStartCell cfg lon lat r ds root) (hds : depth < ds) (q : ℝ × ℝ)
    (hq : InCellEq ds root q) (hin : adist (lon, lat) q ≤ r) :
    ∃ e ∈ b.entries, (decode e depth).depth = depth ∧ (decode e depth).hash = root >>> ((ds - depth) <<< 1) ∧
      (decode e depth).full = false ∧ InCellPlane depth (root >>> ((ds - depth) <<< 1)) q ∧
      (|pcy depth (root >>> ((ds - depth) <<< 1))| < 1 → InCellEq depth (root >>> ((ds - depth) <<< 1)) q) :=
  Hpx.ConeBmoc.cone_coverage_approx_no_miss_small cfg depth lon lat r hr hA b h ds root hst hds q hq hin

/-- **T1 as a statement on the three-valued state**: the cell number `x` of `q` at the requested depth is not absent
    from the returned BMOC -/
theorem cone_coverage_approx_state_not_absent (cfg : Cfg) (depth : ℕ) (lon lat r : ℝ) (hr : 0 ≤ r)
    (hA : |lat| + r < tl) (b : BMOC) (h : coneCoverageApprox (α := ℝ) cfg depth lon lat r = some b)
    (ds root : ℕ) (hst : IsStartCell cfg lon lat r ds root) (q : ℝ × ℝ)
    (hq : InCellEq ds root q) (hin : adist (lon, lat) q ≤ r) :
    ∃ x, InCellPlane depth x q ∧ (ds ≤ depth → InCellEq depth x q) ∧ stOf depth b.cells x ≠ .abs :=
  Hpx.ConeBmoc.cone_coverage_approx_state_not_absent cfg depth lon lat r hr hA b h ds root hst q hq hin

/-- **T3, no-miss for `cone_coverage_approx_custom`, `delta_depth ≠ 0`** (ℝ, both profiles).  The descent is run at
    `deep = depth + delta_depth ≤ 29`, compacted, then degraded to `depth`.  For every start cell `root` (of the descent at
    `deep`; any start depth) that is strictly equatorial and every position `q` of the cone in it, some ENTRY of the returned
    BMOC contains `q` (plane sense; `inCellPlane_eq`: in the sense of `InCellEq` when the entry is strictly equatorial):
    the ancestor at `depth` of a reported deeper cell is kept by `to_lower_depth`. -/
theorem cone_coverage_approx_custom_no_miss_equatorial (cfg : Cfg) (depth deltaDepth : ℕ) (hdd : deltaDepth ≠ 0)
    (lon lat r : ℝ) (hr : 0 ≤ r) (hA : |lat| + r < tl) (b : BMOC)
    (h : coneCoverageApproxCustom (α := ℝ) cfg depth deltaDepth lon lat r = some b)
    (ds root : ℕ) (hst : IsStartCell cfg lon lat r ds root) (q : ℝ × ℝ)
    (hq : InCellEq ds root q) (hin : adist (lon, lat) q ≤ r) :
    ∃ e ∈ b.entries, InCellPlane (decode e depth).depth (decode e depth).hash q ∧
      ∃ x, InCellPlane (depth + deltaDepth) x q ∧ (ds ≤ depth + deltaDepth → InCellEq (depth + deltaDepth) x q) ∧
        x / 4 ^ (depth + deltaDepth - (decode e depth).depth) = (decode e depth).hash :=
  Hpx.ConeBmoc.cone_coverage_approx_custom_no_miss_equatorial cfg depth deltaDepth hdd lon lat r hr hA b h ds root hst q hq hin


end OnTheReturnedBmoc

end Hpx.C05
